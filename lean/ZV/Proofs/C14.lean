import ZV.Model.C14
import ZV.Proofs.ListFacts
/-! C14: the association-list map, the two ways of filling it, the extension loop, and `check` in closed form
    (`check_eq`), from which every statement about a field of the result is read off. -/
namespace ZV.C14

theorem get_set (m : Cache) (k k2 : Key) (e : Entry) :
    (m.set k e).get k2 = if k = k2 then some e else m.get k2 := by
  induction m with
  | nil => rfl
  | cons p rest ih =>
    by_cases h1 : p.1 = k
    · by_cases h2 : k = k2
      · simp only [Cache.set, Cache.get, h1, h2, if_true]
      · simp only [Cache.set, Cache.get, h1, h2, if_true, if_false]
    · simp only [Cache.set, Cache.get, h1, if_false, ih]
      by_cases h2 : p.1 = k2
      · have : k ≠ k2 := fun h => h1 (h2.trans h.symm)
        simp only [h2, this, if_true, if_false]
      · simp only [h2, if_false]

theorem keys_set (m : Cache) (k : Key) (e : Entry) :
    (m.set k e).map (·.1) = if k ∈ m.map (·.1) then m.map (·.1) else m.map (·.1) ++ [k] := by
  induction m with
  | nil => rfl
  | cons p rest ih =>
    by_cases h1 : p.1 = k
    · simp [Cache.set, h1]
    · simp only [Cache.set, h1, if_false, List.map_cons, ih, List.mem_cons, Ne.symm h1, false_or]
      split
      · rfl
      · rfl

theorem set_keys_nodup (m : Cache) (k : Key) (e : Entry) (h : (m.map (·.1)).Nodup) :
    ((m.set k e).map (·.1)).Nodup := by
  rw [keys_set]
  split
  · exact h
  · exact nodup_concat h ‹_›

theorem fw_fold_get (es : List Entry) (m : Cache) (s : Key) :
    (es.foldl (fun m e => match m.get (decChars e.serial) with | some _ => m | none => m.set (decChars e.serial) e) m).get s =
      (m.get s).or (es.find? (fun e => decide (decChars e.serial = s))) := by
  induction es generalizing m with
  | nil => simp
  | cons e rest ih =>
    rw [List.foldl_cons, ih, List.find?_cons]
    by_cases hes : decChars e.serial = s
    · cases hg : m.get (decChars e.serial) with
      | some x => simp [← hes, hg]
      | none => simp [← hes, hg, get_set]
    · cases hg : m.get (decChars e.serial) with
      | some x => simp [hes]
      | none => simp [hes, get_set]

theorem lw_fold_get (es : List Entry) (m : Cache) (s : Key) :
    (es.foldl (fun m e => m.set (decChars e.serial) e) m).get s =
      (es.reverse.find? (fun e => decide (decChars e.serial = s))).or (m.get s) := by
  induction es generalizing m with
  | nil => simp
  | cons e rest ih =>
    rw [List.foldl_cons, ih, List.reverse_cons, List.find?_append, get_set, Option.or_assoc]
    by_cases hes : decChars e.serial = s <;> simp [hes]

def isNum (e : Ext) : Bool := decide (e.oid = crlNumberOID)

/-- decoded value of the LAST CRL-number extension of the list, `dflt` when there is none -/
def crlNumberOf (xs : List Ext) (dflt : Int) : Int :=
  match (xs.filter isNum).getLast? with | some e => numOf e | none => dflt

theorem crlNumberOf_cons (e : Ext) (xs : List Ext) (d : Int) :
    crlNumberOf (e :: xs) d = crlNumberOf xs (if isNum e then numOf e else d) := by
  unfold crlNumberOf
  cases he : isNum e with
  | false => simp [he]
  | true =>
    rw [List.filter_cons_of_pos he, List.getLast?_cons]
    cases (xs.filter isNum).getLast? <;> rfl

theorem gather_spec (xs : List Ext) (r : RevData) :
    gather xs r =
      { r with
        crlNumber := crlNumberOf xs r.crlNumber,
        unknownCritical := r.unknownCritical ++ xs.filter (fun e => !isNum e && e.critical),
        unknown := r.unknown ++ xs.filter (fun e => !isNum e && !e.critical) } := by
  unfold gather
  induction xs generalizing r with
  | nil => simp [crlNumberOf]
  | cons e rest ih =>
    rw [List.foldl_cons, ih, crlNumberOf_cons]
    unfold gatherStep
    by_cases h1 : e.oid = crlNumberOID
    · simp [isNum, h1]
    · cases h2 : e.critical <;> simp [isNum, h1, h2]

theorem search_spec (es : List Entry) (s : Int) (ret : RevData) :
    search es s ret =
      match es.find? (fun e => decide (e.serial = s)) with
      | some e => { ret with isRevoked := true, revTime := some e.time }
      | none => ret := by
  induction es with
  | nil => rfl
  | cons e rest ih =>
    by_cases h : e.serial = s
    · simp [search, h]
    · simp [search, h, ih]

theorem length_filter_three {α : Type} (p q : α → Bool) (l : List α) :
    (l.filter (fun e => !p e && q e)).length + (l.filter (fun e => !p e && !q e)).length + (l.filter p).length =
      l.length := by
  -- the list splits along `p`, and what fails `p` splits along `q`
  have h1 := List.length_eq_countP_add_countP p (l := l)
  have h2 := List.length_eq_countP_add_countP q (l := l.filter (fun e => !p e))
  simp only [List.countP_eq_length_filter, List.filter_filter, decide_not, Bool.decide_eq_true, Bool.and_comm _ (!p _)] at h1 h2
  omega

/-- the entry a lookup hits: what the cache holds under the serial's key if a cache is supplied, else the first listed
    entry with the serial -/
def hit (crl : CRL) (serial : Int) : Option Cache → Option Entry
  | some m => m.get (decChars serial)
  | none => crl.entries.find? (fun e => decide (e.serial = serial))

theorem check_eq (crl : CRL) (serial : Int) (cache : Option Cache) :
    check crl serial cache =
      { sig := crl.sig, version := crl.version, thisUpdate := crl.thisUpdate, nextUpdate := crl.nextUpdate,
        issuer := ZV.C22.fill crl.issuer,
        crlNumber := crlNumberOf crl.exts 0,
        unknownCritical := crl.exts.filter (fun e => !isNum e && e.critical),
        unknown := crl.exts.filter (fun e => !isNum e && !e.critical),
        isRevoked := (hit crl serial cache).isSome,
        revTime := (hit crl serial cache).map (·.time) } := by
  cases cache with
  | none =>
    simp only [check, hit, search_spec, gather_spec, header, List.nil_append]
    cases crl.entries.find? (fun e => decide (e.serial = serial)) <;> rfl
  | some m =>
    simp only [check, hit, gather_spec, header, List.nil_append]
    cases m.get (decChars serial) <;> rfl

end ZV.C14
