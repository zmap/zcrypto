import ZV.Proofs.C18Pre
/-!
  Lemmas for C20.  Every statement has the form `f false … = y → f true … = y` for a successful outcome `y`: what the
  strict run accepts, the permissive run accepts with the same outcome.  The flag is read at six places only
  (`parseTL`, `checkInteger` and the four string parsers with a character-set check), each time as `if !perm && c then .err else …`; everything
  else passes the form on, through `if` by `ite_perm` and through a `match` on a result by `perm_elim`.
-/
namespace ZV.C18

theorem ite_perm {α : Type} {c : Prop} [Decidable c] {a b a' b' y : α} (ha : a = y → a' = y) (hb : b = y → b' = y)
    (h : (if c then a else b) = y) : (if c then a' else b') = y := by
  by_cases hc : c
  · rw [if_pos hc] at h ⊢; exact ha h
  · rw [if_neg hc] at h ⊢; exact hb h

theorem ite_cond_perm {α : Type} {c c' : Prop} [Decidable c] [Decidable c'] {a b b' y : α} (hc : c → c') (hb : b ≠ y)
    (h : (if c then a else b) = y) : (if c' then a else b') = y := by
  by_cases h1 : c
  · rw [if_pos h1] at h; rw [if_pos (hc h1)]; exact h
  · rw [if_neg h1] at h; exact absurd h hb

theorem strictOnly_perm {α : Type} {c : Bool} {a : α} {y : Res α}
    (h : (if (!false && c) = true then .err else .ok a) = y) (hy : y ≠ .err) :
    (if (!true && c) = true then .err else .ok a) = y := by
  cases c with
  | false => exact h
  | true => exact absurd h.symm hy

theorem of_err_eq_ok {α : Type} {a : α} {P : Prop} (h : (.err : Res α) = .ok a) : P := nomatch h

theorem of_panic_eq_ok {α : Type} {a : α} {P : Prop} (h : (.panic : Res α) = .ok a) : P := nomatch h

/-- with `C r r' := (match r with | .ok a => k a | …) = y → (match r' with | .ok a => k' a | …) = y` this passes the form
    through a `match` on the result of an earlier step, whatever its arms and their order -/
@[elab_as_elim]
theorem perm_elim {α : Type} {r r' : Res α} {C : Res α → Res α → Prop} (h : ∀ a, r = .ok a → r' = .ok a)
    (ok : ∀ a, C (.ok a) (.ok a)) (err : C .err r') (panic : C .panic r') : C r r' := by
  cases r with
  | ok a => rw [h a rfl]; exact ok a
  | err => exact err
  | panic => exact panic

theorem parseTL_perm (bs : Bytes) (x : TL × Bytes) (h : parseTL false bs = .ok x) : parseTL true bs = .ok x := by
  unfold parseTL at h ⊢
  split at h
  · exact h
  · split at h
    · exact h
    · exact h
    · split at h
      · exact h
      · refine ite_perm id (ite_perm id fun h => ?_) h
        split at h
        · exact h
        · exact h
        · exact strictOnly_perm h nofun

/- `perm_elim` finds the two runs in the goal by unification: `parseTL false … =?= parseTL true …` is to fail at the flag,
   not by running the header reader -/
attribute [local irreducible] parseTL

theorem checkInteger_perm (bs : Bytes) (h : checkInteger false bs = true) : checkInteger true bs = true := by
  match bs with
  | [] => exact h
  | [_] => rfl
  | _ :: _ :: _ => rfl

theorem parseInt64_perm (bs : Bytes) (i : Int) (h : parseInt64 false bs = .ok i) : parseInt64 true bs = .ok i := by
  unfold parseInt64 at h ⊢
  by_cases hc : checkInteger false bs = true
  · simp only [hc, checkInteger_perm bs hc] at h ⊢
    exact h
  · simp [hc] at h

theorem parseInt32_perm (bs : Bytes) (i : Int) (h : parseInt32 false bs = .ok i) : parseInt32 true bs = .ok i := by
  unfold parseInt32 at h ⊢
  by_cases hc : checkInteger false bs = true
  · simp only [hc, checkInteger_perm bs hc] at h ⊢
    exact perm_elim (parseInt64_perm bs) (fun _ => id) of_err_eq_ok of_panic_eq_ok h
  · simp [hc] at h

theorem parseBigInt_perm (bs : Bytes) (i : Int) (h : parseBigInt false bs = .ok i) : parseBigInt true bs = .ok i := by
  unfold parseBigInt at h ⊢
  by_cases hc : checkInteger false bs = true
  · simp only [hc, checkInteger_perm bs hc] at h ⊢
    exact h
  · simp [hc] at h

theorem parsePrintableString_perm {bs : Bytes} {v : Val} (h : parsePrintableString false bs = .ok v) :
    parsePrintableString true bs = .ok v := strictOnly_perm h nofun

theorem parseNumericString_perm {bs : Bytes} {v : Val} (h : parseNumericString false bs = .ok v) :
    parseNumericString true bs = .ok v := strictOnly_perm h nofun

theorem parseIA5String_perm {bs : Bytes} {v : Val} (h : parseIA5String false bs = .ok v) :
    parseIA5String true bs = .ok v := strictOnly_perm h nofun

theorem parseUTF8String_perm {bs : Bytes} {v : Val} (h : parseUTF8String false bs = .ok v) :
    parseUTF8String true bs = .ok v := strictOnly_perm h nofun

theorem parseString_perm (utag : Nat) (bs : Bytes) (v : Val) (h : parseString false utag bs = .ok v) :
    parseString true utag bs = .ok v := by
  unfold parseString at h ⊢
  exact ite_perm parsePrintableString_perm (ite_perm parseNumericString_perm (ite_perm parseIA5String_perm
    (ite_perm id (ite_perm parseUTF8String_perm id)))) h

theorem resInt_perm {r r' : Res Int} (hr : ∀ i, r = .ok i → r' = .ok i) {v : Val} : resInt r = .ok v → resInt r' = .ok v :=
  perm_elim hr (fun _ => id) of_err_eq_ok of_panic_eq_ok

theorem parsePrim_perm (s : Schema) (utag : Nat) (t : TL) (inner full : Bytes) (v : Val)
    (h : parsePrim false s utag t inner full = .ok v) : parsePrim true s utag t inner full = .ok v := by
  cases s with
  | int64 => exact resInt_perm (parseInt64_perm inner) h
  | int32 => exact resInt_perm (parseInt32_perm inner) h
  | enum => exact resInt_perm (parseInt32_perm inner) h
  | bigint => exact resInt_perm (parseBigInt_perm inner) h
  | str => exact parseString_perm _ _ _ h
  | _ => exact h

theorem explicitStage_perm {s : Schema} {p : Params} {t0 : TL} {r0 : Bytes} {y : Ex}
    (h : explicitStage false s p t0 r0 = y) (hy : y ≠ .err) : explicitStage true s p t0 r0 = y := by
  unfold explicitStage at h ⊢
  refine ite_perm (ite_perm (ite_perm id (ite_perm (ite_perm id ?_) id)) id) id h
  exact perm_elim (parseTL_perm r0) (fun _ => id) (absurd ·.symm hy) (absurd ·.symm hy)

/- as for `parseTL`: the two runs of the stage are told apart at the flag -/
attribute [local irreducible] explicitStage

/-- `perm_elim` for the outcome of the explicit-tag stage -/
@[elab_as_elim]
theorem ex_elim {e e' : Ex} {C : Ex → Ex → Prop} (h : ∀ y, e = y → y ≠ .err → e' = y) (same : ∀ y, C y y) (err : C .err e') :
    C e e' := by
  have hs : ∀ y, e = y → y ≠ .err → C y e' := fun y he hy => by
    rw [h y he hy]
    exact same y
  cases e with
  | err => exact err
  | dflt => exact hs _ rfl nofun
  | flag r => exact hs _ rfl nofun
  | cont t r => exact hs _ rfl nofun

theorem parsePre_perm {s : Schema} {p : Params} {bs : Bytes} {y : Pre}
    (h : parsePre false s p bs = y) (hy : y ≠ .err) : parsePre true s p bs = y := by
  revert h
  unfold parsePre
  refine perm_elim (parseTL_perm bs) (fun x => ?_) (absurd ·.symm hy) (absurd ·.symm hy)
  obtain ⟨t0, r0⟩ := x
  dsimp only
  exact ex_elim (fun _ h hy => explicitStage_perm h hy) (fun _ => id) (absurd ·.symm hy)

theorem countElems_perm (ma : Bool) (et : Nat) (ec : Bool) : ∀ (fuel : Nat) (bs : Bytes) (n : Nat),
    countElems false ma et ec fuel bs = .ok n → countElems true ma et ec fuel bs = .ok n
  | 0, [], _ => id
  | _ + 1, [], _ => id
  | 0, _ :: _, _ => id
  | f + 1, b :: r, n => by
    rw [countElems, countElems]
    refine perm_elim (parseTL_perm (b :: r)) (fun x => ite_perm id (ite_perm id ?_)) of_err_eq_ok of_panic_eq_ok
    exact perm_elim (countElems_perm ma et ec f _) (fun _ => id) of_err_eq_ok of_panic_eq_ok

theorem parseElems_perm (pf pf' : Bytes → Res (Val × Bytes)) (hpf : ∀ bs r, pf bs = .ok r → pf' bs = .ok r) :
    ∀ (n : Nat) (bs : Bytes) (v : Val), parseElems pf n bs = .ok v → parseElems pf' n bs = .ok v
  | 0, _, _ => id
  | n + 1, bs, v => by
    rw [parseElems, parseElems]
    refine perm_elim (hpf bs) (fun x => ?_) of_err_eq_ok of_panic_eq_ok
    obtain ⟨v1, r1⟩ := x
    dsimp only
    exact perm_elim (parseElems_perm pf pf' hpf n r1) (fun _ => id) of_err_eq_ok of_panic_eq_ok

theorem fieldWith_perm {s : Schema} {p : Params} {bs : Bytes} {k k' : TL → Nat → Bytes → Bytes → Res (Val × Bytes)}
    {x : Val × Bytes} (hk : ∀ t u inner rest, k t u inner rest = .ok x → k' t u inner rest = .ok x) :
    fieldWith false s p bs k = .ok x → fieldWith true s p bs k' = .ok x := by
  refine fieldWith_elim (C := fun r => r = .ok x → fieldWith true s p bs k' = .ok x) (fun ha h => ?_) nofun
    (fun r hp h => ?_) (fun t u inner rest hp h => ?_)
  · rw [fieldWith_absent (ha.imp id (parsePre_perm · nofun))]
    exact h
  · rw [fieldWith_flag (parsePre_perm hp nofun)]
    exact h
  · rw [fieldWith_go (parsePre_perm hp nofun)]
    exact hk t u inner rest h

theorem primField_perm (s : Schema) (p : Params) (bs : Bytes) (r : Val × Bytes) :
    primField false s p bs = .ok r → primField true s p bs = .ok r :=
  fieldWith_perm fun t u inner rest =>
    perm_elim (parsePrim_perm s u t inner (takeFull bs rest)) (fun _ => id) of_err_eq_ok of_panic_eq_ok

/-- both functions of the mutual recursion `parseField` / `parseFields`; the first half is `ZV.C20.perm_extends` -/
theorem perm_both (s : Schema) :
    (∀ p bs r, parseField false s p bs = .ok r → parseField true s p bs = .ok r) ∧
    (∀ bs r, parseFields false s bs = .ok r → parseFields true s bs = .ok r) := by
  induction s with
  | struct fs ih =>
    refine ⟨fun p bs r => ?_, fun _ _ => nofun⟩
    rw [parseField_struct, parseField_struct]
    exact fieldWith_perm fun t u inner rest => perm_elim (ih.2 inner) (fun _ => id) of_err_eq_ok of_panic_eq_ok
  | seqOf sn e ih =>
    refine ⟨fun p bs r => ?_, fun _ _ => nofun⟩
    rw [parseField_seqOf, parseField_seqOf]
    refine fieldWith_perm fun t u inner rest => ?_
    cases univ e with
    | none => exact id
    | some u =>
      obtain ⟨ma, et, ec⟩ := u
      dsimp only
      refine perm_elim (countElems_perm ma et ec _ inner) (fun n => ?_) of_err_eq_ok of_panic_eq_ok
      dsimp only
      exact perm_elim (parseElems_perm _ _ (ih.1 {}) n inner) (fun _ => id) of_err_eq_ok of_panic_eq_ok
  | fnil => exact ⟨fun _ _ _ => nofun, fun _ _ => id⟩
  | fcons p s rest ihs ihr =>
    refine ⟨fun _ _ _ => nofun, fun bs r => ?_⟩
    rw [parseFields, parseFields]
    refine perm_elim (ihs.1 p bs) (fun x => ?_) of_err_eq_ok of_panic_eq_ok
    obtain ⟨v1, r1⟩ := x
    dsimp only
    exact perm_elim (ihr.2 r1) (fun _ => id) of_err_eq_ok of_panic_eq_ok
  | _ => exact ⟨fun p bs r => primField_perm _ p bs r, fun _ _ => nofun⟩

end ZV.C18
