import ZV.Proofs.C28Ext
/-!
  C28 — ClientHello: inversion of every arm of the extension switch `chExt` (shape of the extension data on the wire,
  the field or two it changes, all others unchanged).
-/
namespace ZV.C28

/-- `d` = len(2, BE) ‖ body,  body non-empty and of even length (a uint16 list) -/
def U16ListExt (d : Bytes) : Prop :=
  ∃ a b body, d = a :: b :: body ∧ u16 a b = body.length ∧ body ≠ [] ∧ body.length % 2 = 0

/-- `d` = len(1) ‖ body,  body non-empty and of even length (supported_versions) -/
def U8ListExt (d : Bytes) : Prop :=
  ∃ a body, d = a :: body ∧ a.toNat = body.length ∧ body ≠ [] ∧ body.length % 2 = 0

/-- ALPN: `d` = len(2) ‖ list,  list non-empty = len(1)‖proto …, every proto non-empty -/
def AlpnExt (d : Bytes) (protos : List Bytes) : Prop :=
  ∃ a b pl, d = a :: b :: pl ∧ u16 a b = pl.length ∧ pl ≠ [] ∧ Framed8s pl protos ∧ ∀ s ∈ protos, s ≠ []

/-- server_name: `d` = len(2) ‖ list,  list non-empty = type(1)‖len(2)‖name …, every name non-empty -/
def SniExt (d : Bytes) (ents : List (Nat × Bytes)) : Prop :=
  ∃ a b nl, d = a :: b :: nl ∧ u16 a b = nl.length ∧ nl ≠ [] ∧ FramedSNI nl ents

/-- status_request: `d` = status_type(1) ‖ len(2)‖responder_id_list ‖ len(2)‖request_extensions -/
def OcspExt (d : Bytes) : Prop :=
  ∃ st a b rid c e exts, d = st :: a :: b :: (rid ++ c :: e :: exts) ∧ u16 a b = rid.length ∧ u16 c e = exts.length

/-- the logged OCSP flag: status_type = 1 (ocsp) -/
def ocspStatusIs1 : Bytes → Bool
  | st :: _ => decide (st.toNat = 1)
  | [] => false

variable {m m' : CHMsg} {d : Bytes} {l : Bool}

theorem chExt_sni (h : chExt m 0 d l = some m') :
    ∃ ents, SniExt d ents ∧ sniPick m.sni ents = some m'.sni ∧ m' = { m with sni := m'.sni } := by
  obtain ⟨a, b, nl, rfl, hl, hne, h⟩ := bindW16 h
  match h2 : sniEntries nl, h with
  | some ents, h =>
    simp only at h
    match h3 : sniPick m.sni ents, h with
    | some n, h =>
      simp only at h
      cases h
      exact ⟨ents, ⟨a, b, nl, rfl, hl, hne, sniEntries_framed nl ents h2⟩, h3, rfl⟩

theorem chExt_ocsp (h : chExt m 5 d l = some m') : OcspExt d ∧ m' = { m with ocsp := ocspStatusIs1 d } := by
  -- `whnf` decides the `if id = k` ladder of `chExt` down to this arm (where a `bind*` lemma fits, unification does that)
  conv at h => lhs; whnf
  match h1 : readU8 d, h with
  | some (st, r), h =>
    simp only at h
    match h2 : readVec16 r, h with
    | some (rid, r2), h =>
      simp only at h
      match h3 : wholeVec16 r2, h with
      | some exts, h =>
        simp only at h
        cases h
        obtain ⟨s, rfl, rfl⟩ := readU8_spec h1
        obtain ⟨a, b, rfl, hl⟩ := readVec16_spec h2
        obtain ⟨c, e, rfl, hl2⟩ := wholeVec16_spec h3
        exact ⟨⟨s, a, b, rid, c, e, exts, rfl, hl, hl2⟩, rfl⟩

theorem chExt_curves (h : chExt m 10 d l = some m') :
    U16ListExt d ∧ m' = { m with curves := m.curves ++ pairsBE (d.drop 2) } := by
  obtain ⟨a, b, cs, rfl, hl, hne, h⟩ := bindW16 h
  obtain ⟨hev, h⟩ := bindU16s h
  cases h
  exact ⟨⟨a, b, cs, rfl, hl, hne, hev⟩, rfl⟩

theorem chExt_points (h : chExt m 11 d l = some m') :
    (∃ a p, d = a :: p ∧ a.toNat = p.length ∧ p ≠ []) ∧ m' = { m with points := d.drop 1 } := by
  obtain ⟨a, p, rfl, hl, h⟩ := bindW8 h
  obtain ⟨hne, h⟩ := ite_isEmpty h
  cases h
  exact ⟨⟨a, p, rfl, hl, hne⟩, rfl⟩

theorem chExt_ticket (h : chExt m 35 d l = some m') : m' = { m with tick := true, ticket := d } := by
  exact (Option.some.inj h).symm

theorem chExt_sigAlgs (h : chExt m 13 d l = some m') :
    U16ListExt d ∧ m' = { m with sigAlgs := m.sigAlgs ++ pairsBE (d.drop 2) } := by
  obtain ⟨a, b, cs, rfl, hl, hne, h⟩ := bindW16 h
  obtain ⟨hev, h⟩ := bindU16s h
  cases h
  exact ⟨⟨a, b, cs, rfl, hl, hne, hev⟩, rfl⟩

theorem chExt_reneg (h : chExt m 0xff01 d l = some m') :
    Vec8Ext d ∧ m' = { m with reneg := d.drop 1, renegSup := true } := by
  obtain ⟨a, v, rfl, hl, h⟩ := bindW8 h
  cases h
  exact ⟨⟨a, v, rfl, hl⟩, rfl⟩

theorem chExt_alpn (h : chExt m 16 d l = some m') :
    ∃ protos, AlpnExt d protos ∧ m' = { m with alpn := m.alpn ++ protos } := by
  obtain ⟨a, b, pl, rfl, hl, hne, h⟩ := bindW16 h
  match h2 : splitVec8s pl, h with
  | some lst, h =>
    simp only at h
    obtain ⟨ha, h⟩ := guard_some h
    cases h
    exact ⟨lst, ⟨a, b, pl, rfl, hl, hne, splitVec8s_framed pl lst h2,
      fun s hs hnil => ha (List.any_eq_true.mpr ⟨s, hs, by rw [hnil]; rfl⟩)⟩, rfl⟩

theorem chExt_scts (h : chExt m 18 d l = some m') : d = [] ∧ m' = { m with scts := true } := by
  obtain ⟨hd, rfl⟩ := ite_isEmpty_some h
  exact ⟨hd, rfl⟩

theorem chExt_sv (h : chExt m 43 d l = some m') :
    U8ListExt d ∧ m' = { m with sv := m.sv ++ pairsBE (d.drop 1) } := by
  obtain ⟨a, vl, rfl, hl, h⟩ := bindW8 h
  obtain ⟨hne, h⟩ := ite_isEmpty h
  obtain ⟨hev, h⟩ := bindU16s h
  cases h
  exact ⟨⟨a, vl, rfl, hl, hne, hev⟩, rfl⟩

theorem chExt_xrand (h : chExt m 0x28 d l = some m') :
    (∃ a b er, d = a :: b :: er ∧ u16 a b = er.length ∧ er ≠ []) ∧ m' = { m with xrand := d.drop 2 } := by
  obtain ⟨a, b, er, rfl, hl, hne, h⟩ := bindW16 h
  cases h
  exact ⟨⟨a, b, er, rfl, hl, hne⟩, rfl⟩

theorem chExt_ems (h : chExt m 23 d l = some m') : d = [] ∧ m' = { m with ems := true } := by
  obtain ⟨hd, rfl⟩ := ite_isEmpty_some h
  exact ⟨hd, rfl⟩

/-- the identifiers whose extension changes a logged field -/
def chLogged : List Nat := [0, 5, 10, 11, 35, 13, 0xff01, 16, 18, 43, 0x28, 23]

/-- every other extension (signature_algorithms_cert 50, cookie 44, key_share 51, early_data 42, psk modes 45,
    pre_shared_key 41, and all unknown identifiers) is checked or skipped but leaves the message unchanged -/
theorem chExt_other {m m' : CHMsg} {id : Nat} {d : Bytes} {l : Bool} (hid : id ∉ chLogged)
    (h : chExt m id d l = some m') : m' = m := by
  simp only [chLogged, List.mem_cons, List.not_mem_nil, or_false, not_or] at hid
  obtain ⟨h0, h5, h10, h11, h35, h13, hff, h16, h18, h43, h28, h23⟩ := hid
  by_cases c50 : id = 50
  · subst c50
    obtain ⟨_, _, _, _, _, _, h⟩ := bindW16 h
    obtain ⟨_, h⟩ := bindU16s h
    exact (Option.some.inj h).symm
  by_cases c44 : id = 44
  · subst c44
    obtain ⟨_, _, _, _, _, _, h⟩ := bindW16 h
    exact (Option.some.inj h).symm
  by_cases c51 : id = 51
  · subst c51
    conv at h => lhs; whnf
    match wholeVec16 d, h with
    | some ks, h =>
      simp only at h
      match keyShares ks, h with
      | some _, h => exact (Option.some.inj h).symm
  by_cases c42 : id = 42
  · subst c42
    exact (ite_isEmpty_some h).2.symm
  by_cases c45 : id = 45
  · subst c45
    obtain ⟨_, _, _, _, h⟩ := bindW8 h
    exact (Option.some.inj h).symm
  by_cases c41 : id = 41
  · subst c41
    obtain ⟨_, h⟩ := guard_some h
    match readVec16 d, h with
    | some (ids, r), h =>
      simp only at h
      obtain ⟨_, h⟩ := ite_isEmpty h
      match pskIds ids, h with
      | some _, h =>
        simp only at h
        obtain ⟨_, _, bl, _, _, _, h⟩ := bindW16 h
        match splitVec8s bl, h with
        | some _, h =>
          simp only at h
          exact (Option.some.inj (guard_some h).2).symm
  rw [chExt, if_neg h0, if_neg h5, if_neg h10, if_neg h11, if_neg h35, if_neg h13, if_neg c50, if_neg hff, if_neg h16,
    if_neg h18, if_neg h43, if_neg c44, if_neg c51, if_neg c42, if_neg c45, if_neg c41, if_neg h28, if_neg h23] at h
  exact (Option.some.inj h).symm

/-- what an accepted extension `(id, d)` does to the fields of the message: each field belongs to one identifier and
    nothing else touches it (for `sni` and `alpn` the new value is given by `chExt_sni`, `chExt_alpn`) -/
structure CHEffect (m : CHMsg) (id : Nat) (d : Bytes) (m' : CHMsg) : Prop where
  sni : isId 0 (id, d) = false → m'.sni = m.sni
  ocsp : m'.ocsp = if isId 5 (id, d) then ocspStatusIs1 d else m.ocsp
  curves : m'.curves = if isId 10 (id, d) then m.curves ++ pairsBE (d.drop 2) else m.curves
  points : m'.points = if isId 11 (id, d) then d.drop 1 else m.points
  tick : m'.tick = if isId 35 (id, d) then true else m.tick
  ticket : m'.ticket = if isId 35 (id, d) then d else m.ticket
  sigAlgs : m'.sigAlgs = if isId 13 (id, d) then m.sigAlgs ++ pairsBE (d.drop 2) else m.sigAlgs
  reneg : m'.reneg = if isId 0xff01 (id, d) then d.drop 1 else m.reneg
  renegSup : m'.renegSup = if isId 0xff01 (id, d) then true else m.renegSup
  alpn : isId 16 (id, d) = false → m'.alpn = m.alpn
  scts : m'.scts = if isId 18 (id, d) then true else m.scts
  sv : m'.sv = if isId 43 (id, d) then m.sv ++ pairsBE (d.drop 1) else m.sv
  xrand : m'.xrand = if isId 0x28 (id, d) then d.drop 2 else m.xrand
  ems : m'.ems = if isId 23 (id, d) then true else m.ems

theorem chExt_effect {m m' : CHMsg} {id : Nat} {d : Bytes} {l : Bool} (h : chExt m id d l = some m') :
    CHEffect m id d m' := by
  by_cases hid : id ∈ chLogged
  · simp only [chLogged, List.mem_cons, List.not_mem_nil, or_false] at hid
    rcases hid with rfl | rfl | rfl | rfl | rfl | rfl | rfl | rfl | rfl | rfl | rfl | rfl
    · obtain ⟨_, _, _, e⟩ := chExt_sni h; rw [e]; constructor <;> simp [isId]
    · obtain ⟨_, e⟩ := chExt_ocsp h; rw [e]; constructor <;> intros <;> rfl
    · obtain ⟨_, e⟩ := chExt_curves h; rw [e]; constructor <;> intros <;> rfl
    · obtain ⟨_, e⟩ := chExt_points h; rw [e]; constructor <;> intros <;> rfl
    · have e := chExt_ticket h; rw [e]; constructor <;> intros <;> rfl
    · obtain ⟨_, e⟩ := chExt_sigAlgs h; rw [e]; constructor <;> intros <;> rfl
    · obtain ⟨_, e⟩ := chExt_reneg h; rw [e]; constructor <;> intros <;> rfl
    · obtain ⟨_, _, e⟩ := chExt_alpn h; rw [e]; constructor <;> simp [isId]
    · obtain ⟨_, e⟩ := chExt_scts h; rw [e]; constructor <;> intros <;> rfl
    · obtain ⟨_, e⟩ := chExt_sv h; rw [e]; constructor <;> intros <;> rfl
    · obtain ⟨_, e⟩ := chExt_xrand h; rw [e]; constructor <;> intros <;> rfl
    · obtain ⟨_, e⟩ := chExt_ems h; rw [e]; constructor <;> intros <;> rfl
  · rw [chExt_other hid h]
    simp only [chLogged, List.mem_cons, List.not_mem_nil, or_false, not_or] at hid
    constructor <;> simp [isId, hid]

/-- the SNI name loop runs across ALL server_name extensions of the block: `xs` are their name lists, in wire order -/
theorem chExts_sni {es : List (Nat × Bytes)} {m m' : CHMsg} (h : chExts m es = some m') :
    ∃ xs, ListRel (fun e ents => SniExt e.2 ents) (es.filter (isId 0)) xs ∧ (∀ e ∈ xs.flatten, e.2 ≠ []) ∧
      sniPick m.sni xs.flatten = some m'.sni := by
  induction es, m, m', h using chExts_loop.induct with
  | nil => exact ⟨[], .nil, nofun, rfl⟩
  | cons m id d t m1 m' hs _ _ ih =>
    obtain ⟨xs, hrel, hne, hpick⟩ := ih
    by_cases hid : id = 0
    · subst hid
      obtain ⟨ents, hshape, hp, _⟩ := chExt_sni hs
      refine ⟨ents :: xs, .cons hshape hrel, ?_, ?_⟩
      · obtain ⟨_, _, _, _, _, _, hf⟩ := hshape
        rw [List.flatten_cons]
        exact List.forall_mem_append.mpr ⟨framedSNI_names_ne hf, hne⟩
      · rw [List.flatten_cons, sniPick_append, hp]
        exact hpick
    · refine ⟨xs, ?_, hne, ?_⟩
      · rw [List.filter_cons, isId_false.mpr hid]
        exact hrel
      · rw [← (chExt_effect hs).sni (isId_false.mpr hid)]
        exact hpick

theorem sniExt_unique {d : Bytes} {e e' : List (Nat × Bytes)} (h : SniExt d e) (h' : SniExt d e') : e = e' := by
  obtain ⟨a, b, nl, rfl, _, _, hf⟩ := h
  obtain ⟨a', b', nl', he, _, _, hf'⟩ := h'
  simp only [List.cons.injEq] at he
  obtain ⟨_, _, rfl⟩ := he
  exact Option.some.inj ((framedSNI_split hf).symm.trans (framedSNI_split hf'))

theorem alpnExt_unique {d : Bytes} {l l' : List Bytes} (h : AlpnExt d l) (h' : AlpnExt d l') : l = l' := by
  obtain ⟨a, b, pl, rfl, _, _, hf, _⟩ := h
  obtain ⟨a', b', pl', he, _, _, hf', _⟩ := h'
  simp only [List.cons.injEq] at he
  obtain ⟨_, _, rfl⟩ := he
  exact Option.some.inj ((framed8s_split hf).symm.trans (framed8s_split hf'))

/-- the wire shape of every ClientHello extension that reaches the log (session_ticket, 35, carries opaque data) -/
def CHExtShape (e : Nat × Bytes) : Prop :=
  (e.1 = 0 → ∃ ents, SniExt e.2 ents) ∧ (e.1 = 5 → OcspExt e.2) ∧ (e.1 = 10 → U16ListExt e.2) ∧
  (e.1 = 11 → ∃ a p, e.2 = a :: p ∧ a.toNat = p.length ∧ p ≠ []) ∧ (e.1 = 13 → U16ListExt e.2) ∧
  (e.1 = 0xff01 → Vec8Ext e.2) ∧ (e.1 = 16 → ∃ protos, AlpnExt e.2 protos) ∧ (e.1 = 18 → e.2 = []) ∧
  (e.1 = 43 → U8ListExt e.2) ∧ (e.1 = 0x28 → ∃ a b er, e.2 = a :: b :: er ∧ u16 a b = er.length ∧ er ≠ []) ∧
  (e.1 = 23 → e.2 = [])

theorem chExt_shape {m m' : CHMsg} {id : Nat} {d : Bytes} {l : Bool} (h : chExt m id d l = some m') :
    CHExtShape (id, d) := by
  refine ⟨?_, ?_, ?_, ?_, ?_, ?_, ?_, ?_, ?_, ?_, ?_⟩ <;> intro hid <;> simp only at hid <;> subst hid
  · obtain ⟨ents, hs, _⟩ := chExt_sni h; exact ⟨ents, hs⟩
  · exact (chExt_ocsp h).1
  · exact (chExt_curves h).1
  · exact (chExt_points h).1
  · exact (chExt_sigAlgs h).1
  · exact (chExt_reneg h).1
  · obtain ⟨p, hs, _⟩ := chExt_alpn h; exact ⟨p, hs⟩
  · exact (chExt_scts h).1
  · exact (chExt_sv h).1
  · exact (chExt_xrand h).1
  · exact (chExt_ems h).1

end ZV.C28
