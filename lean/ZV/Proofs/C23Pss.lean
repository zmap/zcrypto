import ZV.Model.C23
import ZV.Proofs.C23Hash
import ZV.Proofs.C23Bytes
import ZV.Proofs.ByteFacts
/-! EMSA-PSS (`emsaPSSEncode` / `emsaPSSVerify`): mask involution, the leading-bit mask, DB layout, and the verifier in
    stages (`emsaPSSVerify_eq`) from which its acceptance set and its freedom from panics are read off — for `ZV.Props.C23`. -/
namespace ZV.C23
open ZV ZV.Hash

theorem u8_mask_xor (x y m : UInt8) : (((x ^^^ y) &&& m) ^^^ y) &&& m = x &&& m := by
  apply UInt8.eq_of_toBitVec_eq
  simp only [UInt8.toBitVec_and, UInt8.toBitVec_xor]
  ext i hi
  simp only [BitVec.getElem_and, BitVec.getElem_xor]
  cases x.toBitVec[i] <;> cases y.toBitVec[i] <;> cases m.toBitVec[i] <;> rfl

theorem u8_and_not (x m : UInt8) : (x &&& m) &&& ~~~m = 0 := by
  rw [UInt8.and_assoc]; simp

theorem shift_masks : ∀ s : Fin 8, (1 : UInt8) &&& ((0xff : UInt8) >>> UInt8.ofNat s) = 1 ∧
    ((0xff : UInt8) >>> UInt8.ofNat s).toNat < 2 ^ (8 - s.val) := by
  decide

theorem one_and_shift (s : Nat) (hs : s < 8) : (1 : UInt8) &&& ((0xff : UInt8) >>> UInt8.ofNat s) = 1 :=
  (shift_masks ⟨s, hs⟩).1

theorem and_shift_lt (x : UInt8) (s : Nat) (hs : s < 8) :
    (x &&& ((0xff : UInt8) >>> UInt8.ofNat s)).toNat < 2 ^ (8 - s) := by
  rw [UInt8.toNat_and]
  exact Nat.and_lt_two_pow _ (shift_masks ⟨s, hs⟩).2

theorem xorBytes_length (a b : Bytes) : (xorBytes a b).length = min a.length b.length := by
  simp [xorBytes]

theorem xorBytes_cancel (a m : Bytes) (h : a.length ≤ m.length) : xorBytes (xorBytes a m) m = a :=
  zipXor_cancel a m h

theorem mgf1XOR_length {h : HashAlg} (hk : HashOk h) (a s : Bytes) : (mgf1XOR h a s).length = a.length := by
  simp [mgf1XOR, xorBytes_length, mgf1_length hk]

theorem mgf1XOR_cancel {h : HashAlg} (hk : HashOk h) (a s : Bytes) : mgf1XOR h (mgf1XOR h a s) s = a := by
  have hl := mgf1XOR_length hk a s
  unfold mgf1XOR at hl ⊢
  rw [hl]
  exact xorBytes_cancel a _ (Nat.le_of_eq (mgf1_length hk _ _).symm)

theorem maskHead_length (m : UInt8) (a : Bytes) : (maskHead m a).length = a.length := by
  cases a <;> simp [maskHead]

theorem maskHead_xor_cancel (mk : UInt8) (a m : Bytes) (h : a.length ≤ m.length) :
    maskHead mk (xorBytes (maskHead mk (xorBytes a m)) m) = maskHead mk a := by
  cases a with
  | nil => simp [xorBytes, maskHead]
  | cons x a =>
    cases m with
    | nil => simp at h
    | cons y m =>
      have h' : a.length ≤ m.length := by simpa using h
      have := xorBytes_cancel a m h'
      simp only [xorBytes] at this ⊢
      simp [maskHead, u8_mask_xor, this]

theorem maskHead_mgf1XOR_cancel {h : HashAlg} (hk : HashOk h) (mk : UInt8) (a s : Bytes) :
    maskHead mk (mgf1XOR h (maskHead mk (mgf1XOR h a s)) s) = maskHead mk a := by
  have hl : (maskHead mk (mgf1XOR h a s)).length = a.length := by rw [maskHead_length, mgf1XOR_length hk]
  unfold mgf1XOR at hl ⊢
  rw [hl]
  exact maskHead_xor_cancel mk a _ (Nat.le_of_eq (mgf1_length hk _ _).symm)

/-! ### the data block `PS ‖ 01 ‖ salt` (with the message for the salt it is also the tail `PS ‖ 01 ‖ M` of the OAEP
    data block: `ZV.Proofs.C23Oaep`) -/

def pssDB (psLen : Nat) (salt : Bytes) : Bytes := List.replicate psLen 0 ++ (1 :: salt)

theorem pssDB_length (psLen : Nat) (salt : Bytes) : (pssDB psLen salt).length = psLen + salt.length + 1 := by
  simp [pssDB]; omega

theorem maskHead_pssDB {m : UInt8} (hm : 1 &&& m = 1) (psLen : Nat) (salt : Bytes) :
    maskHead m (pssDB psLen salt) = pssDB psLen salt := by
  cases psLen with
  | zero => simp [pssDB, maskHead, hm]
  | succ n => simp [pssDB, maskHead, List.replicate_succ]

theorem pssDB_findIdx (psLen : Nat) (salt : Bytes) : (pssDB psLen salt).findIdx? (· == 1) = some psLen :=
  findIdx?_eq_some_iff_append.2
    ⟨_, 1, salt, rfl, List.length_replicate, rfl, fun _ hy => List.eq_of_mem_replicate hy ▸ rfl⟩

theorem pssDB_take (psLen : Nat) (salt : Bytes) : (pssDB psLen salt).take psLen = List.replicate psLen 0 := by
  simp [pssDB]

theorem pssDB_drop (psLen : Nat) (salt : Bytes) : (pssDB psLen salt).drop psLen = 1 :: salt := by
  simp [pssDB]

theorem pssDB_drop_succ (psLen : Nat) (salt : Bytes) : (pssDB psLen salt).drop (psLen + 1) = salt := by
  induction psLen with
  | zero => simp [pssDB]
  | succ n ih => simpa [pssDB, List.replicate_succ] using ih

theorem pssDB_salt (psLen : Nat) (salt : Bytes) :
    (pssDB psLen salt).drop ((pssDB psLen salt).length - salt.length) = salt := by
  rw [pssDB_length, show psLen + salt.length + 1 - salt.length = psLen + 1 by omega]
  exact pssDB_drop_succ psLen salt

theorem eq_pssDB {l : Bytes} {n : Nat} (hz : ∀ b ∈ l.take n, b = 0) (h1 : l[n]? = some 1) :
    l = pssDB n (l.drop (n + 1)) := by
  obtain ⟨hlt, h1⟩ := List.getElem?_eq_some_iff.1 h1
  have ht : l.take n = List.replicate n 0 := List.eq_replicate_iff.2 ⟨by rw [List.length_take]; omega, hz⟩
  rw [pssDB, ← ht, ← h1, ← List.drop_eq_getElem_cons hlt, List.take_append_drop]

/-- the encoded message `emsaPSSEncode` builds (when its two guards pass) -/
def pssEM (h : HashAlg) (mHash : Bytes) (emBits : Nat) (salt : Bytes) : Bytes :=
  let emLen := (emBits + 7) / 8
  let hh := h.hash (zeros8 ++ mHash ++ salt)
  maskHead (topMask emLen emBits) (mgf1XOR h (pssDB (emLen - salt.length - h.outSize - 2) salt) hh) ++ hh ++ [0xbc]

theorem emsaPSSEncode_ok_iff (h : HashAlg) (mHash : Bytes) (emBits : Nat) (salt em : Bytes) :
    emsaPSSEncode h mHash emBits salt = .ok em ↔
      mHash.length = h.outSize ∧ h.outSize + salt.length + 2 ≤ (emBits + 7) / 8 ∧ em = pssEM h mHash emBits salt := by
  unfold emsaPSSEncode pssEM pssDB
  simp only [guard_ok_iff, ne_eq, Decidable.not_not, Nat.not_lt, Res.ok.injEq]
  constructor
  · rintro ⟨h1, h2, h3⟩
    exact ⟨h1, by omega, h3.symm⟩
  · rintro ⟨h1, h2, h3⟩
    exact ⟨h1, by omega, h3.symm⟩

theorem topMask_shift (emBits : Nat) : 8 * ((emBits + 7) / 8) - emBits < 8 := by omega

theorem pssEM_length {h : HashAlg} (hk : HashOk h) (mHash : Bytes) (emBits : Nat) (salt : Bytes)
    (h2 : h.outSize + salt.length + 2 ≤ (emBits + 7) / 8) : (pssEM h mHash emBits salt).length = (emBits + 7) / 8 := by
  simp only [pssEM, List.length_append, maskHead_length, mgf1XOR_length hk, pssDB_length, hk.len, List.length_singleton]
  omega

theorem u8_and_of_and_not {x m : UInt8} (h : x &&& ~~~m = 0) : x &&& m = x := by
  have h' := congrArg UInt8.toBitVec h
  apply UInt8.eq_of_toBitVec_eq
  simp only [UInt8.toBitVec_and, UInt8.toBitVec_not, UInt8.toBitVec_zero] at h' ⊢
  ext i hi
  have hb := congrArg (fun v : BitVec 8 => v[i]) h'
  simp only [BitVec.getElem_and, BitVec.getElem_not, BitVec.getElem_zero] at hb ⊢
  revert hb
  cases x.toBitVec[i] <;> cases m.toBitVec[i] <;> simp

/-- the checks of `emsaPSSVerify` on the unmasked data block once the salt length is settled -/
def pssCheckDB (h : HashAlg) (mHash db hh : Bytes) (psLen sLen : Nat) : Res Unit :=
  if (db.take psLen).any (· != 0) then .err
  else if (db.drop psLen).head? ≠ some 1 then .err
  else if h.hash (zeros8 ++ mHash ++ db.drop (db.length - sLen)) = hh then .ok () else .err

/-- the salt length `emsaPSSVerify` settles on: located by the 01 separator for `PSSSaltLengthAuto` -/
def pssSaltLen (db : Bytes) (S : Int) : Res Nat :=
  if S = 0 then
    match db.findIdx? (· == 1) with
    | none => .err
    | some psLen => .ok (db.length - psLen - 1)
  else if S < 0 then .panic
  else .ok S.toNat

theorem emsaPSSVerify_eq (h : HashAlg) (mHash em : Bytes) (emBits : Nat) (sl : Int) :
    emsaPSSVerify h mHash em emBits sl =
      let hLen := h.outSize
      let S : Int := if sl = -1 then (hLen : Int) else sl
      let emLen := (emBits + 7) / 8
      if emLen ≠ em.length then .err
      else if hLen ≠ mHash.length then .err
      else if (emLen : Int) < (hLen : Int) + S + 2 then .err
      else if emLen < hLen + 2 then .panic
      else if em.getLast? ≠ some 0xbc then .err
      else
        let hh := (em.drop (emLen - hLen - 1)).take hLen
        if (match em with | [] => false | e0 :: _ => e0 &&& ~~~topMask emLen emBits != 0) then .err
        else
          let db := maskHead (topMask emLen emBits) (mgf1XOR h (em.take (emLen - hLen - 1)) hh)
          match pssSaltLen db S with
          | .err => .err
          | .panic => .panic
          | .ok sLen => pssCheckDB h mHash db hh (emLen - hLen - sLen - 2) sLen := rfl

theorem pssCheckDB_ok_iff {h : HashAlg} {mHash db hh : Bytes} {psLen sLen : Nat} (hl : db.length = psLen + sLen + 1) :
    pssCheckDB h mHash db hh psLen sLen = .ok () ↔
      ∃ salt, salt.length = sLen ∧ db = pssDB psLen salt ∧ h.hash (zeros8 ++ mHash ++ salt) = hh := by
  unfold pssCheckDB
  simp only [guard_ok_iff, accept_eq_ok, Bool.not_eq_true, Decidable.not_not, and_true]
  constructor
  · rintro ⟨h1, h2, h3⟩
    rw [hl, Nat.add_right_comm, Nat.add_sub_cancel] at h3
    rw [List.head?_drop] at h2
    exact ⟨_, by rw [List.length_drop, hl, Nat.add_right_comm, Nat.add_sub_cancel_left], eq_pssDB (by simpa using h1) h2, h3⟩
  · rintro ⟨salt, rfl, rfl, rfl⟩
    rw [pssDB_take, pssDB_drop, pssDB_salt]
    simp

theorem split_last {l : Bytes} {t : UInt8} {a b : Nat} (hl : l.length = b + 1 + a) (ht : l.getLast? = some t) :
    ∃ m hh, m.length = a ∧ hh.length = b ∧ l = m ++ hh ++ [t] := by
  obtain ⟨ys, rfl⟩ := List.getLast?_eq_some_iff.1 ht
  rw [List.length_append, List.length_singleton] at hl
  refine ⟨ys.take a, ys.drop a, ?_, ?_, by rw [List.take_append_drop]⟩
  · rw [List.length_take]
    omega
  · rw [List.length_drop]
    omega

/-- the length of the masked data block, split at the salt -/
theorem pss_lens {e hL s : Nat} (h : hL + s + 2 ≤ e) : e - hL - 1 = e - hL - s - 2 + s + 1 := by omega

theorem pssSaltLen_pssDB (psLen : Nat) (salt : Bytes) {S : Int} (hS : S = 0 ∨ S = salt.length) :
    pssSaltLen (pssDB psLen salt) S = .ok salt.length := by
  unfold pssSaltLen
  by_cases h0 : S = 0
  · rw [if_pos h0, pssDB_findIdx, pssDB_length]
    exact congrArg Res.ok (by omega)
  · rw [if_neg h0, if_neg (by omega)]
    exact congrArg Res.ok (by omega)

theorem pssSaltLen_ok {db : Bytes} {S : Int} {sLen : Nat} (h : pssSaltLen db S = .ok sLen) :
    (S = 0 ∧ sLen < db.length) ∨ S = sLen := by
  unfold pssSaltLen at h
  split at h
  · next h0 =>
    cases hfi : db.findIdx? (· == 1) with
    | none => rw [hfi] at h; contradiction
    | some psLen =>
      rw [hfi] at h
      have := (List.findIdx?_eq_some_iff_getElem.1 hfi).1
      exact Or.inl ⟨h0, by injection h; omega⟩
  · split at h
    · contradiction
    · injection h; omega

theorem take_append3 {m hh : Bytes} (t : UInt8) {a b : Nat} (ha : m.length = a) (hb : hh.length = b) :
    (m ++ hh ++ [t]).take a = m ∧ ((m ++ hh ++ [t]).drop a).take b = hh := by
  subst ha hb
  rw [List.append_assoc, List.take_left' rfl, List.drop_left' rfl, List.take_left' rfl]
  exact ⟨rfl, rfl⟩

theorem emsaPSSVerify_ok_iff {h : HashAlg} (hk : HashOk h) (mHash em : Bytes) (emBits : Nat) (sl : Int) :
    emsaPSSVerify h mHash em emBits sl = .ok () ↔
      ∃ salt, em = pssEM h mHash emBits salt ∧ mHash.length = h.outSize ∧
        h.outSize + salt.length + 2 ≤ (emBits + 7) / 8 ∧
        (sl = 0 ∨ sl = salt.length ∨ (sl = -1 ∧ salt.length = h.outSize)) := by
  rw [emsaPSSVerify_eq]
  have hl := fun salt => pssEM_length hk mHash emBits salt
  simp only [guard_ok_iff, guard_panic_eq_ok, Decidable.not_not, Nat.not_lt, Int.not_lt, pssEM] at hl ⊢
  have hpos := hk.pos
  have hmode : ∀ n : Nat, ((if sl = -1 then (h.outSize : Int) else sl) = 0 ∨ (if sl = -1 then (h.outSize : Int) else sl) = n) ↔
      (sl = 0 ∨ sl = n ∨ (sl = -1 ∧ n = h.outSize)) := by
    intro n; split <;> omega
  generalize (if sl = -1 then (h.outSize : Int) else sl) = S at hmode ⊢
  -- from here on `emLen` and the bit mask are variables: all that is used of the mask is that it keeps bit 0
  have hm1 : (1 : UInt8) &&& topMask ((emBits + 7) / 8) emBits = 1 := one_and_shift _ (topMask_shift emBits)
  generalize topMask ((emBits + 7) / 8) emBits = mask at hm1 hl ⊢
  generalize (emBits + 7) / 8 = emLen at hl ⊢
  -- →: the length and trailer checks split `em` as `masked ‖ H ‖ bc`; unmasking gives `db`, whose shape and salt are read
  -- off `pssCheckDB_ok_iff`, and masking `db` again gives `masked` back (`maskHead_mgf1XOR_cancel`, `hx`).
  -- ←: the same checks run on `pssEM`; unmasking its first part returns `pssDB` itself (`maskHead_pssDB`).
  constructor
  · rintro ⟨c1, c2, c3, c4, c5, c6, hv⟩
    obtain ⟨a, rfl⟩ := Nat.exists_eq_add_of_lt c4
    have ha : h.outSize + 1 + a + 1 - h.outSize - 1 = a + 1 := by
      rw [Nat.sub_sub, Nat.add_assoc, Nat.add_sub_cancel_left]
    obtain ⟨masked, hh, hml, hhl, rfl⟩ := split_last (a := a + 1) c1.symm c5
    rw [ha, (take_append3 0xbc hml hhl).1, (take_append3 0xbc hml hhl).2] at hv
    cases masked with
    | nil => cases hml
    | cons x mrest =>
      have hx : x &&& mask = x := u8_and_of_and_not (by simpa using c6)
      have hdbl : (maskHead mask (mgf1XOR h (x :: mrest) hh)).length = a + 1 := by
        rw [maskHead_length, mgf1XOR_length hk, hml]
      have hcancel := maskHead_mgf1XOR_cancel hk mask (x :: mrest) hh
      generalize maskHead mask (mgf1XOR h (x :: mrest) hh) = db at hv hdbl hcancel
      clear c6 c1 hml hl
      cases hsl : pssSaltLen db S with
      | err => rw [hsl] at hv; contradiction
      | panic => rw [hsl] at hv; contradiction
      | ok sLen =>
        rw [hsl] at hv
        have hS := pssSaltLen_ok hsl
        have hb : h.outSize + sLen + 2 ≤ h.outSize + 1 + a + 1 := by omega
        obtain ⟨salt, rfl, rfl, rfl⟩ := (pssCheckDB_ok_iff (hdbl.trans (ha.symm.trans (pss_lens hb)))).1 hv
        refine ⟨salt, ?_, c2.symm, hb, (hmode _).1 (hS.imp_left And.left)⟩
        rw [Nat.sub_right_comm _ salt.length, hcancel, maskHead, hx]
  · rintro ⟨salt, rfl, hmh, hb, hm⟩
    have hS := (hmode _).2 hm
    have hc3 : (h.outSize : Int) + S + 2 ≤ (emLen : Nat) := by omega
    have c1 := (hl salt hb).symm
    rw [Nat.sub_right_comm _ salt.length] at c1 ⊢
    rw [pss_lens hb]
    generalize hp : emLen - h.outSize - salt.length - 2 = psLen at c1 ⊢
    have hxl := mgf1XOR_length hk (pssDB psLen salt) (h.hash (zeros8 ++ mHash ++ salt))
    have hcancel := maskHead_mgf1XOR_cancel hk mask (pssDB psLen salt) (h.hash (zeros8 ++ mHash ++ salt))
    rw [maskHead_pssDB hm1] at hcancel
    rw [pssDB_length] at hxl
    cases hX : mgf1XOR h (pssDB psLen salt) (h.hash (zeros8 ++ mHash ++ salt)) with
    | nil => rw [hX] at hxl; cases hxl
    | cons x r =>
      rw [hX] at hxl hcancel c1
      rw [maskHead] at hcancel c1 ⊢
      have hhl := hk.len (zeros8 ++ mHash ++ salt)
      generalize hhh : h.hash (zeros8 ++ mHash ++ salt) = hh at hcancel hhl c1 ⊢
      have hsplit := take_append3 (m := (x &&& mask) :: r) 0xbc hxl hhl
      rw [hsplit.1, hsplit.2, hcancel, pssSaltLen_pssDB _ _ hS]
      refine ⟨c1, hmh.symm, hc3, Nat.le_trans (Nat.add_le_add_right (Nat.le_add_right _ _) 2) hb,
        List.getLast?_concat, ?_, ?_⟩
      · simp [u8_and_not]
      · show pssCheckDB h mHash (pssDB psLen salt) hh (emLen - h.outSize - salt.length - 2) salt.length = .ok ()
        rw [hp]
        exact (pssCheckDB_ok_iff (pssDB_length _ _)).2 ⟨salt, rfl, rfl, hhh⟩

theorem pssCheckDB_ne_panic (h : HashAlg) (mHash db hh : Bytes) (psLen sLen : Nat) :
    pssCheckDB h mHash db hh psLen sLen ≠ .panic := by
  unfold pssCheckDB
  simp only [guard_ne_panic]
  intro _ _
  split <;> simp

theorem pssSaltLen_ne_panic (db : Bytes) {S : Int} (hS : 0 ≤ S) : pssSaltLen db S ≠ .panic := by
  unfold pssSaltLen
  split
  · split <;> simp
  · rw [if_neg (by omega)]; simp

/-- `-1 ≤ sl` is what `VerifyPSS` lets through; the two index expressions the model marks as panics are guarded by the
    length check -/
theorem emsaPSSVerify_ne_panic (h : HashAlg) (mHash em : Bytes) (emBits : Nat) (sl : Int) (hsl : -1 ≤ sl) :
    emsaPSSVerify h mHash em emBits sl ≠ .panic := by
  rw [emsaPSSVerify_eq]
  dsimp only
  have hS : 0 ≤ (if sl = -1 then (h.outSize : Int) else sl) := by split <;> omega
  generalize (if sl = -1 then (h.outSize : Int) else sl) = S at hS
  simp only [guard_ne_panic, Int.not_lt]
  intro _ _ c3
  rw [if_neg (by omega)]
  simp only [guard_ne_panic]
  intro _ _
  split
  · simp
  · next hp => exact absurd hp (pssSaltLen_ne_panic _ hS)
  · exact pssCheckDB_ne_panic _ _ _ _ _ _

end ZV.C23
