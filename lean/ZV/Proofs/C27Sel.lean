import ZV.Model.C27Sel
/-!
  For the selection part of `ZV.Props.C27`: each loop of `ZV.Model.C27Sel` brought to the form its theorems use
  (first index, last listing, filter membership), and `processCertsFromClient` characterised by the checks that
  precede the `VerifyPeerCertificate` callback.
-/
namespace ZV.C27

theorem isSupported_iff (s : Nat) (l : List Nat) : isSupported s l = true ↔ s ∈ l := by
  simp [isSupported, List.any_eq_true]

theorem firstTrue_eq (l : List Bool) : firstTrue l = l.findIdx? id := by
  induction l with
  | nil => rfl
  | cons b rest ih =>
    rw [firstTrue, List.findIdx?_cons, ih]
    cases b
    · cases rest.findIdx? id <;> rfl
    · rfl

theorem firstTrue_some (l : List Bool) (i : Nat) (h : firstTrue l = some i) :
    l[i]? = some true ∧ ∀ j, j < i → l[j]? = some false := by
  rw [firstTrue_eq, List.findIdx?_eq_some_iff_getElem] at h
  obtain ⟨hi, hp, hlt⟩ := h
  refine ⟨by rw [List.getElem?_eq_getElem hi]; exact congrArg some hp, fun j hj => ?_⟩
  rw [List.getElem?_eq_getElem (Nat.lt_trans hj hi)]
  exact congrArg some (by simpa using hlt j hj)

theorem firstTrue_eq_none (l : List Bool) : firstTrue l = none ↔ ∀ b ∈ l, b = false := by
  rw [firstTrue_eq, List.findIdx?_eq_none_iff]
  simp

theorem firstTrue_lt (l : List Bool) (i : Nat) (h : firstTrue l = some i) : i < l.length := by
  rw [firstTrue_eq] at h
  exact (List.findIdx?_eq_some_iff_getElem.mp h).1

/-- the `NameToCertificate` step of `getCertificate`: the entry for the (lower-cased) name, else for its wildcard form -/
def nameEntry (n2c : Option NameMap) (name : List Char) : Option Nat :=
  match n2c with
  | none => none
  | some m =>
    match m.lookup name with
    | some i => some i
    | none => if name.length > 0 then m.lookup (wildcardName name) else none

theorem nameEntry_some {n2c : Option NameMap} {name : List Char} {i : Nat} (h : nameEntry n2c name = some i) :
    ∃ m k, n2c = some m ∧ m.lookup k = some i := by
  unfold nameEntry at h
  cases n2c with
  | none => cases h
  | some m =>
    dsimp only at h
    split at h
    · rename_i hk; exact ⟨m, name, rfl, h ▸ hk⟩
    · split at h
      · exact ⟨m, _, rfl, h⟩
      · cases h

theorem selectStatic_of_two_le {ncerts : Nat} (hn : ncerts ≥ 2) (n2c : Option NameMap) (sup : List Bool) (name : List Char) :
    selectStatic ncerts n2c sup name = .cert ((nameEntry n2c (lowerName name)).getD ((firstTrue sup).getD 0)) := by
  have h0 : ¬ ncerts = 0 := by omega
  have h1 : ¬ ncerts = 1 := by omega
  simp only [selectStatic, h0, h1, if_false]
  -- the model's inline `byName` is `nameEntry`, definitionally
  show (match nameEntry n2c (lowerName name) with
    | some i => SelRes.cert i
    | none => match firstTrue sup with
      | some i => .cert i
      | none => .cert 0) = _
  cases nameEntry n2c (lowerName name) with
  | some i => rfl
  | none => cases firstTrue sup <;> rfl

theorem lookup_insert (m : NameMap) (k k' : List Char) (v : Nat) :
    (m.insert k v).lookup k' = if k = k' then some v else m.lookup k' := by
  induction m with
  | nil => simp [NameMap.insert, NameMap.lookup]
  | cons e rest ih =>
    obtain ⟨a, b⟩ := e
    simp only [NameMap.insert]
    by_cases h : a = k
    · subst h
      by_cases h3 : a = k' <;> simp [NameMap.lookup, h3]
    · simp only [h, if_false, NameMap.lookup]
      by_cases h2 : a = k'
      · have : ¬ k = k' := fun e => h (by rw [h2, e])
        simp [h2, this]
      · simp [h2, ih]

theorem lookup_insertAll (m : NameMap) (names : List (List Char)) (i : Nat) (k : List Char) :
    (insertAll m names i).lookup k = if k ∈ names then some i else m.lookup k := by
  induction names generalizing m with
  | nil => simp [insertAll]
  | cons n rest ih =>
    simp only [insertAll, ih, lookup_insert]
    by_cases h1 : k ∈ rest
    · simp [h1]
    · by_cases h2 : n = k
      · simp [h2]
      · have : ¬ k = n := fun e => h2 e.symm
        simp [h1, h2, this]

/-- the LAST certificate (from index `i` on) that contributes the name `k` -/
def lastListing (i : Nat) : List LeafNames → List Char → Option Nat
  | [], _ => none
  | l :: rest, k =>
    match lastListing (i + 1) rest k with
    | some j => some j
    | none => if k ∈ l.keys then some i else none

theorem lookup_buildFrom (m : NameMap) (i : Nat) (certs : List LeafNames) (k : List Char) :
    (buildFrom m i certs).lookup k = match lastListing i certs k with
      | some j => some j
      | none => m.lookup k := by
  induction certs generalizing m i with
  | nil => simp [buildFrom, lastListing]
  | cons l rest ih =>
    simp only [buildFrom, lastListing, ih, lookup_insertAll]
    cases lastListing (i + 1) rest k with
    | some j => simp
    | none => by_cases h : k ∈ l.keys <;> simp [h]

theorem mem_rsaSchemes (size version s : Nat) (table : List (Nat × Nat × Nat)) (h : s ∈ rsaSchemes size version table) :
    ∃ minB maxV, (s, minB, maxV) ∈ table ∧ size ≥ minB ∧ version ≤ maxV := by
  induction table with
  | nil => cases h
  | cons row rest ih =>
    obtain ⟨sc, mb, mv⟩ := row
    unfold rsaSchemes at h
    split at h
    · rename_i hc
      rcases List.mem_cons.mp h with rfl | h
      · exact ⟨mb, mv, List.mem_cons_self, hc⟩
      · exact (ih h).imp fun _ => Exists.imp fun _ h' => ⟨List.mem_cons_of_mem _ h'.1, h'.2⟩
    · exact (ih h).imp fun _ => Exists.imp fun _ h' => ⟨List.mem_cons_of_mem _ h'.1, h'.2⟩

theorem mem_signatureSchemes {v s : Nat} {c : ClientCert} (h : s ∈ signatureSchemesForCertificate v c) :
    ∃ algs, keySchemes v c.key = some algs ∧ s ∈ algs ∧ ∀ l, c.ssa = some l → s ∈ l := by
  unfold signatureSchemesForCertificate at h
  cases hk : keySchemes v c.key with
  | none => rw [hk] at h; cases h
  | some algs =>
    rw [hk] at h
    cases hs : c.ssa with
    | none => rw [hs] at h; exact ⟨algs, rfl, h, fun l hl => nomatch hl⟩
    | some l =>
      rw [hs] at h
      obtain ⟨h1, h2⟩ := List.mem_filter.mp h
      exact ⟨algs, rfl, h1, fun l' hl => Option.some.inj hl ▸ (isSupported_iff _ _).mp h2⟩

theorem chainAcceptable_sound (cas : List Nat) (iss : List (Option Nat)) (h : chainAcceptable cas iss = true) :
    ∃ ca, ca ∈ cas ∧ some ca ∈ iss := by
  induction iss with
  | nil => cases h
  | cons e rest ih =>
    cases e with
    | none => cases h
    | some x =>
      unfold chainAcceptable at h
      split at h
      · rename_i hx
        exact ⟨x, by simpa using hx, List.mem_cons_self⟩
      · obtain ⟨ca, h1, h2⟩ := ih h
        exact ⟨ca, h1, List.mem_cons_of_mem _ h2⟩

theorem getClientCertificate_eq (vers : Nat) (schemes cas : List Nat) (certs : List ClientCert) :
    getClientCertificate vers schemes cas certs = firstTrue (certs.map (criSupports vers schemes cas)) := by
  induction certs with
  | nil => rfl
  | cons c rest ih => simp only [getClientCertificate, List.map_cons, firstTrue, ih]

theorem mem_filterSchemes (rsaAvail ecAvail : Bool) (algs : List Nat) (s : Nat) (h : s ∈ filterSchemes rsaAvail ecAvail algs) :
    s ∈ algs ∧ ∃ t, sigTypeOf s Gen.sigTypeTable = some t ∧
      (((t = Gen.signatureECDSA ∨ t = Gen.signatureEd25519) ∧ ecAvail = true) ∨
       ((t = Gen.signatureRSAPSS ∨ t = Gen.signaturePKCS1v15) ∧ rsaAvail = true)) := by
  induction algs with
  | nil => cases h
  | cons a rest ih =>
    have lift := fun h => And.imp_left (List.mem_cons_of_mem a) (ih h)
    unfold filterSchemes at h
    cases ht : sigTypeOf a Gen.sigTypeTable with
    | none => rw [ht] at h; exact lift h
    | some t =>
      rw [ht] at h
      dsimp only at h
      by_cases h1 : t = Gen.signatureECDSA ∨ t = Gen.signatureEd25519
      · rw [if_pos h1] at h
        cases ecAvail with
        | false => exact lift h
        | true =>
          rcases List.mem_cons.mp h with rfl | h
          · exact ⟨List.mem_cons_self, t, ht, Or.inl ⟨h1, rfl⟩⟩
          · exact lift h
      · rw [if_neg h1] at h
        by_cases h2 : t = Gen.signatureRSAPSS ∨ t = Gen.signaturePKCS1v15
        · rw [if_pos h2] at h
          cases rsaAvail with
          | false => exact lift h
          | true =>
            rcases List.mem_cons.mp h with rfl | h
            · exact ⟨List.mem_cons_self, t, ht, Or.inr ⟨h2, rfl⟩⟩
            · exact lift h
        · rw [if_neg h2] at h
          exact lift h

/-- everything `processCertsFromClient` checks before it calls `VerifyPeerCertificate`; the ClientAuthType enters only
    through `requiresClientCert` (`req`) and `>= VerifyClientCertIfGiven` (`ver`) -/
def Presented.passes (p : Presented) (req ver : Bool) : Prop :=
  if p.count = 0 then req = false else p.parses = true ∧ (ver = true → p.verifies = true) ∧ p.keyKnown = true

section
variable {m : Nat} {p : Presented} {vpc : Hook}

theorem processCerts_of_passes (h : p.passes (requiresClientCertN m) (decide (m ≥ Gen.verifyClientCertIfGiven))) (vpc : Hook) :
    processCerts m p vpc =
      ⟨if vpc = .reject then some Gen.alertBadCertificate else none, p.count,
        decide (m ≥ Gen.verifyClientCertIfGiven) && decide (p.count > 0), vpc.installed⟩ := by
  unfold Presented.passes at h
  unfold processCerts
  generalize requiresClientCertN m = req at h ⊢
  generalize decide (m ≥ Gen.verifyClientCertIfGiven) = ver at h ⊢
  by_cases hc : p.count = 0
  · rw [if_pos hc] at h
    cases vpc <;> simp [hc, h, Hook.installed]
  · obtain ⟨hpa, hve, hkk⟩ := (if_neg hc).mp h
    have hpos : p.count > 0 := Nat.pos_of_ne_zero hc
    have hv : (ver && !p.verifies) = false := by
      cases hv : ver
      · rfl
      · simp [hve hv]
    cases vpc <;> simp [hc, hpos, hpa, hkk, hv, Hook.installed]

theorem processCerts_of_not_passes (h : ¬ p.passes (requiresClientCertN m) (decide (m ≥ Gen.verifyClientCertIfGiven)))
    (vpc : Hook) : (processCerts m p vpc).alert ≠ none ∧ (processCerts m p vpc).vpcRan = false := by
  unfold Presented.passes at h
  unfold processCerts
  generalize requiresClientCertN m = req at h ⊢
  generalize decide (m ≥ Gen.verifyClientCertIfGiven) = ver at h ⊢
  by_cases hc : p.count = 0
  · rw [if_pos hc] at h
    simp [hc, h]
  · rw [if_neg hc] at h
    have hpos : p.count > 0 := Nat.pos_of_ne_zero hc
    simp only [hc, hpos, false_and, if_false, true_and, decide_true, Bool.and_true]
    cases hpa : p.parses
    · simp
    · cases hve : (ver && !p.verifies)
      · cases hkk : p.keyKnown
        · simp
        · refine absurd ⟨hpa, fun hv => ?_, hkk⟩ h
          simpa [hv] using hve
      · simp

theorem processCerts_alert_none :
    (processCerts m p vpc).alert = none ↔
      p.passes (requiresClientCertN m) (decide (m ≥ Gen.verifyClientCertIfGiven)) ∧ vpc ≠ .reject := by
  by_cases hp : p.passes (requiresClientCertN m) (decide (m ≥ Gen.verifyClientCertIfGiven))
  · rw [processCerts_of_passes hp]
    simp [hp]
  · simp [hp, (processCerts_of_not_passes hp vpc).1]

theorem processCerts_vpcRan :
    (processCerts m p vpc).vpcRan = true ↔
      p.passes (requiresClientCertN m) (decide (m ≥ Gen.verifyClientCertIfGiven)) ∧ vpc.installed = true := by
  by_cases hp : p.passes (requiresClientCertN m) (decide (m ≥ Gen.verifyClientCertIfGiven))
  · rw [processCerts_of_passes hp]
    simp [hp]
  · simp [hp, (processCerts_of_not_passes hp vpc).2]

end

end ZV.C27
