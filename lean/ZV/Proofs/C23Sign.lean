import ZV.Model.C23
import ZV.Proofs.C23
import ZV.Proofs.C23Bytes
import ZV.Proofs.C23Pss
/-! the two signature schemes (`SignPKCS1v15` / `VerifyPKCS1v15`, `SignPSS` / `VerifyPSS`) composed with the RSA primitives
    on a valid key — for `ZV.Props.C23`.  They reach the key only through `KeyOk.pos`, `KeyOk.checkPub_eq`,
    `KeyOk.decrypt_ok_iff`, `KeyOk.encrypt_iff_decrypt` and `KeyOk.decrypt_isOk` (`ZV.Proofs.C23`). -/
namespace ZV.C23
open ZV ZV.Hash

theorem constructEM_ok_iff {k h : Nat} {dg em : Bytes} :
    constructEM k h dg = .ok em ↔ ∃ p, emPrefix h dg.length = .ok p ∧ p.length + dg.length + 2 + 8 + 1 ≤ k ∧
      em = 0 :: 1 :: (List.replicate (k - p.length - dg.length - 3) 0xff ++ 0 :: (p ++ dg)) := by
  unfold constructEM
  cases emPrefix h dg.length with
  | ok p =>
    simp only [guard_ok_iff, Res.ok.injEq, exists_eq_left', Nat.not_lt]
    exact and_congr_right fun _ => eq_comm
  | _ => exact ⟨nofun, fun ⟨_, hp, _⟩ => nomatch hp⟩

theorem constructEM_length {k h : Nat} {dg em : Bytes} (hem : constructEM k h dg = .ok em) :
    em.length = k ∧ ∃ rest, em = 0 :: rest := by
  obtain ⟨p, _, hk, rfl⟩ := constructEM_ok_iff.1 hem
  refine ⟨?_, _, rfl⟩
  simp only [List.length_cons, List.length_append, List.length_replicate]
  omega

theorem signPKCS1v15_ok_iff {k : Priv} {h : Nat} {dg sig : Bytes} :
    signPKCS1v15 k h dg = .ok sig ↔ ∃ em, constructEM (sizeBytes k.n) h dg = .ok em ∧ decrypt k em true = .ok sig := by
  unfold signPKCS1v15
  cases constructEM (sizeBytes k.n) h dg <;> simp

theorem verifyPKCS1v15_ok_iff {pub : Pub} {n e : Nat} (hc : checkPub pub = .ok (n, e)) (h : Nat) (dg sig : Bytes) :
    verifyPKCS1v15 pub h dg sig = .ok () ↔
      sig.length = sizeBytes n ∧ ∃ em, constructEM (sizeBytes n) h dg = .ok em ∧ encrypt n e sig = .ok em := by
  unfold verifyPKCS1v15
  rw [hc]
  simp only [guard_ok_iff, ne_eq, Decidable.not_not, eq_comm (a := sizeBytes n)]
  refine and_congr_right fun _ => ?_
  cases encrypt n e sig with
  | ok em => cases constructEM (sizeBytes n) h dg <;> simp [eq_comm]
  | _ => simp

theorem stripTo_eq (emLen : Nat) (em : Bytes) :
    stripTo emLen em =
      if ∀ b ∈ em.take (em.length - emLen), b = 0 then some (em.drop (em.length - emLen)) else none := by
  fun_induction stripTo emLen em with
  | case1 => rw [List.take_nil, List.drop_nil, if_pos nofun]
  | case2 b rest hlen hb =>
    rw [List.length_cons, Nat.succ_sub (Nat.le_of_lt_succ hlen), List.take_succ_cons, if_neg]
    exact fun h => hb (h b List.mem_cons_self)
  | case3 b rest hlen hb ih =>
    rw [ih, List.length_cons, Nat.succ_sub (Nat.le_of_lt_succ hlen), List.take_succ_cons, List.drop_succ_cons]
    simp only [List.forall_mem_cons, Decidable.not_not.1 hb, true_and]
  | case4 b rest hlen =>
    rw [Nat.sub_eq_zero_of_le (Nat.not_lt.1 hlen)]
    rfl

theorem stripTo_inv {emLen : Nat} {em em' : Bytes} (h : stripTo emLen em = some em') :
    em = List.replicate (em.length - em'.length) 0 ++ em' ∧ em'.length = min em.length emLen := by
  rw [stripTo_eq] at h
  obtain ⟨hz, rfl⟩ := accept_eq_some.1 h
  rw [List.length_drop, Nat.sub_sub_self (Nat.sub_le _ _), Nat.sub_sub_eq_min]
  refine ⟨?_, rfl⟩
  rw [← List.eq_replicate_iff.2 ⟨List.length_take_of_le (Nat.sub_le _ _), hz⟩, List.take_append_drop]

theorem stripTo_pad (emLen j : Nat) (em : Bytes) (hl : em.length = emLen) :
    stripTo emLen (List.replicate j 0 ++ em) = some em := by
  rw [stripTo_eq, List.length_append, List.length_replicate, hl, Nat.add_sub_cancel,
    List.take_left' List.length_replicate, List.drop_left' List.length_replicate, if_pos fun _ => List.eq_of_mem_replicate]

theorem verifyPSS_ok_iff {pub : Pub} {n e : Nat} (hc : checkPub pub = .ok (n, e)) (h : HashAlg) (dg sig : Bytes) (sl : Int) :
    verifyPSS pub h dg sig sl = .ok () ↔
      sig.length = sizeBytes n ∧ -1 ≤ sl ∧ ∃ em₀ em, encrypt n e sig = .ok em₀ ∧
        stripTo ((bitLen n - 1 + 7) / 8) em₀ = some em ∧ emsaPSSVerify h dg em (bitLen n - 1) sl = .ok () := by
  unfold verifyPSS
  rw [hc]
  simp only [guard_ok_iff, ne_eq, Decidable.not_not, Int.not_lt]
  refine and_congr_right fun _ => and_congr_right fun _ => ?_
  generalize bitLen n - 1 = emBits
  cases encrypt n e sig with
  | ok em₀ => cases hst : stripTo ((emBits + 7) / 8) em₀ <;> simp [hst]
  | _ => simp

theorem signPSSWithSalt_ok_iff {k : Priv} {h : HashAlg} (hh : HashOk h) {hashed salt sig : Bytes} :
    signPSSWithSalt k h hashed salt = .ok sig ↔
      hashed.length = h.outSize ∧ h.outSize + salt.length + 2 ≤ (bitLen k.n - 1 + 7) / 8 ∧
        decrypt k (List.replicate (sizeBytes k.n - (bitLen k.n - 1 + 7) / 8) 0 ++ pssEM h hashed (bitLen k.n - 1) salt) true
          = .ok sig := by
  unfold signPSSWithSalt
  dsimp only
  cases he : emsaPSSEncode h hashed (bitLen k.n - 1) salt with
  | ok em =>
    obtain ⟨hmh, hb, rfl⟩ := (emsaPSSEncode_ok_iff ..).1 he
    simp only [pssEM_length hh hashed _ salt hb, hmh, hb, true_and]
    split
    · rfl
    · next hlt =>
      rw [Nat.sub_eq_zero_of_le (Nat.not_lt.1 hlt)]
      rfl
  | _ =>
    refine iff_of_false nofun fun hr => ?_
    have := (emsaPSSEncode_ok_iff ..).2 ⟨hr.1, hr.2.1, rfl⟩
    rw [he] at this
    contradiction

/-- the bits the top mask keeps in the first octet and the `emLen - 1` octets after it make up `emBits` bits -/
theorem two_pow_emBits_split (emBits : Nat) (h1 : 1 ≤ (emBits + 7) / 8) :
    2 ^ (8 - (8 * ((emBits + 7) / 8) - emBits)) * 256 ^ ((emBits + 7) / 8 - 1) = 2 ^ emBits := by
  rw [show (256 : Nat) = 2 ^ 8 from rfl, ← Nat.pow_mul, ← Nat.pow_add]
  congr 1
  omega

theorem os2ip_pssEM_lt {h : HashAlg} (hk : HashOk h) (mHash salt : Bytes) (emBits : Nat)
    (hbound : h.outSize + salt.length + 2 ≤ (emBits + 7) / 8) : os2ip (pssEM h mHash emBits salt) < 2 ^ emBits := by
  have hlen := pssEM_length hk mHash emBits salt hbound
  have hxl := mgf1XOR_length hk (pssDB ((emBits + 7) / 8 - salt.length - h.outSize - 2) salt)
    (h.hash (zeros8 ++ mHash ++ salt))
  rw [pssDB_length] at hxl
  simp only [pssEM, topMask] at hlen ⊢
  generalize mgf1XOR h _ _ = X at hlen hxl ⊢
  cases X with
  | nil => exact absurd hxl.symm (Nat.succ_ne_zero _)
  | cons x r =>
    simp only [maskHead, List.cons_append, List.length_cons] at hlen ⊢
    have h1 := os2ip_cons_lt (x &&& (0xff >>> UInt8.ofNat (8 * ((emBits + 7) / 8) - emBits)))
      (r ++ h.hash (zeros8 ++ mHash ++ salt) ++ [0xbc])
    rw [Nat.eq_sub_of_add_eq hlen] at h1
    rw [← two_pow_emBits_split emBits (Nat.le_trans (Nat.le_add_left 1 _) hbound)]
    exact Nat.lt_of_lt_of_le h1 (Nat.mul_le_mul_right _ (and_shift_lt x _ (topMask_shift emBits)))

/-- `decrypt` cannot refuse: the encoded message has at most `emBits` bits, and `2^emBits ≤ n` -/
theorem KeyOk.signPSSWithSalt_isOk {k : Priv} (hk : KeyOk k) {h : HashAlg} (hh : HashOk h) {hashed salt : Bytes}
    (hmh : hashed.length = h.outSize) (hbound : h.outSize + salt.length + 2 ≤ (bitLen k.n - 1 + 7) / 8) :
    ∃ sig, signPSSWithSalt k h hashed salt = .ok sig := by
  have hlt := (os2ip_replicate_zero (sizeBytes k.n - (bitLen k.n - 1 + 7) / 8) _).trans_lt
    (Nat.lt_of_lt_of_le (os2ip_pssEM_lt hh hashed salt _ hbound) (two_pow_emBits_le hk.pos))
  obtain ⟨sig, hdec⟩ := hk.decrypt_isOk true hlt
  exact ⟨sig, (signPSSWithSalt_ok_iff hh).2 ⟨hmh, hbound, hdec⟩⟩

/-- moduli of 8k+1 bits included: the signer's zero-extension of the encoded message is what the verifier's stripping
    loop removes -/
theorem verifyPSS_iff_sign {k : Priv} (hk : KeyOk k) (he : 2 ≤ k.e) {h : HashAlg} (hh : HashOk h) (dg sig : Bytes) (sl : Int) :
    verifyPSS k.pub h dg sig sl = .ok () ↔
      -1 ≤ sl ∧ ∃ salt, signPSSWithSalt k h dg salt = .ok sig ∧
        (sl = 0 ∨ sl = salt.length ∨ (sl = -1 ∧ salt.length = h.outSize)) := by
  have hle := emLen_le_sizeBytes k.n
  simp only [verifyPSS_ok_iff (hk.checkPub_eq he), signPSSWithSalt_ok_iff hh, emsaPSSVerify_ok_iff hh]
  constructor
  · rintro ⟨hl, hsl, em₀, _, henc, hst, salt, rfl, hmh, hb, hmode⟩
    have hl₀ := (encrypt_ok_iff.1 henc).2.1
    obtain ⟨hz, hel⟩ := stripTo_inv hst
    rw [hel, hl₀, Nat.min_eq_right hle] at hz
    exact ⟨hsl, salt, ⟨hmh, hb, hz ▸ (hk.encrypt_iff_decrypt true hl hl₀).1 henc⟩, hmode⟩
  · rintro ⟨hsl, salt, ⟨hmh, hb, hdec⟩, hmode⟩
    have hel := pssEM_length hh dg _ salt hb
    have hl := (hk.decrypt_ok_iff.1 hdec).2.1
    have hl₀ : (List.replicate (sizeBytes k.n - (bitLen k.n - 1 + 7) / 8) 0 ++ pssEM h dg (bitLen k.n - 1) salt).length
        = sizeBytes k.n := by
      rw [List.length_append, List.length_replicate, hel]
      omega
    exact ⟨hl, hsl, _, _, (hk.encrypt_iff_decrypt true hl hl₀).2 hdec, stripTo_pad _ _ _ hel, salt, rfl, hmh, hb, hmode⟩

theorem signPSS_ok_inv {k : Priv} {h : HashAlg} {digest rnd sig : Bytes} {sl : Int}
    (hs : signPSS k h digest sl rnd = .ok sig) :
    -1 ≤ sl ∧ ∃ salt, signPSSWithSalt k h digest salt = .ok sig ∧
      (sl = 0 ∨ sl = salt.length ∨ (sl = -1 ∧ salt.length = h.outSize)) := by
  unfold signPSS at hs
  dsimp only at hs
  split at hs
  · contradiction
  · contradiction
  · next n hn =>
    obtain ⟨hr, hs⟩ := guard_ok hs
    suffices hm : -1 ≤ sl ∧ (sl = 0 ∨ sl = n ∨ (sl = -1 ∧ n = h.outSize)) from
      ⟨hm.1, _, hs, by rw [List.length_take_of_le (Nat.not_lt.1 hr)]; exact hm.2⟩
    by_cases h0 : sl = 0
    · exact ⟨h0 ▸ by decide, Or.inl h0⟩
    · rw [if_neg h0] at hn
      by_cases h1 : sl = -1
      · rw [if_pos h1] at hn
        exact ⟨Int.le_of_eq h1.symm, Or.inr (Or.inr ⟨h1, (Res.ok.inj hn).symm⟩)⟩
      · rw [if_neg h1] at hn
        obtain ⟨hp, hn⟩ := guard_ok hn
        have := Res.ok.inj hn
        exact ⟨by omega, Or.inr (Or.inl (by omega))⟩

end ZV.C23
