import ZV.Proofs.C18Leaf
import ZV.Proofs.C18Opt
import ZV.Proofs.C18Seq
/-!
  C18: facts about the domain `InDomain` and the sub-domain `Exact` (both defined in ZV.Model.C18Dom), the equivalence `VEq`
  up to which a value comes back (SET OF members as a multiset, nil = empty for slices), and the per-field facts the main
  induction (ZV.Proofs.C18Main) needs.
-/
namespace ZV.C18

theorem goodB_good (p : Params) (h : goodB p = true) : Good p := by
  unfold goodB at h
  simp only [Bool.and_eq_true, Bool.not_eq_true', Bool.or_eq_true, beq_iff_eq, Bool.and_eq_false_imp] at h
  obtain ⟨⟨h2, h4⟩, h5⟩ := h
  refine ⟨fun ⟨a, b⟩ => by simp [h2 a] at b, ?_, ?_, by omega⟩
  · intro tg ht; rw [ht] at h4; simpa using h4
  · intro he ht; rw [ht] at h4; simp [he] at h4

theorem good_default : Good {} := goodB_good {} (by decide)

theorem InDomain_leaf (s : Schema) (p : Params) (v : Val) (h : isLeaf s = true) :
    InDomain s p v = (goodB p && (if omitted s p v then absentOK s p v else leafOK s p v)) := by
  cases s <;> first | rfl | cases h

/-- nil `[]byte` and the empty `[]byte` are the same value for the property -/
def normBytes : Val → Val
  | .null => .bytes []
  | v => v

/-- **`v ≈ v'` at type `s` under parameters `p`**: equal leaf for leaf (nil `[]byte` = empty `[]byte`), structs field by
    field, SEQUENCE OF element by element in order (nil slice = empty slice), SET OF (`set` parameter or a slice type named
    `…SET`) up to a PERMUTATION of the elements (Marshal sorts the element encodings). -/
def VEq : Schema → Params → Val → Val → Prop
  | .struct fs, _, v, v' => VEq fs {} v v'
  | .seqOf sn e, p, v, v' =>
    if p.set || sn then ∃ l, l.Perm (elems v) ∧ All2 (fun a b => VEq e {} a b) l (elems v')
    else All2 (fun a b => VEq e {} a b) (elems v) (elems v')
  | .fcons q s rest, _, v, v' =>
    (match v, v' with
     | .vcons a as, .vcons b bs => VEq s q a b ∧ VEq rest {} as bs
     | _, _ => v = v')
  | .fnil, _, v, v' => v = v'
  | .int64, _, v, v' => v = v'
  | .int32, _, v, v' => v = v'
  | .enum, _, v, v' => v = v'
  | .bigint, _, v, v' => v = v'
  | .bool, _, v, v' => v = v'
  | .oid, _, v, v' => v = v'
  | .bits, _, v, v' => v = v'
  | .octets, _, v, v' => normBytes v = normBytes v'
  | .str, _, v, v' => v = v'
  | .raw, _, v, v' => v = v'
  | .flag, _, v, v' => v = v'

theorem All2_refl {α : Type} {R : α → α → Prop} : ∀ (l : List α), (∀ a ∈ l, R a a) → All2 R l l
  | [], _ => trivial
  | a :: as, h => ⟨h a (by simp), All2_refl as (fun x hx => h x (by simp [hx]))⟩

theorem VEq_refl (s : Schema) : ∀ p v, VEq s p v v := by
  induction s with
  | struct fs ih => intro p v; simp only [VEq]; exact ih {} v
  | seqOf sn e ih =>
    intro p v
    simp only [VEq]
    split_ifs
    · exact ⟨elems v, List.Perm.refl _, All2_refl _ (fun a _ => ih {} a)⟩
    · exact All2_refl _ (fun a _ => ih {} a)
  | fcons q s rest ihs ihr =>
    intro p v
    cases v <;> simp only [VEq]
    exact ⟨ihs _ _, ihr _ _⟩
  | _ => intro p v; simp only [VEq]

/-- what the main induction establishes for one field; the last clause (no new zero value) keeps an enclosing OPTIONAL
    struct from being left out when it is marshalled again (`omitted_struct_of`) -/
def RT (s : Schema) (p : Params) (v : Val) (enc rest : Bytes) : Prop :=
  ∃ v', parseField false s p (enc ++ rest) = .ok (v', rest) ∧ VEq s p v v' ∧ makeField s p v' = .ok enc ∧
    (Exact s p v = true → v' = v) ∧ (v' = zeroVal s → v = zeroVal s)

theorem makeField_univ (s : Schema) (p : Params) (v : Val) (enc : Bytes) (h : makeField s p v = .ok enc) :
    univ s ≠ none := by
  cases s with
  | fnil => simp only [makeField, reduceCtorEq] at h
  | fcons _ _ _ => simp only [makeField, reduceCtorEq] at h
  | _ => nofun

theorem absent_rt (s : Schema) (p : Params) (v : Val) (enc rest : Bytes) (hm : makeField s p v = .ok enc)
    (homit : omitted s p v = true) (hab : absentOK s p v = true) (hsk : Skips s p rest) : RT s p v enc rest := by
  have hu := makeField_univ s p v enc hm
  simp only [absentOK, Bool.and_eq_true, beq_iff_eq] at hab
  obtain ⟨⟨hopt, hv⟩, _⟩ := hab
  rw [makeField_omitted s p v hu homit] at hm
  simp only [Res.ok.injEq] at hm
  subst hm
  refine ⟨dfltVal s p, ?_, ?_, ?_, fun _ => hv.symm, fun h => by rw [hv]; exact h⟩
  · simp only [List.nil_append]; exact parseField_absent s p rest hu hopt hsk
  · rw [hv]; exact VEq_refl s p _
  · exact makeField_omitted s p _ hu (omitted_dflt s p v homit)

theorem readLeaf_spec (s : Schema) (p : Params) (v : Val) (hok : leafOK s p v = true) (homit : omitted s p v = false) :
    VEq s p v (readLeaf s v) ∧ primMake s p (readLeaf s v) = primMake s p v ∧
      (Exact s p v = true → readLeaf s v = v) ∧ (readLeaf s v = zeroVal s → v = zeroVal s) := by
  by_cases h : readLeaf s v = v
  · rw [h]; exact ⟨VEq_refl s p v, rfl, fun _ => rfl, id⟩
  · cases s <;> try exact absurd rfl h
    · cases v <;> try exact absurd rfl h
      exact ⟨rfl, octets_null_same p homit, fun he => by simp [Exact, homit] at he, fun hz => by cases hz⟩
    · cases v <;> try cases hok
      exact absurd rfl h

theorem leaf_present (s : Schema) (p : Params) (v : Val) (enc rest : Bytes) (hleaf : isLeaf s = true) (hg : Good p)
    (hok : leafOK s p v = true) (homit : omitted s p v = false) (hm : makeField s p v = .ok enc)
    (hlen : enc.length < 2147483648) : RT s p v enc rest := by
  unfold RT
  rw [parseField_leaf s false p _ hleaf]
  cases hr : isRaw s with
  | true =>
    have hs : s = .raw := by cases s <;> first | rfl | cases hr
    subst hs
    cases v <;> simp only [leafOK, Bool.false_eq_true, Bool.and_eq_true, Option.isNone_iff_eq_none] at hok
    exact ⟨_, raw_field_roundtrip p _ _ _ _ _ enc rest hg hok.1 hok.2 homit hm hlen, VEq_refl _ p _, hm, fun _ => rfl, id⟩
  | false =>
    simp only [makeField_leaf s p _ hleaf hr] at hm ⊢
    by_cases hs : s = .str
    · subst hs
      cases v <;> simp only [leafOK, Bool.false_eq_true] at hok
      exact ⟨_, str_field_roundtrip p _ enc rest hg hok homit hm hlen, VEq_refl _ p _, hm, fun _ => rfl, id⟩
    · obtain ⟨h1, h2, h3, h4⟩ := readLeaf_spec s p v hok homit
      exact ⟨readLeaf s v, leaf_field_roundtrip s p v enc rest hg hleaf hr hs hok homit hm hlen, h1, by rw [h2]; exact hm,
        h3, h4⟩

theorem InDomain_good (s : Schema) (p : Params) (v : Val) (enc : Bytes) (hd : InDomain s p v = true)
    (hm : makeField s p v = .ok enc) : Good p := by
  have hu := makeField_univ s p v enc hm
  apply goodB_good
  cases s with
  | fnil => exact absurd rfl hu
  | fcons _ _ _ => exact absurd rfl hu
  | seqOf _ _ => simp only [InDomain, Bool.and_eq_true] at hd; exact hd.1.1
  | struct _ => simp only [InDomain, Bool.and_eq_true] at hd; exact hd.1
  | _ => rw [InDomain_leaf _ p v rfl, Bool.and_eq_true] at hd; exact hd.1

theorem InDomain_raw (p : Params) (v : Val) (hd : InDomain .raw p v = true) (homit : omitted .raw p v = false) :
    ∀ cls tag comp bs full, v = .raw cls tag comp bs full → rawOK cls tag comp bs full = true := by
  intro cls tag comp bs full hv
  subst hv
  simp only [InDomain, homit, Bool.false_eq_true, if_false, leafOK, Bool.and_eq_true] at hd
  exact hd.2.2

/-- header of the encoding of a field list: empty iff all fields are left out, else it starts with the identifier of the first
    present field -/
def HdrFact (h : Option (Nat × Nat × Bool)) (enc : Bytes) : Prop :=
  match h with
  | none => enc = []
  | some h => ∃ t r, parseTL false enc = .ok (t, r) ∧ (t.cls, t.tag, t.compound) = h

theorem fields_hdr (s : Schema) : ∀ v enc, InDomain s {} v = true → makeFields s v = .ok enc →
    enc.length < 2147483648 → HdrFact (firstHdr s v) enc := by
  induction s with
  | fnil =>
    intro v enc hd hm _
    cases v <;> simp [makeFields] at hm
    subst hm
    simp [firstHdr, HdrFact]
  | fcons p s r _ ihr =>
    intro v enc hd hm hl
    cases v <;> simp only [InDomain, Bool.false_eq_true, Bool.and_eq_true] at hd
    rename_i x xs
    obtain ⟨b, bs, h1, h2, rfl⟩ := makeFields_cons_ok p s r x xs enc hm
    simp only [List.length_append] at hl
    have hu := makeField_univ s p x b h1
    simp only [firstHdr]
    cases homit : omitted s p x with
    | true =>
      rw [makeField_omitted s p x hu homit] at h1
      simp only [Res.ok.injEq] at h1
      subst h1
      simp only [if_true, List.nil_append]
      exact ihr xs bs hd.1.2 h2 (by omega)
    | false =>
      simp only [Bool.false_eq_true, if_false]
      have hg := InDomain_good s p x b hd.1.1 h1
      obtain ⟨t, r', hp, hf⟩ := field_hdr s p x b bs hg h1 homit (by omega)
        (fun cls tag comp bs full hs hv => by subst hs; exact InDomain_raw p x hd.1.1 homit cls tag comp bs full hv)
      rw [hf]
      exact ⟨t, r', hp, rfl⟩
  | _ => intro v enc hd hm _; simp [makeFields] at hm

theorem normSeqTag_univ (e : Schema) (ma : Bool) (etag : Nat) (ecomp : Bool) (hu : univ e = some (ma, etag, ecomp)) :
    normSeqTag etag = etag := by
  cases e with
  | fnil => cases hu
  | fcons _ _ _ => cases hu
  | seqOf sn _ =>
    simp only [univ, Option.some.injEq, Prod.mk.injEq] at hu
    obtain ⟨_, rfl, _⟩ := hu
    cases sn <;> rfl
  | _ =>
    simp only [univ, Option.some.injEq, Prod.mk.injEq] at hu
    obtain ⟨_, rfl, _⟩ := hu
    rfl

theorem elem_shape (e : Schema) (x : Val) (b : Bytes) (ma : Bool) (etag : Nat) (ecomp : Bool)
    (hd : InDomain e {} x = true) (hm : makeField e {} x = .ok b) (hl : b.length < 2147483648)
    (hu : univ e = some (ma, etag, ecomp)) : ElemShape ma etag ecomp b := by
  have homit : omitted e {} x = false := omitted_false e {} x rfl rfl
  cases hr : isRaw e with
  | true =>
    have hs : e = .raw := by cases e <;> first | rfl | cases hr
    subst hs
    injection hu with hu
    injection hu with hma _
    cases x <;> try (simp [makeField, homit] at hm; done)
    rename_i cls tag comp bs full
    obtain ⟨hc, ht, henc, _⟩ :=
      makeField_raw_ok {} cls tag comp bs full b (InDomain_raw {} _ hd homit cls tag comp bs full rfl) homit hm
    exact ⟨_, bs, henc, rfl, hc, ht, Or.inl hma.symm⟩
  | false =>
    obtain ⟨ma', utag0, comp, tag, body, hu', henc, ht30, htag⟩ := makeField_shape e {} x b good_default hm homit hr
    rw [hu] at hu'
    simp only [Option.some.injEq, Prod.mk.injEq] at hu'
    obtain ⟨rfl, rfl, rfl⟩ := hu'
    refine ⟨{ cls := 0, tag := tag, len := body.length, compound := ecomp }, body, by rw [henc]; rfl, rfl, by simp, by simp; omega,
      Or.inr ⟨rfl, rfl, ?_⟩⟩
    dsimp only
    by_cases h19 : etag = 19
    · -- a string element is written as PrintableString or UTF8String; both count as PrintableString
      subst h19
      rw [if_pos rfl] at htag
      simp only [marshalTag, if_true] at htag
      cases x <;> simp only [reduceCtorEq] at htag
      rcases stringTag_cases {} _ tag htag with ⟨_, rfl, _⟩ | ⟨_, rfl, _⟩ | ⟨h, _⟩
      · rfl
      · rfl
      · exact absurd rfl h
    · rw [if_neg h19] at htag
      injection htag with htag
      rw [← htag]
      exact normSeqTag_univ e _ _ _ hu

theorem allChain_mem (f : Val → Bool) : ∀ v, allChain f v = true → ∀ x ∈ elems v, f x = true := by
  intro v
  induction v with
  | vcons a r _ ihr =>
    intro h x hx
    simp only [allChain, Bool.and_eq_true] at h
    simp only [elems, List.mem_cons] at hx
    rcases hx with rfl | hx
    · exact h.1
    · exact ihr h.2 x hx
  | _ => intro _ x hx; simp [elems] at hx

theorem omitted_seq_ofList (sn : Bool) (e : Schema) (p : Params) (v : Val) (ys : List Val) (f : Val → Res Bytes)
    (encs : List Bytes) (homit : omitted (.seqOf sn e) p v = false) (hmap : mapElems f v = .ok encs)
    (hlen : (elems v).length = ys.length) : omitted (.seqOf sn e) p (ofList ys) = false := by
  refine omitted_mono _ p v _ homit (fun _ hz => ?_) nofun (fun _ hz => ?_)
  · cases ys with
    | cons y ys' => cases hz
    | nil => cases v <;> first | rfl | cases hmap | cases hlen
  · cases ys <;> cases hz

end ZV.C18
