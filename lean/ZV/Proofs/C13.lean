import ZV.Model.C13
import ZV.Proofs.Res
/-! helper lemmas for C13: inversion of `parse`, `checkSigs`, `findSerial`, `signingParams`. -/
namespace ZV.C13
open ZV.Res (Sat)
variable {K B : Type}

/-- everything `parse … = ok o` went through, as one conjunction. -/
structure Accepted (verify : K → Nat → B → B → Bool) (inp : Input K B) (cert : Option Int)
    (issuer : Option K) (o : Out K B) : Prop where
  outer : inp.outerOk = true
  status : inp.status = 0
  type : inp.typeOk = true
  basic : inp.basicOk = true
  count : ¬ (inp.singles.length = 0 ∨ (cert = none ∧ inp.singles.length > 1))
  sel : selectSingle cert inp.singles = .ok (o.idx, o.single)
  resp : responder inp.responderTag inp.responderOk = some o.byName
  sigs : checkSigs verify inp issuer = some o.certificate
  crit : o.single.critical = false
  hash : o.single.hash ≠ 0
  st : o.status = statusOf o.single

/-- the selection panics only on `Responses[0]` of an empty slice -/
theorem selectSingle_panic (cert : Option Int) (l : List Single) (h : selectSingle cert l = .panic) : l.length = 0 := by
  cases cert with
  | none =>
    cases l with
    | nil => rfl
    | cons _ _ => cases h
  | some s =>
    dsimp only [selectSingle] at h
    cases hf : findSerial s l 0 <;> rw [hf] at h <;> cases h

/-- `parse` never panics: the guard on the number of single responses has excluded the empty list before the selection -/
theorem parse_inv (verify : K → Nat → B → B → Bool) (inp : Input K B) (cert : Option Int) (issuer : Option K) :
    Sat (Accepted verify inp cert issuer) (parse verify inp cert issuer) := by
  unfold parse
  refine .guard fun h1 => .guard fun h2 => .guard fun h3 => .guard fun h4 => .guard fun h5 => ?_
  cases hsel : selectSingle cert inp.singles with
  | err => trivial
  | panic => exact h5 (Or.inl (selectSingle_panic cert inp.singles hsel))
  | ok is =>
    cases hresp : responder inp.responderTag inp.responderOk with
    | none => trivial
    | some byName =>
      cases hsig : checkSigs verify inp issuer with
      | none => trivial
      | some c =>
        exact .guard fun hc => .guard fun hh =>
          ⟨Bool.not_eq_false _ ▸ h1, Decidable.of_not_not h2, Bool.not_eq_false _ ▸ h3, Bool.not_eq_false _ ▸ h4, h5, hsel, hresp,
            hsig, Bool.not_eq_true _ ▸ hc, hh, rfl⟩

theorem parse_ok_iff (verify : K → Nat → B → B → Bool) (inp : Input K B) (cert : Option Int)
    (issuer : Option K) (o : Out K B) :
    parse verify inp cert issuer = .ok o ↔ Accepted verify inp cert issuer o := by
  refine ⟨(parse_inv verify inp cert issuer).of_ok, fun a => ?_⟩
  unfold parse
  rw [if_neg (by rw [a.outer]; nofun), if_neg (not_not_intro a.status), if_neg (by rw [a.type]; nofun),
    if_neg (by rw [a.basic]; nofun), if_neg a.count]
  simp only [a.sel, a.resp, a.sigs]
  rw [if_neg (by rw [a.crit]; nofun), if_neg a.hash, ← a.st]

theorem findSerial_spec (s : Int) (l : List Single) (base i : Nat) (x : Single)
    (h : findSerial s l base = some (i, x)) :
    ∃ j, i = base + j ∧ l[j]? = some x ∧ x.serial = s ∧ ∀ k, k < j → ∀ y, l[k]? = some y → y.serial ≠ s := by
  induction l generalizing base with
  | nil => cases h
  | cons a t ih =>
    rw [findSerial] at h
    by_cases ha : s = a.serial
    · rw [if_pos ha] at h
      cases h
      exact ⟨0, rfl, rfl, ha.symm, nofun⟩
    · rw [if_neg ha] at h
      obtain ⟨j, hj, hget, hser, hall⟩ := ih (base + 1) h
      refine ⟨j + 1, by omega, hget, hser, fun k hk y hy => ?_⟩
      cases k with
      | zero =>
        cases hy
        exact fun e => ha e.symm
      | succ k => exact hall k (Nat.lt_of_succ_lt_succ hk) y hy

theorem findSerial_none (s : Int) (l : List Single) (base : Nat) :
    findSerial s l base = none ↔ ∀ x ∈ l, x.serial ≠ s := by
  induction l generalizing base with
  | nil => simp [findSerial]
  | cons a t ih =>
    unfold findSerial
    split
    · rename_i heq
      simp [heq]
    · rename_i hne
      rw [ih]
      simp only [List.mem_cons, forall_eq_or_imp]
      constructor
      · intro h; exact ⟨fun e => hne e.symm, h⟩
      · intro h; exact h.2

theorem checkSigs_some (verify : K → Nat → B → B → Bool) (inp : Input K B) (issuer : Option K) (c : Option (ECert K B))
    (h : checkSigs verify inp issuer = some c) :
    (inp.certs = [] ∧ c = none ∧ ∀ ik, issuer = some ik → verify ik inp.alg inp.tbs inp.sig = true) ∨
    (∃ e rest, inp.certs = some e :: rest ∧ c = some e ∧ verify e.key inp.alg inp.tbs inp.sig = true ∧
      ∀ ik, issuer = some ik → verify ik e.alg e.tbs e.sig = true) := by
  unfold checkSigs at h
  cases hc : inp.certs with
  | nil =>
    rw [hc] at h
    refine Or.inl ⟨rfl, ?_⟩
    cases issuer with
    | none => exact ⟨(Option.some.inj h).symm, nofun⟩
    | some ik =>
      obtain ⟨hv, h⟩ := guard_some h
      exact ⟨(Option.some.inj h).symm, fun _ e => Option.some.inj e ▸ eq_true_of_ne_false hv⟩
  | cons c0 rest =>
    rw [hc] at h
    cases c0 with
    | none => cases h
    | some e =>
      obtain ⟨hv, h⟩ := guard_some h
      have hv := eq_true_of_ne_false hv
      refine Or.inr ⟨e, rest, rfl, ?_⟩
      cases issuer with
      | none => exact ⟨(Option.some.inj h).symm, hv, nofun⟩
      | some ik =>
        obtain ⟨hv2, h⟩ := guard_some h
        exact ⟨(Option.some.inj h).symm, hv, fun _ e => Option.some.inj e ▸ eq_true_of_ne_false hv2⟩

theorem findRow_mem (req : Nat) (l : List SigRow) (r : SigRow) (h : findRow req l = some r) :
    r ∈ l ∧ r.algo = req := by
  induction l with
  | nil => simp [findRow] at h
  | cons x xs ih =>
    unfold findRow at h
    split at h
    · rename_i hx
      cases h
      exact ⟨List.mem_cons_self, hx⟩
    · exact ⟨List.mem_cons_of_mem _ (ih h).1, (ih h).2⟩

/-- each default of the key-type / curve switch is a row of `signatureAlgorithmDetails`, with a digest -/
theorem defaultParams_row (k : KeyKind) (pka h a : Nat) (hd : defaultParams k = some (pka, h, a)) :
    ⟨a, pka, h⟩ ∈ sigDetails ∧ h ≠ 0 := by
  cases k <;> cases hd <;> decide

theorem signingParams_ok (k : KeyKind) (req : Nat) :
    Sat (fun p : Nat × Nat => ∃ pka h0 a0, defaultParams k = some (pka, h0, a0) ∧ ⟨p.2, pka, p.1⟩ ∈ sigDetails ∧ p.1 ≠ 0 ∧
      (if req = 0 then p.1 = h0 ∧ p.2 = a0 else p.2 = req)) (signingParams k req) := by
  unfold signingParams
  cases hd : defaultParams k with
  | none => trivial
  | some d =>
    obtain ⟨pka, h0, a0⟩ := d
    dsimp only
    by_cases hreq : req = 0
    · rw [if_pos hreq]
      exact ⟨pka, h0, a0, rfl, (defaultParams_row k pka h0 a0 hd).1, (defaultParams_row k pka h0 a0 hd).2,
        (if_pos hreq).mpr ⟨rfl, rfl⟩⟩
    · rw [if_neg hreq]
      cases hr : findRow req sigDetails with
      | none => trivial
      | some r =>
        exact .guard fun hp => .guard fun hh =>
          ⟨pka, h0, a0, rfl, Decidable.of_not_not hp ▸ (findRow_mem req sigDetails r hr).1, hh,
            (if_neg hreq).mpr (findRow_mem req sigDetails r hr).2⟩

end ZV.C13
