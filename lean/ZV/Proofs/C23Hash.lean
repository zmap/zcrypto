import ZV.Model.C23
/-! output lengths of the executable hash library (`ZV.Hash`) and of MGF1 — for `ZV.Props.C23` (and the
    fingerprint lengths of `ZV.Props.C02`).
    The digests are `flatMapTR be32Bytes state.words` or `flatMapTR be64Bytes state.words` (possibly truncated), so
    their length follows from the number of state words without looking into the compression function. -/
namespace ZV.C23
open ZV ZV.Hash

theorem flatMapRevAux_eq {α β : Type} (f : α → List β) (l : List α) (acc : List β) :
    flatMapRevAux f l acc = acc.reverse ++ l.flatMap f := by
  induction l generalizing acc with
  | nil => simp [flatMapRevAux]
  | cons x xs ih =>
    simp only [flatMapRevAux, ih, List.reverseAux_eq, List.reverse_append, List.reverse_reverse,
      List.flatMap_cons, List.append_assoc]

theorem flatMapTR_eq {α β : Type} (f : α → List β) (l : List α) : flatMapTR f l = l.flatMap f := by
  simp [flatMapTR, flatMapRevAux_eq]

theorem flatMapTR_length {α β : Type} {f : α → List β} {w : Nat} (hf : ∀ x, (f x).length = w) (l : List α) :
    (flatMapTR f l).length = l.length * w := by
  rw [flatMapTR_eq]
  induction l with
  | nil => simp
  | cons x xs ih => rw [List.flatMap_cons, List.length_append, ih, hf, List.length_cons, Nat.succ_mul, Nat.add_comm]

theorem md5_length (m : Bytes) : (md5 m).length = 16 :=
  flatMapTR_length (w := 4) (fun _ => rfl) _

theorem sha1_length (m : Bytes) : (sha1 m).length = 20 :=
  flatMapTR_length (w := 4) (fun _ => rfl) _

theorem sha256_length (m : Bytes) : (sha256 m).length = 32 :=
  flatMapTR_length (w := 4) (fun _ => rfl) _

theorem sha224_length (m : Bytes) : (sha224 m).length = 28 := by
  rw [sha224, List.length_take, flatMapTR_length (w := 4) (fun _ => rfl)]; rfl

theorem sha512_length (m : Bytes) : (sha512 m).length = 64 :=
  flatMapTR_length (w := 8) (fun _ => rfl) _

theorem sha384_length (m : Bytes) : (sha384 m).length = 48 := by
  rw [sha384, List.length_take, flatMapTR_length (w := 8) (fun _ => rfl)]; rfl

/-- a hash algorithm whose `hash` really produces `outSize > 0` bytes (what MGF1 / PSS / OAEP rely on) -/
structure HashOk (h : HashAlg) : Prop where
  len : ∀ x, (h.hash x).length = h.outSize
  pos : 0 < h.outSize

theorem hashAlg_ok {id : Nat} {a : HashAlg} (h : hashAlg id = some a) : HashOk a := by
  unfold hashAlg at h
  split at h
  · cases h; exact ⟨md5_length, by decide⟩
  · cases h; exact ⟨sha1_length, by decide⟩
  · cases h; exact ⟨sha224_length, by decide⟩
  · cases h; exact ⟨sha256_length, by decide⟩
  · cases h; exact ⟨sha384_length, by decide⟩
  · cases h; exact ⟨sha512_length, by decide⟩
  · cases h

theorem hashOk_sha256 : HashOk .sha256 := hashAlg_ok (id := 5) rfl
theorem hashOk_sha512 : HashOk .sha512 := hashAlg_ok (id := 7) rfl

theorem mgf1Aux_flatten_length {h : HashAlg} (hl : ∀ x, (h.hash x).length = h.outSize) (seed : Bytes) (n i : Nat)
    (acc : List Bytes) :
    (mgf1Aux h seed n i acc).flatten.length = acc.flatten.length + n * h.outSize := by
  induction n generalizing i acc with
  | zero => simp [mgf1Aux, List.length_flatten, List.map_reverse, List.sum_reverse]
  | succ n ih =>
    rw [mgf1Aux, ih]
    simp only [List.flatten_cons, List.length_append, hl]
    rw [Nat.succ_mul]; omega

theorem mgf1_length {h : HashAlg} (hk : HashOk h) (seed : Bytes) (len : Nat) : (mgf1 h seed len).length = len := by
  unfold mgf1
  simp only [List.length_take, mgf1Aux_flatten_length hk.len, List.flatten_nil, List.length_nil, Nat.zero_add]
  have hp := hk.pos
  have h1 : len ≤ (len + h.outSize - 1) / h.outSize * h.outSize := by
    have := Nat.div_add_mod (len + h.outSize - 1) h.outSize
    have hm := Nat.mod_lt (len + h.outSize - 1) hp
    rw [Nat.mul_comm] at this
    omega
  omega

end ZV.C23
