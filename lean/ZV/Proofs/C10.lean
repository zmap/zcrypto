import ZV.Proofs.C10Inv
import ZV.Proofs.ListFacts
/-!
  The invariant of the PKI graph is preserved by `addCert` / `addRoot`, and `addOrPanic` never fires.
  `AddCert` is a sequence of three primitive changes, each of which keeps `Core`: a new node (`core_addNode`),
  a new dangling edge (`core_addEdge`), giving a dangling edge an issuer, directly or in the fix-up loop (`core_fixOne`).
  What it does to the node keys and the edges is a function of these alone (`keysAdd`, `edgesAdd`; `addCert_new`):
  the adjacency maps and `missingIssuerNode` follow by the invariant.  Facts about operation sequences go through
  one induction, `run_ind`.
-/
namespace ZV.C10

theorem map_map_eq {α β : Type} {f : α → α} {g : α → β} (h : ∀ x, g (f x) = g x) (l : List α) :
    (l.map f).map g = l.map g :=
  List.map_map.trans (List.map_congr_left fun x _ => h x)

theorem nodup_map_concat {α β : Type} {f : α → β} {l : List α} {a : α} (h : (l.map f).Nodup)
    (hn : ∀ x ∈ l, f x ≠ f a) : ((l ++ [a]).map f).Nodup := by
  rw [List.map_append]
  exact nodup_concat h fun hm => have ⟨x, hx, e⟩ := List.mem_map.mp hm; hn x hx e

section SetMapLemmas
variable {κ : Type}

/-- `f ∈ m[k]` -/
def smem (m : SetMap κ) (k : κ) (f : Nat) : Prop := ∃ l, (k, l) ∈ m ∧ f ∈ l

theorem smem_nil (k : κ) (f : Nat) : ¬ smem ([] : SetMap κ) k f := by
  rintro ⟨l, h, _⟩; cases h

theorem smem_cons (k' : κ) (l : List Nat) (m : SetMap κ) (k : κ) (f : Nat) :
    smem ((k', l) :: m) k f ↔ (k' = k ∧ f ∈ l) ∨ smem m k f := by
  simp only [smem, List.mem_cons, Prod.mk.injEq, or_and_right, exists_or]
  apply or_congr_left
  constructor
  · rintro ⟨_, ⟨rfl, rfl⟩, hf⟩; exact ⟨rfl, hf⟩
  · rintro ⟨rfl, hf⟩; exact ⟨l, ⟨rfl, rfl⟩, hf⟩

variable [BEq κ]

theorem getD_get_nodup (m : SetMap κ) (h : ∀ g ∈ m, g.2.Nodup) (k : κ) : ((m.get k).getD []).Nodup := by
  fun_induction SetMap.get m k with
  | case1 => exact .nil
  | case2 k0 l0 rest k hk => exact (List.forall_mem_cons.mp h).1
  | case3 k0 l0 rest k hk ih => exact ih (List.forall_mem_cons.mp h).2

theorem smem_dropIfEmpty (m : SetMap κ) (k : κ) (k' : κ) (f' : Nat) :
    smem (m.dropIfEmpty k) k' f' ↔ smem m k' f' := by
  unfold SetMap.dropIfEmpty smem
  constructor
  · rintro ⟨l, h, hf⟩
    exact ⟨l, (List.mem_filter.mp h).1, hf⟩
  · rintro ⟨l, h, hf⟩
    refine ⟨l, List.mem_filter.mpr ⟨h, ?_⟩, hf⟩
    cases l with
    | nil => cases hf
    | cons a t => simp only [List.isEmpty_cons, Bool.and_false, Bool.not_false]

theorem keys_removeAll (m : SetMap κ) (k : κ) (fs : List Nat) :
    (m.removeAll k fs).map (·.1) = m.map (·.1) :=
  map_map_eq (fun g => by split <;> rfl) m

theorem groups_nodup_removeAll (m : SetMap κ) (k : κ) (fs : List Nat) (h : ∀ g ∈ m, g.2.Nodup) :
    ∀ g ∈ m.removeAll k fs, g.2.Nodup := by
  intro g hg
  obtain ⟨g0, hg0, rfl⟩ := List.mem_map.mp hg
  split
  · exact (h g0 hg0).sublist List.filter_sublist
  · exact h g0 hg0

variable [LawfulBEq κ]

theorem smem_add (m : SetMap κ) (k : κ) (f : Nat) (k' : κ) (f' : Nat) :
    smem (m.add k f) k' f' ↔ smem m k' f' ∨ (f = f' ∧ k = k') := by
  fun_induction SetMap.add m k f with
  | case1 k f => simp only [smem_cons, smem_nil, List.mem_singleton, or_false, false_or, eq_comm (a := f'), and_comm]
  | case2 k0 l0 rest k f hk =>
    simp only [smem_cons, eq_of_beq hk, List.mem_append, List.mem_singleton, and_or_left, or_right_comm,
      eq_comm (a := f'), and_comm (b := f = f')]
  | case3 k0 l0 rest k f hk ih => simp only [smem_cons, ih, or_assoc]

theorem has_smem (m : SetMap κ) (k : κ) (f : Nat) (h : m.has k f = true) : smem m k f := by
  fun_induction SetMap.has m k f with
  | case1 => cases h
  | case2 k0 l0 rest k f hk => exact (smem_cons ..).mpr (Or.inl ⟨eq_of_beq hk, List.contains_iff_mem.mp h⟩)
  | case3 k0 l0 rest k f hk ih => exact (smem_cons ..).mpr (Or.inr (ih h))

theorem mem_keys_add (m : SetMap κ) (k : κ) (f : Nat) (x : κ) :
    x ∈ (m.add k f).map (·.1) ↔ x ∈ m.map (·.1) ∨ x = k := by
  fun_induction SetMap.add m k f with
  | case1 k f => simp only [List.map_cons, List.map_nil, List.mem_singleton, List.not_mem_nil, false_or]
  | case2 k0 l0 rest k f hk => simp only [List.map_cons, List.mem_cons, eq_of_beq hk, or_right_comm, or_self]
  | case3 k0 l0 rest k f hk ih => simp only [List.map_cons, List.mem_cons, ih, or_assoc]

theorem keys_nodup_add (m : SetMap κ) (k : κ) (f : Nat) (h : (m.map (·.1)).Nodup) :
    ((m.add k f).map (·.1)).Nodup := by
  fun_induction SetMap.add m k f with
  | case1 k f => exact List.pairwise_singleton _ _
  | case2 k0 l0 rest k f hk => exact h
  | case3 k0 l0 rest k f hk ih =>
    simp only [List.map_cons, List.nodup_cons, mem_keys_add, mt beq_iff_eq.mpr hk, or_false] at h ⊢
    exact ⟨h.1, ih h.2⟩

theorem groups_nodup_add (m : SetMap κ) (k : κ) (f : Nat) (h : ∀ g ∈ m, g.2.Nodup)
    (hf : ¬ smem m k f) : ∀ g ∈ m.add k f, g.2.Nodup := by
  fun_induction SetMap.add m k f with
  | case1 k f => exact List.forall_mem_singleton.mpr (List.pairwise_singleton _ _)
  | case2 k0 l0 rest k f hk =>
    rw [List.forall_mem_cons] at h ⊢
    exact ⟨nodup_concat h.1 fun ha => hf ((smem_cons ..).mpr (Or.inl ⟨eq_of_beq hk, ha⟩)), h.2⟩
  | case3 k0 l0 rest k f hk ih =>
    rw [List.forall_mem_cons] at h ⊢
    exact ⟨h.1, ih h.2 fun hs => hf ((smem_cons ..).mpr (Or.inr hs))⟩

theorem mem_getD_get (m : SetMap κ) (hn : (m.map (·.1)).Nodup) (k : κ) (f : Nat) :
    f ∈ (m.get k).getD [] ↔ smem m k f := by
  fun_induction SetMap.get m k with
  | case1 k => exact iff_of_false List.not_mem_nil (smem_nil k f)
  | case2 k0 l0 rest k hk =>
    cases eq_of_beq hk
    have : ¬ smem rest k0 f := fun ⟨l, hl, _⟩ => (List.nodup_cons.mp hn).1 (List.mem_map_of_mem (f := (·.1)) hl)
    simp only [smem_cons, Option.getD_some, true_and, this, or_false]
  | case3 k0 l0 rest k hk ih =>
    simp only [smem_cons, mt beq_iff_eq.mpr hk, false_and, false_or]
    exact ih (List.nodup_cons.mp hn).2

theorem smem_removeAll (m : SetMap κ) (k : κ) (fs : List Nat) (k' : κ) (f' : Nat) :
    smem (m.removeAll k fs) k' f' ↔ smem m k' f' ∧ ¬ (k' = k ∧ f' ∈ fs) := by
  unfold SetMap.removeAll smem
  constructor
  · rintro ⟨l, h, hf⟩
    obtain ⟨⟨k0, l0⟩, hg, he⟩ := List.mem_map.mp h
    split at he
    · cases he
      obtain ⟨h1, h2⟩ := List.mem_filter.mp hf
      exact ⟨⟨l0, hg, h1⟩, fun h => by simp [h.2] at h2⟩
    · next hk =>
      cases he
      exact ⟨⟨l, hg, hf⟩, fun h => hk (beq_iff_eq.mpr h.1)⟩
  · rintro ⟨⟨l, h, hf⟩, hn⟩
    by_cases hk : k' = k
    · refine ⟨l.filter (fun f => !fs.contains f), List.mem_map.mpr ⟨(k', l), h, by simp [hk]⟩, ?_⟩
      exact List.mem_filter.mpr ⟨hf, by simpa [hk] using hn⟩
    · exact ⟨l, List.mem_map.mpr ⟨(k', l), h, by simp [hk]⟩, hf⟩

end SetMapLemmas

theorem exists_mem_map {α β : Type} {f : α → β} {l : List α} {Q : β → Prop} :
    (∃ y ∈ l.map f, Q y) ↔ ∃ x ∈ l, Q (f x) :=
  ⟨fun ⟨_, h, q⟩ => have ⟨x, hx, e⟩ := List.mem_map.mp h; ⟨x, hx, e ▸ q⟩,
   fun ⟨x, hx, q⟩ => ⟨f x, List.mem_map_of_mem hx, q⟩⟩

theorem exists_mem_append_singleton {α : Type} {l : List α} {a : α} {Q : α → Prop} :
    (∃ x ∈ l ++ [a], Q x) ↔ (∃ x ∈ l, Q x) ∨ Q a := by
  simp only [List.mem_append, List.mem_singleton, or_and_right, exists_or, exists_eq_left]

theorem exists_mem_cons {α : Type} {l : List α} {a : α} {Q : α → Prop} :
    (∃ x ∈ a :: l, Q x) ↔ Q a ∨ ∃ x ∈ l, Q x := by
  simp only [List.mem_cons, exists_eq_or_imp]

theorem eq_of_nodup_map {α β : Type} {f : α → β} {l : List α} (hn : (l.map f).Nodup) {x y : α}
    (hx : x ∈ l) (hy : y ∈ l) (h : f x = f y) : x = y := by
  induction l with
  | nil => cases hx
  | cons a t ih =>
    rw [List.map_cons, List.nodup_cons] at hn
    rcases List.mem_cons.mp hx with hx | hx <;> rcases List.mem_cons.mp hy with hy | hy
    · rw [hx, hy]
    · exact absurd (hx ▸ h ▸ List.mem_map_of_mem hy) hn.1
    · exact absurd (hy ▸ h ▸ List.mem_map_of_mem hx) hn.1
    · exact ih hn.2 hx hy

theorem edge_eq_of_fp {es : List Edge} (hn : (es.map (·.cert.fp)).Nodup) {e e' : Edge}
    (he : e ∈ es) (he' : e' ∈ es) (h : e.cert.fp = e'.cert.fp) : e = e' :=
  eq_of_nodup_map hn he he' h

theorem find?_of_nodup_map {α β : Type} [BEq β] [LawfulBEq β] {f : α → β} {l : List α}
    (hn : (l.map f).Nodup) {x : α} (hx : x ∈ l) : l.find? (fun y => f y == f x) = some x := by
  cases h : l.find? (fun y => f y == f x) with
  | none => exact absurd (beq_self_eq_true _) (List.find?_eq_none.mp h x hx)
  | some y =>
    have hy : f y = f x := beq_iff_eq.mp (List.find?_some (p := fun y => f y == f x) h)
    rw [eq_of_nodup_map hn (List.mem_of_find?_eq_some h) hx hy]

theorem findNode_some {ns : List Node} {k : NodeKey} {n : Node} (h : findNode ns k = some n) :
    n ∈ ns ∧ n.key = k :=
  ⟨List.mem_of_find?_eq_some h, beq_iff_eq.mp (List.find?_some (p := fun n : Node => n.key == k) h)⟩

theorem findEdge_some {es : List Edge} {fp : Nat} {e : Edge} (h : findEdge es fp = some e) :
    e ∈ es ∧ e.cert.fp = fp :=
  ⟨List.mem_of_find?_eq_some h, beq_iff_eq.mp (List.find?_some (p := fun e : Edge => e.cert.fp == fp) h)⟩

theorem findEdge_of_mem {es : List Edge} (hn : (es.map (·.cert.fp)).Nodup) {e : Edge} (he : e ∈ es) :
    findEdge es e.cert.fp = some e :=
  find?_of_nodup_map hn he

theorem findNode_of_mem {ns : List Node} (hn : (ns.map (·.key)).Nodup) {n : Node} (he : n ∈ ns) :
    findNode ns n.key = some n :=
  find?_of_nodup_map hn he

theorem hasEdge_iff {es : List Edge} {fp : Nat} : hasEdge es fp = true ↔ ∃ e ∈ es, e.cert.fp = fp := by
  simp only [hasEdge, List.any_eq_true, beq_iff_eq]

theorem hasNode_iff {ns : List Node} {k : NodeKey} : hasNode ns k = true ↔ ∃ n ∈ ns, n.key = k := by
  simp only [hasNode, List.any_eq_true, beq_iff_eq]

/-- what `link ns p c fp` does to one node -/
def linkNode (p c : NodeKey) (fp : Nat) (n : Node) : Node :=
  { key := n.key
    children := if n.key == p then n.children.add c fp else n.children
    parents := if n.key == c then n.parents.add p fp else n.parents }

theorem pmem_linkNode (p c : NodeKey) (fp : Nat) (n : Node) (k : NodeKey) (f : Nat) :
    pmem (linkNode p c fp n) k f ↔ pmem n k f ∨ (fp = f ∧ c = n.key ∧ p = k) := by
  show smem (if n.key == c then n.parents.add p fp else n.parents) k f ↔ smem n.parents k f ∨ _
  by_cases h : n.key = c
  · simp only [h, beq_self_eq_true, if_true, smem_add, true_and]
  · simp only [beq_iff_eq, h, Ne.symm h, if_false, false_and, and_false, or_false]

theorem cmem_linkNode (p c : NodeKey) (fp : Nat) (n : Node) (k : NodeKey) (f : Nat) :
    cmem (linkNode p c fp n) k f ↔ cmem n k f ∨ (fp = f ∧ p = n.key ∧ c = k) := by
  show smem (if n.key == p then n.children.add c fp else n.children) k f ↔ smem n.children k f ∨ _
  by_cases h : n.key = p
  · simp only [h, beq_self_eq_true, if_true, smem_add, true_and]
  · simp only [beq_iff_eq, h, Ne.symm h, if_false, false_and, and_false, or_false]

theorem linkNode_key (p c : NodeKey) (fp : Nat) (n : Node) : (linkNode p c fp n).key = n.key := rfl

theorem linkNode_parents (p c : NodeKey) (fp : Nat) (n : Node) :
    (linkNode p c fp n).parents = if n.key == c then n.parents.add p fp else n.parents := rfl

theorem map_linkNode_keys (ns : List Node) (p c : NodeKey) (fp : Nat) :
    (ns.map (linkNode p c fp)).map (·.key) = ns.map (·.key) :=
  map_map_eq (linkNode_key p c fp) ns

/-- neither `addOrPanic` of `link` fires -/
theorem link_eq (ns : List Node) (p c : NodeKey) (fp : Nat)
    (hc : ∀ n ∈ ns, ¬ cmem n c fp) (hp : ∀ n ∈ ns, ¬ pmem n p fp) :
    link ns p c fp = .ok (ns.map (linkNode p c fp)) := by
  have h1 : childHas ns p c fp = false := by
    unfold childHas
    split
    · next n hf => exact Bool.eq_false_iff.mpr fun h => hc n (findNode_some hf).1 (has_smem _ _ _ h)
    · rfl
  have h2 : parentHas (updNode ns p fun n => { n with children := n.children.add c fp }) c p fp = false := by
    unfold parentHas
    split
    · next n1 hf =>
      obtain ⟨n, hn, rfl⟩ := List.mem_map.mp (findNode_some hf).1
      refine Bool.eq_false_iff.mpr fun h => hp n hn ?_
      split at h <;> exact has_smem _ _ _ h
    · rfl
  unfold link
  simp only [h1, h2, Bool.false_eq_true, if_false]
  unfold updNode
  rw [List.map_map]
  congr 1
  apply List.map_congr_left
  intro n _
  simp only [Function.comp, linkNode]
  by_cases hp : (n.key == p) = true <;> by_cases hc : (n.key == c) = true <;>
    simp only [hp, hc, if_true, Bool.false_eq_true, if_false]

theorem exists_mem_linkNode_key {ns : List Node} {p c : NodeKey} {fp : Nat} {k : NodeKey} :
    (∃ n ∈ ns.map (linkNode p c fp), n.key = k) ↔ ∃ n ∈ ns, n.key = k :=
  exists_mem_map

/-- the part of the invariant that holds at every intermediate point of `AddCert` -/
structure Core (V : Ver) (ns : List Node) (es : List Edge) : Prop where
  nodesNodup : (ns.map (·.key)).Nodup
  edgesNodup : (es.map (·.cert.fp)).Nodup
  child : ∀ e ∈ es, e.child = e.cert.sk ∧ ∃ n ∈ ns, n.key = e.child
  issuerSome : ∀ e ∈ es, ∀ k, e.issuer = some k →
      k.1 = e.cert.iss ∧ V k e.cert.fp = true ∧ ∃ n ∈ ns, n.key = k
  parents : ∀ n ∈ ns, ∀ k fp, pmem n k fp ↔
      ∃ e ∈ es, e.cert.fp = fp ∧ e.child = n.key ∧ e.issuer = some k
  children : ∀ n ∈ ns, ∀ k fp, cmem n k fp ↔
      ∃ e ∈ es, e.cert.fp = fp ∧ e.issuer = some n.key ∧ e.child = k
  pkeys : ∀ n ∈ ns, (n.parents.map (·.1)).Nodup
  pgroups : ∀ n ∈ ns, ∀ grp ∈ n.parents, grp.2.Nodup

theorem core_empty (V : Ver) : Core V [] [] :=
  ⟨.nil, .nil, List.forall_mem_nil _, List.forall_mem_nil _, List.forall_mem_nil _, List.forall_mem_nil _,
    List.forall_mem_nil _, List.forall_mem_nil _⟩

theorem core_addNode {V : Ver} {ns : List Node} {es : List Edge} (hc : Core V ns es) (sk : NodeKey)
    (hnew : ∀ n ∈ ns, n.key ≠ sk) : Core V (ns ++ [newNode sk]) es where
  nodesNodup := nodup_map_concat hc.nodesNodup hnew
  edgesNodup := hc.edgesNodup
  child := fun e he =>
    have ⟨h1, n, hn, h2⟩ := hc.child e he
    ⟨h1, n, List.mem_append_left _ hn, h2⟩
  issuerSome := fun e he k hk =>
    have ⟨h1, h2, n, hn, h3⟩ := hc.issuerSome e he k hk
    ⟨h1, h2, n, List.mem_append_left _ hn, h3⟩
  -- no edge starts or ends at the new node: an edge's ends are nodes already
  parents := List.forall_mem_append.mpr ⟨hc.parents, List.forall_mem_singleton.mpr fun _ _ =>
    iff_of_false (fun ⟨_, h, _⟩ => nomatch h) fun ⟨e, he, _, h2, _⟩ =>
      have ⟨_, n, hn, h3⟩ := hc.child e he
      hnew n hn (h3.trans h2)⟩
  children := List.forall_mem_append.mpr ⟨hc.children, List.forall_mem_singleton.mpr fun _ _ =>
    iff_of_false (fun ⟨_, h, _⟩ => nomatch h) fun ⟨e, he, _, h2, _⟩ =>
      have ⟨_, _, n, hn, h3⟩ := hc.issuerSome e he _ h2
      hnew n hn h3⟩
  pkeys := List.forall_mem_append.mpr ⟨hc.pkeys, List.forall_mem_singleton.mpr .nil⟩
  pgroups := List.forall_mem_append.mpr ⟨hc.pgroups, List.forall_mem_singleton.mpr (List.forall_mem_nil _)⟩

theorem core_addEdge {V : Ver} {ns : List Node} {es : List Edge} (hc : Core V ns es) (c : Cert)
    (hfresh : ∀ e ∈ es, e.cert.fp ≠ c.fp) (hnode : ∃ n ∈ ns, n.key = c.sk) :
    Core V ns (es ++ [{ cert := c, issuer := none, child := c.sk, root := false }]) where
  nodesNodup := hc.nodesNodup
  edgesNodup := nodup_map_concat hc.edgesNodup hfresh
  child := List.forall_mem_append.mpr ⟨hc.child, List.forall_mem_singleton.mpr ⟨rfl, hnode⟩⟩
  issuerSome := List.forall_mem_append.mpr ⟨hc.issuerSome, List.forall_mem_singleton.mpr fun _ h => nomatch h⟩
  parents := fun n hn k fp => by
    simp only [hc.parents n hn k fp, exists_mem_append_singleton, reduceCtorEq, and_false, or_false]
  children := fun n hn k fp => by
    simp only [hc.children n hn k fp, exists_mem_append_singleton, reduceCtorEq, false_and, and_false, or_false]
  pkeys := hc.pkeys
  pgroups := hc.pgroups

theorem mem_setIssuer_iff {es : List Edge} (hn : (es.map (·.cert.fp)).Nodup) {e : Edge} (he : e ∈ es)
    {p : NodeKey} {e' : Edge} :
    e' ∈ setIssuer es e.cert.fp p ↔ (e' ∈ es ∧ e' ≠ e) ∨ e' = { e with issuer := some p } := by
  unfold setIssuer
  rw [List.mem_map]
  constructor
  · rintro ⟨e0, he0, rfl⟩
    by_cases h : e0.cert.fp = e.cert.fp
    · rw [edge_eq_of_fp hn he0 he h, beq_self_eq_true, if_pos rfl]
      exact Or.inr rfl
    · rw [if_neg (mt beq_iff_eq.mp h)]
      exact Or.inl ⟨he0, fun h' => h (h' ▸ rfl)⟩
  · rintro (⟨h, hne⟩ | rfl)
    · exact ⟨e', h, if_neg (mt beq_iff_eq.mp fun h' => hne (edge_eq_of_fp hn h he h'))⟩
    · exact ⟨e, he, if_pos (beq_self_eq_true _)⟩

theorem setIssuer_fps (es : List Edge) (fp : Nat) (p : NodeKey) :
    (setIssuer es fp p).map (·.cert.fp) = es.map (·.cert.fp) :=
  map_map_eq (fun e => by split <;> rfl) es

theorem core_fixOne {V : Ver} {ns : List Node} {es : List Edge} (hc : Core V ns es) {e : Edge}
    (he : e ∈ es) (hnone : e.issuer = none) {p : NodeKey} (hp : ∃ n ∈ ns, n.key = p)
    (hname : p.1 = e.cert.iss) (hv : V p e.cert.fp = true) :
    link ns p e.child e.cert.fp = .ok (ns.map (linkNode p e.child e.cert.fp)) ∧
    Core V (ns.map (linkNode p e.child e.cert.fp)) (setIssuer es e.cert.fp p) := by
  -- the fingerprint of `e` is in no adjacency set: the one edge that has it has no issuer
  have hfree : ∀ e' ∈ es, e'.cert.fp = e.cert.fp → ∀ k, e'.issuer ≠ some k := fun e' he' hfp k hk => by
    rw [edge_eq_of_fp hc.edgesNodup he' he hfp, hnone] at hk; cases hk
  have hP : ∀ n ∈ ns, ∀ k, ¬ pmem n k e.cert.fp := fun n hn k h =>
    have ⟨e', he', hfp, _, hi⟩ := (hc.parents n hn k _).mp h
    hfree e' he' hfp k hi
  have hC : ∀ n ∈ ns, ∀ k, ¬ cmem n k e.cert.fp := fun n hn k h =>
    have ⟨e', he', hfp, hi, _⟩ := (hc.children n hn k _).mp h
    hfree e' he' hfp _ hi
  have hne : ∀ {e' : Edge} {k}, e'.issuer = some k → e' ≠ e := fun h h' => by
    rw [h', hnone] at h; cases h
  have hmem {e'} := mem_setIssuer_iff (e' := e') hc.edgesNodup he (p := p)
  refine ⟨link_eq ns p e.child e.cert.fp (fun n hn => hC n hn _) (fun n hn => hP n hn _), ?_⟩
  exact {
    nodesNodup := (map_linkNode_keys ns _ _ _).symm ▸ hc.nodesNodup
    edgesNodup := (setIssuer_fps es _ _).symm ▸ hc.edgesNodup
    child := List.forall_mem_map.mpr fun e0 he0 => by
      have ⟨h1, h2⟩ := hc.child e0 he0
      split <;> exact ⟨h1, exists_mem_linkNode_key.mpr h2⟩
    issuerSome := fun e' he' k hk => by
      rcases hmem.mp he' with ⟨h, _⟩ | rfl
      · have ⟨h1, h2, h3⟩ := hc.issuerSome e' h k hk
        exact ⟨h1, h2, exists_mem_linkNode_key.mpr h3⟩
      · cases hk
        exact ⟨hname, hv, exists_mem_linkNode_key.mpr hp⟩
    parents := List.forall_mem_map.mpr fun n hn k f => by
      simp only [pmem_linkNode, linkNode_key, hc.parents n hn k f, hmem, or_and_right, exists_or, exists_eq_left, and_assoc,
        Option.some.injEq]
      exact or_congr_left (exists_congr fun e0 => and_congr_right fun _ => ⟨fun h => ⟨hne h.2.2, h⟩, And.right⟩)
    children := List.forall_mem_map.mpr fun n hn k f => by
      simp only [cmem_linkNode, linkNode_key, hc.children n hn k f, hmem, or_and_right, exists_or, exists_eq_left, and_assoc,
        Option.some.injEq]
      exact or_congr_left (exists_congr fun e0 => and_congr_right fun _ => ⟨fun h => ⟨hne h.2.1, h⟩, And.right⟩)
    pkeys := List.forall_mem_map.mpr fun n hn => by
      rw [linkNode_parents]
      split
      · exact keys_nodup_add _ _ _ (hc.pkeys n hn)
      · exact hc.pkeys n hn
    pgroups := List.forall_mem_map.mpr fun n hn => by
      rw [linkNode_parents]
      split
      · exact groups_nodup_add _ _ _ (hc.pgroups n hn) (hP n hn p)
      · exact hc.pgroups n hn }

/-- closed form of the edges after `fixLoop` -/
def fixEdges (sk : NodeKey) (es : List Edge) (fps : List Nat) : List Edge :=
  es.map (fun e => if fps.contains e.cert.fp then { e with issuer := some sk } else e)

theorem fixEdges_nil (sk : NodeKey) (es : List Edge) : fixEdges sk es [] = es :=
  (List.map_congr_left fun _ _ => rfl).trans (List.map_id es)

theorem fixEdges_setIssuer (sk : NodeKey) (es : List Edge) (fp : Nat) (fps : List Nat) :
    fixEdges sk (setIssuer es fp sk) fps = fixEdges sk es (fp :: fps) := by
  unfold fixEdges setIssuer
  rw [List.map_map]
  apply List.map_congr_left
  intro e _
  simp only [Function.comp, List.contains_cons]
  by_cases h1 : (e.cert.fp == fp) = true
  · simp only [h1, if_true, Bool.true_or]
    split <;> rfl
  · simp only [h1, Bool.false_eq_true, if_false, Bool.false_or]

theorem fixLoop_spec (V : Ver) (sk : NodeKey) (cands : List Nat) :
    ∀ (ns : List Node) (es : List Edge) (fixed : List Nat), Core V ns es → (∃ n ∈ ns, n.key = sk) →
      cands.Nodup →
      (∀ fp ∈ cands, ∃ e ∈ es, e.cert.fp = fp ∧ e.issuer = none ∧ e.cert.iss = sk.1) →
      ∃ ns', fixLoop V sk ns es cands fixed =
          .ok (ns', fixEdges sk es (cands.filter (fun fp => V sk fp)), fixed ++ cands.filter (fun fp => V sk fp)) ∧
        Core V ns' (fixEdges sk es (cands.filter (fun fp => V sk fp))) ∧
        ns'.map (·.key) = ns.map (·.key) := by
  induction cands with
  | nil =>
    intro ns es fixed hc _ _ _
    simp only [fixLoop, List.filter_nil, fixEdges_nil, List.append_nil]
    exact ⟨ns, rfl, hc, rfl⟩
  | cons fp rest ih =>
    intro ns es fixed hc hsk hnd hall
    rw [List.nodup_cons] at hnd
    rw [List.forall_mem_cons] at hall
    obtain ⟨⟨e, he, rfl, hnone, hiss⟩, hall⟩ := hall
    simp only [fixLoop, findEdge_of_mem hc.edgesNodup he, List.filter_cons]
    by_cases hv : V sk e.cert.fp = true
    · obtain ⟨hlink, hc1⟩ := core_fixOne hc he hnone hsk hiss.symm hv
      simp only [hv, if_true, hlink]
      rw [← fixEdges_setIssuer, List.append_cons fixed _ (List.filter _ rest)]
      -- the remaining candidates are other edges, untouched by `setIssuer`
      have hall1 : ∀ fp' ∈ rest, ∃ e' ∈ setIssuer es e.cert.fp sk,
          e'.cert.fp = fp' ∧ e'.issuer = none ∧ e'.cert.iss = sk.1 := fun fp' hfp' =>
        have ⟨e', he', h⟩ := hall fp' hfp'
        ⟨e', (mem_setIssuer_iff hc.edgesNodup he).mpr (Or.inl ⟨he', fun h' => hnd.1 (h' ▸ h.1 ▸ hfp')⟩), h⟩
      obtain ⟨ns', h1, h2, h3⟩ := ih _ _ (fixed ++ [e.cert.fp]) hc1 (exists_mem_linkNode_key.mpr hsk) hnd.2 hall1
      exact ⟨ns', h1, h2, h3.trans (map_linkNode_keys ns _ _ _)⟩
    · simp only [hv, Bool.false_eq_true, if_false]
      exact ih ns es fixed hc hsk hnd.2 hall

/-- first key of `ks` with name `iss` verifying `fp` -/
def firstVer (V : Ver) (ks : List NodeKey) (iss fp : Nat) : Option NodeKey :=
  ks.find? (fun k => k.1 == iss && V k fp)

theorem searchIssuer_key (V : Ver) (ns : List Node) (iss fp : Nat) :
    (searchIssuer V ns iss fp).map (·.key) = firstVer V (ns.map (·.key)) iss fp :=
  (List.find?_map (f := Node.key) (p := fun k : NodeKey => k.1 == iss && V k fp)).symm

/-- list order is the order of `nodesBySubject[RawIssuer]` -/
theorem searchIssuer_spec {V : Ver} {ns : List Node} {iss fp : Nat} {n : Node}
    (h : searchIssuer V ns iss fp = some n) :
    n.key.1 = iss ∧ V n.key fp = true ∧
      ∃ pre post, ns = pre ++ n :: post ∧ ∀ m ∈ pre, ¬ (m.key.1 = iss ∧ V m.key fp = true) := by
  unfold searchIssuer at h
  obtain ⟨hp, pre, post, hd, hall⟩ := List.find?_eq_some_iff_append.mp h
  simp only [Bool.and_eq_true, beq_iff_eq] at hp
  refine ⟨hp.1, hp.2, pre, post, hd, fun m hm => ?_⟩
  have := hall m hm
  intro ⟨h1, h2⟩
  simp [h1, h2] at this

theorem searchIssuer_none {V : Ver} {ns : List Node} {iss fp : Nat}
    (h : searchIssuer V ns iss fp = none) : ∀ m ∈ ns, ¬ (m.key.1 = iss ∧ V m.key fp = true) := by
  intro m hm hp
  exact List.find?_eq_none.mp h m hm (Bool.and_eq_true_iff.mpr ⟨beq_iff_eq.mpr hp.1, hp.2⟩)

/-- the new node `sk` becomes the issuer of an edge that has none, waits for its name and is verified by its key;
    `Option.or`: the new key comes after every other -/
def adopt (V : Ver) (sk : NodeKey) (e : Edge) : Edge :=
  { e with issuer := e.issuer.or (firstVer V [sk] e.cert.iss e.cert.fp) }

theorem adopt_issuer_none {V : Ver} {sk : NodeKey} {e : Edge} :
    (adopt V sk e).issuer = none ↔ e.issuer = none ∧ ¬ (sk.1 = e.cert.iss ∧ V sk e.cert.fp = true) := by
  show e.issuer.or (firstVer V [sk] e.cert.iss e.cert.fp) = none ↔ _
  rw [Option.or_eq_none_iff, firstVer, List.find?_singleton]
  simp only [ite_eq_right_iff, reduceCtorEq, imp_false, Bool.and_eq_true, beq_iff_eq]

theorem fixEdges_eq_adopt {V : Ver} {sk : NodeKey} {es : List Edge} {cands : List Nat}
    (hn : (es.map (·.cert.fp)).Nodup)
    (hc : ∀ fp, fp ∈ cands ↔ ∃ e ∈ es, e.cert.fp = fp ∧ e.issuer = none ∧ e.cert.iss = sk.1) :
    fixEdges sk es (cands.filter fun fp => V sk fp) = es.map (adopt V sk) := by
  refine List.map_congr_left fun e he => ?_
  have hin : (cands.filter fun fp => V sk fp).contains e.cert.fp = true ↔
      e.issuer = none ∧ (sk.1 == e.cert.iss && V sk e.cert.fp) = true := by
    rw [List.contains_iff_mem, List.mem_filter, hc, Bool.and_eq_true, beq_iff_eq, ← and_assoc, @eq_comm _ sk.1]
    refine and_congr_left fun _ => ⟨fun ⟨e1, he1, h4, h5⟩ => ?_, fun h => ⟨e, he, rfl, h⟩⟩
    rw [← edge_eq_of_fp hn he1 he h4]
    exact h5
  unfold adopt firstVer
  rw [List.find?_singleton]
  by_cases h : (cands.filter fun fp => V sk fp).contains e.cert.fp = true
  · rw [if_pos h, (hin.mp h).1, if_pos (hin.mp h).2]
    rfl
  · have hor : e.issuer.or (if (sk.1 == e.cert.iss && V sk e.cert.fp) = true then some sk else none) = e.issuer := by
      cases hi : e.issuer with
      | some k => rfl
      | none => exact if_neg fun h' => h (hin.mpr ⟨hi, h'⟩)
    rw [if_neg h, hor]

/-- `Inv` with the `issuerNone` clause relaxed for one node key `x` (the node created by the
    running `AddCert`, before its fix-up phase).  `PreInv V g none` is the full invariant. -/
structure PreInv (V : Ver) (g : Graph) (x : Option NodeKey) : Prop where
  core : Core V g.nodes g.edges
  issuerNone : ∀ e ∈ g.edges, e.issuer = none → ∀ k ∈ g.nodes.map (·.key), some k ≠ x →
      k.1 = e.cert.iss → V k e.cert.fp = false
  missing : ∀ name fp, smem g.missing name fp ↔
      ∃ e ∈ g.edges, e.cert.fp = fp ∧ e.issuer = none ∧ e.cert.iss = name
  mkeys : (g.missing.map (·.1)).Nodup
  mgroups : ∀ grp ∈ g.missing, grp.2.Nodup

abbrev Inv (V : Ver) (g : Graph) : Prop := PreInv V g none

theorem inv_empty (V : Ver) : Inv V Graph.empty :=
  ⟨core_empty V, List.forall_mem_nil _, fun _ _ => iff_of_false (smem_nil _ _) (fun ⟨_, h, _⟩ => nomatch h), .nil,
    List.forall_mem_nil _⟩

theorem Inv.wf {V : Ver} {g : Graph} (h : Inv V g) : WF V g :=
  ⟨h.core.nodesNodup, h.core.edgesNodup, h.core.child, h.core.issuerSome,
    fun e he hn n hnn => h.issuerNone e he hn n.key (List.mem_map_of_mem hnn) (Option.some_ne_none _),
    h.core.parents, h.core.children, h.missing⟩

theorem Inv.adjNodup {V : Ver} {g : Graph} (h : Inv V g) : AdjNodup g := ⟨h.core.pkeys, h.core.pgroups⟩

theorem setIssuer_append_fresh (es : List Edge) (e0 : Edge) (p : NodeKey)
    (hfresh : ∀ e ∈ es, e.cert.fp ≠ e0.cert.fp) :
    setIssuer (es ++ [e0]) e0.cert.fp p = es ++ [{ e0 with issuer := some p }] := by
  unfold setIssuer
  rw [List.map_append, List.map_cons, beq_self_eq_true, if_pos rfl, List.map_nil]
  congr 1
  exact (List.map_congr_left fun e he => if_neg (mt beq_iff_eq.mp (hfresh e he))).trans (List.map_id es)

/-- skeleton of an edge: everything except the issuer -/
def skel (e : Edge) : Cert × NodeKey × Bool := (e.cert, e.child, e.root)

theorem setIssuer_skel (es : List Edge) (fp : Nat) (p : NodeKey) :
    (setIssuer es fp p).map skel = es.map skel :=
  map_map_eq (fun e => by split <;> rfl) es

/-- first half of `AddCert` on a fresh certificate, after the node list `ns1` has been settled:
    search for an issuer, then link or register in `missingIssuerNode` -/
def stage1 (V : Ver) (ns1 : List Node) (g : Graph) (c : Cert) : Res Graph :=
  let edge0 : Edge := { cert := c, issuer := none, child := c.sk, root := false }
  match searchIssuer V ns1 c.iss c.fp with
  | some p =>
    match link ns1 p.key c.sk c.fp with
    | .ok nodes2 =>
      .ok { nodes := nodes2, edges := g.edges ++ [{ edge0 with issuer := some p.key }], missing := g.missing }
    | _ => .panic
  | none =>
    if g.missing.has c.iss c.fp then .panic
    else .ok { nodes := ns1, edges := g.edges ++ [edge0], missing := g.missing.add c.iss c.fp }

theorem addCert_eq (V : Ver) (g : Graph) (c : Cert) :
    addCert V g c =
      if hasEdge g.edges c.fp then .ok g
      else match stage1 V (if !hasNode g.nodes c.sk then g.nodes ++ [newNode c.sk] else g.nodes) g c with
        | .ok g1 => if !hasNode g.nodes c.sk then fixup V g1 c else .ok g1
        | _ => .panic := rfl

theorem stage1_edges {V : Ver} {ns1 : List Node} {g g1 : Graph} {c : Cert} (h : stage1 V ns1 g c = .ok g1) :
    g1.edges = g.edges ++ [{ cert := c, issuer := (searchIssuer V ns1 c.iss c.fp).map (·.key), child := c.sk,
                             root := false }] := by
  unfold stage1 at h
  cases hs : searchIssuer V ns1 c.iss c.fp with
  | some p =>
    simp only [hs] at h
    cases hl : link ns1 p.key c.sk c.fp with
    | ok ns2 =>
      simp only [hl] at h
      cases h
      rfl
    | err =>
      simp only [hl] at h
      cases h
    | panic =>
      simp only [hl] at h
      cases h
  | none =>
    simp only [hs] at h
    split at h
    · cases h
    · cases h
      rfl

/-- `ns1` may hold one node `x` that the dangling edges have not seen yet -/
theorem stage1_spec {V : Ver} {g : Graph} (hinv : Inv V g) (c : Cert)
    (hfresh : ∀ e ∈ g.edges, e.cert.fp ≠ c.fp) {ns1 : List Node} {x : Option NodeKey}
    (hc1 : Core V ns1 g.edges) (hnode : ∃ n ∈ ns1, n.key = c.sk)
    (hnone : ∀ e ∈ g.edges, e.issuer = none → ∀ k ∈ ns1.map (·.key), some k ≠ x →
      k.1 = e.cert.iss → V k e.cert.fp = false) :
    ∃ g1, stage1 V ns1 g c = .ok g1 ∧ PreInv V g1 x ∧ g1.nodes.map (·.key) = ns1.map (·.key) := by
  have hcoreE := core_addEdge hc1 c hfresh hnode
  have hnot : ¬ smem g.missing c.iss c.fp := fun h =>
    have ⟨e, he, hfp, _⟩ := (hinv.missing c.iss c.fp).mp h
    hfresh e he hfp
  unfold stage1
  cases hs : searchIssuer V ns1 c.iss c.fp with
  | some p =>
    have hpp := searchIssuer_spec hs
    obtain ⟨hlink, hc2⟩ := core_fixOne (e := { cert := c, issuer := none, child := c.sk, root := false }) hcoreE
      List.mem_concat_self rfl ⟨p, List.mem_of_find?_eq_some hs, rfl⟩ hpp.1 hpp.2.1
    rw [setIssuer_append_fresh g.edges _ p.key hfresh] at hc2
    simp only [hlink]
    refine ⟨_, rfl, ⟨hc2, ?_, fun name fp => ?_, hinv.mkeys, hinv.mgroups⟩, map_linkNode_keys ns1 _ _ _⟩
    · rw [map_linkNode_keys]
      exact List.forall_mem_append.mpr ⟨hnone, List.forall_mem_singleton.mpr fun h => nomatch h⟩
    · simp only [hinv.missing name fp, exists_mem_append_singleton, reduceCtorEq, false_and, and_false, or_false]
  | none =>
    simp only [Bool.eq_false_iff.mpr (mt (has_smem _ _ _) hnot), Bool.false_eq_true, if_false]
    refine ⟨_, rfl, ⟨hcoreE, ?_, fun name fp => ?_, keys_nodup_add _ _ _ hinv.mkeys,
      groups_nodup_add _ _ _ hinv.mgroups hnot⟩, rfl⟩
    · refine List.forall_mem_append.mpr ⟨hnone, List.forall_mem_singleton.mpr fun _ k hk _ hname => ?_⟩
      -- the search over `ns1` has just failed
      obtain ⟨n, hn, rfl⟩ := List.mem_map.mp hk
      exact Bool.eq_false_iff.mpr fun hv => searchIssuer_none hs n hn ⟨hname, hv⟩
    · simp only [smem_add, hinv.missing name fp, exists_mem_append_singleton, true_and]

theorem keys_nodup_dropIfEmpty {κ : Type} [BEq κ] (m : SetMap κ) (k : κ) (h : (m.map (·.1)).Nodup) :
    ((m.dropIfEmpty k).map (·.1)).Nodup :=
  h.sublist (List.Sublist.map _ List.filter_sublist)

theorem fixup_spec {V : Ver} {g1 : Graph} (c : Cert) (h : PreInv V g1 (some c.sk))
    (hnode : ∃ n ∈ g1.nodes, n.key = c.sk) :
    ∃ g2, fixup V g1 c = .ok g2 ∧ Inv V g2 ∧ g2.nodes.map (·.key) = g1.nodes.map (·.key) ∧
      g2.edges = g1.edges.map (adopt V c.sk) := by
  have hcands : ∀ fp, fp ∈ (g1.missing.get c.subj).getD [] ↔
      ∃ e ∈ g1.edges, e.cert.fp = fp ∧ e.issuer = none ∧ e.cert.iss = c.subj :=
    fun fp => (mem_getD_get g1.missing h.mkeys c.subj fp).trans (h.missing c.subj fp)
  have hnd := getD_get_nodup g1.missing h.mgroups c.subj
  have hadopt := fixEdges_eq_adopt (V := V) (sk := c.sk) h.core.edgesNodup hcands
  unfold fixup
  generalize g1.missing.get c.subj = o at hcands hnd hadopt ⊢
  cases o with
  | none =>
    refine ⟨g1, rfl, ⟨h.core, fun e he hn k hk _ hname => ?_, h.missing, h.mkeys, h.mgroups⟩, rfl,
      (fixEdges_nil _ _).symm.trans hadopt⟩
    by_cases hx : k = c.sk
    · -- a dangling edge waiting for the name `c.subj` would be registered under it
      subst hx
      exact absurd ((hcands _).mpr ⟨e, he, rfl, hn, hname.symm⟩) List.not_mem_nil
    · exact h.issuerNone e he hn k hk (fun h' => hx (Option.some.inj h')) hname
  | some cands =>
    obtain ⟨ns', hloop, hcore', hkeys'⟩ := fixLoop_spec V c.sk cands g1.nodes g1.edges [] h.core hnode hnd
      fun fp hfp => (hcands fp).mp hfp
    rw [show fixEdges c.sk g1.edges (cands.filter fun fp => V c.sk fp) = _ from hadopt] at hloop hcore'
    simp only [hloop, List.nil_append]
    refine ⟨_, rfl, ⟨hcore', List.forall_mem_map.mpr fun e he hn k hk _ hname => ?_, fun name fp => ?_, ?_, ?_⟩,
      hkeys', rfl⟩
    · obtain ⟨hn0, hnv⟩ := adopt_issuer_none.mp hn
      by_cases hx : k = c.sk
      · -- the new key does not verify an edge it has not adopted
        subst hx
        exact Bool.eq_false_iff.mpr fun hv => hnv ⟨hname, hv⟩
      · exact h.issuerNone e he hn0 k (hkeys' ▸ hk) (fun h' => hx (Option.some.inj h')) hname
    · -- the entries taken out of `missingIssuerNode[c.subj]` are the adopted edges
      simp only [smem_dropIfEmpty, smem_removeAll, h.missing name fp, exists_mem_map, adopt_issuer_none]
      constructor
      · rintro ⟨⟨e, he, rfl, h2, rfl⟩, hnot⟩
        exact ⟨e, he, rfl, ⟨h2, fun hv => hnot ⟨hv.1.symm,
          List.mem_filter.mpr ⟨(hcands _).mpr ⟨e, he, rfl, h2, hv.1.symm⟩, hv.2⟩⟩⟩, rfl⟩
      · rintro ⟨e, he, rfl, ⟨h2, hnv⟩, rfl⟩
        exact ⟨⟨e, he, rfl, h2, rfl⟩, fun hh => hnv ⟨hh.1.symm, (List.mem_filter.mp hh.2).2⟩⟩
    · exact keys_nodup_dropIfEmpty _ _ (by rw [keys_removeAll]; exact h.mkeys)
    · exact fun grp hgrp => groups_nodup_removeAll _ _ _ h.mgroups grp (List.mem_filter.mp hgrp).1

/-- the node keys after `AddCert c` -/
def keysAdd (ks : List NodeKey) (c : Cert) : List NodeKey := if c.sk ∈ ks then ks else ks ++ [c.sk]

/-- the edges after `AddCert c` of a new certificate: its edge, issued by the first verifying node; when the node of `c`
    is new, the fix-up for that node -/
def edgesAdd (V : Ver) (ks : List NodeKey) (es : List Edge) (c : Cert) : List Edge :=
  let es1 := es ++ [{ cert := c, issuer := firstVer V (keysAdd ks c) c.iss c.fp, child := c.sk, root := false }]
  if c.sk ∈ ks then es1 else es1.map (adopt V c.sk)

theorem hasNode_iff_mem {ns : List Node} {k : NodeKey} : hasNode ns k = true ↔ k ∈ ns.map (·.key) :=
  hasNode_iff.trans List.mem_map.symm

theorem mem_keysAdd {ks : List NodeKey} {c : Cert} {k : NodeKey} : k ∈ keysAdd ks c ↔ k ∈ ks ∨ k = c.sk := by
  unfold keysAdd
  split
  · next h => exact ⟨Or.inl, fun h' => h'.elim id fun h' => h' ▸ h⟩
  · exact List.mem_append.trans (or_congr_right List.mem_singleton)

theorem edgesAdd_skel (V : Ver) (ks : List NodeKey) (es : List Edge) (c : Cert) :
    (edgesAdd V ks es c).map skel = es.map skel ++ [(c, c.sk, false)] := by
  unfold edgesAdd
  split
  · exact List.map_append
  · exact (map_map_eq (f := adopt V c.sk) (g := skel) (fun _ => rfl) _).trans List.map_append

/-- when the node exists, `stage1` on the nodes as they are; otherwise `stage1` with the new node appended, then the
    fix-up for it -/
theorem addCert_new {V : Ver} {g : Graph} (hinv : Inv V g) (c : Cert) (hdup : hasEdge g.edges c.fp = false) :
    ∃ g', addCert V g c = .ok g' ∧ Inv V g' ∧ g'.nodes.map (·.key) = keysAdd (g.nodes.map (·.key)) c ∧
      g'.edges = edgesAdd V (g.nodes.map (·.key)) g.edges c := by
  have hfresh : ∀ e ∈ g.edges, e.cert.fp ≠ c.fp := fun e he hfp => by
    rw [hasEdge_iff.mpr ⟨e, he, hfp⟩] at hdup; cases hdup
  rw [addCert_eq, hdup, if_neg Bool.false_ne_true]
  cases hn : hasNode g.nodes c.sk with
  | true =>
    obtain ⟨g1, hs1, hpre, hkeys⟩ := stage1_spec hinv c hfresh hinv.core (hasNode_iff.mp hn) hinv.issuerNone
    simp only [edgesAdd, keysAdd, if_pos (hasNode_iff_mem.mp hn), ← searchIssuer_key]
    exact ⟨g1, by simp only [Bool.not_true, Bool.false_eq_true, if_false, hs1], hpre, hkeys, stage1_edges hs1⟩
  | false =>
    have hmem : c.sk ∉ g.nodes.map (·.key) := fun h => Bool.false_ne_true (hn.symm.trans (hasNode_iff_mem.mpr h))
    obtain ⟨g1, hs1, hpre, hkeys⟩ := stage1_spec (x := some c.sk) hinv c hfresh
      (core_addNode hinv.core c.sk fun n hnn hk => hmem (hk ▸ List.mem_map_of_mem hnn)) ⟨_, List.mem_concat_self, rfl⟩
      fun e he hne k hk hx => by
        -- a key other than the new one is an old one
        rcases List.mem_append.mp (List.map_append ▸ hk) with hk | hk
        · exact hinv.issuerNone e he hne k hk (Option.some_ne_none _)
        · exact absurd (congrArg some (List.mem_singleton.mp hk)) hx
    obtain ⟨g2, hf, hinv2, hk2, he2⟩ := fixup_spec c hpre
      (List.exists_of_mem_map (hkeys ▸ List.mem_map_of_mem (List.mem_concat_self)))
    have hedges := stage1_edges hs1
    rw [searchIssuer_key, List.map_append] at hedges
    simp only [edgesAdd, keysAdd, if_neg hmem]
    exact ⟨g2, by simp only [Bool.not_false, if_true, hs1, hf], hinv2, hk2.trans (hkeys.trans List.map_append),
      hedges ▸ he2⟩

theorem addCert_spec {V : Ver} {g : Graph} (hinv : Inv V g) (c : Cert) :
    ∃ g', addCert V g c = .ok g' ∧ Inv V g' ∧ hasEdge g'.edges c.fp = true := by
  cases hdup : hasEdge g.edges c.fp with
  | true => exact ⟨g, by rw [addCert_eq, if_pos hdup], hinv, hdup⟩
  | false =>
    obtain ⟨g', hadd, hinv', _, he'⟩ := addCert_new hinv c hdup
    have hmem : (c, c.sk, false) ∈ g'.edges.map skel := by
      rw [he', edgesAdd_skel]
      exact List.mem_concat_self
    have ⟨e, he, hs⟩ := List.exists_of_mem_map hmem
    exact ⟨g', hadd, hinv', hasEdge_iff.mpr ⟨e, he, congrArg (·.1.fp) hs⟩⟩

/-- what `setRoot es fp` does to one edge -/
def rootAt (fp : Nat) (e : Edge) : Edge := if e.cert.fp == fp then { e with root := true } else e

theorem setRoot_eq_map (es : List Edge) (fp : Nat) : setRoot es fp = es.map (rootAt fp) := rfl

theorem rootAt_cert (fp : Nat) (e : Edge) : (rootAt fp e).cert = e.cert := by
  unfold rootAt; split <;> rfl
theorem rootAt_child (fp : Nat) (e : Edge) : (rootAt fp e).child = e.child := by
  unfold rootAt; split <;> rfl
theorem rootAt_issuer (fp : Nat) (e : Edge) : (rootAt fp e).issuer = e.issuer := by
  unfold rootAt; split <;> rfl

theorem PreInv.map_edges {V : Ver} {g : Graph} {x : Option NodeKey} (h : PreInv V g x) (f : Edge → Edge)
    (hcert : ∀ e, (f e).cert = e.cert) (hchild : ∀ e, (f e).child = e.child)
    (hiss : ∀ e, (f e).issuer = e.issuer) : PreInv V { g with edges := g.edges.map f } x where
  core := {
    nodesNodup := h.core.nodesNodup
    edgesNodup := (map_map_eq (g := (·.cert.fp)) (fun e => congrArg Cert.fp (hcert e)) g.edges).symm ▸ h.core.edgesNodup
    child := List.forall_mem_map.mpr fun e he => by rw [hcert, hchild]; exact h.core.child e he
    issuerSome := List.forall_mem_map.mpr fun e he => by rw [hcert, hiss]; exact h.core.issuerSome e he
    parents := fun n hn k fp => by
      simp only [exists_mem_map, hcert, hchild, hiss]; exact h.core.parents n hn k fp
    children := fun n hn k fp => by
      simp only [exists_mem_map, hcert, hchild, hiss]; exact h.core.children n hn k fp
    pkeys := h.core.pkeys
    pgroups := h.core.pgroups }
  issuerNone := List.forall_mem_map.mpr fun e he => by rw [hcert, hiss]; exact h.issuerNone e he
  missing := fun name fp => by simp only [exists_mem_map, hcert, hiss]; exact h.missing name fp
  mkeys := h.mkeys
  mgroups := h.mgroups

theorem inv_setRoot {V : Ver} {g : Graph} (h : Inv V g) (fp : Nat) :
    Inv V { g with edges := setRoot g.edges fp } :=
  h.map_edges (rootAt fp) (rootAt_cert fp) (rootAt_child fp) (rootAt_issuer fp)

theorem addRoot_spec {V : Ver} {g : Graph} (hinv : Inv V g) (c : Cert) :
    ∃ g1, addCert V g c = .ok g1 ∧ addRoot V g c = .ok { g1 with edges := setRoot g1.edges c.fp } := by
  obtain ⟨g1, hadd, _, hhas⟩ := addCert_spec hinv c
  exact ⟨g1, hadd, by simp only [addRoot, hadd, hhas, if_true]⟩

theorem step_inv {V : Ver} {g : Graph} (hinv : Inv V g) (op : Op) :
    ∃ g', step V g op = .ok g' ∧ Inv V g' := by
  obtain ⟨g1, hadd, hinv1, _⟩ := addCert_spec hinv op.cert
  cases op with
  | add c => exact ⟨g1, hadd, hinv1⟩
  | root c =>
    obtain ⟨g1', hadd', hroot⟩ := addRoot_spec hinv c
    cases hadd.symm.trans hadd'
    exact ⟨_, hroot, inv_setRoot hinv1 c.fp⟩

/-- One induction for every run.  `AddRoot c` is `AddCert c`, then the root flag of `c` (`addRoot_spec`): `hroot` starts
    from the property for `.add c`.  The history is kept latest operation first. -/
theorem run_ind {V : Ver} {P : List Op → Graph → Prop}
    (hadd : ∀ {H g g'} (c : Cert), Inv V g → P H g → addCert V g c = .ok g' → P (.add c :: H) g')
    (hroot : ∀ {H g} (c : Cert), P (.add c :: H) g → P (.root c :: H) { g with edges := setRoot g.edges c.fp }) :
    ∀ (ops : List Op) {H : List Op} {g : Graph}, Inv V g → P H g →
      ∃ g', run V g ops = .ok g' ∧ Inv V g' ∧ P (ops.reverse ++ H) g' := by
  intro ops
  induction ops with
  | nil => exact fun h hp => ⟨_, rfl, h, hp⟩
  | cons op ops ih =>
    intro H g h hp
    obtain ⟨g1, hs, h1⟩ := step_inv h op
    have hp1 : P (op :: H) g1 := by
      cases op with
      | add c => exact hadd c h hp hs
      | root c =>
        obtain ⟨g0, ha, hr⟩ := addRoot_spec h c
        cases hr.symm.trans hs
        exact hroot c (hadd c h hp ha)
    obtain ⟨g2, hr, h2, hp2⟩ := ih h1 hp1
    rw [List.reverse_cons, List.append_assoc]
    exact ⟨g2, by simp only [run, hs]; exact hr, h2, hp2⟩

theorem run_inv {V : Ver} (ops : List Op) {g : Graph} (h : Inv V g) : ∃ g', run V g ops = .ok g' ∧ Inv V g' :=
  have ⟨g', hr, hinv, _⟩ := run_ind (P := fun _ _ => True) (fun _ _ _ _ => trivial) (fun _ _ => trivial) ops (H := []) h
    trivial
  ⟨g', hr, hinv⟩

theorem inv_of_run {V : Ver} {ops : List Op} {g : Graph} (hr : run V Graph.empty ops = .ok g) : Inv V g := by
  obtain ⟨g', hr', hinv⟩ := run_inv (V := V) ops (inv_empty V)
  cases hr.symm.trans hr'
  exact hinv

theorem WF.perm_nodes {V : Ver} {g g' : Graph} (wf : WF V g) (hp : g'.nodes.Perm g.nodes)
    (he : g'.edges = g.edges) (hm : g'.missing = g.missing) : WF V g' := by
  obtain ⟨ns', es', m'⟩ := g'
  simp only at hp he hm
  subst he hm
  exact ⟨(hp.map _).nodup_iff.mpr wf.nodesNodup, wf.edgesNodup,
    fun e he => have ⟨h1, n, hn, h⟩ := wf.child e he; ⟨h1, n, hp.mem_iff.mpr hn, h⟩,
    fun e he k hk => have ⟨a, b, n, hn, h⟩ := wf.issuerSome e he k hk; ⟨a, b, n, hp.mem_iff.mpr hn, h⟩,
    fun e he hn n hnn => wf.issuerNone e he hn n (hp.mem_iff.mp hnn),
    fun n hn => wf.parents n (hp.mem_iff.mp hn), fun n hn => wf.children n (hp.mem_iff.mp hn), wf.missing⟩

end ZV.C10
