import ZV.Proofs.DerLite
/-! Consequences of the characterisations `readHdr_iff` / `readElem_iff`: the readers are *local*
    (`readX bs = ok (v, rest)  →  readX (bs ++ t) = ok (v, rest ++ t)`; for `readElem` this is `readElem_append` of
    `ZV.Proofs.DerLite`), the SEQUENCE OF reader on a concatenation of arbitrary accepted elements (not only `writeTLV`
    ones), and the growth of the length field with the length (so a size bound on a larger encoding bounds a smaller one). -/
namespace ZV.Der

theorem readBase128_append (f s acc : Nat) (bs : Bytes) (v : Nat) (rest t : Bytes)
    (h : readBase128 f s acc bs = .ok (v, rest)) : readBase128 f s acc (bs ++ t) = .ok (v, rest ++ t) := by
  obtain ⟨pre, hp, hr⟩ := readBase128_prefix f s acc bs v rest h
  rw [hp, List.append_assoc, hr]

theorem readHdr_append (bs : Bytes) (hd : Hdr) (rest t : Bytes) (h : readHdr bs = .ok (hd, rest)) :
    readHdr (bs ++ t) = .ok (hd, rest ++ t) := by
  obtain ⟨pre, hp, rfl⟩ := (readHdr_iff _ _ _).mp h
  rw [List.append_assoc]
  exact hp.read _

theorem readElem_hdr (bs : Bytes) (e : Elem) (rest : Bytes) (h : readElem bs = .ok (e, rest)) :
    ∃ after, readHdr bs = .ok (e.hdr, after) ∧ e.hdr.len ≤ after.length ∧ rest = after.drop e.hdr.len := by
  obtain ⟨pre, hp, hl, hf, rfl⟩ := (readElem_iff _ _ _).mp h
  refine ⟨e.body ++ rest, ?_, ?_, (List.drop_left' hl).symm⟩
  · rw [hf, List.append_assoc]
    exact hp.read _
  · rw [List.length_append, hl]
    exact Nat.le_add_right _ _

theorem readElem_full (bs : Bytes) (e : Elem) (rest : Bytes) (h : readElem bs = .ok (e, rest)) :
    bs = e.full ++ rest := (readElem_split bs e rest h).1

theorem readElems_flatten (el : Bytes → Elem) (l : List Bytes)
    (h : ∀ b ∈ l, readElem b = .ok (el b, [])) : readElems l.flatten = .ok (l.map el) := by
  have := readElems_map id el l h
  rwa [List.map_id] at this

theorem encLen_length_mono (a b : Nat) (h : a ≤ b) : (encLen a).length ≤ (encLen b).length := by
  have ha := encLen_length_ge a
  have hb := encLen_length_ge b
  omega

theorem writeTLV_length_mono (t t' : UInt8) (a b : Bytes) (h : a.length ≤ b.length) :
    (writeTLV t a).length ≤ (writeTLV t' b).length := by
  have := encLen_length_mono _ _ h
  rw [writeTLV_length, writeTLV_length]; omega

theorem length_le_writeTLV (t : UInt8) (b : Bytes) : b.length ≤ (writeTLV t b).length := by
  have := writeTLV_length_ge t b; omega

end ZV.Der
