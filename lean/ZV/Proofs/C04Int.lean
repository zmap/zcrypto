import ZV.Model.C04
import ZV.Proofs.DerLite
/-! INTEGER contents: the encoder `beBytes (intLen f v) (two's complement of v)` (`encInt` of C04 with fuel 8,
    `encBigInt` of C05 with fuel `log2 |v| + 2`) is decoded by `checkInteger` + `intOfBytes` for every `v`
    the fuel covers. -/
namespace ZV.C04
open ZV ZV.Der

theorem beBytes_eq (n v : Nat) : beBytes n v = fixBE n v := by
  induction n with
  | zero => rfl
  | succ n ih => rw [beBytes, fixBE, ih, UInt8.ofNat_mod_size']

theorem beBytes_length (n v : Nat) : (beBytes n v).length = n := by
  rw [beBytes_eq, fixBE_length]

theorem natOfBytes_beBytes (n v : Nat) : natOfBytes (beBytes n v) = v % 256 ^ n := by
  rw [beBytes_eq]
  exact be256_fixBE n v

theorem intLen_eq : ∀ (f : Nat) (v : Int), -(128 * (256 : Int) ^ f) ≤ v → v < 128 * (256 : Int) ^ f →
    intLen f v = Der0.intLen v ∧ intLen f v ≤ f + 1
  | 0, v, h1, h2 => by
    rw [intLen, Der0.intLen_small (by omega) (by omega)]
    exact ⟨rfl, Nat.le_refl 1⟩
  | f + 1, v, h1, h2 => by
    rw [intLen]
    by_cases hs : -128 ≤ v ∧ v ≤ 127
    · rw [if_pos hs, Der0.intLen_small hs.1 hs.2]
      exact ⟨rfl, Nat.le_add_left 1 _⟩
    · rw [Int.pow_succ] at h1 h2
      obtain ⟨e, hl⟩ := intLen_eq f (v / 256) (by omega) (by omega)
      rw [if_neg hs, Der0.intLen_big (by omega), Int.fdiv_eq_ediv_of_nonneg _ (by decide), e]
      exact ⟨Nat.add_comm 1 _, by omega⟩

/-- the unsigned residue the encoders write -/
def twos (l : Nat) (v : Int) : Nat := if v < 0 then (v + (256 : Int) ^ l).toNat else v.toNat

theorem natOfBytes_twos (bs : Bytes) : natOfBytes bs = twos bs.length (Der0.twos bs) := by
  cases bs with
  | nil => rfl
  | cons a t =>
    have hP : ((256 ^ (a :: t).length : Nat) : Int) = (256 : Int) ^ (a :: t).length := Int.natCast_pow 256 _
    have hlt := Int.ofNat_lt.mpr (be256_lt (a :: t))
    rw [Der0.twos, Der0.natOfBytes_eq, hP, twos]
    rw [hP] at hlt
    show be256 (a :: t) = _
    by_cases h : a.toNat ≥ 128
    · rw [if_pos h, if_pos (by omega)]
      omega
    · rw [if_neg h, if_neg (by omega)]
      omega

theorem beBytes_twos (bs : Bytes) : beBytes bs.length (twos bs.length (Der0.twos bs)) = bs := by
  rw [beBytes_eq, ← natOfBytes_twos]
  exact fixBE_be256 bs

theorem encFuel_eq (f : Nat) (v : Int) (h1 : -(128 * (256 : Int) ^ f) ≤ v) (h2 : v < 128 * (256 : Int) ^ f) :
    beBytes (intLen f v) (twos (intLen f v) v) = Der0.intBytes v (Der0.intLen v) := by
  have h := beBytes_twos (Der0.intBytes v (Der0.intLen v))
  rw [Der0.intBytes_length, Der0.twos_intBytes] at h
  rw [(intLen_eq f v h1 h2).1]
  exact h

theorem int_roundtrip (f : Nat) (v : Int) (h1 : -(128 * (256 : Int) ^ f) ≤ v) (h2 : v < 128 * (256 : Int) ^ f) :
    checkInteger (beBytes (intLen f v) (twos (intLen f v) v)) = true ∧
    intOfBytes (beBytes (intLen f v) (twos (intLen f v) v)) = v ∧
    (beBytes (intLen f v) (twos (intLen f v) v)).length ≤ f + 1 := by
  rw [beBytes_length, encFuel_eq f v h1 h2, checkInteger_eq, intOfBytes_eq]
  exact ⟨Der0.checkInteger_intBytes v, Der0.twos_intBytes v, (intLen_eq f v h1 h2).2⟩

theorem encInt_eq (v : Int) : encInt v = beBytes (intLen 8 v) (twos (intLen 8 v) v) := rfl

theorem parseInt64_encInt (v : Int) (h1 : -9223372036854775808 ≤ v) (h2 : v ≤ 9223372036854775807) :
    parseInt64 (encInt v) = .ok v ∧ checkInteger (encInt v) = true ∧ (encInt v).length ≤ 8 := by
  have e8 : (256 : Int) ^ 8 = 18446744073709551616 := by decide
  have hl := Der0.intLen_int64 h1 h2
  rw [encInt_eq, encFuel_eq 8 v (by omega) (by omega), parseInt64_eq, checkInteger_eq, Der0.intBytes_length]
  exact ⟨Der0.EA.parseInt64_ok.mpr ⟨rfl, hl⟩, Der0.checkInteger_intBytes v, hl⟩

end ZV.C04
