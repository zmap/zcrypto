import ZV.Model.C02Cert
import ZV.Proofs.Base256
namespace ZV.C02

theorem beBytes_eq (n : Nat) : beBytes n = minBE n :=
  minBE_unique (by rw [beBytes, dif_pos rfl]) (fun n h => by rw [beBytes, dif_neg h]) n

theorem natOfBytes_beBytes (n : Nat) : natOfBytes (beBytes n) = n := by
  rw [beBytes_eq]
  exact be256_minBE n

theorem beBytes_head_ne_zero (n : Nat) : (beBytes n).head? ≠ some 0 := by
  rw [beBytes_eq]
  exact minBE_head_ne_zero n

/-- `ValidityPeriod` is the difference clamped to ±9223372036: the two overflow tests of `time.Time.Sub`, made on
    nanoseconds, are bounds on the whole seconds, and 9223372036 is the last count whose nanoseconds fit in an int64,
    on either side -/
theorem validityLength_eq (nb na : Int) :
    validityLength nb na =
      if na - nb > 9223372036 then 9223372036 else if na - nb < -9223372036 then -9223372036 else na - nb := by
  have hmax : ∀ d : Int, d * 1000000000 > 9223372036854775807 ↔ d > 9223372036 := fun d => by omega
  have hmin : ∀ d : Int, d * 1000000000 < -9223372036854775808 ↔ d < -9223372036 := fun d => by omega
  unfold validityLength
  simp only [hmax, hmin]

end ZV.C02
