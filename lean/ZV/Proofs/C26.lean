import ZV.Model.C26
/-! The Go loops of tls/prf.go and the HKDF reader against the RFC definitions, `hkdfLabel` and `expandLabel` as one equation
each, valid for every input, and the TLS ≤ 1.2 derivations as calls of one PRF (`prfCall`). -/
namespace ZV.C26
open RFC

/-- a string literal is `String.ofList` of its characters: rewriting with this spares the kernel the UTF-8 decoding
that `String.toList` does on a literal -/
theorem ascii_ofList (l : List Char) : ascii (String.ofList l) = l.map fun c => UInt8.ofNat c.toNat := by
  rw [ascii, String.toList_ofList]

theorem ascii_length (l : List Char) : (ascii (String.ofList l)).length = l.length := by
  rw [ascii_ofList, List.length_map]

/-- A label written as a string literal of at most 249 characters fits `opaque label<7..255>` behind `"tls13 "`.
The label stays a variable and the literal comes in through `rfl`: the kernel then compares the literal with its list of
characters and never evaluates `label.length` (which it would do, decoding UTF-8, to compare two sums). -/
theorem label_short {label : Bytes} {l : List Char} (e : label = ascii (String.ofList l) := by rfl)
    (h : l.length ≤ 249 := by decide) : label.length + 6 ≤ 255 := by
  rw [e, ascii_length]
  omega

theorem P_hash_succ (hmac : Hmac) (secret seed : Bytes) (k : Nat) :
    P_hash hmac secret seed (k + 1)
      = P_hash hmac secret seed k ++ hmac secret (A hmac secret seed (k + 1) ++ seed) := by
  simp [P_hash, List.range_succ]

theorem P_hash_length {hmac : Hmac} {L : Nat} (hlen : ∀ k m, (hmac k m).length = L)
    (secret seed : Bytes) (k : Nat) : (P_hash hmac secret seed k).length = k * L := by
  induction k with
  | zero => simp [P_hash]
  | succ k ih => rw [P_hash_succ, List.length_append, ih, hlen, Nat.succ_mul]

theorem P_hash_prefix (hmac : Hmac) (secret seed : Bytes) (k d : Nat) :
    ∃ r, P_hash hmac secret seed (k + d) = P_hash hmac secret seed k ++ r := by
  induction d with
  | zero => exact ⟨[], by simp⟩
  | succ d ih =>
    obtain ⟨r, hr⟩ := ih
    refine ⟨r ++ hmac secret (A hmac secret seed (k + d + 1) ++ seed), ?_⟩
    rw [← Nat.add_assoc, P_hash_succ, hr, List.append_assoc]

theorem P_hash_take_eq {hmac : Hmac} {L : Nat} (hlen : ∀ k m, (hmac k m).length = L)
    (secret seed : Bytes) (n k1 k2 : Nat) (h1 : n ≤ k1 * L) (h2 : n ≤ k2 * L) :
    (P_hash hmac secret seed k1).take n = (P_hash hmac secret seed k2).take n := by
  have key : ∀ a d, n ≤ a * L →
      (P_hash hmac secret seed (a + d)).take n = (P_hash hmac secret seed a).take n := by
    intro a d ha
    obtain ⟨r, hr⟩ := P_hash_prefix hmac secret seed a d
    rw [hr, List.take_append_of_le_length]
    rw [P_hash_length hlen]; exact ha
  rcases Nat.le_total k1 k2 with h | h
  · obtain ⟨d, rfl⟩ := Nat.exists_eq_add_of_le h
    exact (key k1 d h1).symm
  · obtain ⟨d, rfl⟩ := Nat.exists_eq_add_of_le h
    exact key k2 d h2

theorem copyAt_length (dst src : Bytes) (j : Nat) : (copyAt dst j src).length = dst.length := by
  simp only [copyAt, List.length_append, List.length_take, List.length_drop]
  omega

theorem copyAt_block {hmac : Hmac} {L : Nat} (hlen : ∀ k m, (hmac k m).length = L) (secret seed : Bytes) (n i : Nat)
    (h : i * L < n) :
    copyAt ((P_hash hmac secret seed i).take n ++ List.replicate (n - i * L) 0) (i * L)
        (hmac secret (A hmac secret seed (i + 1) ++ seed))
      = (P_hash hmac secret seed (i + 1)).take n ++ List.replicate (n - (i + 1) * L) 0 := by
  have hP := P_hash_length hlen secret seed i
  generalize hb : hmac secret (A hmac secret seed (i + 1) ++ seed) = b
  have hbl : b.length = L := by rw [← hb]; exact hlen _ _
  rw [P_hash_succ, hb, List.take_of_length_le (by omega), List.take_append, List.take_of_length_le (by omega), hP]
  unfold copyAt
  simp [List.drop_append, hP, hbl, Nat.succ_mul]
  rw [List.drop_of_length_le (by omega), List.nil_append, Nat.sub_sub]

def FixedLen (hmac : Hmac) (L : Nat) : Prop := 0 < L ∧ ∀ k m, (hmac k m).length = L

theorem pHashLoop_spec {hmac : Hmac} {L : Nat} (hm : FixedLen hmac L) (secret seed : Bytes) (n K : Nat) (hK : n ≤ K * L) (fuel i : Nat) (hf : n ≤ fuel + i * L) :
    pHashLoop (hmac secret) seed fuel (A hmac secret seed (i + 1)) (i * L)
        ((P_hash hmac secret seed i).take n ++ List.replicate (n - i * L) 0)
      = (P_hash hmac secret seed K).take n := by
  obtain ⟨hL, hlen⟩ := hm
  have done : ∀ i, n ≤ i * L → (P_hash hmac secret seed i).take n ++ List.replicate (n - i * L) 0
      = (P_hash hmac secret seed K).take n := by
    intro i h
    rw [Nat.sub_eq_zero_of_le h, List.replicate_zero, List.append_nil, P_hash_take_eq hlen secret seed n i K h hK]
  induction fuel generalizing i with
  | zero => exact done i (by omega)
  | succ fuel ih =>
    have hP := P_hash_length hlen secret seed i
    rw [pHashLoop]
    by_cases hj : i * L < n
    · rw [if_pos (by simp [hP]; omega)]
      simp only [hlen]
      rw [copyAt_block hlen secret seed n i hj, ← Nat.succ_mul]
      exact ih (i + 1) (by rw [Nat.succ_mul]; omega)
    · rw [if_neg (by simp [hP]; omega)]
      exact done i (by omega)

theorem pHash_eq_take {hmac : Hmac} {L : Nat} (hm : FixedLen hmac L) (n : Nat) (secret seed : Bytes) (K : Nat)
    (hK : n ≤ K * L) : pHash hmac n secret seed = (P_hash hmac secret seed K).take n := by
  simpa [P_hash, A, pHash] using pHashLoop_spec hm secret seed n K hK n 0 (by omega)

theorem split_eq_rfc (secret : Bytes) : splitPreMasterSecret secret = (S1 secret, S2 secret) := by
  unfold splitPreMasterSecret S1 S2 ceilHalf
  congr 2 <;> omega

theorem xorInto_eq_rfc (a b : Bytes) : xorInto a b = RFC.xor a b := by
  unfold xorInto
  induction a generalizing b with
  | nil => cases b <;> simp [RFC.xor]
  | cons x xs ih =>
    cases b with
    | nil => simp [RFC.xor]
    | cons y ys => simp [RFC.xor, ih]

theorem lenPrefix16_eq_rfc (n : Nat) : lenPrefix16 n = RFC.uint16 n := by
  unfold lenPrefix16 RFC.uint16
  rw [Nat.shiftRight_eq_div_pow, UInt8.ofNat_mod_size]

/-- Go's `uint16(length)` and `RFC.uint16` wrap around alike -/
theorem addUint16_eq_rfc (n : Nat) : addUint16 (UInt16.ofNat n) = RFC.uint16 n := by
  unfold addUint16 RFC.uint16
  congr 1
  · apply UInt8.toNat_inj.mp
    simp [Nat.shiftRight_eq_div_pow]
    omega
  · congr 1
    apply UInt8.toNat_inj.mp
    simp

theorem hkdfBlocks_eq_rfc (hmac : Hmac) (prk info : Bytes) (n i : Nat) :
    hkdfBlocks hmac prk info n (i + 1) (T hmac prk info i)
      = ((List.range n).map (fun k => T hmac prk info (i + k + 1))).flatten := by
  induction n generalizing i with
  | zero => simp [hkdfBlocks]
  | succ n ih =>
    rw [hkdfBlocks, List.range_succ_eq_map]
    have hT : hmac prk (T hmac prk info i ++ info ++ [UInt8.ofNat (i + 1)]) = T hmac prk info (i + 1) := rfl
    simp only [hT, List.map_cons, List.flatten_cons, List.map_map]
    rw [ih (i + 1)]
    congr 2
    apply List.map_congr_left
    intro k _
    simp only [Function.comp]
    congr 1
    omega

theorem hkdfExpandRead_eq (H : Hash13) (prk info : Bytes) (len : Nat) :
    hkdfExpandRead H prk info len =
      if 255 * H.size < len then none else some (HKDF_Expand H.hmac H.size prk info len) := by
  unfold hkdfExpandRead HKDF_Expand
  have := hkdfBlocks_eq_rfc H.hmac prk info ((len + H.size - 1) / H.size) 0
  simp only [Nat.zero_add] at this
  have h0 : T H.hmac prk info 0 = [] := rfl
  rw [h0] at this
  rw [this]

/-- RFC 8446 §7.1; no bound on `length`, as the `uint16` wraps around on both sides -/
theorem hkdfLabel_eq (label context : Bytes) (length : Nat) :
    hkdfLabel label context length =
      if 255 < label.length + 6 ∨ 255 < context.length then none else some (HkdfLabel length label context) := by
  have h6 : (ascii "tls13 ").length = 6 := ascii_length _
  unfold hkdfLabel addUint8LengthPrefixed tls13Prefix HkdfLabel opaque8
  rw [List.length_append, h6, addUint16_eq_rfc, Nat.add_comm]
  by_cases h1 : 255 < label.length + 6
  · simp only [gt_iff_lt, h1, if_true, true_or]
  · by_cases h2 : 255 < context.length
    · simp only [gt_iff_lt, h1, h2, if_true, if_false, or_true]
    · simp only [gt_iff_lt, h1, h2, if_false, or_self]

theorem expandLabel_eq (H : Hash13) (secret label context : Bytes) (length : Nat) :
    expandLabel H secret label context length =
      if 255 < label.length + 6 ∨ 255 < context.length ∨ 255 * H.size < length then .panic
      else .ok (HKDF_Expand_Label H secret label context length) := by
  unfold expandLabel HKDF_Expand_Label
  simp only [hkdfLabel_eq, hkdfExpandRead_eq]
  by_cases h : 255 < label.length + 6 ∨ 255 < context.length
  · rw [if_pos h, if_pos (or_assoc.1 (.inl h))]
  · by_cases hn : 255 * H.size < length
    · simp only [if_neg h, if_pos hn, if_pos (Or.inr (Or.inr hn))]
    · simp only [if_neg h, if_neg hn, if_neg fun h' => (or_assoc.2 h').elim h hn]

/-- 255 is the bound of `opaque ticket_nonce<0..255>` -/
theorem ticketPSK_eq (H : Hash13) (res nonce : Bytes) :
    ticketPSK H res nonce = if 255 < nonce.length then .panic else .ok (Ticket_PSK H res nonce) := by
  have hl : resumptionPskLabel.length + 6 ≤ 255 := label_short
  have hs : H.size ≤ 255 * H.size := Nat.le_mul_of_pos_left _ (by decide)
  unfold ticketPSK Ticket_PSK
  rw [expandLabel_eq]
  exact ite_congr (propext (by omega)) (fun _ => rfl) fun _ => rfl

/-- all four MACs the Go code instantiates have fixed positive output lengths -/
def FixedPrims (P : Prims) : Prop :=
  (∃ L, FixedLen P.hmacMD5 L) ∧ (∃ L, FixedLen P.hmacSHA1 L) ∧ (∃ L, FixedLen P.hmacSHA256 L) ∧ (∃ L, FixedLen P.hmacSHA384 L)

/-- `some b ↦ ok b`, `none ↦ panic`: the Go code panics exactly where the RFCs define no PRF -/
def ofOpt {α : Type} : Option α → Res α
  | some a => .ok a
  | none => .panic

theorem prf10_eq_take (P : Prims) {L1 L2 : Nat} (h1 : FixedLen P.hmacMD5 L1) (h2 : FixedLen P.hmacSHA1 L2)
    (n : Nat) (secret label seed : Bytes) (k1 k2 : Nat) (hk1 : n ≤ k1 * L1) (hk2 : n ≤ k2 * L2) :
    prf10 P n secret label seed = PRF10 P.hmacMD5 P.hmacSHA1 secret label seed k1 k2 n := by
  unfold prf10 PRF10
  rw [split_eq_rfc, xorInto_eq_rfc]
  simp only
  rw [pHash_eq_take h1 n _ _ k1 hk1, pHash_eq_take h2 n _ _ k2 hk2]

section prfCall
variable (P : Prims) (v : Nat) (f : Bool)

/-- what `masterFromPreMasterSecret`, `keysFromMasterSecret`, `finishedHash.clientSum/serverSum` and the exporter all do:
apply the PRF that `prfForVersion` selects, passing its panic on -/
def prfCall (n : Nat) (secret label seed : Bytes) : Res Bytes :=
  (prfForVersion P v f).map fun prf => prf n secret label seed

theorem prfCall_tls12 (n : Nat) (s l sd : Bytes) : prfCall P 0x0303 false n s l sd = .ok (prf12 P.hmacSHA256 n s l sd) := rfl

theorem prfCall_tls10 {v : Nat} (hv : v = 0x0301 ∨ v = 0x0302) (n : Nat) (s l sd : Bytes) :
    prfCall P v f n s l sd = .ok (prf10 P n s l sd) := by
  unfold prfCall prfForVersion prfAndHashForVersion VersionTLS10 VersionTLS11
  rw [if_pos hv]
  rfl

theorem prfCall_other {v : Nat} (hv : ¬ (v = 0x0301 ∨ v = 0x0302 ∨ v = 0x0303)) (n : Nat) (s l sd : Bytes) :
    prfCall P v f n s l sd = .panic := by
  unfold prfCall prfForVersion prfAndHashForVersion VersionTLS10 VersionTLS11 VersionTLS12
  rw [if_neg fun h => hv (h.elim .inl fun h => .inr (.inl h)), if_neg fun h => hv (.inr (.inr h))]
  rfl

theorem prfForVersion_rfc (hP : FixedPrims P) :
    (∃ prf, prfForVersion P v f = .ok prf ∧ ∀ n s l sd, RFC.PRF P v f s l sd n = some (prf n s l sd))
    ∨ (prfForVersion P v f = .panic ∧ ∀ n s l sd, RFC.PRF P v f s l sd n = none) := by
  obtain ⟨⟨L1, h1⟩, ⟨L2, h2⟩, ⟨L3, h3⟩, ⟨L4, h4⟩⟩ := hP
  unfold prfForVersion prfAndHashForVersion RFC.PRF VersionTLS10 VersionTLS11 VersionTLS12
  by_cases hv : v = 0x0301 ∨ v = 0x0302
  · simp only [if_pos hv]
    exact .inl ⟨prf10 P, rfl, fun n s l sd => by
      rw [prf10_eq_take P h1 h2 n s l sd n n (Nat.le_mul_of_pos_right n h1.1) (Nat.le_mul_of_pos_right n h2.1)]⟩
  · simp only [if_neg hv]
    by_cases hv2 : v = 0x0303
    · simp only [if_pos hv2]
      have hm : FixedLen (if f then P.hmacSHA384 else P.hmacSHA256) (if f then L4 else L3) := by
        cases f
        · exact h3
        · exact h4
      refine .inl ⟨prf12 (if f then P.hmacSHA384 else P.hmacSHA256), by cases f <;> rfl, fun n s l sd => ?_⟩
      rw [prf12, pHash_eq_take hm n s _ n (Nat.le_mul_of_pos_right n hm.1)]
      rfl
    · exact .inr ⟨by rw [if_neg hv2]; rfl, fun _ _ _ _ => if_neg hv2⟩

theorem prfCall_eq_rfc (hP : FixedPrims P) (n : Nat) (s l sd : Bytes) :
    prfCall P v f n s l sd = ofOpt (RFC.PRF P v f s l sd n) := by
  rcases prfForVersion_rfc P v f hP with ⟨prf, hp, hr⟩ | ⟨hp, hr⟩ <;> rw [prfCall, hp, hr] <;> rfl

theorem master_eq_prfCall (pms cr sr : Bytes) :
    masterFromPreMasterSecret P v f pms cr sr = prfCall P v f 48 pms (ascii "master secret") (cr ++ sr) := by
  unfold masterFromPreMasterSecret prfCall
  cases prfForVersion P v f <;> rfl

theorem keys_eq_prfCall (ms cr sr : Bytes) (mac key iv : Nat) :
    keysFromMasterSecret P v f ms cr sr mac key iv
      = (prfCall P v f (2 * mac + 2 * key + 2 * iv) ms (ascii "key expansion") (sr ++ cr)).map
          fun kb => sliceKeys kb mac key iv := by
  unfold keysFromMasterSecret keyBlock prfCall
  cases prfForVersion P v f <;> rfl

/-- outside TLS 1.0–1.2 both sides are the panic of `prfForVersion` -/
theorem finishedVerify_eq_prfCall (label ms msgs : Bytes) :
    finishedVerify P v f label ms msgs = prfCall P v f 12 ms label (Handshake_Hash P v f msgs) := by
  unfold finishedVerify finishedSum prfCall prfForVersion prfAndHashForVersion Handshake_Hash VersionTLS10 VersionTLS11
    VersionTLS12
  by_cases h1 : v = 0x0301 ∨ v = 0x0302
  · have h2 : ¬ v = 0x0303 := by omega
    rw [if_pos h1, if_neg h2]
    rfl
  · rw [if_neg h1]
    by_cases h2 : v = 0x0303
    · rw [if_pos h2, if_pos h2]
      cases f <;> rfl
    · rw [if_neg h2]
      rfl

theorem ekm_eq_prfCall (ms cr sr label : Bytes) (context : Option Bytes) (length : Nat)
    (hlabel : label ∉ ekmReserved) (hctx : ∀ c, context = some c → c.length < 65536) :
    ekmFromMasterSecret P v f ms cr sr label context length
      = prfCall P v f length ms label (exporterSeed cr sr context) := by
  unfold ekmFromMasterSecret prfCall exporterSeed
  rw [if_neg (by simpa using hlabel)]
  cases context with
  | none => cases prfForVersion P v f <;> rfl
  | some c =>
    simp only
    rw [if_neg (Nat.not_le_of_lt (hctx c rfl)), lenPrefix16_eq_rfc, opaque16, List.append_assoc, List.append_assoc]
    cases prfForVersion P v f <;> rfl

end prfCall

end ZV.C26
