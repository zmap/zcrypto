/-!
  Decimal digits.  Core's `Nat.toDigits 10` is the one writer: a cluster's own model of `strconv.Itoa` is identified with it
  (`C33.natToDec_eq`), and core's lemmas then say that the output is not empty (`Nat.toDigits_ne_nil`), consists of digits
  (`Nat.isDigit_of_mem_toDigits`) and has the number as its value (`Nat.ofDigitChars_ten_toDigits`).  Here is what core lacks.
-/
namespace ZV.Dec

/-- the digit characters as the models write them (`'0' + d`) are core's -/
theorem digitChar_eq : ∀ d : Fin 10, Char.ofNat (48 + d.val) = Nat.digitChar d.val := by decide

theorem isDigit_mem {n : Nat} {c : Char} (h : c ∈ Nat.toDigits 10 n) : c.isDigit = true :=
  Nat.isDigit_of_mem_toDigits (by decide) (by decide) h

theorem digitChar_ne_zero : ∀ d : Fin 10, d.val ≠ 0 → Nat.digitChar d.val ≠ '0' := by decide

theorem head_ne_zero (n : Nat) (h0 : n ≠ 0) : ∃ c r, Nat.toDigits 10 n = c :: r ∧ c ≠ '0' := by
  induction n using Nat.strongRecOn with
  | _ n ih =>
    rw [Nat.toDigits_eq_if (by decide)]
    split
    · rename_i h
      exact ⟨_, [], rfl, digitChar_ne_zero ⟨n, h⟩ h0⟩
    · obtain ⟨c, r, e, hc⟩ := ih (n / 10) (by omega) (by omega)
      exact ⟨c, r ++ _, by rw [e]; rfl, hc⟩

end ZV.Dec
