import ZV.Proofs.C04
import ZV.Proofs.C04Int
import ZV.Proofs.TimeRT
import ZV.Model.C04Val
/-! Lemmas for the Validity and serial-number round trips. -/
namespace ZV.C04
open ZV ZV.Der ZV.C06 ZV.Time

theorem ofNat24 : UInt8.ofNat 24 = (0x18 : UInt8) := by decide
theorem ofNat23 : UInt8.ofNat 23 = (0x17 : UInt8) := by decide

theorem encTime_eq (t : GoTime) : encTime t =
    if 1950 ≤ t.year ∧ t.year < 2050 then .ok (writeTLV 0x17 (utcText t))
    else if 0 ≤ t.year ∧ t.year ≤ 9999 then .ok (writeTLV 0x18 (genText t)) else .err := by
  unfold encTime
  rcases EA.choice 0 t with ⟨ht, hb, -, hy⟩ | ⟨ht, hb, hr⟩
  · rw [hb, ht, appendUTCTime_eq t hy.1 hy.2, if_pos hy, ofNat23]
  · rw [hb, ht, if_neg (by omega)]
    by_cases hg : 0 ≤ t.year ∧ t.year ≤ 9999
    · rw [if_pos hg, appendGeneralizedTime_eq t hg.1 hg.2, ofNat24]
    · rw [if_neg hg, appendGeneralizedTime_err t (by omega)]

theorem encTime_parse (t : GoTime) (hy0 : 0 ≤ t.year) (hy1 : t.year ≤ 9999) (h1 : -90000 < t.off) (h2 : t.off < 90000)
    (rest : Bytes) :
    ∃ enc, encTime t = .ok enc ∧ enc.length ≤ 30 ∧ parseTimeField (enc ++ rest) = .ok (readBack t, rest) := by
  rw [encTime_eq]
  unfold parseTimeField
  by_cases hy : 1950 ≤ t.year ∧ t.year < 2050
  · have hl := utcText_length t
    have := writeTLV_length_le 0x17 (utcText t)
    refine ⟨_, if_pos hy, by omega, ?_⟩
    rw [field_skip _ _ _ _ (by decide) (by omega) (by simp [Want.ok, hdrOf])]
    simp only
    rw [field_tlv _ _ _ _ _ (by decide) (by omega) (by simp [Want.ok, hdrOf])]
    simp only [someElem, elemOf_body, EA.parseTimeBody, if_true]
    rw [parseUTCTime_utcText false t hy.1 hy.2 h1 h2]
    rfl
  · have hl := genText_length t
    have := writeTLV_length_le 0x18 (genText t)
    refine ⟨_, (if_neg hy).trans (if_pos ⟨hy0, hy1⟩), by omega, ?_⟩
    rw [field_tlv _ _ _ _ _ (by decide) (by omega) (by simp [Want.ok, hdrOf])]
    simp only [elemOf_body, EA.parseTimeBody]
    rw [if_neg (by decide), parseGeneralizedTime_genText false t hy0 hy1 h1 h2]
    rfl

theorem readBack_toUTC (t : GoTime) : readBack (toUTC t) = ⟨t.unix, 0, 0⟩ := by
  simp [readBack, toUTC]

theorem natAbs_fuel (v : Int) : -(128 * (256 : Int) ^ v.natAbs) ≤ v ∧ v < 128 * (256 : Int) ^ v.natAbs := by
  have h : v.natAbs < 256 ^ v.natAbs := Nat.lt_pow_self (by decide)
  have h' : ((v.natAbs : Nat) : Int) < ((256 ^ v.natAbs : Nat) : Int) := by exact_mod_cast h
  have e : ((256 ^ v.natAbs : Nat) : Int) = (256 : Int) ^ v.natAbs := by simp
  rw [e] at h'
  omega

theorem encSerial_eq (v : Int) : encSerial v = beBytes (intLen v.natAbs v) (twos (intLen v.natAbs v) v) := rfl

end ZV.C04
