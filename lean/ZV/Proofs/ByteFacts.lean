import ZV.Base
/-! Facts about bytes and byte strings that several clusters use. -/
namespace ZV

/-- core's `UInt8.toNat_ofNat_of_lt'` with the bound written `256`: `omega` does not unfold `UInt8.size` -/
theorem toNat_ofNat_lt {n : Nat} (h : n < 256) : (UInt8.ofNat n).toNat = n := UInt8.toNat_ofNat_of_lt' h

theorem uint8_eq_zero_iff (a : UInt8) : a = 0 ↔ a.toNat = 0 := UInt8.toNat_inj.symm

theorem uint8_eq_ff_iff (a : UInt8) : a = 0xff ↔ a.toNat = 255 := UInt8.toNat_inj.symm

theorem zipXor_cancel : ∀ a m : Bytes, a.length ≤ m.length →
    List.zipWith (· ^^^ ·) (List.zipWith (· ^^^ ·) a m) m = a
  | [], _, _ => by simp
  | _ :: _, [], h => by simp at h
  | x :: a, y :: m, h => by
    simp only [List.zipWith_cons_cons, zipXor_cancel a m (by simpa using h)]
    rw [UInt8.xor_assoc, UInt8.xor_self, UInt8.xor_zero]

end ZV
