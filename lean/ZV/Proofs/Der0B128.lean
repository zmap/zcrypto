import ZV.Proofs.Der0
/-! Base-128 sub-identifiers are minimal: `hi128` specifies the flagged groups by recursion on the LEAST significant
  group, Go's writer emits the MOST significant first (`b128Groups`), `H128` bridges the two (`appendBase128_eq`).
  The reader's loop invariant (`EA.b128Loop_canon`) is then `hi128 acc ++ (bytes still to read) = appendBase128 v`.
  Only the encoding/asn1 reader is analysed; the cryptobyte loop computes the same function (`base128_agree`). -/
open ZV ZV.Der0
namespace ZV.Der0

/-- the base-128 groups of `m`, every one with the continuation bit, none for `m = 0`: what stands in front of the last
    octet of a minimal encoding -/
def hi128 (m : Nat) : Bytes :=
  if h : m = 0 then [] else hi128 (m / 128) ++ [UInt8.ofNat (m % 128 + 128)]
decreasing_by exact Nat.div_lt_self (Nat.pos_of_ne_zero h) (by decide)

theorem hi128_zero : hi128 0 = [] := by rw [hi128, dif_pos rfl]
theorem hi128_step {m : Nat} (h : m ≠ 0) :
    hi128 m = hi128 (m / 128) ++ [UInt8.ofNat (m % 128 + 128)] := by rw [hi128, dif_neg h]

/-- `k` flagged groups of `m`, most significant first -/
def H128 (m : Nat) : Nat → Bytes
  | 0 => []
  | k + 1 => UInt8.ofNat ((m / 128 ^ k) % 128 + 128) :: H128 m k

theorem div_pow_succ (m b k : Nat) : m / b ^ (k + 1) = m / b / b ^ k := by
  rw [Nat.pow_succ, Nat.mul_comm, Nat.div_div_eq_div_mul]

theorem H128_snoc (m k : Nat) :
    H128 m (k + 1) = H128 (m / 128) k ++ [UInt8.ofNat (m % 128 + 128)] := by
  induction k with
  | zero => rw [H128, H128, Nat.pow_zero, Nat.div_one]; rfl
  | succ k ih => rw [H128, ih, div_pow_succ]; rfl

theorem b128Groups_snoc (n k : Nat) :
    b128Groups n (k + 1) = H128 (n / 128) k ++ [UInt8.ofNat (n % 128)] := by
  induction k with
  | zero => rw [b128Groups, H128, Nat.pow_zero, Nat.div_one]; rfl
  | succ k ih => rw [b128Groups, ih, div_pow_succ, if_neg (Nat.succ_ne_zero k)]; rfl

theorem b128Count_zero : b128Count 0 = 0 := by rw [b128Count, dif_pos rfl]
theorem b128Count_step {n : Nat} (h : n ≠ 0) : b128Count n = b128Count (n / 128) + 1 := by
  rw [b128Count, dif_neg h]

theorem H128_count (m : Nat) : H128 m (b128Count m) = hi128 m := by
  fun_induction b128Count m with
  | case1 =>
    rw [hi128_zero]
    rfl
  | case2 m h ih => rw [H128_snoc, ih, ← hi128_step h]

theorem b128Len_eq (n : Nat) : b128Len n = b128Count (n / 128) + 1 := by
  unfold b128Len
  by_cases h : n = 0
  · rw [if_pos h, h, Nat.zero_div, b128Count_zero]
  · rw [if_neg h, b128Count_step h]

theorem appendBase128_eq (n : Nat) : appendBase128 n = hi128 (n / 128) ++ [UInt8.ofNat (n % 128)] := by
  unfold appendBase128
  rw [b128Len_eq, b128Groups_snoc, H128_count]

/-- encoding/asn1 tests the finished value against MaxInt32; once the accumulator has reached 2^24 (where cryptobyte
    stops before shifting) every continuation fails: the value only grows. -/
theorem EA.b128Loop_big (bs : Bytes) : ∀ (i ret : Nat), 16777216 ≤ ret → EA.b128Loop bs i ret = .err := by
  induction bs with
  | nil => intro i ret _; rfl
  | cons b rest ih =>
    intro i ret h
    have h' : 16777216 ≤ ret * 128 + b.toNat % 128 :=
      Nat.le_trans h (Nat.le_trans (Nat.le_mul_of_pos_right ret (by decide)) (Nat.le_add_right _ _))
    have hmax : ret * 128 + b.toNat % 128 > 2147483647 :=
      Nat.lt_of_lt_of_le (by decide) (Nat.le_trans (Nat.mul_le_mul_right 128 h) (Nat.le_add_right _ _))
    dsimp only [EA.b128Loop]
    rw [if_pos hmax, ih _ _ h', ite_self, ite_self, ite_self]

theorem b128_small {ret x : Nat} (h : ¬ ret ≥ 16777216) : ¬ ret * 128 + x % 128 > 2147483647 :=
  Nat.not_lt_of_le (Nat.add_le_add (Nat.mul_le_mul_right 128 (Nat.le_of_lt_succ (Nat.lt_of_not_le h)))
    (Nat.le_of_lt_succ (Nat.mod_lt x (by decide))))

theorem b128Loop_agree (bs : Bytes) : ∀ (i ret : Nat), EA.b128Loop bs i ret = CB.b128Loop bs i ret := by
  induction bs with
  | nil => intro i ret; rfl
  | cons b rest ih =>
    intro i ret
    by_cases h24 : ret ≥ 16777216
    · rw [EA.b128Loop_big _ _ _ h24]
      dsimp only [CB.b128Loop]
      rw [if_pos h24, ite_self]
    · dsimp only [EA.b128Loop, CB.b128Loop]
      rw [if_neg h24, if_neg (b128_small h24), ih]

theorem base128_agree (bs : Bytes) : EA.parseBase128Int bs = CB.readBase128Int bs :=
  b128Loop_agree bs 0 0

theorem oidArcs_agree (fuel : Nat) : ∀ bs : Bytes, EA.oidArcs fuel bs = CB.oidArcs fuel bs := by
  induction fuel with
  | zero => intro bs; cases bs <;> simp [EA.oidArcs, CB.oidArcs]
  | succ n ih =>
    intro bs
    cases bs with
    | nil => simp [EA.oidArcs, CB.oidArcs]
    | cons b t => simp only [EA.oidArcs, CB.oidArcs, base128_agree, ih]

theorem high_group {n : Nat} (h1 : ¬ n < 128) (h2 : n < 256) : n % 128 + 128 = n := by
  have h := Nat.le_of_not_lt h1
  rw [Nat.mod_eq_sub_mod h, Nat.mod_eq_of_lt (Nat.sub_lt_left_of_lt_add h h2), Nat.sub_add_cancel h]

theorem shift_div (acc x : Nat) : (acc * 128 + x % 128) / 128 = acc := by
  rw [Nat.mul_comm, Nat.mul_add_div (by decide), Nat.div_eq_of_lt (Nat.mod_lt x (by decide)), Nat.add_zero]
theorem shift_mod (acc x : Nat) : (acc * 128 + x % 128) % 128 = x % 128 := by
  rw [Nat.mul_add_mod', Nat.mod_mod]

/-- the loop invariant: `hi128 acc` are the groups read so far -/
theorem EA.b128Loop_canon (bs : Bytes) (s acc : Nat) (v : Nat) (rest : Bytes)
    (h1 : s ≠ 0 → acc ≠ 0)
    (h : EA.b128Loop bs s acc = .ok (v, rest)) :
    ∃ pre, bs = pre ++ rest ∧ hi128 acc ++ pre = appendBase128 v := by
  induction bs generalizing s acc with
  | nil => cases h
  | cons b t ih =>
    dsimp only [EA.b128Loop] at h
    by_cases hs5 : s = 5
    · rw [if_pos hs5] at h; cases h
    rw [if_neg hs5] at h
    by_cases hmin : s = 0 ∧ b = 0x80
    · rw [if_pos hmin] at h; cases h
    rw [if_neg hmin] at h
    by_cases hlow : b.toNat < 128
    · rw [if_pos hlow] at h
      by_cases hbig : acc * 128 + b.toNat % 128 > 2147483647
      · rw [if_pos hbig] at h; cases h
      rw [if_neg hbig] at h
      cases h
      refine ⟨[b], rfl, ?_⟩
      rw [appendBase128_eq, shift_div, shift_mod, Nat.mod_eq_of_lt hlow, UInt8.ofNat_toNat]
    · rw [if_neg hlow] at h
      have hg := high_group hlow b.toNat_lt
      have hacc' : acc * 128 + b.toNat % 128 ≠ 0 := by
        intro hz
        obtain ⟨hz1, hz2⟩ := Nat.add_eq_zero_iff.mp hz
        rw [hz2] at hg
        by_cases hs : s = 0
        · exact hmin ⟨hs, UInt8.toNat_inj.mp hg.symm⟩
        · exact h1 hs ((Nat.mul_eq_zero.mp hz1).resolve_right (by decide))
      obtain ⟨pre, hpre, henc⟩ := ih (s + 1) (acc * 128 + b.toNat % 128) (fun _ => hacc') h
      refine ⟨b :: pre, by rw [hpre, List.cons_append], ?_⟩
      rw [← henc, hi128_step hacc', shift_div, shift_mod, hg, UInt8.ofNat_toNat, List.append_assoc, List.singleton_append]

theorem EA.parseBase128Int_canon {bs : Bytes} {v : Nat} {rest : Bytes}
    (h : EA.parseBase128Int bs = .ok (v, rest)) :
    ∃ pre, bs = pre ++ rest ∧ appendBase128 v = pre := by
  obtain ⟨pre, h1, h2⟩ := EA.b128Loop_canon bs 0 0 v rest (fun h => absurd rfl h) h
  exact ⟨pre, h1, by simpa [hi128_zero] using h2.symm⟩

theorem CB.readBase128Int_canon {bs : Bytes} {v : Nat} {rest : Bytes}
    (h : CB.readBase128Int bs = .ok (v, rest)) :
    ∃ pre, bs = pre ++ rest ∧ appendBase128 v = pre :=
  EA.parseBase128Int_canon ((base128_agree bs).trans h)

theorem EA.oidArcs_canon (fuel : Nat) (bs : Bytes) (vs : List Nat)
    (h : EA.oidArcs fuel bs = .ok vs) : (vs.map appendBase128).flatten = bs := by
  induction fuel generalizing bs vs with
  | zero =>
    cases bs with
    | nil => cases h; rfl
    | cons b t => cases h
  | succ f ih =>
    cases bs with
    | nil => cases h; rfl
    | cons b t =>
      dsimp only [EA.oidArcs] at h
      obtain ⟨v, rest, hp, h⟩ := ofPair h
      split at h
      · next ws hw =>
        cases h
        obtain ⟨pre, h1, h3⟩ := EA.parseBase128Int_canon hp
        simp [h3, ih rest ws hw, h1]
      · cases h
      · cases h

theorem CB.oidArcs_canon (fuel : Nat) (bs : Bytes) (vs : List Nat)
    (h : CB.oidArcs fuel bs = .ok vs) : (vs.map appendBase128).flatten = bs :=
  EA.oidArcs_canon fuel bs vs ((oidArcs_agree fuel bs).trans h)

theorem splitFirst_spec (v : Nat) :
    ∃ a b, splitFirst v = [a, b] ∧ a * 40 + b = v ∧ a ≤ 2 ∧ (a < 2 → b < 40) := by
  unfold splitFirst
  by_cases h : v < 80
  · rw [if_pos h]
    exact ⟨v / 40, v % 40, rfl, Nat.div_add_mod' v 40,
      Nat.le_of_lt_succ (Nat.div_lt_of_lt_mul (Nat.lt_trans h (by decide))), fun _ => Nat.mod_lt v (by decide)⟩
  · rw [if_neg h]
    exact ⟨2, v - 80, rfl, Nat.add_sub_cancel' (Nat.le_of_not_lt h), Nat.le_refl 2, fun h2 => absurd h2 (Nat.lt_irrefl 2)⟩

/-- encoding/asn1's `makeObjectIdentifier` tests the same -/
theorem CB.isValidOID_cons {a b : Nat} {rest : List Nat} :
    CB.isValidOID (a :: b :: rest) = true ↔ a ≤ 2 ∧ (a < 2 → b < 40) := by
  simp only [CB.isValidOID, Bool.not_eq_true', Bool.or_eq_false_iff, Bool.and_eq_false_iff, decide_eq_false_iff_not]
  omega

theorem EA.parseObjectIdentifier_canon {bs : Bytes} {o : List Nat} (h : EA.parseObjectIdentifier bs = .ok o) :
    ∃ a b rest, o = a :: b :: rest ∧ a ≤ 2 ∧ (a < 2 → b < 40) ∧ oidBody o = bs := by
  unfold EA.parseObjectIdentifier at h
  match bs, h with
  | c :: t, h =>
    obtain ⟨v, rest, hp, h⟩ := ofPair h
    cases hv : EA.oidArcs rest.length rest with
    | ok vs =>
      rw [hv] at h
      cases h
      obtain ⟨pre, h1, h3⟩ := EA.parseBase128Int_canon hp
      obtain ⟨a, b, hs, hab, ha2, hb40⟩ := splitFirst_spec v
      refine ⟨a, b, vs, congrArg (· ++ vs) hs, ha2, hb40, ?_⟩
      rw [hs, h1]
      show appendBase128 (a * 40 + b) ++ (vs.map appendBase128).flatten = _
      rw [hab, h3, EA.oidArcs_canon _ _ _ hv]
    | err =>
      rw [hv] at h
      cases h
    | panic =>
      rw [hv] at h
      cases h

end ZV.Der0
