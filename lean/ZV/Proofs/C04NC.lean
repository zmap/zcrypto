import ZV.Proofs.C04
import ZV.Model.C04NC
/-! Lemmas for the name-constraints round trip (`buildNC` → `parseNC`). -/
namespace ZV.C04
open ZV ZV.Der ZV.C06

theorem Base.tag_ok (b : Base) : b.tag.toNat % 32 ≠ 31 := by cases b <;> simp [Base.tag]

/-- the subtree the parser must see for a template base -/
def subOf (b : Base) : Subtree := ⟨some (elemOf b.tag b.bytes), 0, 0⟩

theorem parseSubtree_enc (b : Base) (hl : (writeTLV b.tag b.bytes).length < 2147483648) :
    parseSubtree (elemOf 0x30 (writeTLV b.tag b.bytes)) = .ok (subOf b) := by
  unfold parseSubtree
  simp only [elemOf_body]
  rw [field_tlv_end _ _ _ _ b.tag_ok (lt_of_writeTLV hl) (by simp [Want.ok])]
  simp [Res.bind, optInt, field_nil_opt, subOf]

theorem parseSubtrees_enc (w : Want) (t : UInt8) (l : List Base) (rest : Bytes) (ht : t.toNat % 32 ≠ 31)
    (hw : ∀ n, w.ok (hdrOf t n) = true) (hne : l.isEmpty = false)
    (hlen : (writeTLV t (l.map encSubtree).flatten).length < 2147483648) :
    parseSubtrees w (encSubtrees t l ++ rest) = .ok (l.map subOf, rest) := by
  obtain ⟨h0, he⟩ := tlvs_bounds t encSubtree l _ hlen
  unfold parseSubtrees encSubtrees
  simp only [hne, Bool.false_eq_true, if_false, tlv]
  rw [field_tlv _ _ _ _ _ ht (by omega) (hw _)]
  simp only [Res.bind, elemOf_body]
  have hre := readElems_writeTLVs (fun (_ : Base) => (0x30 : UInt8)) (fun b => writeTLV b.tag b.bytes) l (by
    intro b hb
    exact ⟨by decide, lt_of_writeTLV (he b hb)⟩)
  have hmap : (l.map encSubtree) = (l.map fun b => writeTLV 0x30 (writeTLV b.tag b.bytes)) := rfl
  rw [hmap, hre]
  simp only
  rw [if_pos (by
    rw [List.all_eq_true]
    intro e he'
    obtain ⟨b, _, rfl⟩ := List.mem_map.mp he'
    simp [hdrOf])]
  rw [mapRes_map parseSubtree (fun b => elemOf 0x30 (writeTLV b.tag b.bytes)) subOf l (by
    intro b hb
    exact parseSubtree_enc b (lt_of_writeTLV (he b hb)))]

/-- an `optional,tag:n` slice, present or omitted, followed by something that does not offer the field -/
theorem parseSubtrees_opt (w : Want) (t : UInt8) (l : List Base) (rest : Bytes) (ht : t.toNat % 32 ≠ 31)
    (hw : ∀ n, w.ok (hdrOf t n) = true) (hlen : (encSubtrees t l ++ rest).length < 2147483648)
    (hrest : field w true rest = .ok (none, rest)) :
    parseSubtrees w (encSubtrees t l ++ rest) = .ok (l.map subOf, rest) := by
  cases hl : l.isEmpty with
  | true =>
    cases List.isEmpty_iff.mp hl
    simp only [encSubtrees, List.isEmpty_nil, if_true, List.nil_append, parseSubtrees, hrest, Res.bind, List.map_nil]
  | false =>
    exact parseSubtrees_enc w t l rest ht hw hl (by
      simp only [encSubtrees, hl, Bool.false_eq_true, if_false, tlv, List.length_append] at hlen
      omega)

def addBase (acc : NCOutSide) : Base → NCOutSide
  | .email d => { acc with email := acc.email ++ [(d, 0, 0)] }
  | .dns d => { acc with dns := acc.dns ++ [(d, 0, 0)] }
  | .dir d => { acc with dir := acc.dir ++ [(d, 0, 0)] }
  | .ip a m => { acc with ip := acc.ip ++ [(a, m, 0, 0)] }

/-- the per-entry domain of the round trip -/
def Base.ok (rdnOK : Bytes → Bool) : Base → Bool
  | .dir d => rdnOK d
  | .ip a m => (a.length == 4 && m.length == 4) || (a.length == 16 && m.length == 16)
  | _ => true

theorem addSubtree_sub (rdnOK : Bytes → Bool) (acc : NCOutSide) (b : Base) (h : b.ok rdnOK = true) :
    addSubtree rdnOK acc (subOf b) = .ok (addBase acc b) := by
  cases b with
  | email d => simp [addSubtree, subOf, hdrOf, Base.tag, Base.bytes, addBase]
  | dns d => simp [addSubtree, subOf, hdrOf, Base.tag, Base.bytes, addBase]
  | dir d =>
    simp only [Base.ok] at h
    simp [addSubtree, subOf, hdrOf, Base.tag, Base.bytes, addBase, h]
  | ip a m =>
    simp only [Base.ok, Bool.or_eq_true, Bool.and_eq_true, beq_iff_eq] at h
    rcases h with ⟨ha, hm⟩ | ⟨ha, hm⟩
    · have h8 : (a ++ m).length = 8 := by simp [ha, hm]
      simp [addSubtree, subOf, hdrOf, Base.tag, Base.bytes, addBase, h8, List.take_left' ha, List.drop_left' ha]
    · have h32 : (a ++ m).length = 32 := by simp [ha, hm]
      simp [addSubtree, subOf, hdrOf, Base.tag, Base.bytes, addBase, h32, List.take_left' ha, List.drop_left' ha]

theorem foldSubtrees_map (rdnOK : Bytes → Bool) : ∀ (l : List Base) (acc : NCOutSide), (∀ b ∈ l, b.ok rdnOK = true) →
    foldSubtrees rdnOK acc (l.map subOf) = .ok (l.foldl addBase acc)
  | [], acc, _ => rfl
  | b :: bs, acc, h => by
    simp only [List.map_cons, foldSubtrees, List.foldl_cons]
    rw [addSubtree_sub rdnOK acc b (h b List.mem_cons_self)]
    exact foldSubtrees_map rdnOK bs _ (fun x hx => h x (List.mem_cons_of_mem _ hx))

theorem foldl_email (l : List Bytes) (acc : NCOutSide) :
    (l.map Base.email).foldl addBase acc = { acc with email := acc.email ++ l.map (fun d => (d, 0, 0)) } := by
  induction l generalizing acc with
  | nil => simp
  | cons d ds ih => simp [ih, addBase]

theorem foldl_dns (l : List Bytes) (acc : NCOutSide) :
    (l.map Base.dns).foldl addBase acc = { acc with dns := acc.dns ++ l.map (fun d => (d, 0, 0)) } := by
  induction l generalizing acc with
  | nil => simp
  | cons d ds ih => simp [ih, addBase]

theorem foldl_dir (l : List Bytes) (acc : NCOutSide) :
    (l.map Base.dir).foldl addBase acc = { acc with dir := acc.dir ++ l.map (fun d => (d, 0, 0)) } := by
  induction l generalizing acc with
  | nil => simp
  | cons d ds ih => simp [ih, addBase]

theorem foldl_ip (l : List (Bytes × Bytes)) (acc : NCOutSide) :
    (l.map (fun p => Base.ip p.1 p.2)).foldl addBase acc = { acc with ip := acc.ip ++ l.map (fun p => (p.1, p.2, 0, 0)) } := by
  induction l generalizing acc with
  | nil => simp
  | cons d ds ih => simp [ih, addBase]

theorem foldl_bases (s : NCSide) : s.bases.foldl addBase {} = s.out := by
  simp [NCSide.bases, List.foldl_append, foldl_email, foldl_dns, foldl_dir, foldl_ip, NCSide.out]

theorem foldSubtrees_side (rdnOK : Bytes → Bool) (s : NCSide) (h : ∀ b ∈ s.bases, b.ok rdnOK = true) :
    foldSubtrees rdnOK {} (s.bases.map subOf) = .ok s.out := by
  rw [foldSubtrees_map rdnOK _ _ h, foldl_bases]

theorem parseSubtrees_both (P X : List Base)
    (hlen : (encSubtrees 0xA0 P ++ encSubtrees 0xA1 X).length < 2147483648) :
    parseSubtrees (.ctx 0 true) (encSubtrees 0xA0 P ++ encSubtrees 0xA1 X) = .ok (P.map subOf, encSubtrees 0xA1 X) ∧
    parseSubtrees (.ctx 1 true) (encSubtrees 0xA1 X) = .ok (X.map subOf, []) := by
  have hX := parseSubtrees_opt (.ctx 1 true) 0xA1 X [] (by decide) (by intro n; simp [Want.ok, hdrOf])
    (by
      rw [List.length_append] at hlen ⊢
      exact Nat.lt_of_le_of_lt (Nat.le_add_left _ _) hlen)
    (field_nil_opt _)
  rw [List.append_nil] at hX
  refine ⟨parseSubtrees_opt (.ctx 0 true) 0xA0 P _ (by decide) (by intro n; simp [Want.ok, hdrOf]) hlen ?_, hX⟩
  cases hx : X.isEmpty with
  | true =>
    cases List.isEmpty_iff.mp hx
    exact field_nil_opt _
  | false =>
    simp only [encSubtrees, hx, Bool.false_eq_true, if_false, tlv, List.length_append] at hlen ⊢
    have := field_skip (.ctx 0 true) 0xA1 (X.map encSubtree).flatten [] (by decide)
      (lt_of_writeTLV_le (Nat.le_add_left _ _) hlen) (by simp [Want.ok, hdrOf])
    rwa [List.append_nil] at this

end ZV.C04
