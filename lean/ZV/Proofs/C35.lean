import ZV.Model.C35
/-! Everything is said about the key list `keys c.q` of the recency list.  `Inv`: capacity positive and respected,
    keys distinct, no nil session stored.  `put_eq` / `get_eq` bring the four branches of the Go-shaped `put` and `get`
    into one equation each, which is the shape of `Spec` in `ZV.Props.C35`.  For the history-level theorems:
    `lastUse` / `lastPut` and `step_keys_shape` (one step erases the named key or moves it to the front, the rest is a
    sublist). -/
namespace ZV.C35

def keys (q : Q) : List Key := q.map (·.1)

structure Inv (c : Cache) : Prop where
  capPos : 0 < c.cap
  bounded : c.q.length ≤ c.cap
  nodup : (keys c.q).Nodup
  noNil : ∀ e ∈ c.q, e.2 ≠ none

theorem keys_cons (e : Key × Val) (q : Q) : keys (e :: q) = e.1 :: keys q := rfl

theorem hasKey_iff (k : Key) (q : Q) : hasKey k q = true ↔ k ∈ keys q := by
  simp [hasKey, keys]

theorem keys_erase (k : Key) (q : Q) : keys (erase k q) = (keys q).filter (· != k) := by
  simp only [keys, erase, List.filter_map]; rfl

theorem erase_absent (k : Key) (q : Q) (h : k ∉ keys q) : erase k q = q :=
  List.filter_eq_self.2 fun _ he => bne_iff_ne.2 fun h' => h (h' ▸ List.mem_map_of_mem he)

theorem erase_length_le (k : Key) (q : Q) : (erase k q).length ≤ q.length :=
  List.length_filter_le _ _

theorem erase_length_lt (k : Key) (q : Q) (h : k ∈ keys q) : (erase k q).length < q.length := by
  obtain ⟨e, he, rfl⟩ := List.mem_map.1 h
  exact List.length_filter_lt_length_iff_exists.2 ⟨e, he, by simp⟩

theorem not_mem_keys_erase (k : Key) (q : Q) : k ∉ keys (erase k q) := by
  rw [keys_erase]; simp

theorem mem_keys_erase {k k' : Key} {q : Q} : k' ∈ keys (erase k q) ↔ k' ∈ keys q ∧ k' ≠ k := by
  rw [keys_erase]; simp

theorem nodup_erase (k : Key) (q : Q) (h : (keys q).Nodup) : (keys (erase k q)).Nodup := by
  rw [keys_erase]; exact h.filter _

theorem mem_erase {k : Key} {q : Q} {e : Key × Val} (h : e ∈ erase k q) : e ∈ q :=
  (List.mem_filter.mp h).1

theorem keys_dropLast (q : Q) : keys q.dropLast = (keys q).dropLast := by
  simp [keys, List.map_dropLast]

theorem find_cons (k : Key) (e : Key × Val) (q : Q) : find k (e :: q) = if e.1 = k then some e.2 else find k q := by
  by_cases h : e.1 = k <;> simp [find, h]

theorem find_erase_ne {k k' : Key} (q : Q) (h : k' ≠ k) : find k' (erase k q) = find k' q := by
  induction q with
  | nil => rfl
  | cons e q ih =>
    by_cases he : e.1 = k
    · have : erase k (e :: q) = erase k q := by simp [erase, he]
      rw [this, ih, find_cons, if_neg (he ▸ h.symm)]
    · have : erase k (e :: q) = e :: erase k q := by simp [erase, he]
      rw [this, find_cons, find_cons, ih]

theorem find_none_iff (k : Key) (q : Q) : find k q = none ↔ k ∉ keys q := by
  simp only [find, keys, Option.map_eq_none_iff, List.find?_eq_none, List.mem_map, beq_iff_eq]
  exact ⟨fun h ⟨e, he, hk⟩ => h e he hk, fun h e he hk => h ⟨e, he, hk⟩⟩

theorem find_some_mem {k : Key} {q : Q} {v : Val} (h : find k q = some v) : (k, v) ∈ q := by
  obtain ⟨e, he, rfl⟩ := Option.map_eq_some_iff.1 h
  have := List.find?_some he
  rw [← (beq_iff_eq.1 this : e.1 = k)]
  exact List.mem_of_find?_eq_some he

theorem find_mem_keys {k : Key} {q : Q} {v : Val} (h : find k q = some v) : k ∈ keys q :=
  List.mem_map.2 ⟨_, find_some_mem h, rfl⟩

theorem put_eq (c : Cache) (k : Key) (v : Val) :
    put c k v = { c with q := match v with
      | none => erase k c.q
      | some _ => (k, v) :: if k ∈ keys c.q ∨ c.q.length < c.cap then erase k c.q else c.q.dropLast } := by
  unfold put
  by_cases hk : k ∈ keys c.q
  · rw [if_pos ((hasKey_iff k c.q).2 hk)]
    cases v with
    | none => rfl
    | some x => simp only [hk, true_or, if_true]
  · rw [if_neg (by rwa [hasKey_iff])]
    cases v with
    | none => simp only [erase_absent k c.q hk]
    | some x =>
      by_cases hl : c.q.length < c.cap
      · simp only [hl, or_true, if_true, erase_absent k c.q hk]
      · simp only [hl, hk, or_self, if_false]

theorem get_eq (c : Cache) (k : Key) :
    get c k = match find k c.q with
      | some v => ({ c with q := (k, v) :: erase k c.q }, (v, true))
      | none => (c, (none, false)) := rfl

theorem inv_erase {cap : Nat} {s : Q} (k : Key) (h : Inv ⟨cap, s⟩) : Inv ⟨cap, erase k s⟩ :=
  ⟨h.capPos, Nat.le_trans (erase_length_le k s) h.bounded, nodup_erase k s h.nodup,
    fun e he => h.noNil e (mem_erase he)⟩

theorem front_ok {cap : Nat} {s : Q} (k : Key) {v : Val} (h : Inv ⟨cap, s⟩) (hv : v ≠ none) :
    (keys ((k, v) :: erase k s)).Nodup ∧ ∀ e ∈ (k, v) :: erase k s, e.2 ≠ none := by
  refine ⟨List.nodup_cons.2 ⟨not_mem_keys_erase k s, nodup_erase k s h.nodup⟩, fun e he => ?_⟩
  rcases List.mem_cons.1 he with rfl | he
  · exact hv
  · exact h.noNil e (mem_erase he)

theorem inv_front {cap : Nat} {s : Q} {k : Key} {v : Val} (h : Inv ⟨cap, s⟩) (hm : (k, v) ∈ s) :
    Inv ⟨cap, (k, v) :: erase k s⟩ :=
  have ok := front_ok k h (h.noNil _ hm)
  ⟨h.capPos, Nat.le_trans (erase_length_lt k s (List.mem_map.2 ⟨_, hm, rfl⟩)) h.bounded, ok.1, ok.2⟩

theorem inv_front_take {cap : Nat} {s : Q} (k : Key) (x : Nat) (h : Inv ⟨cap, s⟩) :
    Inv ⟨cap, ((k, some x) :: erase k s).take cap⟩ :=
  have ok := front_ok k h (v := some x) nofun
  ⟨h.capPos, List.length_take_le _ _, ok.1.sublist ((List.take_sublist _ _).map _),
    fun e he => ok.2 e (List.mem_of_mem_take he)⟩

def opKey : Op → Key
  | .put k _ => k
  | .get k => k

/-- 1-based position of the last operation of the history that names key `k` (0 = never named). -/
def lastUse (k : Key) : List Op → Nat
  | [] => 0
  | op :: ops => if lastUse k ops ≠ 0 then lastUse k ops + 1 else if opKey op = k then 1 else 0

/-- the session of the most recent `Put` on `k` in the history (`none` = no `Put` on `k`). -/
def lastPut (k : Key) : List Op → Option Val
  | [] => none
  | op :: ops =>
    match lastPut k ops with
    | some v => some v
    | none =>
      match op with
      | .put k' v => if k' = k then some v else none
      | .get _ => none

theorem lastUse_snoc (k : Key) (ops : List Op) (op : Op) :
    lastUse k (ops ++ [op]) = if opKey op = k then ops.length + 1 else lastUse k ops := by
  induction ops with
  | nil => simp [lastUse]
  | cons a ops ih =>
    simp only [List.cons_append, lastUse, ih, List.length_cons]
    by_cases h : opKey op = k <;> simp [h]

theorem lastUse_le (k : Key) (ops : List Op) : lastUse k ops ≤ ops.length := by
  induction ops with
  | nil => exact Nat.le_refl 0
  | cons a ops ih =>
    simp only [lastUse, List.length_cons]
    split
    · omega
    · split <;> omega

theorem run_snoc_state (c : Cache) (ops : List Op) (op : Op) :
    (run c (ops ++ [op])).1 = (step (run c ops).1 op).1 := by
  induction ops generalizing c with
  | nil => rfl
  | cons a ops ih => exact ih _

theorem step_keys_shape (c : Cache) (op : Op) :
    ((keys (step c op).1.q).Sublist (keys c.q) ∧ opKey op ∉ keys (step c op).1.q) ∨
    ∃ l, keys (step c op).1.q = opKey op :: l ∧ l.Sublist (keys c.q) ∧ opKey op ∉ l := by
  have erased : ∀ k, (keys (erase k c.q)).Sublist (keys c.q) ∧ k ∉ keys (erase k c.q) :=
    fun k => ⟨by rw [keys_erase]; exact List.filter_sublist, not_mem_keys_erase k c.q⟩
  cases op with
  | put k v =>
    simp only [step, opKey, put_eq]
    cases v with
    | none => exact .inl (erased k)
    | some x =>
      refine .inr ⟨_, rfl, ?_⟩
      split
      · exact erased k
      · rename_i h
        rw [← keys, keys_dropLast]
        exact ⟨List.dropLast_sublist _, fun hm => h (.inl (List.dropLast_subset _ hm))⟩
  | get k =>
    simp only [step, opKey, get_eq]
    cases hf : find k c.q with
    | none => exact .inl ⟨List.Sublist.refl _, (find_none_iff k c.q).mp hf⟩
    | some v => exact .inr ⟨_, rfl, erased k⟩

theorem mem_not_dropLast_getLast {α} {a : α} {l : List α} (h : a ∈ l) (hn : a ∉ l.dropLast) :
    l.getLast? = some a := by
  have hne : l ≠ [] := by rintro rfl; cases h
  rw [← List.dropLast_concat_getLast hne, List.mem_append, List.mem_singleton] at h
  rw [List.getLast?_eq_some_getLast hne, h.resolve_left hn]

theorem find_dropLast {k : Key} {q : Q} (h : k ∈ keys q.dropLast) : find k q.dropLast = find k q := by
  obtain ⟨e, he, hek⟩ := List.mem_map.1 h
  have hne : q ≠ [] := by rintro rfl; cases he
  have hs : (q.dropLast.find? (fun e => e.1 == k)).isSome := List.find?_isSome.2 ⟨e, he, by simp [hek]⟩
  obtain ⟨w, hw⟩ := Option.isSome_iff_exists.1 hs
  conv => rhs; rw [← List.dropLast_concat_getLast hne]
  simp [find, List.find?_append, hw]

theorem find_put_same {c : Cache} {k : Key} {v w : Val} (h : find k (put c k v).q = some w) : v = w := by
  rw [put_eq] at h
  cases v with
  | none => rw [(find_none_iff k _).2 (not_mem_keys_erase k c.q)] at h; cases h
  | some x => simpa only [find_cons, if_true, Option.some.injEq] using h

theorem find_get (c : Cache) (k k' : Key) : find k (get c k').1.q = find k c.q := by
  rw [get_eq]
  cases hf : find k' c.q with
  | none => rfl
  | some v =>
    simp only [find_cons]
    split
    · rename_i h; subst h; exact hf.symm
    · rename_i h; exact find_erase_ne c.q (Ne.symm h)

end ZV.C35
