import ZV.Proofs.DerLiteAppend
/-! The strict DER reader of `ZV.Model.DerLite` on an accepted element's own bytes alone (truncation), and canonicity
    (writer ∘ reader): an accepted length field is the one `encLen` writes, so an accepted element with a low tag number
    is `writeTLV identifier body`, the only accepted encoding of its (identifier octet, body). -/
namespace ZV.Der

theorem readHdr_trunc (bs : Bytes) (hd : Hdr) (rest : Bytes) (h : readHdr bs = .ok (hd, rest)) :
    ∃ pre, bs = pre ++ rest ∧ readHdr pre = .ok (hd, []) := by
  obtain ⟨pre, hp, e⟩ := (readHdr_iff _ _ _).mp h
  exact ⟨pre, e, by simpa using hp.read []⟩

theorem readElem_trunc (bs : Bytes) (e : Elem) (rest : Bytes) (h : readElem bs = .ok (e, rest)) :
    readElem e.full = .ok (e, []) := by
  obtain ⟨pre, hp, hl, hf, _⟩ := (readElem_iff _ _ _).mp h
  exact (readElem_iff _ _ _).mpr ⟨pre, hp, hl, hf, (List.append_nil _).symm⟩

theorem readElem_canonical (bs : Bytes) (e : Elem) (rest : Bytes) (h : readElem bs = .ok (e, rest))
    (hlow : e.hdr.tag < 31) :
    ∃ t : UInt8, t.toNat % 32 ≠ 31 ∧ e.hdr = hdrOf t e.body.length ∧ e.full = writeTLV t e.body ∧
      e.body.length < 2147483648 := by
  obtain ⟨pre, hp, hl, hf, _⟩ := (readElem_iff _ _ _).mp h
  obtain ⟨b, hb, hh, hn, rfl⟩ := hp.low hlow
  refine ⟨b, hb, ?_, ?_, ?_⟩
  · rw [hl]
    exact hh
  · rw [hf, ← hl]
    rfl
  · rw [hl]
    exact hn

end ZV.Der
