import ZV.Model.C13Der
import ZV.Proofs.C18
import ZV.Proofs.C01Asn1
/-! C13, ASN.1 leg: `ocspRequest` as an instance of the C18 round-trip theorem (Marshal succeeds, the value is in the domain),
    a RawValue field in place of a typed one, and the field loop over a concatenation of field lists. -/
namespace ZV.C13
open ZV.C18

theorem makeField_struct_eq (fs : Schema) (v : Val) :
    makeField (.struct fs) {} v =
      (match makeFields fs v with
       | .ok body => .ok (wrap {} 16 true body)
       | .err => .err
       | .panic => .panic) := by
  simp only [makeField, omitted_false _ {} _ rfl rfl, Bool.false_eq_true, if_false]
  rfl

theorem makeField_seqOf_eq (e : Schema) (v : Val) :
    makeField (.seqOf false e) {} v =
      (match mapElems (fun x => makeField e {} x) v with
       | .ok encs => .ok (wrap {} 16 true encs.flatten)
       | .err => .err
       | .panic => .panic) := by
  simp only [makeField, omitted_false _ {} _ rfl rfl, Bool.false_eq_true, if_false]
  rfl

theorem makeField_octets (b : Bytes) : makeField .octets {} (.bytes b) = .ok (wrap {} 4 false b) := by
  rw [makeField_leaf .octets {} _ rfl rfl]
  simp [primMake, omitted_false _ {} _ rfl rfl, univ, marshalTag, makePrimBody]

theorem makeField_bigint (i : Int) : makeField .bigint {} (.int i) = .ok (wrap {} 2 false (makeBigInt i)) := by
  rw [makeField_leaf .bigint {} _ rfl rfl]
  simp [primMake, omitted_false _ {} _ rfl rfl, univ, marshalTag, makePrimBody]

theorem makeField_oid (l : List Int) (body : Bytes) (hb : makeOID l = .ok body) :
    makeField .oid {} (.oid l) = .ok (wrap {} 6 false body) := by
  rw [makeField_leaf .oid {} _ rfl rfl]
  simp [primMake, omitted_false _ {} _ rfl rfl, univ, marshalTag, makePrimBody, hb]

theorem makeField_null_params (full : Bytes) (h : full = [] ∨ full = [5, 0]) :
    makeField .raw { optional := true } (.raw 0 5 false [] full) = .ok [5, 0] := by
  rcases h with rfl | rfl <;> rfl

/-- `Request.Marshal` succeeds, with the same bytes whether or not `Parameters.FullBytes` is filled in -/
theorem marshal_reqVal (oid : List Int) (body : Bytes) (hb : makeOID oid = .ok body) (r : Req) :
    ∃ der, ∀ full, (full = [] ∨ full = [5, 0]) → marshal ocspRequestS {} (reqVal oid full r) = .ok der :=
  ⟨_, fun full hf => by
    simp only [marshal, ocspRequestS, tbsRequestS, requestS, certIDS, algIdS, reqVal, certIDVal, makeField_struct_eq, makeFields,
      makeField_seqOf_eq, mapElems, makeField_oid oid body hb, makeField_null_params full hf, makeField_octets, makeField_bigint]
    rfl⟩

theorem inDomain_reqVal (oid : List Int) (ho : oidOK oid = true) (r : Req) :
    InDomain ocspRequestS {} (reqVal oid [5, 0] r) = true ∧ Exact ocspRequestS {} (reqVal oid [5, 0] r) = true := by
  constructor
  · simp [ocspRequestS, tbsRequestS, rdnSeqRawS, requestS, certIDS, algIdS, reqVal, certIDVal, InDomain, omitted, isSliceKind, isIntKind,
      lenZero, zeroVal, goodB, absentOK, dfltVal, valFits, leafOK, allChain, skipsNext, firstHdr, fieldHdr, skipsH, pcls, univ, rawOK, ho]
    decide
  · simp [ocspRequestS, tbsRequestS, rdnSeqRawS, requestS, certIDS, algIdS, reqVal, certIDVal, Exact, omitted, isSliceKind,
      lenZero, zeroVal, properChain, allChain]

/-- `hashOIDs` and `getHashAlgorithmFromOID` are inverse on the supported hashes, whose OIDs are encodable -/
theorem hashOID_supported (h : Nat) (hh : hashSupported h = true) :
    ∃ oid, hashOID h = some oid ∧ oidOK oid = true ∧ hashOfOID oid = h := by
  simp only [hashSupported, decide_eq_true_eq] at hh
  rcases hh with rfl | rfl | rfl | rfl <;> exact ⟨_, rfl, by decide, by decide⟩

theorem hashOID_unsupported (h : Nat) (hh : hashSupported h = false) : hashOID h = none := by
  simp only [hashSupported, decide_eq_false_iff_not, not_or] at hh
  simp [hashOID, hh]

theorem reqOfVal_reqVal (oid : List Int) (full : Bytes) (r : Req) (h : hashOfOID oid ≠ 0) :
    reqOfVal (reqVal oid full r) = .ok { r with hash := hashOfOID oid } := by
  simp [reqOfVal, reqVal, certIDVal, h]

/-- the stages in front of the type switch see the Go type only through `getUniversalType` and the RawValue / Flag tests -/
theorem parsePre_congr (perm : Bool) {a b : Schema} (p : Params) (bs : Bytes) (hu : univ a = univ b)
    (hr : isRaw a = isRaw b) (hf : isFlag a = isFlag b) : parsePre perm a p bs = parsePre perm b p bs := by
  unfold parsePre explicitStage matchStage
  rw [hu, hr, hf]

theorem raw_of_go {perm : Bool} {s : Schema} {bs : Bytes} {t : TL} {utag : Nat} {inner rest : Bytes}
    (h : parsePre perm s {} bs = .go t utag inner rest) :
    parseField perm .raw {} bs = .ok (.raw t.cls t.tag t.compound inner (takeFull bs rest), rest) ∧ takeFull bs rest ≠ [] := by
  refine ⟨?_, takeFull_ne_nil bs rest ?_⟩
  · -- the stages of the RawValue field: the same header, no EXPLICIT wrapper, any tag matches, the same slices
    have hraw : parsePre perm .raw {} bs = .go t 0 inner rest := by
      unfold parsePre at h ⊢
      cases hp : parseTL perm bs with
      | err => rw [hp] at h; cases h
      | panic => rw [hp] at h; cases h
      | ok x =>
        rw [hp] at h
        have hm := C01Asn1.matchStage_spec s {} x.1 x.2
        rw [show matchStage s {} x.1 x.2 = _ from h] at hm
        obtain ⟨rfl, rfl, rfl, hl⟩ := hm
        show matchStage .raw {} x.1 x.2 = _
        simp [matchStage, univ, substTag, expected, Nat.not_lt.mpr hl]
    rw [parseField_leaf .raw perm {} bs rfl, primField_eq, fieldWith_go hraw]
    rfl
  · have := (C01Asn1.parsePre_go perm s {} bs t utag inner rest h).2.2.1.2
    omega

/-- concatenation of field lists / of field-value lists -/
def fapp : Schema → Schema → Schema
  | .fcons p s rest, g => .fcons p s (fapp rest g)
  | _, g => g

def vapp : Val → Val → Val
  | .vcons v vs, w => .vcons v (vapp vs w)
  | _, w => w

def isFieldList : Schema → Bool
  | .fnil => true
  | .fcons _ _ rest => isFieldList rest
  | _ => false

theorem parseFields_fapp (perm : Bool) (f g : Schema) (hf : isFieldList f = true) (bs : Bytes) :
    parseFields perm (fapp f g) bs =
      (match parseFields perm f bs with
       | .ok (v1, r1) =>
         (match parseFields perm g r1 with
          | .ok (v2, r2) => .ok (vapp v1 v2, r2)
          | .err => .err
          | .panic => .panic)
       | .err => .err
       | .panic => .panic) := by
  induction f generalizing bs with
  | fnil =>
    simp only [fapp, parseFields]
    cases parseFields perm g bs <;> rfl
  | fcons p s rest _ ihr =>
    simp only [fapp, parseFields]
    cases parseField perm s p bs with
    | ok x =>
      simp only [ihr hf x.2]
      cases parseFields perm rest x.2 with
      | ok y =>
        obtain ⟨vs, r'⟩ := y
        dsimp only
        cases parseFields perm g r' <;> rfl
      | _ => rfl
    | _ => rfl
  | _ => cases hf

theorem parseTL_append (perm : Bool) (a c : Bytes) (t : TL) (r : Bytes) (h : parseTL perm a = .ok (t, r)) :
    parseTL perm (a ++ c) = .ok (t, r ++ c) :=
  ((C01Asn1.parseTL_reads perm a).of_ok h).1.append c

end ZV.C13
