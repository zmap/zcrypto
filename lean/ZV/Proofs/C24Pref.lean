import ZV.Proofs.C24Sort
/-!
  The two lists handed to suite selection. `pickCipherSuite` (TLS ≤ 1.2) and `pickTLS13` build them in the same way from
  the server's list, the client's offer, `PreferServerCipherSuites` and whether the server's list is to be
  deprioritised; `prefLists` is that construction, and what is proved about it here serves both.
-/
namespace ZV.C24
open Gen

/-- (preference list, other side's list): the server's list `srv` decides under `prefer`, deprioritised if `d`;
    otherwise the client's offer, deprioritised on a machine without AES-GCM hardware support -/
def prefLists (srv offer : List Nat) (prefer d : Bool) : Option (List Nat × List Nat) :=
  if prefer then
    if d then (deprio srv).map (fun p => (p, offer)) else some (srv, offer)
  else
    if !hasAESGCMHardwareSupport then (deprio offer).map (fun p => (p, srv)) else some (offer, srv)

section
variable {srv offer pref sup : List Nat} {prefer d : Bool}

theorem prefLists_cases (h : prefLists srv offer prefer d = some (pref, sup)) :
    (prefer = true ∧ sup = offer ∧ (pref = srv ∨ (d = true ∧ deprio srv = some pref))) ∨
    (prefer = false ∧ sup = srv ∧
      (pref = offer ∨ (hasAESGCMHardwareSupport = false ∧ deprio offer = some pref))) := by
  -- both branches of `prefer` have the same shape, with the roles of the two lists exchanged
  have side : ∀ (d : Bool) (l o : List Nat), (if d then (deprio l).map (fun p => (p, o)) else some (l, o)) = some (pref, sup) →
      sup = o ∧ (pref = l ∨ (d = true ∧ deprio l = some pref)) := by
    intro d l o h
    cases d with
    | true =>
      obtain ⟨p, hd, he⟩ := Option.map_eq_some_iff.mp h
      cases he
      exact ⟨rfl, Or.inr ⟨rfl, hd⟩⟩
    | false =>
      cases h
      exact ⟨rfl, Or.inl rfl⟩
  unfold prefLists at h
  cases prefer with
  | true => exact Or.inl ⟨rfl, side d srv offer h⟩
  | false => exact Or.inr ⟨rfl, by simpa using side (!hasAESGCMHardwareSupport) offer srv h⟩

theorem prefLists_perm (h : prefLists srv offer prefer d = some (pref, sup)) :
    pref.Perm (if prefer then srv else offer) ∧ sup = (if prefer then offer else srv) := by
  rcases prefLists_cases h with ⟨rfl, hs, hc⟩ | ⟨rfl, hs, hc⟩
  · exact ⟨hc.elim (fun e => e ▸ .refl _) (fun hd => (deprio_moved hd.2).1), hs⟩
  · exact ⟨hc.elim (fun e => e ▸ .refl _) (fun hd => (deprio_moved hd.2).1), hs⟩

theorem prefLists_mem (h : prefLists srv offer prefer d = some (pref, sup)) (x : Nat) :
    x ∈ pref ∧ x ∈ sup ↔ x ∈ offer ∧ x ∈ srv := by
  obtain ⟨hperm, rfl⟩ := prefLists_perm h
  rw [hperm.mem_iff]
  cases prefer
  · exact Iff.rfl
  · exact And.comm

theorem prefLists_find_none (h : prefLists srv offer prefer d = some (pref, sup)) (q : Nat → Bool) :
    pref.find? (fun id => sup.contains id && q id) = none ↔ ∀ x ∈ offer, x ∈ srv → q x = false := by
  simp only [List.find?_eq_none, Bool.and_eq_true, List.contains_iff_mem, not_and, Bool.not_eq_true]
  exact ⟨fun hh x hx hs => have ⟨a, b⟩ := (prefLists_mem h x).mpr ⟨hx, hs⟩; hh x a b,
    fun hh x hx hs => have ⟨a, b⟩ := (prefLists_mem h x).mp ⟨hx, hs⟩; hh x a b⟩

theorem prefLists_none_iff :
    prefLists srv offer prefer d = none ↔
      (if prefer then d = true ∧ srv.length > 20 else hasAESGCMHardwareSupport = false ∧ offer.length > 20) := by
  unfold prefLists
  cases prefer
  · cases hasAESGCMHardwareSupport <;> simp [deprio]
  · cases d <;> simp [deprio]

end

section
variable {offer : List Nat} {ss : Option (List Nat)} {prefer : Bool} {f : Facts}

theorem pick_suite_iff {r : SuiteRow} :
    pickCipherSuite offer ss prefer f = .suite r ↔
      ∃ pref sup, prefLists (ss.getD defaultCipherSuites) offer prefer (ss.isNone && !aesgcmPreferred offer) = some (pref, sup) ∧
        selectCipherSuite pref sup (cipherSuiteOk f) = some r := by
  unfold pickCipherSuite prefLists
  dsimp only
  generalize (if prefer = true then _ else _ : Option (List Nat × List Nat)) = pl
  rcases pl with _ | ⟨pref, sup⟩
  · simp
  · cases hsel : selectCipherSuite pref sup (cipherSuiteOk f) <;> simp [hsel, and_assoc]

theorem pickTLS13_eq_map (offer : List Nat) (prefer : Bool) :
    pickTLS13 offer prefer =
      (prefLists defaultCipherSuitesTLS13 offer prefer (!aesgcmPreferred offer)).map fun p =>
        p.1.find? fun id => p.2.contains id && isTLS13Suite id := by
  unfold pickTLS13 prefLists
  dsimp only
  generalize (if prefer = true then _ else _ : Option (List Nat × List Nat)) = pl
  rcases pl with _ | ⟨pref, sup⟩ <;> rfl

end
end ZV.C24
