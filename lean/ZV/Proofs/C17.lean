import ZV.Model.C17
import ZV.Proofs.ListFacts
import ZV.Proofs.Sched
/-! The interleaving model of `ZV.Model.C17` is analysed through three things: `occ a st`, the number of places
    index `a` sits in (conserved by every step, `step_wf_occ`); the invariant `WF` that makes the conservation go
    through; and the measure `mu`, which every enabled step lowers (`step_mu`). `step` is looked at through its case
    table `step_cases`: a worker that cannot move does nothing, one that can makes a `WStep` (a fetcher's step, tabled
    in turn by `FStep` on the three things a fetcher touches; a receive; a matcher's return), so each fact about a
    step is one `cases`. Besides, `stepF` and `stepM` are unfolded only in the commutation lemma `step_frame` (and
    `stepM` once more in `bstepM_cases`, against the copy of it that the bounded model has). What the facts give for
    whole schedules and for round robin is `ZV.Sched` at `runs` and `measured`. Core Lean only, hence the hand-made
    list-sum lemmas (`ZV.sum_map_set`, `unfin_set`). -/
namespace ZV.C17

def idxs (s e : Nat) : List Nat := List.range' s (e + 1 - s)

theorem range'_split (s m t : Nat) (h1 : s ≤ m) (h2 : m ≤ t) :
    List.range' s (m - s) ++ List.range' m (t - m) = List.range' s (t - s) := by
  obtain ⟨d, rfl⟩ : ∃ d, m = s + d := ⟨m - s, by omega⟩
  have : s + d - s = d := by omega
  rw [this, List.range'_append_1]
  congr 1
  omega

theorem count_interval (start stop a : Nat) :
    (List.range' start (stop - start)).count a = if start ≤ a ∧ a < stop then 1 else 0 := by
  rw [List.count_range']
  by_cases h : start ≤ a ∧ a < stop
  · rw [if_pos h, if_pos ⟨a - start, by omega, by omega⟩]
  · rw [if_neg h, if_neg]
    rintro ⟨i, hi, rfl⟩
    omega

theorem ranges_cover (start stop batch : Nat) (hb : 0 < batch) :
    (ranges start stop batch).flatMap (fun r => idxs r.1 r.2) = List.range' start (stop - start) := by
  fun_induction ranges start stop batch with
  | case1 start h ih =>
    simp only [List.flatMap_cons]
    rw [ih]
    simp only [idxs]
    exact range'_split _ _ _ (by omega) (by omega)
  | case2 start h =>
    have : stop - start = 0 := by omega
    simp [this]

theorem ranges_wf (start stop batch : Nat) :
    ∀ r ∈ ranges start stop batch, r.1 ≤ r.2 ∧ r.2 + 1 - r.1 ≤ batch ∧ start ≤ r.1 ∧ r.2 < stop := by
  fun_induction ranges start stop batch with
  | case1 start h ih =>
    intro r hr
    rcases List.mem_cons.mp hr with rfl | hr
    · simp only; omega
    · have := ih r hr; omega
  | case2 start h => intro r hr; cases hr

def Adjacent : Nat → List (Nat × Nat) → Prop
  | _, [] => True
  | s, r :: rest => r.1 = s ∧ Adjacent (r.2 + 1) rest

theorem ranges_adjacent (start stop batch : Nat) : Adjacent start (ranges start stop batch) := by
  fun_induction ranges start stop batch with
  | case1 start h ih => exact ⟨rfl, ih⟩
  | case2 start h => trivial

/-- number of productive answers (non-error, non-empty) in a script -/
def productive : List Tok → Nat
  | [] => 0
  | .err :: rest => productive rest
  | .give n :: rest => (if n = 0 then 0 else 1) + productive rest

theorem fetchRange_tail_irrelevant (e : Nat) (script tail : List Tok) :
    ∀ s, s ≤ e → e + 1 - s ≤ productive script → fetchRange s e (script ++ tail) = fetchRange s e script := by
  intro s
  fun_induction fetchRange s e script with
  | case1 s => intro hs hp; simp only [productive] at hp; omega
  | case2 s rest r ih => intro hs hp; rw [List.cons_append, fetchRange, ih hs hp]
  | case3 s n rest k hk r ih =>
    intro hs hp
    have hn : n = 0 := by omega
    simp only [productive, hn, if_true, Nat.zero_add] at hp
    rw [List.cons_append, fetchRange, ih hs hp]
    exact if_pos hk
  | case4 s n rest k hk hgt =>
    intro _ _
    rw [List.cons_append, fetchRange]
    exact (if_neg hk).trans (if_pos hgt)
  | case5 s n rest k hk hle r ih =>
    intro hs hp
    have hp' : e + 1 - s ≤ 1 + productive rest := Nat.le_trans hp (Nat.add_le_add_right (by split <;> decide) _)
    rw [List.cons_append, fetchRange, ih (Nat.le_of_not_gt hle) (by omega)]
    exact (if_neg hk).trans (if_neg hle)

def inflight : FSt → List Nat
  | .req s e _ => idxs s e
  | .send s e _ _ => idxs s e
  | .idle => []
  | .done => []

def fsum (a : Nat) (fs : List FSt) : Nat := (fs.map (fun f => (inflight f).count a)).sum
def psum (a : Nat) (ps : List Job) : Nat := (ps.map (fun j => (idxs j.s j.e).count a)).sum

/-- number of places index `a` currently sits in: a pending range, a fetcher's current range, the `jobs`
    channel, or the processed multiset -/
def occ (a : Nat) (st : St) : Nat :=
  psum a st.pending + fsum a st.fs + st.jobs.count a + st.processed.count a

theorem fsum_set (a : Nat) (fs : List FSt) (i : Nat) (f x : FSt) (h : fs[i]? = some f) :
    fsum a (fs.set i x) + (inflight f).count a = fsum a fs + (inflight x).count a :=
  sum_map_set _ fs i f x h

theorem psum_cons (a : Nat) (j : Job) (ps : List Job) :
    psum a (j :: ps) = (idxs j.s j.e).count a + psum a ps := by
  simp [psum]

theorem idxs_cons (s e : Nat) (h : s ≤ e) : idxs s e = s :: idxs (s + 1) e := by
  simp only [idxs]
  have : e + 1 - s = (e + 1 - (s + 1)) + 1 := by omega
  rw [this, List.range'_succ]

theorem idxs_empty (s e : Nat) (h : s > e) : idxs s e = [] := by
  simp only [idxs]
  have : e + 1 - s = 0 := by omega
  rw [this]; rfl

def FOk : FSt → Prop
  | .req s e _ => s ≤ e
  | .send s e k _ => s + k ≤ e + 1
  | .idle => True
  | .done => True

structure WF (st : St) : Prop where
  fok : ∀ f ∈ st.fs, FOk f
  pok : ∀ j ∈ st.pending, j.s ≤ j.e
  cnt : st.counter = st.processed.length
  pend : FSt.done ∈ st.fs → st.pending = []
  closed : true ∈ st.ms → allDone st.fs = true ∧ st.jobs = []

theorem allDone_get {fs : List FSt} (h : allDone fs = true) {i : Nat} {f : FSt} (hf : fs[i]? = some f) :
    f = .done := by
  have hm := List.mem_of_getElem? hf
  simp only [allDone, List.all_eq_true] at h
  have := h f hm
  simpa using this

/-- The case table of `stepF`: content of the `fetches` channel, the fetcher's state and the `jobs` channel,
    before and after. -/
inductive FStep : List Job → FSt → List Nat → List Job → FSt → List Nat → Prop
  | close (js) : FStep [] .idle js [] .done js
  | take (j rest js) : FStep (j :: rest) .idle js rest (.req j.s j.e j.script) js
  | retry {s e sc r rest} (p js) (h : serve s e sc = (r, rest)) (hr : r = none ∨ r = some 0) :
      FStep p (.req s e sc) js p (.req s e rest) js
  | got {s e sc k rest} (p js) (h : serve s e sc = (some k, rest)) (hk : k ≠ 0) :
      FStep p (.req s e sc) js p (.send s e k rest) js
  | sent {s e} (sc p js) (h : s > e) : FStep p (.send s e 0 sc) js p .idle js
  | again {s e} (sc p js) (h : ¬ s > e) : FStep p (.send s e 0 sc) js p (.req s e sc) js
  | emit (s e k sc p js) : FStep p (.send s e (k + 1) sc) js p (.send (s + 1) e k sc) (js ++ [s])

theorem stepF_idle {i : Nat} {st : St} (h : st.fs[i]? = none ∨ st.fs[i]? = some .done) : stepF i st = st := by
  unfold stepF
  rcases h with h | h <;> simp only [h]

theorem stepF_spec {i : Nat} {st : St} {f : FSt} (hi : st.fs[i]? = some f) (hne : f ≠ .done) :
    ∃ p' f' js' rq, FStep st.pending f st.jobs p' f' js' ∧
      stepF i st = { st with pending := p', fs := st.fs.set i f', jobs := js', reqlog := rq } := by
  unfold stepF
  simp only [hi]
  cases f with
  | done => exact absurd rfl hne
  | idle =>
    simp only []
    split
    · rename_i hp; rw [hp]; exact ⟨_, _, _, _, .close _, rfl⟩
    · rename_i j rest hp; rw [hp]; exact ⟨_, _, _, _, .take j rest _, rfl⟩
  | req s e sc =>
    simp only []
    split
    · rename_i rest hs; exact ⟨_, _, _, _, .retry _ _ hs (.inl rfl), rfl⟩
    · rename_i k rest hs
      split
      · rename_i hk; exact ⟨_, _, _, _, .retry _ _ hs (.inr (hk ▸ rfl)), rfl⟩
      · rename_i hk; exact ⟨_, _, _, _, .got _ _ hs hk, rfl⟩
  | send s e k sc =>
    cases k with
    | zero =>
      simp only []
      split
      · rename_i h; exact ⟨_, _, _, _, .sent sc _ _ h, rfl⟩
      · rename_i h; exact ⟨_, _, _, _, .again sc _ _ h, rfl⟩
    | succ k => exact ⟨_, _, _, _, .emit s e k sc _ _, rfl⟩

theorem fok_set {fs : List FSt} (h : ∀ f ∈ fs, FOk f) (i : Nat) (x : FSt) (hx : FOk x) :
    ∀ f ∈ fs.set i x, FOk f := by
  intro f hf
  rcases List.mem_or_eq_of_mem_set hf with h1 | rfl
  · exact h f h1
  · exact hx

def wsum (fs : List FSt) : Nat := (fs.map fWeight).sum
def unfin (ms : List Bool) : Nat := (ms.filter (fun b => !b)).length

theorem mu_eq (st : St) : mu st = (st.pending.map jobWeight).sum + wsum st.fs + st.jobs.length + unfin st.ms := rfl

theorem wsum_set (fs : List FSt) (i : Nat) (f x : FSt) (h : fs[i]? = some f) :
    wsum (fs.set i x) + fWeight f = wsum fs + fWeight x :=
  sum_map_set _ fs i f x h

theorem unfin_set (ms : List Bool) (j : Nat) (h : ms[j]? = some false) : unfin (ms.set j true) + 1 = unfin ms := by
  obtain ⟨hj, e⟩ := List.getElem?_eq_some_iff.1 h
  have hpos : 0 < ms.countP (fun b => !b) := List.countP_pos_iff.2 ⟨ms[j], List.getElem_mem hj, by rw [e]; rfl⟩
  rw [unfin, unfin, ← List.countP_eq_length_filter, ← List.countP_eq_length_filter, List.countP_set hj, e]
  exact Nat.sub_add_cancel hpos

theorem serve_cases {s e : Nat} {script rest : List Tok} {r : Option Nat} (h : serve s e script = (r, rest)) :
    (∀ k, r = some k → k ≤ e + 1 - s)
      ∧ ((script = [] ∧ rest = [] ∧ r = some (e + 1 - s)) ∨ script.length = rest.length + 1) := by
  cases script with
  | nil =>
    cases h
    exact ⟨fun k hk => Nat.le_of_eq (Option.some.inj hk).symm, .inl ⟨rfl, rfl, rfl⟩⟩
  | cons t ts =>
    cases t with
    | err => cases h; exact ⟨nofun, .inr rfl⟩
    | give n => cases h; exact ⟨fun k hk => Option.some.inj hk ▸ Nat.min_le_right _ _, .inr rfl⟩

theorem FStep.occ {p f js p' f' js'} (h : FStep p f js p' f' js') (hok : FOk f) (a : Nat) :
    psum a p' + (inflight f').count a + js'.count a = psum a p + (inflight f).count a + js.count a := by
  cases h with
  | take j rest js => simp only [psum_cons, inflight, List.count_nil]; omega
  | sent sc p js h => simp only [inflight, idxs_empty _ _ h]
  | emit s e k sc p js =>
    simp only [FOk] at hok
    simp only [inflight, idxs_cons s e (by omega), List.count_append, List.count_cons, List.count_nil]
    omega
  | _ => rfl

theorem FStep.ok {p f js p' f' js'} (h : FStep p f js p' f' js') (hok : FOk f) (hp : ∀ j ∈ p, j.s ≤ j.e) :
    FOk f' ∧ (∀ j ∈ p', j.s ≤ j.e) ∧ (f' = .done → p' = []) ∧ (p = [] → p' = []) := by
  cases h with
  | close js => exact ⟨trivial, hp, fun _ => rfl, id⟩
  | take j rest js =>
    exact ⟨hp j List.mem_cons_self, fun j' hj' => hp j' (List.mem_cons_of_mem _ hj'), nofun, nofun⟩
  | retry p js h hr => exact ⟨hok, hp, nofun, id⟩
  | got p js h hk =>
    have := (serve_cases h).1 _ rfl
    exact ⟨by simp only [FOk] at hok ⊢; omega, hp, nofun, id⟩
  | sent sc p js h => exact ⟨trivial, hp, nofun, id⟩
  | again sc p js h => exact ⟨by simp only [FOk]; omega, hp, nofun, id⟩
  | emit s e k sc p js => exact ⟨by simp only [FOk] at hok ⊢; omega, hp, nofun, id⟩

/-- Where the weights of `fWeight` come from: with `n` = entries and script tokens still to go, a fetcher passes through
    `send _ _ 0` (4n + 3), `req` (4n + 2), `send _ _ (k + 1)` (4n + 1) in this order, and an emitted entry lowers `n` by one,
    which pays for the entry added to `jobs` and for the way back up from 1 to 3 after the last entry of an answer. -/
theorem FStep.mu {p f js p' f' js'} (h : FStep p f js p' f' js') (hok : FOk f) :
    (p'.map jobWeight).sum + fWeight f' + js'.length < (p.map jobWeight).sum + fWeight f + js.length := by
  cases h with
  | close js => simp only [fWeight]; omega
  | take j rest js => simp only [List.map_cons, List.sum_cons, fWeight, jobWeight]; omega
  | retry p js h hr =>
    simp only [FOk] at hok
    rcases (serve_cases h).2 with ⟨_, _, h3⟩ | hl
    · rcases hr with rfl | rfl
      · cases h3
      · have := Option.some.inj h3; omega
    · simp only [fWeight]; omega
  | got p js h hk =>
    rcases (serve_cases h).2 with ⟨rfl, rfl, _⟩ | hl <;> simp only [fWeight, if_neg hk] <;> omega
  | sent sc p js h | again sc p js h => simp only [fWeight, if_true]; omega
  | emit s e k sc p js =>
    have hle : s ≤ e := by simp only [FOk] at hok; omega
    simp only [fWeight, Nat.add_sub_add_right, Nat.succ_sub hle, List.length_append, List.length_cons, List.length_nil,
      Nat.succ_ne_zero, if_false]
    split <;> omega

theorem FStep.ne_done {p f js p' f' js'} (h : FStep p f js p' f' js') : f ≠ .done := by
  cases h <;> nofun

/-- The case table of `step`: what a worker that can move does. -/
inductive WStep (st : St) : St → Prop
  | fetch {i : Nat} {f p' f' js'} (rq : List (Nat × Nat)) (hi : st.fs[i]? = some f)
      (hs : FStep st.pending f st.jobs p' f' js') :
      WStep st { st with pending := p', fs := st.fs.set i f', jobs := js', reqlog := rq }
  | recv {j : Nat} {x rest} (hj : st.ms[j]? = some false) (hx : st.jobs = x :: rest) :
      WStep st { st with jobs := rest, processed := x :: st.processed, counter := st.counter + 1 }
  | ret {j : Nat} (hj : st.ms[j]? = some false) (hx : st.jobs = []) (hd : allDone st.fs = true) :
      WStep st { st with ms := st.ms.set j true }

theorem step_cases (w : Worker) (st : St) :
    (enabled w st = false ∧ step w st = st) ∨ (enabled w st = true ∧ WStep st (step w st)) := by
  cases w with
  | f i =>
    show (enabled (.f i) st = false ∧ stepF i st = st) ∨ (enabled (.f i) st = true ∧ WStep st (stepF i st))
    cases hi : st.fs[i]? with
    | none => exact .inl ⟨by simp only [enabled, hi], stepF_idle (.inl hi)⟩
    | some f =>
      by_cases hd : f = .done
      · subst hd; exact .inl ⟨by simp only [enabled, hi], stepF_idle (.inr hi)⟩
      · obtain ⟨p', f', js', rq, hs, e⟩ := stepF_spec hi hd
        rw [e]
        refine .inr ⟨?_, .fetch rq hi hs⟩
        simp only [enabled, hi]
  | m j =>
    show (enabled (.m j) st = false ∧ stepM j st = st) ∨ (enabled (.m j) st = true ∧ WStep st (stepM j st))
    unfold stepM
    simp only [enabled]
    cases hj : st.ms[j]? with
    | none => exact .inl ⟨rfl, rfl⟩
    | some v =>
      cases v with
      | true => exact .inl ⟨rfl, rfl⟩
      | false =>
        cases hx : st.jobs with
        | cons x rest => exact .inr ⟨rfl, .recv hj hx⟩
        | nil =>
          cases hd : allDone st.fs with
          | true =>
            have h := WStep.ret hj hx hd
            rw [hx] at h
            exact .inr ⟨rfl, h⟩
          | false => exact .inl ⟨rfl, rfl⟩

theorem step_wf_occ (w : Worker) (st : St) (wf : WF st) :
    WF (step w st) ∧ ∀ a, occ a (step w st) = occ a st := by
  rcases step_cases w st with ⟨-, e⟩ | ⟨-, hs⟩
  · rw [e]; exact ⟨wf, fun _ => rfl⟩
  · generalize step w st = st' at hs
    cases hs with
    | @fetch i f p' f' js' rq hi hs =>
      have hok := wf.fok f (List.mem_of_getElem? hi)
      obtain ⟨hf', hp', hdone, hnil⟩ := hs.ok hok wf.pok
      refine ⟨⟨fok_set wf.fok _ _ hf', hp', wf.cnt, fun h => ?_, fun hm => ?_⟩, fun a => ?_⟩
      · rcases List.mem_or_eq_of_mem_set h with h | h
        · exact hnil (wf.pend h)
        · exact hdone h.symm
      · exact absurd (allDone_get (wf.closed hm).1 hi) hs.ne_done
      · have h1 := hs.occ hok a
        have h2 := fsum_set a st.fs i f f' hi
        simp only [occ]; omega
    | @recv j x rest hj hx =>
      refine ⟨⟨wf.fok, wf.pok, by simp [wf.cnt], wf.pend, fun hm => ?_⟩, fun a => ?_⟩
      · have := (wf.closed hm).2
        rw [hx] at this; cases this
      · simp only [occ, hx, List.count_cons]; omega
    | ret hj hx hd => exact ⟨⟨wf.fok, wf.pok, wf.cnt, wf.pend, fun _ => ⟨hd, hx⟩⟩, fun _ => rfl⟩

theorem step_wf (w : Worker) (st : St) (wf : WF st) : WF (step w st) := (step_wf_occ w st wf).1

theorem runs : Sched.Runs step run := ⟨fun _ => rfl, fun _ _ _ => rfl⟩

theorem run_wf_occ (ws : List Worker) (st : St) (wf : WF st) :
    WF (run st ws) ∧ ∀ a, occ a (run st ws) = occ a st :=
  runs.inv (P := fun s => WF s ∧ ∀ a, occ a s = occ a st)
    (fun w s h => ⟨step_wf w s h.1, fun a => ((step_wf_occ w s h.1).2 a).trans (h.2 a)⟩) ws st ⟨wf, fun _ => rfl⟩

theorem step_lengths (w : Worker) (st : St) :
    (step w st).fs.length = st.fs.length ∧ (step w st).ms.length = st.ms.length := by
  rcases step_cases w st with ⟨-, e⟩ | ⟨-, hs⟩
  · rw [e]; exact ⟨rfl, rfl⟩
  · generalize step w st = st' at hs
    cases hs with
    | fetch rq hi hs => exact ⟨List.length_set, rfl⟩
    | recv hj hx => exact ⟨rfl, rfl⟩
    | ret hj hx hd => exact ⟨rfl, List.length_set⟩

theorem run_lengths (ws : List Worker) (st : St) :
    (run st ws).fs.length = st.fs.length ∧ (run st ws).ms.length = st.ms.length :=
  runs.inv (P := fun s => s.fs.length = st.fs.length ∧ s.ms.length = st.ms.length)
    (fun w s h => ⟨(step_lengths w s).1.trans h.1, (step_lengths w s).2.trans h.2⟩) ws st ⟨rfl, rfl⟩

theorem init_wf (start stop batch nf nm : Nat) (scriptOf : Nat → List Tok) :
    WF (init start stop batch nf nm scriptOf) := by
  refine ⟨?_, ?_, rfl, ?_, ?_⟩
  · intro f hf
    simp only [init, List.mem_replicate] at hf
    rw [hf.2]; trivial
  · intro j hj
    simp only [init, List.mem_map] at hj
    obtain ⟨r, hr, rfl⟩ := hj
    exact (ranges_wf start stop batch r hr).1
  · intro h
    simp only [init, List.mem_replicate] at h
    cases h.2
  · intro h
    simp only [init, List.mem_replicate] at h
    cases h.2

theorem fsum_replicate_idle (a n : Nat) : fsum a (List.replicate n .idle) = 0 :=
  sum_map_zero _ _ fun f hf => by rw [(List.mem_replicate.1 hf).2]; rfl

theorem init_occ (a start stop batch nf nm : Nat) (scriptOf : Nat → List Tok) (hb : 0 < batch) :
    occ a (init start stop batch nf nm scriptOf) = (List.range' start (stop - start)).count a := by
  simp only [occ, init, fsum_replicate_idle, psum, List.map_map]
  rw [← ranges_cover start stop batch hb, List.count_flatMap]
  simp [Function.comp_def]

theorem fsum_allDone (a : Nat) (fs : List FSt) (h : allDone fs = true) : fsum a fs = 0 :=
  sum_map_zero _ _ fun f hf => by rw [eq_of_beq (List.all_eq_true.1 h f hf)]; rfl

theorem finished_perm (st : St) (wf : WF st) (hf : finished st = true) (hnf : 0 < st.fs.length)
    (hnm : 0 < st.ms.length) (l : List Nat) (hl : ∀ a, occ a st = l.count a) :
    st.processed.Perm l ∧ st.counter = l.length := by
  simp only [finished, Bool.and_eq_true] at hf
  have hd : FSt.done ∈ st.fs := allDone_get hf.1 (List.getElem?_eq_getElem hnf) ▸ List.getElem_mem hnf
  have ht : true ∈ st.ms := by
    have := List.all_eq_true.mp hf.2 _ (List.getElem_mem hnm)
    exact this ▸ List.getElem_mem hnm
  have hp : st.processed.Perm l := List.perm_iff_count.2 fun a => by
    rw [← hl a]
    simp only [occ, wf.pend hd, (wf.closed ht).2, fsum_allDone a st.fs hf.1, psum]
    simp
  exact ⟨hp, wf.cnt.trans hp.length_eq⟩

theorem step_mu (w : Worker) (st : St) (wf : WF st) (h : enabled w st = true) : mu (step w st) < mu st := by
  rcases step_cases w st with ⟨hd, -⟩ | ⟨-, hs⟩
  · rw [hd] at h; cases h
  · generalize step w st = st' at hs
    cases hs with
    | @fetch i f p' f' js' rq hi hs =>
      have h1 := hs.mu (wf.fok f (List.mem_of_getElem? hi))
      have h2 := wsum_set st.fs i f f' hi
      simp only [mu_eq]; omega
    | recv hj hx => simp only [mu_eq, hx, List.length_cons]; omega
    | @ret j hj hx hd =>
      have := unfin_set st.ms j hj
      simp only [mu_eq]; omega

theorem step_disabled (w : Worker) (st : St) (h : enabled w st = false) : step w st = st := by
  rcases step_cases w st with ⟨-, e⟩ | ⟨h', -⟩
  · exact e
  · rw [h] at h'; cases h'

theorem step_flags (w : Worker) (st : St) :
    (allDone st.fs = true → allDone (step w st).fs = true) ∧
    (st.ms.all (fun x => x) = true → (step w st).ms.all (fun x => x) = true) := by
  rcases step_cases w st with ⟨-, e⟩ | ⟨-, hs⟩
  · rw [e]; exact ⟨id, id⟩
  · generalize step w st = st' at hs
    cases hs with
    | fetch rq hi hs => exact ⟨fun h => absurd (allDone_get h hi) hs.ne_done, id⟩
    | recv hj hx => exact ⟨id, id⟩
    | ret hj hx hd => exact ⟨id, fun h => nomatch List.all_eq_true.1 h _ (List.mem_of_getElem? hj)⟩

theorem measured : Sched.Measured step enabled WF mu := ⟨step_wf, step_mu, fun w st _ => step_disabled w st⟩

theorem exists_enabled (st : St) (h : finished st = false) : ∃ w ∈ workers st, enabled w st = true := by
  simp only [workers, List.mem_append, List.mem_map, List.mem_range]
  by_cases hd : allDone st.fs = true
  · -- some matcher has not returned
    simp only [finished, hd, Bool.true_and] at h
    obtain ⟨b, hb, hbf⟩ := List.all_eq_false.1 h
    obtain ⟨j, hj, rfl⟩ := List.mem_iff_getElem.mp hb
    exact ⟨.m j, .inr ⟨j, hj, rfl⟩, by simp [enabled, hj, hd, Bool.eq_false_iff.2 hbf]⟩
  · obtain ⟨f, hf, hne⟩ := List.all_eq_false.1 (Bool.eq_false_iff.2 hd)
    obtain ⟨i, hi, rfl⟩ := List.mem_iff_getElem.mp hf
    have hne : st.fs[i] ≠ .done := by simpa using hne
    exact ⟨.f i, .inl ⟨i, hi, rfl⟩, by simp only [enabled, List.getElem?_eq_getElem hi]⟩

theorem finished_disabled (st : St) (h : finished st = true) (w : Worker) : enabled w st = false := by
  simp only [finished, Bool.and_eq_true] at h
  rcases step_cases w st with ⟨hd, -⟩ | ⟨-, hs⟩
  · exact hd
  · generalize step w st = st' at hs
    cases hs with
    | fetch rq hi hs => exact absurd (allDone_get h.1 hi) hs.ne_done
    | recv hj hx => exact nomatch List.all_eq_true.1 h.2 _ (List.mem_of_getElem? hj)
    | ret hj hx hd => exact nomatch List.all_eq_true.1 h.2 _ (List.mem_of_getElem? hj)

theorem roundRobin_finishes (fuel : Nat) (st : St) (wf : WF st) (hm : mu st ≤ fuel) :
    finished (roundRobin st fuel) = true :=
  measured.roundRobin_finishes runs (fun _ => rfl) (fun _ _ => rfl) (fun s _ => exists_enabled s)
    (fun s _ => finished_disabled s) fuel st wf fun _ => hm

theorem workers_run (ws : List Worker) (st : St) : workers (run st ws) = workers st := by
  have := run_lengths ws st
  simp only [workers, this.1, this.2]

theorem roundRobin_eq_run (n : Nat) : ∀ (st : St),
    roundRobin st n = run st (List.replicate n (workers st)).flatten := by
  induction n with
  | zero => intro st; rfl
  | succ n ih =>
    intro st
    simp only [roundRobin, List.replicate_succ, List.flatten_cons, runs.append]
    rw [ih, workers_run]

def AllEnabled : St → List Worker → Prop
  | _, [] => True
  | st, w :: ws => enabled w st = true ∧ AllEnabled (step w st) ws

/-! ### a worker looks neither at the counter, which it only adds to, nor behind the head of `pending`

The first is why a leftover `certsProcessed` is carried along unchanged (`run_addC`), the second why the bounded model,
whose main goroutine still holds the tail of `pending`, makes steps of this one (`ZV.C17.bstep_cases`). -/

theorem step_frame (q : List Job) (c : Nat) (w : Worker) (st : St)
    (h : ∀ i, w = .f i → st.fs[i]? = some .idle → st.pending = [] → q = []) :
    step w { st with pending := st.pending ++ q, counter := st.counter + c }
      = { step w st with pending := (step w st).pending ++ q, counter := (step w st).counter + c } := by
  cases w with
  | f i =>
    simp only [step]
    unfold stepF
    dsimp only
    split
    · rfl
    · rfl
    · rename_i hi
      cases hp : st.pending with
      | nil => cases h i rfl hi hp; rfl
      | cons j rest => rfl
    · split
      · rfl
      · rename_i k _ _
        cases k <;> rfl
    · split
      · cases Nat.decLt _ _ <;> rfl  -- the test `s > e`
      · rfl
  | m j =>
    simp only [step]
    unfold stepM
    dsimp only
    split
    · rfl
    · rfl
    · split
      · rw [Nat.add_right_comm]
      · by_cases hd : allDone st.fs = true <;> simp [hd]

def addC (c : Nat) (st : St) : St := { st with counter := st.counter + c }

theorem step_addC (c : Nat) (w : Worker) (st : St) : step w (addC c st) = addC c (step w st) := by
  simpa [addC] using step_frame [] c w st fun _ _ _ _ => rfl

theorem run_addC (c : Nat) (sched : List Worker) (st : St) : run (addC c st) sched = addC c (run st sched) := by
  induction sched generalizing st with
  | nil => rfl
  | cons w ws ih => simp only [run, step_addC, ih]

end ZV.C17
