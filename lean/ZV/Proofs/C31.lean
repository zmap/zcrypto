import ZV.Model.C31
import ZV.Proofs.Base256
/-! Ticket layout, key search, the two resumption decisions characterised (`checkForResumption12_eq_some_iff`,
`pskLoop_cons`), and the round trips of the two session-state encodings. -/
namespace ZV.C31

theorem xorWith_length (d k : Bytes) : (xorWith d k).length = d.length := by
  induction d generalizing k with
  | nil => simp [xorWith]
  | cons x xs ih => cases k <;> simp [xorWith, ih]

theorem xorWith_involutive (d k : Bytes) : xorWith (xorWith d k) k = d := by
  induction d generalizing k with
  | nil => simp [xorWith]
  | cons x xs ih => cases k <;> simp [xorWith, ih, UInt8.xor_assoc]

section layout
variable (name iv ct tag : Bytes)

theorem layout_name (hn : name.length = 16) : ticketName (name ++ iv ++ ct ++ tag) = name := by
  unfold ticketName ticketKeyNameLen
  rw [List.append_assoc, List.append_assoc]
  exact List.take_left' hn

/-- the other accessors of `decryptTicket` on a ticket laid out as key name(16) ‖ IV(16) ‖ ciphertext ‖ tag(32) -/
theorem layout (hn : name.length = 16) (hi : iv.length = 16) (ht : tag.length = 32) :
    (name ++ iv ++ ct ++ tag).length = 64 + ct.length ∧ ticketIV (name ++ iv ++ ct ++ tag) = iv ∧
    ticketBody (name ++ iv ++ ct ++ tag) = name ++ iv ++ ct ∧ ticketTag (name ++ iv ++ ct ++ tag) = tag ∧
    ticketCiphertext (name ++ iv ++ ct ++ tag) = ct := by
  have hb : ticketBody (name ++ iv ++ ct ++ tag) = name ++ iv ++ ct := by
    unfold ticketBody macLen
    rw [List.length_append, ht, Nat.add_sub_cancel]
    exact List.take_left' rfl
  refine ⟨?_, ?_, hb, ?_, ?_⟩
  · simp only [List.length_append, hn, hi, ht]
    omega
  · unfold ticketIV ticketKeyNameLen ivLen
    rw [List.append_assoc, List.append_assoc, List.drop_left' hn]
    exact List.take_left' hi
  · unfold ticketTag macLen
    rw [List.length_append, ht, Nat.add_sub_cancel]
    exact List.drop_left' rfl
  · unfold ticketCiphertext ticketKeyNameLen ivLen
    rw [hb]
    exact List.drop_left' (by rw [List.length_append, hn, hi])

end layout

theorem body_append_tag (t : Bytes) : ticketBody t ++ ticketTag t = t := by
  unfold ticketBody ticketTag
  exact List.take_append_drop _ _

theorem findKey_some {name : Bytes} {ks : List TicketKey} {i j : Nat} {k : TicketKey}
    (h : findKey name ks i = some (j, k)) :
    ∃ pre post, ks = pre ++ k :: post ∧ name = k.name ∧ (∀ k' ∈ pre, name ≠ k'.name) ∧ j = i + pre.length := by
  induction ks generalizing i with
  | nil => cases h
  | cons x xs ih =>
    unfold findKey at h
    by_cases hx : name = x.name
    · simp only [hx, if_true, Option.some.injEq, Prod.mk.injEq] at h
      obtain ⟨rfl, rfl⟩ := h
      exact ⟨[], xs, rfl, hx, nofun, rfl⟩
    · rw [if_neg hx] at h
      obtain ⟨pre, post, rfl, hn, hp, rfl⟩ := ih h
      exact ⟨x :: pre, post, rfl, hn, List.forall_mem_cons.2 ⟨hx, hp⟩, by simp; omega⟩

theorem findKey_none {name : Bytes} {ks : List TicketKey} {i : Nat} :
    findKey name ks i = none ↔ ∀ k ∈ ks, name ≠ k.name := by
  induction ks generalizing i with
  | nil => simp [findKey]
  | cons x xs ih => by_cases hx : name = x.name <;> simp [findKey, hx, ih]

theorem findKey_skip (name : Bytes) (pre : List TicketKey) (k : TicketKey) (post : List TicketKey) (i : Nat)
    (hp : ∀ k' ∈ pre, name ≠ k'.name) (hk : name = k.name) :
    findKey name (pre ++ k :: post) i = some (i + pre.length, k) := by
  induction pre generalizing i with
  | nil => simp [findKey, hk]
  | cons x xs ih =>
    obtain ⟨hx, hxs⟩ := List.forall_mem_cons.1 hp
    simp [findKey, hx, ih (i + 1) hxs]
    omega

theorem selectCipherSuite_some {sb : Nat → Option SuiteInfo} {ok : SuiteInfo → Bool} {supported ids : List Nat} {s : Nat}
    (h : selectCipherSuite sb ok supported ids = some s) :
    s ∈ ids ∧ s ∈ supported ∧ ∃ c, sb s = some c ∧ ok c = true := by
  induction ids with
  | nil => simp [selectCipherSuite] at h
  | cons id rest ih =>
    unfold selectCipherSuite at h
    have tail := fun h => (ih h).imp_left (List.mem_cons_of_mem id)
    split at h
    · exact tail h
    · rename_i c hc
      split at h
      · exact tail h
      · rename_i hok
        split at h
        · rename_i hsup
          cases h
          exact ⟨List.mem_cons_self, by simpa using hsup, c, hc, by simpa using hok⟩
        · exact tail h

/-- the way `checkForResumption` uses it: a one-element preference list -/
theorem selectCipherSuite_single {sb : Nat → Option SuiteInfo} {ok : SuiteInfo → Bool} {supported : List Nat} {id : Nat}
    {c : SuiteInfo} (hc : sb id = some c) (hok : ok c = true) (hs : id ∈ supported) :
    selectCipherSuite sb ok supported [id] = some id := by
  simp [selectCipherSuite, hc, hok, hs]

theorem certClauses_iff (a : Nat) (certs : List Bytes) :
    ((requiresClientCert a && certs.isEmpty) = false ∧ (!certs.isEmpty && a == NoClientCert) = false)
      ↔ (requiresClientCert a = true → certs ≠ []) ∧ (certs ≠ [] → a ≠ NoClientCert) := by
  cases certs <;> simp

section decision12
variable (hmac : Bytes → Bytes → Bytes) (ctr : Bytes → Bytes → Nat → Bytes)

/-- the checks of `checkForResumption`, in the order the code makes them -/
theorem checkForResumption12_eq_some_iff (suiteByID : Nat → Option SuiteInfo) (x : Ctx12) (keys : List TicketKey)
    (ticket : Bytes) (st : SessionState) (suite : Nat) :
    checkForResumption12 hmac ctr suiteByID x keys ticket = some (st, suite) ↔
      x.ticketsDisabled = false ∧
      (∃ p, decryptTicket hmac ctr keys ticket = some p ∧ SessionState.unmarshal p.2 p.1 = some st) ∧
      ticketExpired x.now st.createdAt = false ∧ x.vers = st.vers ∧ st.cipherSuite ∈ x.clientSuites ∧
      selectCipherSuite suiteByID (cipherSuiteOk x) x.serverSuites [st.cipherSuite] = some suite ∧
      (requiresClientCert x.clientAuth = true → st.certificates ≠ []) ∧
      (st.certificates ≠ [] → x.clientAuth ≠ NoClientCert) := by
  rw [← certClauses_iff]
  unfold checkForResumption12
  cases x.ticketsDisabled with
  | true => simp only [if_true, reduceCtorEq, false_and]
  | false =>
    simp only [Bool.false_eq_true, if_false, true_and]
    cases decryptTicket hmac ctr keys ticket with
    | none => simp only [reduceCtorEq, false_and, exists_const]
    | some p =>
      simp only [Option.some.injEq, exists_eq_left']
      cases hu : SessionState.unmarshal p.2 p.1 with
      | none => simp only [reduceCtorEq, false_and]
      | some st' =>
        simp only [Option.ite_none_left_eq_some, Option.some.injEq]
        constructor
        · rintro ⟨h2, h3, h4, h⟩
          cases hs : selectCipherSuite suiteByID (cipherSuiteOk x) x.serverSuites [st'.cipherSuite] with
          | none => simp [hs] at h
          | some s =>
            simp only [hs, Option.ite_none_left_eq_some, Option.some.injEq, Prod.mk.injEq] at h
            obtain ⟨h5, h6, rfl, rfl⟩ := h
            simp at h2 h3 h4 h5 h6 ⊢
            exact ⟨h2, h3, h4, hs, h5, h6⟩
        · rintro ⟨rfl, h2, h3, h4, hs, h5, h6⟩
          simp [h2, h3, h4, hs, h5, h6]

end decision12

section decision13
variable (hmac : Bytes → Bytes → Bytes) (ctr : Bytes → Bytes → Nat → Bytes)

/-- the session behind one PSK identity: its ticket opened, if that passes the checks `pskLoop` makes before the
    binder -/
def pskCandidate (hash13 : Nat → Option Nat) (x : Ctx13) (keys : List TicketKey) (label : Bytes) :
    Option SessionState13 :=
  ((decryptTicket hmac ctr keys label).bind fun p => SessionState13.unmarshal p.1).filter fun st =>
    !ticketExpired x.now st.createdAt && hash13 st.cipherSuite == some x.negHash &&
      !(requiresClientCert x.clientAuth && st.certificate.certificates.isEmpty) &&
      !(!st.certificate.certificates.isEmpty && x.clientAuth == NoClientCert)

theorem pskCandidate_eq_some_iff (hash13 : Nat → Option Nat) (x : Ctx13) (keys : List TicketKey) (label : Bytes)
    (st : SessionState13) :
    pskCandidate hmac ctr hash13 x keys label = some st ↔
      (∃ p, decryptTicket hmac ctr keys label = some p ∧ SessionState13.unmarshal p.1 = some st) ∧
      ticketExpired x.now st.createdAt = false ∧ hash13 st.cipherSuite = some x.negHash ∧
      (requiresClientCert x.clientAuth = true → st.certificate.certificates ≠ []) ∧
      (st.certificate.certificates ≠ [] → x.clientAuth ≠ NoClientCert) := by
  simp only [← certClauses_iff, pskCandidate, Option.filter_eq_some_iff, Option.bind_eq_some_iff, Bool.and_eq_true,
    Bool.not_eq_true', beq_iff_eq, and_assoc]

theorem pskLoop_cons (hash13 : Nat → Option Nat) (binderOk : Nat → SessionState13 → Bool) (x : Ctx13)
    (keys : List TicketKey) (i : Nat) (label : Bytes) (rest : List Bytes) :
    pskLoop hmac ctr hash13 binderOk x keys i (label :: rest) =
      if i ≥ maxClientPSKIdentities then .noPSK
      else match pskCandidate hmac ctr hash13 x keys label with
        | none => pskLoop hmac ctr hash13 binderOk x keys (i + 1) rest
        | some st => if binderOk i st then .accept i st else .errBinder i := by
  rw [pskLoop, pskCandidate]
  congr 1
  cases decryptTicket hmac ctr keys label with
  | none => rfl
  | some p =>
    obtain ⟨pt, old⟩ := p
    dsimp only [Option.bind_some]
    cases SessionState13.unmarshal pt with
    | none => rfl
    | some st =>
      dsimp only
      rw [Option.filter_some]
      -- with the Boolean tests as variables the two sides differ only in how they spell `e || a || b` and the hash comparison
      generalize ticketExpired x.now st.createdAt = e
      generalize (requiresClientCert x.clientAuth && st.certificate.certificates.isEmpty) = a
      generalize (!st.certificate.certificates.isEmpty && x.clientAuth == NoClientCert) = b
      cases e with
      | true => rfl
      | false =>
        cases hash13 st.cipherSuite with
        | none => rfl
        | some h =>
          dsimp only
          by_cases hh : h = x.negHash
          · rw [if_neg (not_not_intro hh), hh, beq_self_eq_true]
            cases a <;> cases b <;> rfl
          · rw [if_pos hh, beq_false_of_ne fun e => hh (Option.some.inj e)]
            rfl

/-- the guards in front of the identities loop (on no identities the loop says `noPSK` itself) -/
theorem checkForResumption13_cases (hash13 : Nat → Option Nat) (binderOk : Nat → SessionState13 → Bool) (x : Ctx13)
    (keys : List TicketKey) (ids : List Bytes) (d : Dec13)
    (h : checkForResumption13 hmac ctr hash13 binderOk x keys ids = d) :
    d = .noPSK ∨ d = .errBinders ∨
      x.ticketsDisabled = false ∧ pskModeDHE ∈ x.pskModes ∧ ids.length = x.nBinders ∧
        pskLoop hmac ctr hash13 binderOk x keys 0 ids = d := by
  subst h
  unfold checkForResumption13
  cases x.ticketsDisabled with
  | true => exact .inl rfl
  | false =>
    cases hm : x.pskModes.contains pskModeDHE with
    | false => exact .inl rfl
    | true =>
      by_cases hlen : ids.length = x.nBinders
      · refine .inr (.inr ⟨rfl, List.contains_iff_mem.1 hm, hlen, ?_⟩)
        rw [if_neg (not_not_intro hlen)]
        cases ids <;> rfl
      · exact .inr (.inl (if_pos hlen))

end decision13

theorem rotateAuto_ok {c c' : KeyCfg} {rand rand' : List Bytes} {now : Int} {ks : List AKey}
    (h : rotateAuto c rand now = .ok (c', rand', ks)) :
    c'.auto = ks ∧ (ks = c.auto ∧ autoFresh c.auto now = true ∨
      ∃ r, ks = (ticketKeyFromBytes r, now) :: c.auto.filter fun k => decide (now - k.2 < ticketKeyLifetime)) := by
  unfold rotateAuto at h
  by_cases hf : autoFresh c.auto now = true
  · rw [if_pos hf] at h
    cases h
    exact ⟨rfl, .inl ⟨rfl, hf⟩⟩
  · rw [if_neg hf] at h
    cases rand with
    | nil => cases h
    | cons r rest =>
      cases h
      exact ⟨rfl, .inr ⟨r, rfl⟩⟩

theorem natBE_eq (n v : Nat) : natBE n v = fixBE n v := by
  induction n with
  | zero => rfl
  | succ n ih => exact congrArg (_ :: ·) ih

theorem natBE_length (n v : Nat) : (natBE n v).length = n := by
  rw [natBE_eq, fixBE_length]

theorem beNat_eq_foldl (bs : Bytes) (acc : Nat) : beNat bs acc = bs.foldl (fun a b => a * 256 + b.toNat) acc := by
  induction bs generalizing acc with
  | nil => rfl
  | cons b r ih => exact ih _

theorem beNat_natBE (n v : Nat) : beNat (natBE n v) 0 = v % 256 ^ n := by
  rw [natBE_eq]
  exact (beNat_eq_foldl _ 0).trans (be256_fixBE n v)

theorem readUint_natBE (n v : Nat) (rest : Bytes) (hv : v < 256 ^ n) :
    readUint n (natBE n v ++ rest) = some (v, rest) := by
  unfold readUint
  rw [if_neg (by simp [natBE_length])]
  rw [List.take_left' (natBE_length n v), List.drop_left' (natBE_length n v), beNat_natBE, Nat.mod_eq_of_lt hv]

theorem readVec_append (n : Nat) (c rest : Bytes) (hc : c.length < 256 ^ n) :
    readVec n (natBE n c.length ++ c ++ rest) = some (c, rest) := by
  unfold readVec
  rw [List.append_assoc, readUint_natBE n c.length _ hc]
  have hl : ¬ (c ++ rest).length < c.length := by simp
  simp only [hl, if_false]
  rw [List.take_left' rfl, List.drop_left' rfl]

/-- the certificate list as `marshal` writes it -/
def certsBytes12 : List Bytes → Bytes
  | [] => []
  | c :: cs => natBE 3 c.length ++ c ++ certsBytes12 cs

theorem marshalCerts12_ok (certs : List Bytes) (h : ∀ c ∈ certs, c.length < 256 ^ 3) :
    marshalCerts12 certs = .ok (certsBytes12 certs) := by
  induction certs with
  | nil => rfl
  | cons c cs ih =>
    obtain ⟨hc, hcs⟩ := List.forall_mem_cons.1 h
    simp [marshalCerts12, addVec, hc, ih hcs, resAppend, certsBytes12]

theorem parseCerts12_certsBytes (certs : List Bytes) (h : ∀ c ∈ certs, c.length < 256 ^ 3) (fuel : Nat)
    (hf : (certsBytes12 certs).length ≤ fuel) : parseCerts12 fuel (certsBytes12 certs) = some certs := by
  induction certs generalizing fuel with
  | nil => cases fuel <;> rfl
  | cons c cs ih =>
    obtain ⟨hc, hcs⟩ := List.forall_mem_cons.1 h
    simp only [certsBytes12, List.length_append, natBE_length] at hf
    cases fuel with
    | zero => omega
    | succ fuel =>
      -- the encoding starts with a length byte, so the loop takes its third branch
      rw [certsBytes12, parseCerts12, readVec_append 3 c _ hc]
      · simp only [ih hcs fuel (by omega)]
      · simp [natBE]

/-- the field bounds under which `sessionState.marshal` does not panic and `unmarshal` accepts the result -/
structure SessionState.Bounded (s : SessionState) : Prop where
  vers : s.vers < 256 ^ 2
  suite : s.cipherSuite < 256 ^ 2
  created : s.createdAt < 256 ^ 8
  msNonempty : s.masterSecret ≠ []
  ms : s.masterSecret.length < 256 ^ 2
  cert : ∀ c ∈ s.certificates, c.length < 256 ^ 3
  certs : (certsBytes12 s.certificates).length < 256 ^ 3

/-- the bytes `marshal` produces -/
def SessionState.bytes (s : SessionState) : Bytes :=
  natBE 2 s.vers ++ (natBE 2 s.cipherSuite ++ (natBE 8 s.createdAt ++
    (natBE 2 s.masterSecret.length ++ s.masterSecret ++
      (natBE 3 (certsBytes12 s.certificates).length ++ certsBytes12 s.certificates ++ []))))

theorem SessionState.unmarshal_bytes (s : SessionState) (b : s.Bounded) (old : Bool) :
    SessionState.unmarshal old s.bytes = some { s with usedOldKey := old } := by
  simp only [SessionState.unmarshal, SessionState.bytes, readUint_natBE, readVec_append, b.vers, b.suite, b.created,
    b.ms, b.certs, List.isEmpty_eq_false_iff.2 b.msNonempty, parseCerts12_certsBytes _ b.cert _ (Nat.le_refl _),
    List.isEmpty_nil, if_true, Bool.false_eq_true, if_false]

/-- certificate entries as `marshalCertificate` writes them when there is no OCSP staple and no SCT list -/
def certEntries13 : List Bytes → Bytes
  | [] => []
  | c :: cs => natBE 3 c.length ++ c ++ (natBE 2 0 ++ certEntries13 cs)

theorem marshalCertEntries_plain (c : Cert13) (ho : c.ocsp = none) (hs : c.scts = none) (first : Bool) (certs : List Bytes)
    (h : ∀ x ∈ certs, x.length < 256 ^ 3) : marshalCertEntries c first certs = .ok (certEntries13 certs) := by
  induction certs generalizing first with
  | nil => rfl
  | cons x xs ih =>
    obtain ⟨hx, hxs⟩ := List.forall_mem_cons.1 h
    cases first <;> simp [marshalCertEntries, leafExtensions, ho, hs, addVec, hx, ih false hxs, resAppend, certEntries13]

theorem parseExtensions_nil (fuel : Nat) (leaf : Bool) (st : Option Bytes × List Bytes) :
    parseExtensions fuel leaf [] st = some st := by
  cases fuel <;> rfl

theorem parseCertEntries_plain (certs : List Bytes) (h : ∀ x ∈ certs, x.length < 256 ^ 3) (fuel n : Nat)
    (st : Option Bytes × List Bytes) (hf : (certEntries13 certs).length ≤ fuel) :
    parseCertEntries fuel n (certEntries13 certs) st = some (certs, st.1, st.2) := by
  induction certs generalizing fuel n with
  | nil => cases fuel <;> rfl
  | cons x xs ih =>
    obtain ⟨hx, hxs⟩ := List.forall_mem_cons.1 h
    simp only [certEntries13, List.length_append, natBE_length] at hf
    have h2 : readVec 2 (natBE 2 0 ++ certEntries13 xs) = some ([], certEntries13 xs) :=
      readVec_append 2 [] _ (by decide)
    cases fuel with
    | zero => omega
    | succ fuel =>
      rw [certEntries13, parseCertEntries, readVec_append 3 x _ hx]
      · simp only [h2, List.length_nil, parseExtensions_nil, ih hxs fuel (n + 1) (by omega)]
      · simp [natBE]

/-- bounds for the round trip of `sessionStateTLS13` (PARTIAL: no OCSP staple / SCT list stored) -/
structure SessionState13.Bounded (s : SessionState13) : Prop where
  suite : s.cipherSuite < 256 ^ 2
  created : s.createdAt < 256 ^ 8
  secNonempty : s.resumptionSecret ≠ []
  sec : s.resumptionSecret.length < 256 ^ 1
  noOcsp : s.certificate.ocsp = none
  noScts : s.certificate.scts = none
  cert : ∀ c ∈ s.certificate.certificates, c.length < 256 ^ 3
  certs : (certEntries13 s.certificate.certificates).length < 256 ^ 3

def SessionState13.bytes (s : SessionState13) : Bytes :=
  natBE 2 0x0304 ++ (natBE 1 0 ++ (natBE 2 s.cipherSuite ++ (natBE 8 s.createdAt ++
    (natBE 1 s.resumptionSecret.length ++ s.resumptionSecret ++
      (natBE 3 (certEntries13 s.certificate.certificates).length ++ certEntries13 s.certificate.certificates ++ [])))))

theorem SessionState13.marshal_ok (s : SessionState13) (b : s.Bounded) : s.marshal = .ok s.bytes := by
  unfold SessionState13.marshal SessionState13.bytes marshalCertificate
  rw [marshalCertEntries_plain _ b.noOcsp b.noScts true _ b.cert]
  simp [addVec, b.sec, b.certs, resAppend]

theorem SessionState13.unmarshal_bytes (s : SessionState13) (b : s.Bounded) :
    SessionState13.unmarshal s.bytes = some s := by
  have h2 : 0x0304 < 256 ^ 2 := by decide
  have h1 : 0 < 256 ^ 1 := by decide
  simp only [SessionState13.unmarshal, SessionState13.bytes, unmarshalCertificate, readUint_natBE, readVec_append,
    h1, h2, b.suite, b.created, b.sec, b.certs, List.isEmpty_eq_false_iff.2 b.secNonempty,
    parseCertEntries_plain _ b.cert _ _ _ (Nat.le_refl _), ← b.noOcsp, ← b.noScts,
    List.isEmpty_nil, if_true, Bool.false_eq_true, if_false, ne_eq, not_true_eq_false]

end ZV.C31
