import ZV.Model.C24
/-!
  `deprioritizeAES` as Go runs it for ≤ 20 ids (one insertion sort with the comparator `less`):
  order facts about `bubble` / `insertionSortRev`, for ANY content of the two id tables behind `less`.
  The accumulator is the already sorted prefix REVERSED, so "`[b, a] <+ acc`" reads "a stands before b".
  What the sort does to the order is ONE statement, `insertionSortRev_moved`: against plain reversal onto the
  accumulator the result is a permutation in which a pair changes its order only if the comparator asks for it
  (`Moved`); `bubble` and the sort are runs of swaps of two neighbours the comparator allows.
-/
namespace ZV.C24

theorem pair_sublist_cons {b a p : Nat} {l : List Nat} (h : [b, a].Sublist (p :: l)) :
    [b, a].Sublist l ∨ (b = p ∧ a ∈ l) := by
  rcases List.sublist_cons_iff.mp h with h' | ⟨r, hr, h'⟩
  · exact Or.inl h'
  · cases hr
    exact Or.inr ⟨rfl, List.singleton_sublist.mp h'⟩

theorem pair_cons_of_mem {p a : Nat} {l : List Nat} (h : a ∈ l) : [p, a].Sublist (p :: l) :=
  List.cons_sublist_cons.mpr (List.singleton_sublist.mpr h)

/-- `acc`, a reversed sorted prefix, against `L`, what has been read so far in reverse: the same ids; a pair of `L` keeps
    its order unless the comparator says otherwise (stability); a pair of `acc` has the order it had in `L` unless the
    comparator put it that way -/
structure Moved (L acc : List Nat) : Prop where
  perm : acc.Perm L
  stable : ∀ b a, [b, a].Sublist L → less b a = false → [b, a].Sublist acc
  pairs : ∀ b a, [b, a].Sublist acc → [b, a].Sublist L ∨ less a b = true

namespace Moved
variable {L M acc : List Nat}

theorem refl (L : List Nat) : Moved L L :=
  ⟨.refl _, fun _ _ h _ => h, fun _ _ h => Or.inl h⟩

theorem trans (h1 : Moved L M) (h2 : Moved M acc) : Moved L acc :=
  ⟨h2.perm.trans h1.perm, fun b a hs hn => h2.stable b a (h1.stable b a hs hn) hn,
    fun b a hs => (h2.pairs b a hs).elim (h1.pairs b a) Or.inr⟩

theorem cons (p : Nat) (h : Moved L acc) : Moved (p :: L) (p :: acc) := by
  refine ⟨h.perm.cons p, fun b a hs hn => ?_, fun b a hs => ?_⟩
  · rcases pair_sublist_cons hs with h' | ⟨rfl, ha⟩
    · exact (h.stable b a h' hn).trans (List.sublist_cons_self _ _)
    · exact pair_cons_of_mem (h.perm.mem_iff.mpr ha)
  · rcases pair_sublist_cons hs with h' | ⟨rfl, ha⟩
    · exact (h.pairs b a h').imp_left fun h2 => h2.trans (List.sublist_cons_self _ _)
    · exact Or.inl (pair_cons_of_mem (h.perm.mem_iff.mp ha))

theorem swap {x p : Nat} (h : less x p = true) (ps : List Nat) : Moved (x :: p :: ps) (p :: x :: ps) := by
  refine ⟨.swap x p ps, fun b a hs hn => ?_, fun b a hs => ?_⟩
  · rcases pair_sublist_cons hs with h' | ⟨rfl, ha⟩
    · exact h'.trans (List.cons_sublist_cons.mpr (List.sublist_cons_self _ _))
    · rcases List.mem_cons.mp ha with rfl | ha
      · rw [h] at hn
        cases hn
      · exact (pair_cons_of_mem ha).trans (List.sublist_cons_self _ _)
  · rcases pair_sublist_cons hs with h' | ⟨rfl, ha⟩
    · exact Or.inl (h'.trans (List.cons_sublist_cons.mpr (List.sublist_cons_self _ _)))
    · rcases List.mem_cons.mp ha with rfl | ha
      · exact Or.inr h
      · exact Or.inl ((pair_cons_of_mem ha).trans (List.sublist_cons_self _ _))

end Moved

theorem bubble_moved (x : Nat) (acc : List Nat) : Moved (x :: acc) (bubble x acc) := by
  induction acc with
  | nil => exact .refl _
  | cons p ps ih =>
    simp only [bubble]
    split
    · rename_i hxp
      exact (Moved.swap hxp ps).trans (ih.cons p)
    · exact .refl _

theorem insertionSortRev_moved {L acc : List Nat} (h : Moved L acc) (l : List Nat) :
    Moved (l.reverse ++ L) (insertionSortRev acc l) := by
  induction l generalizing L acc with
  | nil => exact h
  | cons x xs ih =>
    rw [List.reverse_cons, List.append_assoc]
    exact ih ((h.cons x).trans (bubble_moved x acc))

/-- reversed prefix: each element is not `less` than the one before it -/
def AdjRev : List Nat → Prop
  | p :: q :: t => less p q = false ∧ AdjRev (q :: t)
  | _ => True

theorem less_flip_false (hd : ∀ x, nonAESGCMAEAD x = true → isAESGCM x = false) {x p : Nat} (h : less x p = true) :
    less p x = false := by
  unfold less at *
  simp only [Bool.and_eq_true] at h
  simp [hd x h.1]

theorem bubble_adj (hd : ∀ x, nonAESGCMAEAD x = true → isAESGCM x = false) (x : Nat) (acc : List Nat)
    (h : AdjRev acc) : AdjRev (bubble x acc) := by
  induction acc with
  | nil => simp [bubble, AdjRev]
  | cons p ps ih =>
    simp only [bubble]
    split
    · rename_i hxp
      cases ps with
      | nil => exact ⟨less_flip_false hd hxp, trivial⟩
      | cons p' t =>
        have ih' := ih h.2
        simp only [bubble] at ih' ⊢
        split
        · rename_i hxp'
          simp only [hxp', if_true] at ih'
          exact ⟨h.1, ih'⟩
        · rename_i hxp'
          simp only [hxp'] at ih'
          exact ⟨less_flip_false hd hxp, ih'⟩
    · rename_i hxp
      exact ⟨by simpa using hxp, h⟩

theorem insertionSortRev_adj (hd : ∀ x, nonAESGCMAEAD x = true → isAESGCM x = false) (acc l : List Nat)
    (h : AdjRev acc) : AdjRev (insertionSortRev acc l) := by
  induction l generalizing acc with
  | nil => simpa [insertionSortRev] using h
  | cons x xs ih => exact ih _ (bubble_adj hd x acc h)

theorem AdjRev_at : ∀ (A : List Nat) (q p : Nat) (B : List Nat), AdjRev (A ++ q :: p :: B) → less q p = false
  | [], _, _, _, h => h.1
  | [_], _, _, _, h => AdjRev_at [] _ _ _ h.2
  | _ :: a' :: A, q, p, B, h => AdjRev_at (a' :: A) q p B h.2

/-- the hypothesis speaks of what has been placed and what is still to come as ONE list, so it is its own induction
    hypothesis -/
theorem insertionSortRev_fixed (l acc : List Nat)
    (h : ∀ pre p q post, acc.reverse ++ l = pre ++ p :: q :: post → less q p = false) :
    insertionSortRev acc l = l.reverse ++ acc := by
  induction l generalizing acc with
  | nil => rfl
  | cons x xs ih =>
    have hb : bubble x acc = x :: acc := by
      cases acc with
      | nil => rfl
      | cons p ps => simp [bubble, h ps.reverse p x xs (by simp)]
    rw [insertionSortRev, hb, ih (x :: acc) fun pre p q post e => h pre p q post (by simpa using e)]
    simp

theorem deprio_eq_some {l r : List Nat} : deprio l = some r ↔ l.length ≤ 20 ∧ r = (insertionSortRev [] l).reverse := by
  unfold deprio
  split <;> simp [*, eq_comm]

theorem deprio_moved {l r : List Nat} (h : deprio l = some r) :
    r.Perm l ∧ (∀ a b, [a, b].Sublist l → less b a = false → [a, b].Sublist r) ∧
      (∀ a b, [a, b].Sublist r → [a, b].Sublist l ∨ less a b = true) := by
  obtain ⟨_, rfl⟩ := deprio_eq_some.mp h
  have m := insertionSortRev_moved (.refl []) l
  rw [List.append_nil] at m
  refine ⟨(List.reverse_perm _).trans (m.perm.trans (List.reverse_perm _)), fun a b hs hn => ?_, fun a b hs => ?_⟩
  · exact List.sublist_reverse_iff.mpr (m.stable b a (List.sublist_reverse_iff.mpr hs) hn)
  · exact (m.pairs b a (List.sublist_reverse_iff.mp hs)).imp_left List.sublist_reverse_iff.mp

end ZV.C24
