import ZV.Model.C05
import ZV.Proofs.C04
import ZV.Proofs.C04Int
import ZV.Proofs.C04Oid
/-! Lemmas for C05: INTEGER / ENUMERATED contents of any size, the revocation time, the entry-extension codec, the
    reason scan lifted from OID arcs to content octets, and the entry round trip (`parseEntry_build`). -/
namespace ZV.C05
open ZV ZV.Der ZV.C06 ZV.C04

theorem bigint_fits (v : Int) :
    -(128 * (256 : Int) ^ (v.natAbs.log2 + 2)) ≤ v ∧ v < 128 * (256 : Int) ^ (v.natAbs.log2 + 2) := by
  have h2 : 2 ^ (v.natAbs.log2 + 1) ≤ 2 ^ (8 * (v.natAbs.log2 + 2)) :=
    Nat.pow_le_pow_right (by decide) (Nat.le_trans (Nat.le_succ _) (Nat.le_mul_of_pos_left _ (by decide)))
  rw [Nat.pow_mul] at h2
  have hP : (v.natAbs : Int) < 128 * (256 : Int) ^ (v.natAbs.log2 + 2) :=
    Int.natCast_pow 256 _ ▸ Int.natCast_mul 128 _ ▸
      Int.ofNat_lt.mpr (Nat.lt_of_lt_of_le (Nat.lt_of_lt_of_le Nat.lt_log2_self h2) (Nat.le_mul_of_pos_left _ (by decide)))
  have hn : -(v.natAbs : Int) ≤ v := Int.neg_le_of_neg_le (Int.natAbs_neg v ▸ Int.le_natAbs (a := -v))
  exact ⟨Int.le_trans (Int.neg_le_neg (Int.le_of_lt hP)) hn, Int.lt_of_le_of_lt Int.le_natAbs hP⟩

theorem encBigInt_der0 (v : Int) : encBigInt v = Der0.intBytes v (Der0.intLen v) :=
  encFuel_eq _ v (bigint_fits v).1 (bigint_fits v).2

theorem parseBigInt_der0 (bs : Bytes) : parseBigInt bs = Der0.EA.parseBigInt bs := by
  rw [parseBigInt, Der0.EA.parseBigInt, checkInteger_eq, intOfBytes_eq, Der0.bigOfBytes_eq_twos]
  cases Der0.checkInteger bs <;> rfl

theorem parseBigInt_iff {bs : Bytes} {v : Int} : parseBigInt bs = .ok v ↔ bs = encBigInt v := by
  rw [parseBigInt_der0, encBigInt_der0, ← Der0.bigIntBytes_eq]
  exact Der0.EA.parseBigInt_ok

theorem parseBigInt_encBigInt (v : Int) : parseBigInt (encBigInt v) = .ok v := parseBigInt_iff.mpr rfl

theorem encBigInt_length (v : Int) : (encBigInt v).length = Der0.intLen v := by
  rw [encBigInt_der0, Der0.intBytes_length]

/-- 14 octets, the first four ASCII digits (the year; the remaining ten are copied verbatim by both sides) -/
def validTime (t : Bytes) : Bool :=
  t.length == 14 && (t.take 4).all (fun d => decide (48 ≤ d.toNat) && decide (d.toNat ≤ 57))

theorem timeDigits_utc (body : Bytes) (h : body.length = 13) :
    timeDigits (elemOf 0x17 body) = .ok ((if yearOf ([0x30, 0x30] ++ body.take 2) ≥ 50 then [0x31, 0x39] else [0x32, 0x30])
      ++ body.take 12) := by
  unfold timeDigits
  exact if_pos ⟨rfl, rfl, rfl, h⟩

theorem timeDigits_gen (body : Bytes) (h : body.length = 15) :
    timeDigits (elemOf 0x18 body) = .ok (body.take 14) := by
  unfold timeDigits
  rw [if_neg (fun hp => nomatch hp.2.1)]
  exact if_pos ⟨rfl, rfl, rfl, h⟩

theorem yearOf_cons (a b c d : UInt8) (r : Bytes) :
    yearOf (a :: b :: c :: d :: r) =
      ((a.toNat - 48) * 10 + (b.toNat - 48)) * 100 + ((c.toNat - 48) * 10 + (d.toNat - 48)) := by
  simp only [yearOf, List.take, List.foldl, Nat.zero_mul, Nat.zero_add, Nat.add_mul, Nat.mul_assoc, Nat.add_assoc]

theorem century {x y Y : Nat} (hy : y ≤ 9) (hY : Y ≤ 99)
    (h : 1950 ≤ (x * 10 + y) * 100 + Y ∧ (x * 10 + y) * 100 + Y < 2050) :
    if 50 ≤ Y then x = 1 ∧ y = 9 else x = 2 ∧ y = 0 := by
  split <;> omega

/-- UTCTime for 1950..2049, where the reader restores the century from the two-digit year (`century`); GeneralizedTime
    otherwise. -/
theorem encTime_decode (t : Bytes) (h : validTime t = true) :
    ∃ tag body, encTime t = writeTLV tag body ∧ tag.toNat % 32 ≠ 31 ∧ timeDigits (elemOf tag body) = .ok t := by
  simp only [validTime, Bool.and_eq_true, beq_iff_eq] at h
  obtain ⟨hl, hd⟩ := h
  match t, hl, hd with
  | a :: b :: c :: d :: r, hl, hd =>
    simp only [List.take, List.all_cons, List.all_nil, Bool.and_true, Bool.and_eq_true, decide_eq_true_eq] at hd
    have h12 : (c :: d :: r).length = 12 := Nat.succ.inj (Nat.succ.inj hl)
    simp only [encTime, yearOf_cons]
    split
    · rename_i hc
      have hu : (c :: d :: r ++ [0x5a]).length = 13 := List.length_append.trans (congrArg (· + 1) h12)
      refine ⟨0x17, c :: d :: r ++ [0x5a], rfl, by decide, ?_⟩
      have hyy : yearOf ([0x30, 0x30] ++ (c :: d :: r ++ [0x5a]).take 2) = (c.toNat - 48) * 10 + (d.toNat - 48) :=
        (yearOf_cons 0x30 0x30 c d []).trans (Nat.zero_add _)
      rw [timeDigits_utc _ hu, List.take_left' h12, hyy]
      have := century (Nat.sub_le_of_le_add hd.2.1.2)
        (Nat.add_le_add (Nat.mul_le_mul_right 10 (Nat.sub_le_of_le_add hd.2.2.1.2)) (Nat.sub_le_of_le_add hd.2.2.2.2) :
          _ ≤ 9 * 10 + 9) hc
      split at this
      · rw [if_pos ‹_›, (UInt8.toNat_inj (b := 0x31)).mp (Nat.eq_add_of_sub_eq hd.1.1 this.1),
          (UInt8.toNat_inj (b := 0x39)).mp (Nat.eq_add_of_sub_eq hd.2.1.1 this.2)]; rfl
      · rw [if_neg ‹_›, (UInt8.toNat_inj (b := 0x32)).mp (Nat.eq_add_of_sub_eq hd.1.1 this.1),
          (UInt8.toNat_inj (b := 0x30)).mp (Nat.eq_add_of_sub_eq hd.2.1.1 this.2)]; rfl
    · have hg : (a :: b :: c :: d :: r ++ [0x5a]).length = 15 := List.length_append.trans (congrArg (· + 1) hl)
      refine ⟨0x18, _, rfl, by decide, ?_⟩
      rw [timeDigits_gen _ hg]
      exact congrArg Res.ok (List.take_left' hl)

/-- content octets of the extension's OID ([] when `makeObjectIdentifier` rejects it — then `encExtension` fails) -/
def oidC (x : EExt) : Bytes := (encOID x.oid).getD []

/-- the body of the `Extension` SEQUENCE -/
def extBody (x : EExt) : Bytes :=
  writeTLV 0x06 (oidC x) ++ (if x.critical then writeTLV 0x01 [0xff] else []) ++ writeTLV 0x04 x.value

theorem encExtension_eq {x : EExt} {b : Bytes} (h : encExtension x = some b) :
    encOID x.oid = some (oidC x) ∧ b = writeTLV 0x30 (extBody x) := by
  unfold encExtension at h
  cases ho : encOID x.oid with
  | none => simp [ho] at h
  | some o =>
    simp only [ho, Option.some.injEq] at h
    exact ⟨by simp [oidC, ho], by rw [← h]; simp [extBody, oidC, ho, tlv]⟩

theorem mapM_some_map {α β} (f : α → Option β) (g : α → β) (P : α → Prop)
    (hfg : ∀ a b, f a = some b → b = g a ∧ P a) (l : List α) (bs : List β) (h : l.mapM f = some bs) :
    bs = l.map g ∧ ∀ a ∈ l, P a := by
  have hl : ∀ a ∈ l, f a = some (g a) ∧ P a := fun a ha => by
    obtain ⟨b, _, hb⟩ := List.mem_map.mp (mapM_eq_some.mp h ▸ List.mem_map_of_mem ha)
    obtain ⟨rfl, p⟩ := hfg a b hb.symm
    exact ⟨hb.symm, p⟩
  refine ⟨Option.some.inj (h.symm.trans (mapM_eq_some.mpr ?_)), fun a ha => (hl a ha).2⟩
  rw [List.map_map]
  exact List.map_inj_left.mpr fun a ha => (hl a ha).1

theorem mapM_encExtension {l : List EExt} {xs : List Bytes} (h : l.mapM encExtension = some xs) :
    xs = l.map (fun x => writeTLV 0x30 (extBody x)) ∧ ∀ x ∈ l, encOID x.oid = some (oidC x) :=
  mapM_some_map encExtension (fun x => writeTLV 0x30 (extBody x)) (fun x => encOID x.oid = some (oidC x))
    (fun _ _ hab => ⟨(encExtension_eq hab).2, (encExtension_eq hab).1⟩) l xs h

theorem extBody_bound {l : List EExt} {N : Nat}
    (h : (writeTLV 0x30 ((l.map fun x => writeTLV 0x30 (extBody x)).flatten)).length < N) :
    ∀ x ∈ l, (extBody x).length < N :=
  fun x hx => lt_of_writeTLV ((tlvs_bounds _ _ _ _ h).2 x hx)

theorem parseEExt_build (x : EExt) (hv : validOID (oidC x) = true) (hl : (extBody x).length < 2147483648) :
    parseEExt (elemOf 0x30 (extBody x)) = .ok (oidC x, x.critical, x.value) := by
  simp only [extBody, List.length_append] at hl
  obtain ⟨hc, hval⟩ := extBody_tail x.critical x.value (lt_of_writeTLV_le (Nat.le_add_left _ _) hl)
  simp only [parseEExt, extBody, elemOf_body, List.append_assoc]
  rw [field_tlv _ _ _ _ _ (by decide) (lt_of_writeTLV_le (Nat.le_trans (Nat.le_add_right _ _) (Nat.le_add_right _ _)) hl) rfl]
  simp only [someElem, Res.bind, elemOf_body, hv, hc, hval]
  cases x.critical
  · rfl
  · rfl

/-- abstract view of the parser's reason scan: the LAST reasonCode extension wins (each one overwrites). -/
def scanReasonA : List EExt → Option Int → (EExt → Option Int) → Option Int
  | [], acc, _ => acc
  | x :: xs, acc, dec => if x.oid = reasonOID then scanReasonA xs (dec x) dec else scanReasonA xs acc dec

/-- the model's own decoder of a reasonCode extension value -/
def decM (x : EExt) : Option Int := match parseEnum x.value with | .ok n => some n | _ => none

def roB : Bytes := [0x55, 0x1d, 0x15]
theorem encOID_reason : encOID reasonOID = some roB := by decide
theorem oidOk_reason : oidOk reasonOID = true := by decide

def triple (x : EExt) : Bytes × Bool × Bytes := (oidC x, x.critical, x.value)

theorem oidC_eq_roB {x : EExt} (he : encOID x.oid = some (oidC x)) (hd : x.oid = reasonOID ∨ oidOk x.oid = true) :
    oidC x = roB ↔ x.oid = reasonOID := by
  constructor
  · intro hc
    rw [hc] at he
    exact hd.elim id fun hd => encOID_inj he encOID_reason hd oidOk_reason
  · intro hx
    rw [hx, encOID_reason] at he
    exact (Option.some.inj he).symm

theorem validOID_oidC {x : EExt} (he : encOID x.oid = some (oidC x)) (hd : x.oid = reasonOID ∨ oidOk x.oid = true) :
    validOID (oidC x) = true := by
  rcases hd with h | h
  · rw [(oidC_eq_roB he (.inl h)).mpr h]; decide
  · exact validOID_encOID he h

/-- the arc-level decoder that a decoder of the extension value induces (`decOf parseEnum` is `decM`) -/
def decOf (pe : Bytes → Res Int) (x : EExt) : Option Int := match pe x.value with | .ok n => some n | _ => none

/-- `sc` is a byte-level reason scan with value decoder `pe`: it compares OID content octets with those of 2.5.29.21,
    decodes every match, and the last one wins.  Both parser models have one (`scanReason_scan`, `scanReasonCB_scan`). -/
structure ReasonScan (pe : Bytes → Res Int) (sc : List (Bytes × Bool × Bytes) → Option Int → Res (Option Int)) : Prop where
  nil : ∀ acc, sc [] acc = .ok acc
  cons : ∀ x xs acc, sc (x :: xs) acc = if x.1 = roB then (pe x.2.2).bind fun n => sc xs (some n) else sc xs acc

theorem ReasonScan.lift {pe sc} (S : ReasonScan pe sc) : ∀ (l : List EExt) (acc : Option Int),
    (∀ x ∈ l, encOID x.oid = some (oidC x) ∧ (x.oid = reasonOID ∨ oidOk x.oid = true)) →
    (∀ x ∈ l, x.oid = reasonOID → ∃ n, pe x.value = .ok n) →
    sc (l.map triple) acc = .ok (scanReasonA l acc (decOf pe)) := by
  intro l
  induction l with
  | nil => intro acc _ _; exact S.nil acc
  | cons x xs ih =>
    intro acc h1 h2
    have hc := oidC_eq_roB (h1 x List.mem_cons_self).1 (h1 x List.mem_cons_self).2
    have h1' := fun y hy => h1 y (List.mem_cons_of_mem _ hy)
    have h2' := fun y hy => h2 y (List.mem_cons_of_mem _ hy)
    rw [List.map_cons, S.cons]
    simp only [scanReasonA, triple]
    by_cases hx : x.oid = reasonOID
    · obtain ⟨n, hn⟩ := h2 x List.mem_cons_self hx
      simp only [hc.mpr hx, hx, if_true, hn, decOf, Res.bind]
      exact ih (some n) h1' h2'
    · simp only [mt hc.mp hx, hx, if_false]
      exact ih acc h1' h2'

theorem scanReason_scan : ReasonScan parseEnum (scanReason roB) :=
  ⟨fun _ => rfl, fun x xs acc => by
    simp only [scanReason]
    cases parseEnum x.2.2 <;> rfl⟩

theorem normReason_some {r : Option Int} {n : Int} (h : normReason r = some n) : r = some n := by
  cases r with
  | none => cases h
  | some m =>
    simp only [normReason] at h
    split at h
    · cases h
    · exact h

theorem synth_mem (e : Entry) (x : EExt) (hx : x ∈ synthExts e) :
    (x ∈ e.extras ∧ x.oid ≠ reasonOID) ∨ (∃ n, normReason e.reason = some n ∧ x = reasonExt n) := by
  unfold synthExts at hx
  rcases List.mem_append.mp hx with hx | hx
  · left
    have := List.mem_filter.mp hx
    exact ⟨this.1, by simpa using this.2⟩
  · right
    cases hn : normReason e.reason with
    | none => simp [hn] at hx
    | some n => simp [hn] at hx; exact ⟨n, rfl, hx⟩

theorem synth_reason {e : Entry} {x : EExt} (hx : x ∈ synthExts e) (ho : x.oid = reasonOID) :
    ∃ n, normReason e.reason = some n ∧ x = reasonExt n :=
  (synth_mem e x hx).resolve_left fun h => h.2 ho

theorem reasonExt_mem {e : Entry} {n : Int} (h : normReason e.reason = some n) : reasonExt n ∈ synthExts e := by
  simp [synthExts, h]

theorem synthExts_eq_nil {e : Entry} (h : synthExts e = []) : normReason e.reason = none := by
  cases hn : normReason e.reason with
  | none => rfl
  | some n => nomatch h ▸ reasonExt_mem hn

theorem synth_oidOk {e : Entry} (hext : e.extras.all (fun x => x.oid == reasonOID || oidOk x.oid) = true) :
    ∀ x ∈ synthExts e, x.oid = reasonOID ∨ oidOk x.oid = true := by
  intro x hx
  rcases synth_mem e x hx with ⟨hm, _⟩ | ⟨n, _, rfl⟩
  · simpa using List.all_eq_true.mp hext x hm
  · exact .inl rfl

theorem scanReasonA_synth (e : Entry) (dec : EExt → Option Int)
    (hdec : ∀ n, normReason e.reason = some n → dec (reasonExt n) = some n) :
    scanReasonA (synthExts e) none dec = normReason e.reason := by
  have app : ∀ (l1 l2 : List EExt) (acc : Option Int), (∀ x ∈ l1, x.oid ≠ reasonOID) →
      scanReasonA (l1 ++ l2) acc dec = scanReasonA l2 acc dec := by
    intro l1
    induction l1 with
    | nil => intro l2 acc _; rfl
    | cons x xs ih =>
      intro l2 acc hx
      have : x.oid ≠ reasonOID := hx x List.mem_cons_self
      simp only [List.cons_append, scanReasonA, this, if_false]
      exact ih l2 acc (fun y hy => hx y (List.mem_cons_of_mem _ hy))
  unfold synthExts
  rw [app _ _ _ (fun x hx => by simpa using (List.mem_filter.mp hx).2)]
  cases h : normReason e.reason with
  | none => rfl
  | some n => simp [scanReasonA, reasonExt]; exact hdec n h

theorem ReasonScan.synth {pe sc} (S : ReasonScan pe sc) (e : Entry)
    (henc : ∀ x ∈ synthExts e, encOID x.oid = some (oidC x))
    (hoid : ∀ x ∈ synthExts e, x.oid = reasonOID ∨ oidOk x.oid = true)
    (hdec : ∀ n, normReason e.reason = some n → pe (reasonExt n).value = .ok n) :
    sc ((synthExts e).map triple) none = .ok (normReason e.reason) := by
  rw [S.lift _ none (fun x hx => ⟨henc x hx, hoid x hx⟩) (by
    intro x hx ho
    obtain ⟨n, hn, rfl⟩ := synth_reason hx ho
    exact ⟨n, hdec n hn⟩)]
  exact congrArg Res.ok (scanReasonA_synth e _ fun n hn => by simp only [decOf, hdec n hn])

theorem parseEnum_reasonExt (n : Int) (hl : (encBigInt n).length < 2147483648) :
    parseEnum (reasonExt n).value = .ok n := by
  unfold parseEnum reasonExt tlv
  simp only
  rw [field_tlv_end _ _ _ _ (by decide) hl rfl]
  simp [someElem, Res.bind, parseBigInt_encBigInt]

theorem reason_len (n : Int) (N : Nat) (h : (extBody (reasonExt n)).length < N) : (encBigInt n).length < N := by
  simp only [extBody, List.length_append] at h
  exact lt_of_writeTLV (lt_of_writeTLV_le (t := 0x04) (Nat.le_add_left _ _) h)

/-- domain of the byte-level entry theorem: reasonCode extras are exempt because `synthExts` drops them. -/
def Entry.ok (e : Entry) : Bool :=
  validTime e.time && e.extras.all (fun x => x.oid == reasonOID || oidOk x.oid)

/-- what the parser reports for an entry -/
def Entry.parsed (e : Entry) : PEntry := ⟨e.serial, e.time, normReason e.reason, (synthExts e).length⟩

/-- the OPTIONAL `crlEntryExtensions` field: omitted for the empty list -/
def extsFieldT (l : List EExt) : Bytes :=
  if l.isEmpty then [] else writeTLV 0x30 ((l.map fun x => writeTLV 0x30 (extBody x)).flatten)

/-- contents of the `RevokedCertificate` SEQUENCE -/
def entryBody (e : Entry) : Bytes := writeTLV 0x02 (encBigInt e.serial) ++ (encTime e.time ++ extsFieldT (synthExts e))

theorem encEntry_eq {e : Entry} {bs : Bytes} (h : encEntry e = some bs) :
    bs = writeTLV 0x30 (entryBody e) ∧ ∀ x ∈ synthExts e, encOID x.oid = some (oidC x) := by
  unfold encEntry at h
  cases hm : (synthExts e).mapM encExtension with
  | none => simp [hm] at h
  | some xs =>
    simp only [hm, Option.some.injEq] at h
    obtain ⟨e1, p1⟩ := mapM_encExtension hm
    refine ⟨?_, p1⟩
    rw [← h, e1]
    simp [entryBody, extsFieldT, tlv]

theorem all_isSeqHdr {α} (g : α → Bytes) (xs : List α) :
    (xs.map fun x => elemOf 0x30 (g x)).all (fun el => isSeqHdr el.hdr) = true := by
  rw [List.all_map, List.all_eq_true]
  intro x _
  rfl

theorem parseEntry_build (e : Entry) (henc : ∀ x ∈ synthExts e, encOID x.oid = some (oidC x))
    (hok : e.ok = true) (hlen : (entryBody e).length < 2147483648) :
    parseEntry (elemOf 0x30 (entryBody e)) = .ok e.parsed := by
  simp only [Entry.ok, Bool.and_eq_true] at hok
  obtain ⟨tag, tb, het, htag, htd⟩ := encTime_decode e.time hok.1
  have hoidok := synth_oidOk hok.2
  simp only [entryBody, het, List.length_append] at hlen
  simp only [parseEntry, entryBody, het, elemOf_body]
  rw [field_tlv _ _ _ _ _ (by decide) (lt_of_writeTLV_le (Nat.le_add_right _ _) hlen) rfl]
  simp only [someElem, Res.bind, elemOf_body, parseBigInt_encBigInt]
  rw [field_tlv _ _ _ _ _ htag (lt_of_writeTLV_le (Nat.le_add_right _ _) (Nat.lt_of_le_of_lt (Nat.le_add_left _ _) hlen)) rfl]
  simp only [htd]
  unfold extsFieldT at hlen ⊢
  by_cases hemp : (synthExts e).isEmpty = true
  · have hnil : synthExts e = [] := List.isEmpty_iff.mp hemp
    simp [field_nil_opt, Entry.parsed, hnil, synthExts_eq_nil hnil]
  · simp only [hemp, Bool.false_eq_true, if_false] at hlen ⊢
    have hX := Nat.lt_of_le_of_lt (Nat.le_trans (Nat.le_add_left _ _) (Nat.le_add_left _ _)) hlen
    have hbl := extBody_bound hX
    have hdec : ∀ n, normReason e.reason = some n → parseEnum (reasonExt n).value = .ok n :=
      fun n hn => parseEnum_reasonExt n (reason_len n _ (hbl _ (reasonExt_mem hn)))
    rw [field_tlv_end _ _ _ _ (by decide) (lt_of_writeTLV hX) rfl]
    simp only [elemOf_body]
    rw [readElems_writeTLVs (fun _ => 0x30) extBody (synthExts e) (fun x hx => ⟨by decide, hbl x hx⟩)]
    simp only [all_isSeqHdr, Bool.not_true, Bool.false_eq_true, if_false]
    rw [mapRes_map parseEExt (fun x => elemOf 0x30 (extBody x)) triple (synthExts e)
      (fun x hx => parseEExt_build x (validOID_oidC (henc x hx) (hoidok x hx)) (hbl x hx))]
    simp only [encOID_reason]
    rw [scanReason_scan.synth e henc hoidok hdec]
    simp [Entry.parsed]

end ZV.C05
