import ZV.Proofs.C18
/-! C18: OPTIONAL / DEFAULT / omitempty — what an absent field decodes to, when the decoder decides "absent", and the
    identifier octets Marshal writes for a present field. -/
namespace ZV.C18

/-- what follows an absent field lets the decoder see that it is absent: nothing, or an element whose identifier the
    field does not accept -/
def Skips (s : Schema) (p : Params) (rest : Bytes) : Prop :=
  rest = [] ∨ ∃ t r, parseTL false rest = .ok (t, r) ∧ skipsH s p t.cls t.tag t.compound = true

theorem substTag_len (p : Params) (t : TL) (u : Nat) :
    substTag p t u = substTag p { cls := t.cls, tag := t.tag, len := 0, compound := t.compound } u := rfl

theorem parsePre_skip (s : Schema) (p : Params) (bs : Bytes) (t : TL) (r : Bytes)
    (h1 : parseTL false bs = .ok (t, r)) (h2 : skipsH s p t.cls t.tag t.compound = true) :
    parsePre false s p bs = .dflt := by
  unfold parsePre
  rw [h1]
  unfold skipsH at h2
  cases he : p.explicit with
  | true =>
    rw [he] at h2
    simp only [if_true] at h2
    simp only [explicitStage, he, if_true]
    have hc : ¬ (t.cls = (if p.application = true then 1 else if p.priv = true then 3 else 2) ∧ some t.tag = p.tag ∧
        (t.len = 0 ∨ t.compound = true)) := by
      intro hh
      have e1 : t.cls = pcls p := hh.1
      have e2 := hh.2.1
      simp [e1, e2] at h2
    rw [if_neg hc]
  | false =>
    rw [he] at h2
    simp only [Bool.false_eq_true, if_false] at h2
    simp only [explicitStage, he, Bool.false_eq_true, if_false, matchStage]
    cases hu : univ s with
    | none => rw [hu] at h2; simp at h2
    | some x =>
      obtain ⟨ma, utag0, ct⟩ := x
      rw [hu] at h2
      simp only at h2 ⊢
      rw [substTag_len p t utag0, if_pos h2]

theorem parseField_dflt (perm : Bool) (s : Schema) (p : Params) (bs : Bytes) (hu : univ s ≠ none)
    (h : bs.isEmpty = true ∨ parsePre perm s p bs = .dflt) : parseField perm s p bs = dfltOrErr s p bs := by
  cases s with
  | fnil => exact absurd rfl hu
  | fcons _ _ _ => exact absurd rfl hu
  | struct fs => rw [parseField_struct]; exact fieldWith_absent h
  | seqOf sn e => rw [parseField_seqOf]; exact fieldWith_absent h
  | _ => rw [parseField_leaf _ _ _ _ rfl, primField_eq]; exact fieldWith_absent h

theorem parseField_absent (s : Schema) (p : Params) (rest : Bytes) (hu : univ s ≠ none)
    (hopt : p.optional = true) (hs : Skips s p rest) :
    parseField false s p rest = .ok (dfltVal s p, rest) := by
  rw [parseField_dflt false s p rest hu, dfltOrErr_eq, if_pos hopt]
  rcases hs with h | ⟨t, r, h1, h2⟩
  · subst h; exact Or.inl rfl
  · exact Or.inr (parsePre_skip s p rest t r h1 h2)

theorem makeField_omitted (s : Schema) (p : Params) (v : Val) (hu : univ s ≠ none) (h : omitted s p v = true) :
    makeField s p v = .ok [] := by
  cases s <;> first
    | exact absurd rfl hu
    | simp only [makeField, primMake, h, if_true]

theorem sliceKind_zero (s : Schema) (h : isSliceKind s = true) : zeroVal s = .null ∧ isIntKind s = false := by
  cases s <;> simp_all [isSliceKind, zeroVal, isIntKind]

theorem omitted_dflt (s : Schema) (p : Params) (v : Val) (h : omitted s p v = true) :
    omitted s p (dfltVal s p) = true := by
  by_contra hc
  refine Bool.noConfusion (h.symm.trans (omitted_mono s p _ v (Bool.not_eq_true _ ▸ hc) (fun hs _ => ?_)
    (fun hi d hd _ => ?_) fun hd _ => ?_))
  · rw [dfltVal, (sliceKind_zero s hs).1, (sliceKind_zero s hs).2]
    cases p.defaultValue <;> rfl
  · rw [dfltVal, hd]
    exact if_pos hi
  · rw [dfltVal, hd]

theorem primMake_shape (s : Schema) (p : Params) (v : Val) (enc : Bytes) (hg : Good p) (ma : Bool) (u : Nat) (c : Bool)
    (hu : univ s = some (ma, u, c)) (hu30 : u ≤ 30) (homit : omitted s p v = false) (hpm : primMake s p v = .ok enc) :
    ∃ tag body, enc = wrap p tag c body ∧ tag ≤ 30 ∧
      (if u = 19 then marshalTag p u v else some (if p.set then 17 else u)) = some tag := by
  obtain ⟨tag, body, htag, hset, _, henc⟩ := primMake_ok s p v enc ma u c hu homit hpm
  have hmt := htag
  unfold marshalTag at htag
  by_cases h19 : u = 19
  · rw [if_pos h19] at htag
    refine ⟨tag, body, henc, ?_, by rw [if_pos h19]; exact hmt⟩
    cases v <;> simp only [reduceCtorEq] at htag
    exact stringTag_le p _ tag hg htag
  · rw [if_neg h19] at htag
    injection htag with htag
    exact ⟨tag, body, henc, by omega, by rw [if_neg h19, hset, htag]; rfl⟩

theorem makeField_shape (s : Schema) (p : Params) (v : Val) (enc : Bytes) (hg : Good p)
    (hm : makeField s p v = .ok enc) (homit : omitted s p v = false) (hr : isRaw s = false) :
    ∃ ma utag0 comp tag body, univ s = some (ma, utag0, comp) ∧ enc = wrap p tag comp body ∧ tag ≤ 30 ∧
      (if utag0 = 19 then marshalTag p utag0 v else some (if p.set then 17 else utag0)) = some tag := by
  cases s with
  | raw => cases hr
  | fnil => simp [makeField] at hm
  | fcons _ _ _ => simp [makeField] at hm
  | struct fs =>
    obtain ⟨_, _, body, _, henc⟩ := makeField_struct_ok fs p v enc homit hm
    exact ⟨false, 16, true, _, body, rfl, henc, by split_ifs <;> omega, rfl⟩
  | seqOf sn e =>
    obtain ⟨_, _, _, encs, _, henc⟩ := makeField_seqOf_ok sn e p v enc homit hm
    refine ⟨false, _, true, _, _, rfl, henc, by split_ifs <;> omega, ?_⟩
    cases p.set <;> cases sn <;> rfl
  | _ =>
    obtain ⟨tag, body, h⟩ :=
      primMake_shape _ p v enc hg _ _ _ rfl (by decide) homit (by rw [← makeField_leaf _ p v rfl rfl]; exact hm)
    exact ⟨_, _, _, tag, body, rfl, h⟩

theorem fieldHdr_plain (s : Schema) (p : Params) (v : Val) (hr : isRaw s = false) :
    fieldHdr s p v =
      match univ s with
      | none => none
      | some (_, utag0, comp) =>
        match p.tag with
        | some tg => some (pcls p, tg, p.explicit || comp)
        | none =>
          (match (if utag0 = 19 then marshalTag p utag0 v else some (if p.set then 17 else utag0)) with
           | some t => some (0, t, comp)
           | none => none) := by
  cases s <;> first | rfl | cases hr

theorem field_hdr (s : Schema) (p : Params) (v : Val) (enc x : Bytes) (hg : Good p)
    (hm : makeField s p v = .ok enc) (homit : omitted s p v = false) (hlen : enc.length < 2147483648)
    (hraw : ∀ cls tag comp bs full, s = .raw → v = .raw cls tag comp bs full → rawOK cls tag comp bs full = true) :
    ∃ t r, parseTL false (enc ++ x) = .ok (t, r) ∧ fieldHdr s p v = some (t.cls, t.tag, t.compound) := by
  cases hr : isRaw s with
  | true =>
    have hs : s = .raw := by cases s <;> first | rfl | cases hr
    subst hs
    cases v <;> try (simp [makeField, homit] at hm; done)
    rename_i cls tag comp bs full
    obtain ⟨hc, ht, henc, _⟩ := makeField_raw_ok p cls tag comp bs full enc (hraw _ _ _ _ _ rfl rfl) homit hm
    rw [henc, List.length_append] at hlen
    rw [henc, List.append_assoc, parseTL_appendTL false _ hc ht (by simp only; omega)]
    exact ⟨_, _, rfl, rfl⟩
  | false =>
    obtain ⟨ma, utag0, comp, tag, body, hu, henc, ht30, htag⟩ := makeField_shape s p v enc hg hm homit hr
    subst henc
    obtain ⟨t, r, h1, h2, _⟩ := wrap_stage false s p tag comp body x hr hg hlen (by omega)
    refine ⟨t, r, h1, ?_⟩
    rw [fieldHdr_plain s p v hr, hu]
    dsimp only
    rw [htag]
    cases hpt : p.tag <;> rw [hpt] at h2 <;> dsimp only at h2 ⊢ <;> rw [h2]

end ZV.C18
