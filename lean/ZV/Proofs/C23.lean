import ZV.Model.C23
import ZV.Proofs.C23Bytes
import Mathlib.FieldTheory.Finite.Basic
import Mathlib.Data.Nat.ChineseRemainder
import Mathlib.Tactic.Ring
/-! the arithmetic of `ZV.Props.C23`: Fermat with exponent reduction, Garner/CRT recombination, the multi-prime round trip,
    and what a valid key (`KeyOk`) yields: `decryptCore k c = c^d mod n` on either branch, `m^(ed) mod n = m`, hence
    `decrypt` in closed form and `decrypt` / `encrypt` as inverse bijections of the `Size()`-octet strings below the
    modulus.  The padding theorems reach the key only through that last layer. -/
namespace ZV.C23
open ZV ZV.Hash

theorem pow_mod_order {p q g : Nat} (hg : g ^ q % p = 1) (a : Nat) : g ^ a % p = g ^ (a % q) % p := by
  have h1 : g ^ q ≡ 1 [MOD p] := by rw [Nat.ModEq, ← hg, Nat.mod_mod]
  show g ^ a ≡ g ^ (a % q) [MOD p]
  calc g ^ a = (g ^ q) ^ (a / q) * g ^ (a % q) := by rw [← pow_mul, ← pow_add, Nat.div_add_mod]
    _ ≡ 1 ^ (a / q) * g ^ (a % q) [MOD p] := (h1.pow _).mul_right _
    _ = g ^ (a % q) := by rw [one_pow, one_mul]

theorem exp_mod_ne_zero {e d m : Nat} (h : e * d % m = 1) : d % m ≠ 0 := by
  intro h0
  rw [Nat.mul_mod, h0, Nat.mul_zero, Nat.zero_mod] at h
  exact absurd h (by decide)

/-- Fermat; the reduced exponent must not be zero, so that a multiple of `p` stays `0` -/
theorem pow_mod_pred {p : Nat} (hp : p.Prime) (c : Nat) {a : Nat} (h : a % (p - 1) ≠ 0) :
    c ^ (a % (p - 1)) % p = c ^ a % p := by
  by_cases hc : p ∣ c
  · have ha : a ≠ 0 := fun h0 => h (by rw [h0, Nat.zero_mod])
    rw [Nat.pow_mod, Nat.mod_eq_zero_of_dvd hc, Nat.zero_pow (Nat.pos_of_ne_zero h), Nat.pow_mod c a,
      Nat.mod_eq_zero_of_dvd hc, Nat.zero_pow (Nat.pos_of_ne_zero ha)]
  · have hf := Nat.ModEq.pow_totient (hp.coprime_iff_not_dvd.2 hc).symm
    rw [Nat.totient_prime hp, Nat.ModEq, Nat.mod_eq_of_lt hp.one_lt] at hf
    exact (pow_mod_order hf a).symm

theorem pow_ed_mod_prime {p : Nat} (hp : p.Prime) {e d : Nat} (hed : e * d % (p - 1) = 1) (m : Nat) :
    m ^ (e * d) % p = m % p := by
  rw [← pow_mod_pred hp m (a := e * d) (by rw [hed]; decide), hed, pow_one]

theorem crt_unique {p q R M : Nat} (hcop : Nat.Coprime p q) (hlt : R < p * q) (hp : R ≡ M [MOD p]) (hq : R ≡ M [MOD q]) :
    R = M % (p * q) :=
  (Nat.mod_eq_of_lt hlt).symm.trans ((Nat.modEq_and_modEq_iff_modEq_mul hcop).1 ⟨hp, hq⟩)

theorem garner (p q qinv m1 m2 M : Nat) (h1p : 1 < p) (hqinv : qinv * q % p = 1) (hm2 : m2 < q)
    (hMp : M % p = m1 % p) (hMq : M % q = m2) (hcop : Nat.Coprime p q) :
    (Int.emod ((if (m1 : Int) - (m2 : Int) < 0 then (m1 : Int) - (m2 : Int) + (p : Int)
        else (m1 : Int) - (m2 : Int)) * (qinv : Int)) (p : Int) * (q : Int) + (m2 : Int)).toNat
      = M % (p * q) := by
  have hp0 : (0 : Int) < p := Int.natCast_pos.2 (Nat.zero_lt_of_lt h1p)
  have hfix : (if (m1 : Int) - (m2 : Int) < 0 then (m1 : Int) - (m2 : Int) + (p : Int) else (m1 : Int) - (m2 : Int))
      ≡ (m1 : Int) - (m2 : Int) [ZMOD p] := by
    split
    · exact Int.add_modEq_right
    · rfl
  generalize (if (m1 : Int) - (m2 : Int) < 0 then (m1 : Int) - (m2 : Int) + (p : Int) else (m1 : Int) - (m2 : Int)) = h1
    at hfix
  have hmod : Int.emod (h1 * qinv) p ≡ ((m1 : Int) - m2) * qinv [ZMOD p] := (Int.mod_modEq _ _).trans (hfix.mul_right _)
  have hh0 : 0 ≤ Int.emod (h1 * qinv) p := Int.emod_nonneg _ hp0.ne'
  have hhp : Int.emod (h1 * qinv) p < p := Int.emod_lt_of_pos _ hp0
  generalize Int.emod (h1 * qinv) p = h at hmod hh0 hhp
  lift h to Nat using hh0
  rw [← Nat.cast_mul, ← Nat.cast_add, Int.toNat_natCast]
  refine crt_unique hcop ?_ ?_ ?_
  · calc h * q + m2 < h * q + q := Nat.add_lt_add_left hm2 _
      _ = (h + 1) * q := (Nat.succ_mul h q).symm
      _ ≤ p * q := Nat.mul_le_mul_right q (Int.ofNat_lt.1 hhp)
  · have hqi : (qinv : Int) * q ≡ 1 [ZMOD p] := by
      have : qinv * q ≡ 1 [MOD p] := by rw [Nat.ModEq, hqinv, Nat.mod_eq_of_lt h1p]
      exact_mod_cast Int.natCast_modEq_iff.2 this
    rw [← Int.natCast_modEq_iff]
    push_cast
    calc (h : Int) * q + m2 ≡ ((m1 : Int) - m2) * qinv * q + m2 [ZMOD p] := (hmod.mul_right _).add_right _
      _ = ((m1 : Int) - m2) * (qinv * q) + m2 := by ring
      _ ≡ ((m1 : Int) - m2) * 1 + m2 [ZMOD p] := (hqi.mul_left _).add_right _
      _ = m1 := by ring
      _ ≡ M [ZMOD p] := (Int.natCast_modEq_iff.2 hMp).symm
  · rw [Nat.ModEq, Nat.add_comm, Nat.add_mul_mod_self_right, hMq, Nat.mod_eq_of_lt hm2]

/-- the exponents and `qinv` are the values `Precompute` derives -/
theorem crt_eq_plain2 {p q e d qinv : Nat} (pp : p.Prime) (pq : q.Prime) (ne : p ≠ q) (edp : e * d % (p - 1) = 1)
    (edq : e * d % (q - 1) = 1) (hqinv : qinv * q % p = 1) (c : Nat) :
    decryptCRT p q (d % (p - 1)) (d % (q - 1)) qinv c = c ^ d % (p * q) := by
  unfold decryptCRT
  simp only [modPow_eq]
  apply garner p q qinv (c ^ (d % (p - 1)) % p) (c ^ (d % (q - 1)) % q) (c ^ d) pp.one_lt hqinv (Nat.mod_lt _ pq.pos)
  · rw [Nat.mod_mod, pow_mod_pred pp c (exp_mod_ne_zero edp)]
  · rw [pow_mod_pred pq c (exp_mod_ne_zero edq)]
  · exact (Nat.coprime_primes pp pq).2 ne

theorem pow_ed_mod_prod (ps : List Nat) (e d : Nat) (hp : ∀ p ∈ ps, p.Prime) (hnd : ps.Nodup)
    (hed : ∀ p ∈ ps, e * d % (p - 1) = 1) (m : Nat) : m ^ (e * d) % ps.prod = m % ps.prod := by
  have co : ps.Pairwise Nat.Coprime := by
    refine List.Pairwise.imp_of_mem ?_ hnd
    intro a b ha hb hab
    exact (Nat.coprime_primes (hp a ha) (hp b hb)).2 hab
  refine (Nat.modEq_list_prod_iff co).2 ?_
  intro i
  have hmem : ps.get i ∈ ps := List.get_mem ps i
  exact pow_ed_mod_prime (hp _ hmem) (hed _ hmem) m

theorem rsa_roundtrip (ps : List Nat) (e d : Nat) (hp : ∀ p ∈ ps, p.Prime) (hnd : ps.Nodup)
    (hed : ∀ p ∈ ps, e * d % (p - 1) = 1) (m : Nat) (hm : m < ps.prod) :
    (m ^ e % ps.prod) ^ d % ps.prod = m := by
  rw [← Nat.pow_mod, ← pow_mul, pow_ed_mod_prod ps e d hp hnd hed m, Nat.mod_eq_of_lt hm]

/-- what `PrivateKey.Validate` checks, plus: precomputed values, if present, are the ones `Precompute` derives. -/
structure KeyOk (k : Priv) : Prop where
  primes_prime : ∀ p ∈ k.primes, p.Prime
  nodup : k.primes.Nodup
  n_eq : k.n = k.primes.prod
  ed : ∀ p ∈ k.primes, k.e * k.d % (p - 1) = 1
  pre_ok : ∀ dp dq qinv, k.pre = some (dp, dq, qinv) → ∀ p q, k.primes = [p, q] →
    dp = k.d % (p - 1) ∧ dq = k.d % (q - 1) ∧ qinv * q % p = 1

theorem KeyOk.pos {k : Priv} (h : KeyOk k) : 0 < k.n := by
  rw [h.n_eq]
  exact List.prod_pos fun p hp => (h.primes_prime p hp).pos

theorem KeyOk.decryptCore_eq {k : Priv} (h : KeyOk k) (c : Nat) : decryptCore k c = c ^ k.d % k.n := by
  unfold decryptCore
  split
  · next p q dp dq qinv hprimes hpre =>
    obtain ⟨rfl, rfl, hqinv⟩ := h.pre_ok dp dq qinv hpre p q hprimes
    have hp : p ∈ k.primes := hprimes ▸ List.mem_cons_self
    have hq : q ∈ k.primes := hprimes ▸ List.mem_cons_of_mem _ List.mem_cons_self
    have hne : p ≠ q := by
      have hnd := h.nodup
      rw [hprimes] at hnd
      simpa using hnd
    rw [crt_eq_plain2 (h.primes_prime p hp) (h.primes_prime q hq) hne (h.ed p hp) (h.ed q hq) hqinv, h.n_eq, hprimes,
      List.prod_cons, List.prod_singleton]
  · exact modPow_eq _ _ _

theorem KeyOk.pow_ed {k : Priv} (h : KeyOk k) {m : Nat} (hm : m < k.n) : m ^ (k.e * k.d) % k.n = m := by
  rw [h.n_eq] at hm ⊢
  rw [pow_ed_mod_prod _ _ _ h.primes_prime h.nodup h.ed, Nat.mod_eq_of_lt hm]

theorem checkPub_some {n e : Int} (hn : 0 < n) (he : 2 ≤ e) : checkPub ⟨some n, some e⟩ = .ok (n.toNat, e.toNat) := by
  unfold checkPub
  simp [Int.not_le.2 hn, Int.not_lt.2 he]

theorem KeyOk.checkPub_eq {k : Priv} (h : KeyOk k) (he : 2 ≤ k.e) : checkPub k.pub = .ok (k.n, k.e) :=
  checkPub_some (n := k.n) (e := k.e) (Int.natCast_pos.2 h.pos) (by omega)

theorem KeyOk.decrypt_eq {k : Priv} (hk : KeyOk k) (c : Bytes) (check : Bool) :
    decrypt k c check =
      if os2ip c < k.n then .ok (natToBytesBE (sizeBytes k.n) (os2ip c ^ k.d % k.n)) else .err := by
  unfold decrypt i2osp
  by_cases hlt : os2ip c < k.n
  · have hm := mod_lt_pow_sizeBytes (os2ip c ^ k.d) hk.pos
    have hback : modPow (os2ip c ^ k.d % k.n) k.e k.n = os2ip c := by
      rw [modPow_eq, ← Nat.pow_mod, ← pow_mul, Nat.mul_comm, hk.pow_ed hlt]
    simp [Nat.not_le.2 hlt, hlt, hk.decryptCore_eq, hback, hm]
  · simp [hlt, Nat.not_lt.1 hlt]

theorem KeyOk.decrypt_ok_iff {k : Priv} (hk : KeyOk k) {c x : Bytes} {check : Bool} :
    decrypt k c check = .ok x ↔ os2ip c < k.n ∧ x.length = sizeBytes k.n ∧ os2ip x = os2ip c ^ k.d % k.n := by
  rw [hk.decrypt_eq, accept_eq_ok]
  exact and_congr_right fun _ => natToBytesBE_eq_iff (mod_lt_pow_sizeBytes _ hk.pos)

theorem KeyOk.decrypt_isOk {k : Priv} (hk : KeyOk k) {c : Bytes} (check : Bool) (hlt : os2ip c < k.n) :
    ∃ x, decrypt k c check = .ok x := by
  rw [hk.decrypt_eq, if_pos hlt]
  exact ⟨_, rfl⟩

/-- `decrypt` reads its argument as an integer, so leading zero octets of a ciphertext do not count -/
theorem KeyOk.decrypt_iff_encrypt {k : Priv} (hk : KeyOk k) {c x : Bytes} {check : Bool} (hc : c.length ≤ sizeBytes k.n) :
    decrypt k c check = .ok x ↔
      x.length = sizeBytes k.n ∧ encrypt k.n k.e x = .ok (List.replicate (sizeBytes k.n - c.length) 0 ++ c) := by
  rw [hk.decrypt_ok_iff, encrypt_ok_iff, os2ip_replicate_zero, List.length_append, List.length_replicate]
  constructor
  · rintro ⟨hlt, hl, hx⟩
    refine ⟨hl, hx ▸ Nat.mod_lt _ hk.pos, by omega, ?_⟩
    rw [hx, ← Nat.pow_mod, ← pow_mul, Nat.mul_comm, hk.pow_ed hlt]
  · rintro ⟨hl, hxn, _, hcx⟩
    have hlt : os2ip c < k.n := hcx ▸ Nat.mod_lt _ hk.pos
    exact ⟨hlt, hl, by rw [hcx, ← Nat.pow_mod, ← pow_mul, hk.pow_ed hxn]⟩

theorem KeyOk.encrypt_iff_decrypt {k : Priv} (hk : KeyOk k) {x y : Bytes} (check : Bool) (hx : x.length = sizeBytes k.n)
    (hy : y.length = sizeBytes k.n) : encrypt k.n k.e x = .ok y ↔ decrypt k y check = .ok x := by
  rw [hk.decrypt_iff_encrypt hy.le, hy, Nat.sub_self]
  exact (and_iff_right hx).symm

end ZV.C23
