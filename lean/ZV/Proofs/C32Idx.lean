import ZV.Model.C32
/-! C32: the Go index and slice expressions `s[i]`, `s[lo:]`, `s[:hi]` (`idx`, `sliceFrom`, `sliceTo` of `ZV.Model.C32`,
    each `.panic` outside its bounds): what they return inside their bounds, and on a list given by its first elements.
    The record reader with the `decrypt` skeleton (Proofs/C32) and the key-exchange parsers (Proofs/C32Kx) both show
    their guards sufficient through these and share nothing else. -/
namespace ZV.C32

theorem idx_eq (l : Bytes) (i : Nat) (h : i < l.length) : idx l i = .ok l[i] := by
  unfold idx
  rw [List.getElem?_eq_getElem h]

theorem idx_ok_of_lt (l : Bytes) (i : Nat) (h : i < l.length) : ∃ b, idx l i = .ok b :=
  ⟨_, idx_eq l i h⟩

theorem sliceFrom_eq (s : Bytes) (lo : Nat) (h : lo ≤ s.length) : sliceFrom s lo = .ok (s.drop lo) := if_pos h

theorem sliceTo_eq (s : Bytes) (hi : Nat) (h : hi ≤ s.length) : sliceTo s hi = .ok (s.take hi) := if_pos h

theorem idx_zero (a : UInt8) (l : Bytes) : idx (a :: l) 0 = .ok a := rfl

theorem idx_succ (a : UInt8) (l : Bytes) (i : Nat) : idx (a :: l) (i + 1) = idx l i := rfl

theorem sliceFrom_two (a b : UInt8) (s : Bytes) : sliceFrom (a :: b :: s) 2 = .ok s := rfl

theorem sliceFrom_four (a b c d : UInt8) (s : Bytes) : sliceFrom (a :: b :: c :: d :: s) 4 = .ok s := rfl

theorem two_of_len {s : Bytes} (h : 2 ≤ s.length) : ∃ a b r, s = a :: b :: r := by
  match s, h with
  | a :: b :: r, _ => exact ⟨a, b, r, rfl⟩

theorem four_of_len {s : Bytes} (h : 4 ≤ s.length) : ∃ a b c d r, s = a :: b :: c :: d :: r := by
  obtain ⟨a, b, s, rfl⟩ := two_of_len (Nat.le_trans (by decide) h)
  obtain ⟨c, d, r, rfl⟩ := two_of_len (Nat.le_of_add_le_add_right (b := 2) h)
  exact ⟨a, b, c, d, r, rfl⟩

end ZV.C32
