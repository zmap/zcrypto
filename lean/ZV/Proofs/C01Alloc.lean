import ZV.Proofs.C01Asn1
import ZV.Proofs.C18Seq
/-!
  C01 lifted to the reflective `encoding/asn1` engine, part two: the content parsers and `parseField` itself.

  One induction over the Go type (the schema) shows, for every parameter set, input and both parsing modes, that
  `Unmarshal` never panics, that an absent OPTIONAL field takes exactly its default and consumes nothing while a
  present one consumes a whole element and yields a value of the shape of the type (`Pres`), and that the value built
  has a size LINEAR in the number of bytes consumed, with constants that depend only on the type (`engine_spec`).
  The C01 theorems (no panic, consumed, progress, `engine_size`) and the typing of the decoder that C13 states are its
  projections; `Pres` keeps the namespace of the cluster that states the typing, `ZV.C13`.

  `vsize` counts what the decoded value holds: one unit per node (struct field / slice element / scalar), plus the
  bytes of every byte string / bit string / RawValue (`Bytes` and `FullBytes`), plus the arcs of an OID, plus the
  bytes of the magnitude of an integer (so a `*big.Int` counts its limbs).
-/
namespace ZV.C13
open ZV.C18

/-- the values the decoder produces for an element of Go type `s` that is PRESENT in the input (a field that is absent
    takes `dfltVal`, see `Pres (.fcons …)`) -/
def Pres : Schema → Val → Prop
  | .int64, v => ∃ i, v = .int i
  | .int32, v => ∃ i, v = .int i
  | .enum, v => ∃ i, v = .int i
  | .bigint, v => ∃ i, v = .int i
  | .bool, v => ∃ b, v = .bool b
  | .flag, v => ∃ b, v = .bool b
  | .oid, v => ∃ l, v = .oid l
  | .bits, v => ∃ bs n, v = .bits bs n
  | .octets, v => ∃ b, v = .bytes b
  | .str, v => ∃ b, v = .bytes b
  | .raw, v => ∃ c t k b f, v = .raw c t k b f ∧ f ≠ []
  | .struct fs, v => Pres fs v
  | .seqOf _ e, v => properChain v = true ∧ ∀ x ∈ elems v, Pres e x
  | .fnil, v => v = .vnil
  | .fcons p s rest, v => ∃ x xs, v = .vcons x xs ∧ (Pres s x ∨ (p.optional = true ∧ x = dfltVal s p)) ∧ Pres rest xs

end ZV.C13

namespace ZV.C01Asn1
open ZV.C18
open ZV.Res (Sat)
open ZV.C13 (Pres)

/-- bytes needed for the magnitude of an integer -/
def intLen (i : Int) : Nat := i.natAbs.log2 / 8 + 1

def vsize : Val → Nat
  | .int i => 1 + intLen i
  | .bool _ => 1
  | .bytes bs => 1 + bs.length
  | .null => 1
  | .oid arcs => 1 + arcs.length
  | .bits bs _ => 1 + bs.length
  | .raw _ _ _ bs full => 1 + bs.length + full.length
  | .vnil => 1
  | .vcons v rest => 1 + vsize v + vsize rest

/-- size of the `default:` value of a field -/
def dflt (p : Params) : Nat := match p.defaultValue with | some d => vsize (.int d) | none => 0

/-- additive constant of the bound (what an absent / empty value of the type costs) -/
def aC : Schema → Nat
  | .struct fs => aC fs + vsize (zeroVal fs)
  | .seqOf _ _ => 1
  | .fnil => 1
  | .fcons p s rest => 1 + aC s + dflt p + aC rest
  | s => vsize (zeroVal s)

/-- per-input-byte constant of the bound -/
def bC : Schema → Nat
  | .struct fs => bC fs
  | .seqOf _ e => 1 + aC e + bC e
  | .fnil => 0
  | .fcons _ s rest => max (bC s) (bC rest)
  | _ => 2  -- a RawValue keeps its content twice (`Bytes`, `FullBytes`), a BMPString at most doubles in UTF-8 (`parseString_spec`)

theorem intLen_le (i : Int) (n : Nat) (hn : 1 ≤ n) (h : i.natAbs < 2 ^ (8 * n)) : intLen i ≤ n := by
  unfold intLen
  by_cases h0 : i.natAbs = 0
  · rw [h0]; simp [Nat.log2]; exact hn
  · have := (Nat.log2_lt h0).mpr h
    omega

theorem pow256 (n : Nat) : 256 ^ n = 2 ^ (8 * n) := by
  rw [Nat.pow_mul]

theorem parseInt64_sat (perm : Bool) (bs : Bytes) : Sat (fun i => intLen i ≤ bs.length) (parseInt64 perm bs) := by
  unfold parseInt64
  refine .guard fun h1 => .guard fun _ => ?_
  have hpos := checkInteger_ne_nil bs (by simpa using h1)
  have hlt := beNat_lt bs
  rw [pow256] at hlt
  split
  · -- the sign bit is set, so the magnitude `2 ^ (8·len) - beNat bs` is below `2 ^ (8·len)`
    have h0 := Nat.two_pow_pos (8 * bs.length - 1)
    refine intLen_le _ _ hpos ?_
    rw [show ((2 : Int) ^ (8 * bs.length)) = ((2 ^ (8 * bs.length) : Nat) : Int) by simp]
    omega
  · exact intLen_le _ _ hpos hlt

theorem parseInt32_sat (perm : Bool) (bs : Bytes) : Sat (fun i => intLen i ≤ bs.length) (parseInt32 perm bs) := by
  unfold parseInt32
  split_ifs
  · trivial
  · refine (parseInt64_sat perm bs).elim (fun i hi => ?_) trivial
    dsimp only
    split_ifs
    · trivial
    · exact hi

theorem parseBigInt_sat (perm : Bool) (bs : Bytes) : Sat (fun i => intLen i ≤ bs.length) (parseBigInt perm bs) := by
  unfold parseBigInt
  refine .guard fun h1 => ?_
  have hpos := checkInteger_ne_nil bs (by simpa using h1)
  split
  · cases hpos
  · rename_i b0 r
    split_ifs with h2
    · refine intLen_le _ _ hpos ?_
      rw [← pow256]
      have hl := beNat_lt (r.map notByte)
      simp only [List.map_cons, beNat_cons, notByte_toNat, List.length_map, List.length_cons, Nat.pow_succ] at *
      have : (255 - b0.toNat) * 256 ^ r.length ≤ 127 * 256 ^ r.length := Nat.mul_le_mul_right _ (by omega)
      omega
    · refine intLen_le _ _ hpos ?_
      rw [← pow256]
      exact beNat_lt (b0 :: r)

theorem ite_len {c : Prop} [Decidable c] {a b : Bytes} {n : Nat} (ha : a.length ≤ n) (hb : b.length ≤ n) :
    (if c then a else b).length ≤ n := by
  split
  · exact ha
  · exact hb

theorem utf8Enc_len (r : Nat) : (utf8Enc r).length ≤ 4 :=
  -- every arm is a list literal
  ite_len (Nat.le_of_ble_eq_true rfl) <| ite_len (Nat.le_of_ble_eq_true rfl) <|
    ite_len (Nat.le_of_ble_eq_true rfl) (Nat.le_of_ble_eq_true rfl)

theorem utf8Enc_append_len (r : Nat) {x : Bytes} {n : Nat} (h : x.length ≤ 4 * n) :
    (utf8Enc r ++ x).length ≤ 4 * (n + 1) := by
  rw [List.length_append, Nat.add_comm]
  exact Nat.add_le_add h (utf8Enc_len r)

/-- every UTF-16 unit yields at most one scalar value, every scalar value at most four bytes -/
theorem utf16_len : ∀ l : List Nat, (utf16ToUtf8 l).length ≤ 4 * l.length
  | [] => Nat.le_refl 0
  | [_] => ite_len (utf8Enc_len _) (utf8Enc_len _)
  | _ :: u2 :: rest =>
    ite_len ((utf8Enc_append_len _ (utf16_len rest)).trans (Nat.mul_le_mul_left 4 (Nat.le_succ _))) <|
      ite_len (utf8Enc_append_len _ (utf16_len (u2 :: rest))) (utf8Enc_append_len _ (utf16_len (u2 :: rest)))

theorem stripTerm_len : ∀ l : List Nat, (stripTerm l).length ≤ l.length
  | [] => by simp [stripTerm]
  | [u] => by simp only [stripTerm]; split_ifs <;> simp
  | u :: v :: rest => by
    have := stripTerm_len (v :: rest)
    simp only [stripTerm, List.length_cons] at *; omega

theorem pairs16_len : ∀ bs : Bytes, 2 * (pairs16 bs).length ≤ bs.length
  | [] => by simp [pairs16]
  | [_] => by simp [pairs16]
  | a :: b :: rest => by
    have := pairs16_len rest
    simp only [pairs16, List.length_cons] at *; omega

theorem parseBitString_spec (bs : Bytes) :
    Sat (fun v => ∃ d n, v = .bits d n ∧ d.length < bs.length) (parseBitString bs) := by
  unfold parseBitString
  split
  · trivial
  · rename_i pad data
    exact .ite trivial ⟨_, _, rfl, Nat.lt_succ_self _⟩

theorem parseBool_spec (bs : Bytes) : Sat (fun v => ∃ b, v = .bool b) (parseBool bs) := by
  unfold parseBool
  split
  · exact .ite ⟨_, rfl⟩ (.ite ⟨_, rfl⟩ trivial)
  · trivial

theorem parseString_spec (perm : Bool) (utag : Nat) (bs : Bytes) :
    Sat (fun v => ∃ b, v = .bytes b ∧ b.length ≤ 2 * bs.length) (parseString perm utag bs) := by
  have hb : ∃ b, Val.bytes bs = .bytes b ∧ b.length ≤ 2 * bs.length := ⟨bs, rfl, Nat.le_mul_of_pos_left _ Nat.two_pos⟩
  have hbmp : ∃ b, Val.bytes (utf16ToUtf8 (stripTerm (pairs16 bs))) = .bytes b ∧ b.length ≤ 2 * bs.length := by
    have h1 := utf16_len (stripTerm (pairs16 bs))
    have h2 := stripTerm_len (pairs16 bs)
    have h3 := pairs16_len bs
    exact ⟨_, rfl, by omega⟩
  exact .ite (.ite trivial hb) <| .ite (.ite trivial hb) <| .ite (.ite trivial hb) <| .ite hb <|
    .ite (.ite trivial hb) <| .ite hb <| .ite (.ite trivial hbmp) trivial

theorem parsePrim_spec (perm : Bool) (s : Schema) (utag : Nat) (t : TL) (inner full : Bytes) :
    Sat (fun v => (full ≠ [] → Pres s v) ∧ (vsize v ≤ 1 + inner.length + full.length ∨ vsize v ≤ 2 + 2 * inner.length))
      (parsePrim perm s utag t inner full) := by
  have int : ∀ {r : Res Int}, Sat (fun i => intLen i ≤ inner.length) r →
      Sat (fun v => (∃ i, v = .int i) ∧ (vsize v ≤ 1 + inner.length + full.length ∨ vsize v ≤ 2 + 2 * inner.length))
        (resInt r) :=
    fun h => h.elim (fun i hi => ⟨⟨i, rfl⟩, Or.inr (by show 1 + intLen i ≤ _; omega)⟩) trivial
  cases s with
  | raw => exact ⟨fun hf => ⟨_, _, _, _, _, rfl, hf⟩, Or.inl (Nat.le_refl _)⟩
  | oid =>
    exact (parseOID_sat inner).mono fun v ⟨l, e, hl⟩ =>
      ⟨fun _ => ⟨l, e⟩, Or.inr (by subst e; show 1 + l.length ≤ _; omega)⟩
  | bits =>
    exact (parseBitString_spec inner).mono fun v ⟨d, n, e, hd⟩ =>
      ⟨fun _ => ⟨d, n, e⟩, Or.inr (by subst e; show 1 + d.length ≤ _; omega)⟩
  | enum => exact (int (parseInt32_sat perm inner)).mono fun v hv => ⟨fun _ => hv.1, hv.2⟩
  | flag => exact ⟨fun _ => ⟨true, rfl⟩, Or.inr (by show 1 ≤ _; omega)⟩
  | bigint => exact (int (parseBigInt_sat perm inner)).mono fun v hv => ⟨fun _ => hv.1, hv.2⟩
  | bool => exact (parseBool_spec inner).mono fun v ⟨b, e⟩ => ⟨fun _ => ⟨b, e⟩, Or.inr (by subst e; show 1 ≤ _; omega)⟩
  | int32 => exact (int (parseInt32_sat perm inner)).mono fun v hv => ⟨fun _ => hv.1, hv.2⟩
  | int64 => exact (int (parseInt64_sat perm inner)).mono fun v hv => ⟨fun _ => hv.1, hv.2⟩
  | octets => exact ⟨fun _ => ⟨inner, rfl⟩, Or.inr (by show 1 + inner.length ≤ _; omega)⟩
  | str =>
    exact (parseString_spec perm utag inner).mono fun v ⟨b, e, hb⟩ =>
      ⟨fun _ => ⟨b, e⟩, Or.inr (by subst e; show 1 + b.length ≤ _; omega)⟩
  | _ => trivial

theorem lin_mono {n a a' b c c' : Nat} (h : n ≤ a + b * c) (ha : a ≤ a') (hc : c ≤ c') : n ≤ a' + b * c' :=
  Nat.le_trans h (Nat.add_le_add ha (Nat.mul_le_mul_left b hc))

theorem lin_add {n m a a' b b' c c' : Nat} (h : n ≤ a + b * c) (h' : m ≤ a' + b' * c') :
    n + m ≤ a + a' + max b b' * (c + c') := by
  have m1 := Nat.mul_le_mul_right c (Nat.le_max_left b b')
  have m2 := Nat.mul_le_mul_right c' (Nat.le_max_right b b')
  rw [Nat.mul_add]
  omega

/-- at most one element per input byte: the per-element constant joins the per-byte constant -/
theorem elems_lin {v n a b l : Nat} (h : v ≤ 1 + (1 + a) * n + b * l) (hn : n ≤ l) : v ≤ 1 + (1 + a + b) * l := by
  rw [Nat.add_mul, ← Nat.add_assoc]
  exact Nat.le_trans h (Nat.add_le_add_right (Nat.add_le_add_left (Nat.mul_le_mul_left _ hn) 1) _)

/-- what an accepted field returns: an absent OPTIONAL element took its default and nothing was consumed, or a whole
    element was and the value is one of the type; in both cases its size is linear in what was consumed -/
def FieldSpec (s : Schema) (p : Params) (a b : Nat) (bs : Bytes) (x : Val × Bytes) : Prop :=
  ((p.optional = true ∧ x = (dfltVal s p, bs)) ∨ (Pres s x.1 ∧ Adv 2 x.2 bs)) ∧
    vsize x.1 ≤ a + b * (bs.length - x.2.length)

theorem FieldSpec.consumed {s : Schema} {p : Params} {a b : Nat} {bs : Bytes} {x : Val × Bytes}
    (h : FieldSpec s p a b bs x) : Consumed x.2 bs :=
  h.1.imp (fun h => congrArg Prod.snd h.2) And.right

theorem FieldSpec.present {s : Schema} {p : Params} {a b : Nat} {bs : Bytes} {x : Val × Bytes}
    (h : FieldSpec s p a b bs x) (ho : p.optional = false) : Pres s x.1 ∧ Adv 2 x.2 bs :=
  h.1.resolve_left fun h => Bool.false_ne_true (ho.symm.trans h.1)

theorem dfltVal_size (s : Schema) (p : Params) : vsize (dfltVal s p) ≤ vsize (zeroVal s) + dflt p := by
  unfold dfltVal dflt
  cases p.defaultValue with
  | none => exact Nat.le_add_right _ _
  | some d =>
    dsimp only
    by_cases hi : isIntKind s = true
    · rw [if_pos hi]
      exact Nat.le_add_left _ _
    · rw [if_neg hi]
      exact Nat.le_add_right _ _

theorem FieldSpec.absent {s : Schema} {p : Params} {a : Nat} (b : Nat) (bs : Bytes) (ho : p.optional = true)
    (ha : vsize (zeroVal s) + dflt p ≤ a) : FieldSpec s p a b bs (dfltVal s p, bs) :=
  ⟨Or.inl ⟨ho, rfl⟩, Nat.le_add_right_of_le (Nat.le_trans (dfltVal_size s p) ha)⟩

theorem Pres_flag {s : Schema} (h : isFlag s = true) : Pres s (.bool true) := by
  cases s with
  | flag => exact ⟨true, rfl⟩
  | _ => cases h

theorem primField_spec (perm : Bool) (s : Schema) (p : Params) (bs : Bytes) :
    Sat (FieldSpec s p (vsize (zeroVal s) + dflt p) 2 bs) (primField perm s p bs) := by
  rw [primField_eq]
  refine fieldWith_sat perm s p bs _ (fun ho => .absent 2 bs ho (Nat.le_refl _)) (fun r hf hr => ⟨Or.inr ⟨?_, hr⟩, ?_⟩)
    fun t utag inner rest ha => ?_
  · exact Pres_flag hf
  · have := hr.2
    show 1 ≤ _ + 2 * (bs.length - r.length)
    omega
  · refine (parsePrim_spec perm s utag t inner (takeFull bs rest)).elim (fun v hv => ?_) trivial
    have h2 := takeFull_length bs rest
    have h3 := ha.2
    refine ⟨Or.inr ⟨hv.1 (C13.takeFull_ne_nil bs rest (by omega)), ha.mono (Nat.le_add_right 2 _)⟩, ?_⟩
    show vsize v ≤ _ + 2 * (bs.length - rest.length)
    omega

theorem parseElems_spec (pf : Bytes → Res (Val × Bytes)) (P : Val → Prop) (a b : Nat)
    (hpf : ∀ bs, Sat (fun x => P x.1 ∧ x.2 <:+ bs ∧ vsize x.1 ≤ a + b * (bs.length - x.2.length)) (pf bs)) :
    ∀ (n : Nat) (bs : Bytes), Sat (fun vs => (properChain vs = true ∧ ∀ x ∈ elems vs, P x) ∧
      vsize vs ≤ 1 + (1 + a) * n + b * bs.length) (parseElems pf n bs)
  | 0, _ => by
    rw [parseElems]
    exact ⟨⟨rfl, fun _ h => nomatch h⟩, Nat.le_add_right 1 _⟩
  | n + 1, bs => by
    rw [parseElems]
    refine (hpf bs).elim (fun x hx => ?_) trivial
    obtain ⟨v, r⟩ := x
    dsimp only
    refine (parseElems_spec pf P a b hpf n r).elim (fun vs hvs => ⟨⟨hvs.1.1, ?_⟩, ?_⟩) trivial
    · intro y hy
      rcases List.mem_cons.mp hy with rfl | hy
      · exact hx.1
      · exact hvs.1.2 y hy
    · have h := lin_add hx.2.2 hvs.2
      dsimp only at h
      rw [Nat.max_self, Nat.sub_add_cancel hx.2.1.length_le] at h
      show 1 + vsize v + vsize vs ≤ 1 + (1 + a) * (n + 1) + b * bs.length
      rw [Nat.mul_succ]
      omega

theorem engine_spec (perm : Bool) (s : Schema) :
    (∀ p bs, Sat (FieldSpec s p (aC s + dflt p) (bC s) bs) (parseField perm s p bs)) ∧
    (∀ bs, Sat (fun x => Pres s x.1 ∧ x.2 <:+ bs ∧ vsize x.1 ≤ aC s + bC s * (bs.length - x.2.length))
      (parseFields perm s bs)) := by
  induction s with
  | struct fs ih =>
    refine ⟨fun p bs => ?_, fun _ => trivial⟩
    rw [parseField_struct]
    refine fieldWith_sat perm _ p bs _ (fun ho => .absent _ bs ho (Nat.add_le_add_right (Nat.le_add_left _ _) _))
      (fun _ hf => nomatch hf) fun t utag inner rest ha => ?_
    refine (ih.2 inner).elim (fun x hx => ⟨Or.inr ⟨hx.1, ha.mono (Nat.le_add_right 2 _)⟩, ?_⟩) trivial
    exact lin_mono hx.2.2 (Nat.le_add_right_of_le (Nat.le_add_right _ _))
      (Nat.le_trans (Nat.sub_le _ _) (Nat.le_trans (Nat.le_add_left _ 2) (Nat.le_sub_of_add_le' ha.2)))
  | seqOf sn e ih =>
    refine ⟨fun p bs => ?_, fun _ => trivial⟩
    rw [parseField_seqOf]
    refine fieldWith_sat perm _ p bs _ (fun ho => .absent _ bs ho (Nat.le_refl _)) (fun _ hf => nomatch hf)
      fun t utag inner rest ha => ?_
    cases univ e with
    | none => trivial
    | some u =>
      obtain ⟨ma, et, ec⟩ := u
      dsimp only
      refine (countElems_sat perm ma et ec inner.length inner).elim (fun n hn => ?_) trivial
      dsimp only
      refine (parseElems_spec _ (Pres e) (aC e) (bC e) (fun b => (ih.1 {} b).mono fun x hx =>
        ⟨(hx.present rfl).1, hx.consumed.suffix, hx.2⟩) n inner).elim
        (fun vs hvs => ⟨Or.inr ⟨hvs.1, ha.mono (Nat.le_add_right 2 _)⟩, ?_⟩) trivial
      exact lin_mono (elems_lin hvs.2 (Nat.le_trans (Nat.le_mul_of_pos_left n Nat.two_pos) hn)) (Nat.le_add_right 1 _)
        (Nat.le_trans (Nat.le_add_left _ 2) (Nat.le_sub_of_add_le' ha.2))
  | fnil => exact ⟨fun _ _ => trivial, fun bs => ⟨rfl, List.suffix_refl bs, Nat.le_add_right 1 _⟩⟩
  | fcons p s rest ihs ihr =>
    refine ⟨fun _ _ => trivial, fun bs => ?_⟩
    rw [parseFields]
    refine (ihs.1 p bs).elim (fun x hx => ?_) trivial
    obtain ⟨v1, r1⟩ := x
    dsimp only
    refine (ihr.2 r1).elim (fun y hy => ?_) trivial
    obtain ⟨vs, r2⟩ := y
    have h := lin_add hx.2 hy.2.2
    rw [Nat.sub_add_sub_cancel hx.consumed.suffix.length_le hy.2.1.length_le] at h
    dsimp only at h
    refine ⟨⟨v1, vs, rfl, hx.1.symm.imp And.left (fun h => ⟨h.1, congrArg Prod.fst h.2⟩), hy.1⟩,
      hy.2.1.trans hx.consumed.suffix, ?_⟩
    show 1 + vsize v1 + vsize vs ≤ 1 + aC s + dflt p + aC rest + max (bC s) (bC rest) * (bs.length - r2.length)
    omega
  | _ => exact ⟨fun p bs => primField_spec perm _ p bs, fun _ => trivial⟩

theorem required_present (perm : Bool) (s : Schema) (p : Params) (ho : p.optional = false) {bs : Bytes} {v : Val} {r : Bytes}
    (h : parseField perm s p bs = .ok (v, r)) : Pres s v ∧ Adv 2 r bs :=
  (((engine_spec perm s).1 p bs).of_ok h).present ho

theorem engine_size (perm : Bool) (s : Schema) :
    (∀ p bs v r, parseField perm s p bs = .ok (v, r) → vsize v ≤ aC s + dflt p + bC s * (bs.length - r.length)) ∧
    (∀ bs v r, parseFields perm s bs = .ok (v, r) → vsize v ≤ aC s + bC s * (bs.length - r.length)) :=
  ⟨fun p bs _ _ h => (((engine_spec perm s).1 p bs).of_ok h).2, fun bs _ _ h => (((engine_spec perm s).2 bs).of_ok h).2.2⟩

end ZV.C01Asn1
