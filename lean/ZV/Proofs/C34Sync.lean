import ZV.Model.C34Sync
/-!
  Invariants and progress of the synchronisation model `ZV.C34.Sync` — for every number of threads and every
  schedule (induction over `Reach`), no bounded exploration.
-/
namespace ZV.C34.Sync
open Pc

/-- holds handshakeMutex, saw `handshakeErr = nil` and the flag clear, has not stored yet -/
def preStore : Pc → Bool
  | hIn _ | hBody _ | hBodyW _ | hBodyO _ => true
  | _ => false
/-- the handshake implementation has returned (still under handshakeMutex) -/
def ended : Pc → Bool
  | hEnd _ | hRet _ _ | gEnd => true
  | _ => false
def stored : Pc → Bool
  | hStored _ | gStored => true
  | _ => false
/-- inside handleRenegotiation with handshakeMutex held -/
def inG : Pc → Bool
  | gClear | gBody | gOutW | gOut | gStored | gEnd => true
  | _ => false
/-- past Read's Handshake gate, not yet returned -/
def inR : Pc → Bool
  | rWant | rBody | rOutW | rOut | rHM => true
  | pc => inG pc

theorem setPc_same (p : Nat → Pc) (i : Nat) (pc : Pc) : setPc p i pc i = pc := by simp [setPc]
theorem setPc_other (p : Nat → Pc) {i j : Nat} (pc : Pc) (h : j ≠ i) : setPc p i pc j = p j := by simp [setPc, h]

structure Inv (s : State) : Prop where
  mx : ∀ m i j, holds m (s.pcs i) = true → holds m (s.pcs j) = true → i = j
  pre : ∀ i, preStore (s.pcs i) = true → s.flag = false ∧ s.herr = false
  fin : ∀ i, ended (s.pcs i) = true → (s.flag || s.herr) = true
  sto : ∀ i, stored (s.pcs i) = true → s.flag = true
  -- while the handshake is neither complete nor failed no Read is past its gate, unless a renegotiation (which holds
  -- handshakeMutex) is under way: what `in_free_at_hIn` rests on
  rd : (s.flag || s.herr) = false → (∀ i, inR (s.pcs i) = false) ∨ (∃ i, inG (s.pcs i) = true)

theorem holds_range {m pc} (h : holds m pc = true) : m = 0 ∨ m = 1 ∨ m = 2 := by
  rcases m with _ | _ | _ | m
  · exact .inl rfl
  · exact .inr (.inl rfl)
  · exact .inr (.inr rfl)
  · cases h

theorem init_inv : Inv init where
  mx m i _ h := by obtain rfl | rfl | rfl := holds_range h <;> cases h
  pre _ h := nomatch h
  fin _ h := nomatch h
  sto _ h := nomatch h
  rd _ := .inl fun _ => rfl

/-! ### thread-local facts (one case per rule of `T`; `induction`, since all six indices are variables and `cases`
    would solve six equations per rule) -/

theorem T_mod {pc pc' f e f' e'} (h : T pc f e pc' f' e') : holds 0 pc = true ∨ (f' = f ∧ e' = e) := by
  induction h <;> first | exact .inr ⟨rfl, rfl⟩ | exact .inl rfl

/-- the values the flag and handshakeErr may have while a thread is at `pc`: the three per-thread clauses of `Inv` -/
def allowed (pc : Pc) (f e : Bool) : Bool :=
  (!preStore pc || (!f && !e)) && (!ended pc || f || e) && (!stored pc || f)

theorem allowed_iff (pc : Pc) (f e : Bool) : allowed pc f e = true ↔
    (preStore pc = true → f = false ∧ e = false) ∧ (ended pc = true → (f || e) = true)
      ∧ (stored pc = true → f = true) := by
  unfold allowed
  generalize preStore pc = a, ended pc = b, stored pc = c
  decide +revert

theorem allowed_of_free {pc f e} (h : holds 0 pc = false) : allowed pc f e = true := by
  cases pc <;> first | rfl | cases h

/-- what `inv_step` needs of the stepping thread: the first conjunct for `pre`, `fin`, `sto`, the second for `rd` -/
theorem T_keeps {pc pc' f e f' e'} (h : T pc f e pc' f' e') (ha : allowed pc f e = true) :
    allowed pc' f' e' = true ∧ ((f' || e') = false → inG pc' = true
      ∨ ((f || e) = false ∧ (inR pc' = true → inR pc = true) ∧ (inG pc = true → inG pc' = true))) := by
  induction h <;> decide +revert

theorem inG_hm {pc} (h : inG pc = true) : holds 0 pc = true := by cases pc <;> first | rfl | cases h

theorem other_unchanged {s : State} (h : Inv s) {i j : Nat} {pc' f' e'} (hT : T (s.pcs i) s.flag s.herr pc' f' e')
    (hj : j ≠ i) (hh : holds 0 (s.pcs j) = true) : f' = s.flag ∧ e' = s.herr := by
  rcases T_mod hT with h0 | h0
  · exact absurd (h.mx 0 j i hh h0) hj
  · exact h0

theorem inv_step {s s' : State} {i : Nat} (h : Inv s) (st : Step i s s') : Inv s' := by
  obtain ⟨pc', f', e', hT, hfree, rfl⟩ := st
  have old (j) : allowed (s.pcs j) s.flag s.herr = true := (allowed_iff ..).2 ⟨h.pre j, h.fin j, h.sto j⟩
  -- the stepping thread by `T_keeps`; any other either holds handshakeMutex and sees flag and error unchanged,
  -- or does not and is bound by no clause
  have new (j) : allowed (setPc s.pcs i pc' j) f' e' = true := by
    by_cases hji : j = i
    · rw [hji, setPc_same]; exact (T_keeps hT (old i)).1
    · rw [setPc_other _ _ hji]
      cases hh : holds 0 (s.pcs j)
      · exact allowed_of_free hh
      · obtain ⟨hf, he⟩ := other_unchanged h hT hji hh
        rw [hf, he]; exact old j
  refine ⟨?_, fun j => ((allowed_iff ..).1 (new j)).1, fun j => ((allowed_iff ..).1 (new j)).2.1,
    fun j => ((allowed_iff ..).1 (new j)).2.2, ?_⟩
  · intro m a b ha hb
    -- the stepping thread does not come to share `m` with another one
    have key : ∀ b, b ≠ i → holds m pc' = true → holds m (s.pcs b) = true → False := by
      intro b hbi h1 h2
      cases hm : holds m (s.pcs i)
      · rw [hfree m hm h1 b] at h2; cases h2
      · exact hbi (h.mx m b i h2 hm)
    simp only at ha hb
    by_cases hai : a = i <;> by_cases hbi : b = i
    · rw [hai, hbi]
    · subst hai; rw [setPc_same] at ha; rw [setPc_other _ _ hbi] at hb
      exact (key b hbi ha hb).elim
    · subst hbi; rw [setPc_same] at hb; rw [setPc_other _ _ hai] at ha
      exact (key a hai hb ha).elim
    · rw [setPc_other _ _ hai] at ha; rw [setPc_other _ _ hbi] at hb
      exact h.mx m a b ha hb
  · intro hs
    simp only at hs ⊢
    rcases (T_keeps hT (old i)).2 hs with h1 | ⟨h0, hR, hG⟩
    · exact Or.inr ⟨i, by rw [setPc_same]; exact h1⟩
    · rcases h.rd h0 with hn | ⟨k, hk⟩
      · left; intro j
        by_cases hji : j = i
        · subst hji; rw [setPc_same]
          cases hc : inR pc'
          · rfl
          · have := hR hc; rw [hn j] at this; cases this
        · rw [setPc_other _ _ hji]; exact hn j
      · right
        by_cases hki : k = i
        · subst hki; exact ⟨k, by rw [setPc_same]; exact hG hk⟩
        · exact ⟨k, by rw [setPc_other _ _ hki]; exact hk⟩

theorem reach_inv {s : State} (h : Reach s) : Inv s := by
  induction h with
  | init => exact init_inv
  | step i _ st ih => exact inv_step ih st

theorem wants_range {pc m} (h : wants pc = some m) : m = 0 ∨ m = 1 ∨ m = 2 := by
  cases pc <;> cases h <;> decide

theorem T_succ (pc : Pc) (f e : Bool) (h : pc ≠ idle) : ∃ pc' f' e', T pc f e pc' f' e' := by
  cases pc with
  | idle => exact absurd rfl h
  | hChk r => cases e <;> cases f <;> exact ⟨_, _, _, by constructor⟩
  | hRet r ok =>
    cases r <;> cases ok <;> first | exact ⟨_, _, _, .retRead f e⟩ | exact ⟨_, _, _, .retIdle _ _ f e rfl⟩
  | _ => exact ⟨_, _, _, by constructor⟩

/-- the conclusion of `T_gain` as a Boolean over the three mutexes, so that each rule of `T` is checked by `rfl` -/
def gainsOnly (pc pc' : Pc) : Bool := [0, 1, 2].all fun m => !holds m pc' || holds m pc || wants pc == some m

theorem gains_of {pc pc' m} (h : gainsOnly pc pc' = true) (hm : holds m pc' = true) :
    holds m pc = true ∨ wants pc = some m := by
  have hmem : m ∈ [0, 1, 2] := by obtain rfl | rfl | rfl := holds_range hm <;> decide
  simpa [hm] using List.all_eq_true.1 h m hmem

/-- `wants` is right about `T` -/
theorem T_gain {pc pc' f e f' e' m} (h : T pc f e pc' f' e') (hm : holds m pc' = true) :
    holds m pc = true ∨ wants pc = some m := by
  induction h <;> exact gains_of rfl hm

def CanStep (s : State) (i : Nat) : Prop := s.pcs i ≠ idle ∧ ∃ s', Step i s s'

theorem can_step {s : State} {i : Nat} (hi : s.pcs i ≠ idle)
    (hf : ∀ m, wants (s.pcs i) = some m → ∀ j, holds m (s.pcs j) = false) : CanStep s i := by
  obtain ⟨pc', f', e', hT⟩ := T_succ (s.pcs i) s.flag s.herr hi
  refine ⟨hi, _, pc', f', e', hT, fun m h0 h1 => hf m ?_, rfl⟩
  exact (T_gain hT h1).resolve_left (by rw [h0]; nofun)

theorem can_of_nowant {s : State} {i : Nat} (hi : s.pcs i ≠ idle) (hw : wants (s.pcs i) = none) : CanStep s i :=
  can_step hi fun m h => by rw [hw] at h; cases h

theorem can_of_free {s : State} {i m : Nat} (hw : wants (s.pcs i) = some m) (hf : ∀ j, holds m (s.pcs j) = false) :
    CanStep s i :=
  can_step (fun h => by rw [h] at hw; cases hw) fun m' h => by rw [hw] at h; cases h; exact hf

theorem free_or_owner (s : State) (m : Nat) : (∀ j, holds m (s.pcs j) = false) ∨ ∃ j, holds m (s.pcs j) = true := by
  by_cases h : ∃ j, holds m (s.pcs j) = true
  · exact .inr h
  · exact .inl fun j => Bool.eq_false_iff.2 fun hc => h ⟨j, hc⟩

theorem holder_busy {m pc} (h : holds m pc = true) : pc ≠ idle := by
  rintro rfl
  obtain rfl | rfl | rfl := holds_range h <;> cases h
theorem out_holder {pc} (h : holds 2 pc = true) : wants pc = none := by
  cases pc <;> first | rfl | cases h
theorem in_holder {pc} (h : holds 1 pc = true) : wants pc = none ∨ wants pc = some 2 ∨ wants pc = some 0 := by
  revert h; cases pc <;> decide +revert
theorem hm_holder {pc} (h : holds 0 pc = true) : wants pc = none ∨ wants pc = some 2 ∨ ∃ r, pc = hIn r := by
  revert h; cases pc <;> decide +revert
theorem in_holder_region {pc} (h : holds 1 pc = true) : holds 0 pc = true ∨ inR pc = true := by
  revert h; cases pc <;> decide +revert

/-- THE KEY FACT behind the handshakeMutex→in / in→handshakeMutex inversion being harmless: whenever a Handshake
    call is about to lock `in` (it holds handshakeMutex and saw the flag clear and no error), nobody holds `in`. -/
theorem in_free_at_hIn {s : State} (h : Inv s) {a : Nat} {r : Bool} (ha : s.pcs a = hIn r) :
    ∀ b, holds 1 (s.pcs b) = false := by
  intro b
  cases hb : holds 1 (s.pcs b)
  · rfl
  · exfalso
    have ha0 : holds 0 (s.pcs a) = true := by rw [ha]; rfl
    have ha1 : holds 1 (s.pcs a) = false := by rw [ha]; rfl
    obtain ⟨hf, he⟩ := h.pre a (by rw [ha]; rfl)
    rcases in_holder_region hb with h0 | hR
    · have := h.mx 0 a b ha0 h0; subst this; rw [ha1] at hb; cases hb
    · rcases h.rd (by rw [hf, he]; rfl) with hn | ⟨k, hk⟩
      · rw [hn b] at hR; cases hR
      · have := h.mx 0 a k ha0 (inG_hm hk); subst this
        rw [ha] at hk; cases hk

theorem want_out_progress {s : State} {k : Nat} (hk : wants (s.pcs k) = some 2) : ∃ j, CanStep s j := by
  rcases free_or_owner s 2 with hf | ⟨j, hj⟩
  · exact ⟨k, can_of_free hk hf⟩
  · exact ⟨j, can_of_nowant (holder_busy hj) (out_holder hj)⟩

theorem hm_owner_progress {s : State} (h : Inv s) {a : Nat} (ha : holds 0 (s.pcs a) = true) : ∃ j, CanStep s j := by
  obtain hw | hw | ⟨r, hr⟩ := hm_holder ha
  · exact ⟨a, can_of_nowant (holder_busy ha) hw⟩
  · exact want_out_progress hw
  · exact ⟨a, can_of_free (m := 1) (by rw [hr]; rfl) (in_free_at_hIn h hr)⟩

theorem want_hm_progress {s : State} (h : Inv s) {k : Nat} (hk : wants (s.pcs k) = some 0) : ∃ j, CanStep s j := by
  rcases free_or_owner s 0 with hf | ⟨a, ha⟩
  · exact ⟨k, can_of_free hk hf⟩
  · exact hm_owner_progress h ha

theorem progress {s : State} (h : Inv s) {i : Nat} (hi : s.pcs i ≠ idle) : ∃ j, CanStep s j := by
  cases hw : wants (s.pcs i) with
  | none => exact ⟨i, can_of_nowant hi hw⟩
  | some m =>
    rcases wants_range hw with rfl | rfl | rfl
    · exact want_hm_progress h hw
    · rcases free_or_owner s 1 with hf | ⟨b, hb⟩
      · exact ⟨i, can_of_free hw hf⟩
      · obtain hb' | hb' | hb' := in_holder hb
        · exact ⟨b, can_of_nowant (holder_busy hb) hb'⟩
        · exact want_out_progress hb'
        · exact want_hm_progress h hb'
    · exact want_out_progress hw

end ZV.C34.Sync
