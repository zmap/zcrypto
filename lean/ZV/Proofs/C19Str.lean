import ZV.Model.C19
import ZV.Proofs.Res
/-! The two flags of `isPrintable`: encoding/asn1's PrintableString decoder allows `&`, its encoder does not. -/
namespace ZV.Der0

theorem isPrintable_amp (b : UInt8) (asterisk : Bool) :
    isPrintable b asterisk true = (isPrintable b asterisk false || b.toNat == 38) := by
  simp only [isPrintable, Bool.true_and, Bool.false_and, Bool.or_false]

/-- the restricted string types: decoder and encoder test every octet and copy the contents, so what passes the test
    `p` of the one passes the test `q` of the other whenever `p` implies `q` on the octets present -/
theorem allGuard_imp {p q : UInt8 → Bool} {bs v : Bytes} (hpq : ∀ b ∈ bs, p b = true → q b = true)
    (h : (if bs.all p = true then Res.ok bs else .err) = .ok v) :
    (if v.all q = true then Res.ok v else .err) = .ok bs := by
  obtain ⟨hc, rfl⟩ := accept_eq_ok.1 h
  exact if_pos (List.all_eq_true.2 fun b hb => hpq b hb (List.all_eq_true.1 hc b hb))

end ZV.Der0
