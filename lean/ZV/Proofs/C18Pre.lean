import ZV.Model.C18Dom
import ZV.Proofs.Res
/-!
  The parse side of the `encoding/asn1` model in closed form.  Every arm of `parseField` is the same prologue (end of
  data, header, EXPLICIT stage, tag matching) followed by the arm's own work on the element found: `fieldWith` is that
  prologue with the arm as a parameter `k`, and `fieldWith_elim` is the one case analysis of the prologue.  What is
  proved about `parseField` for every Go type (no panic, progress, size, typing, strict ⇒ permissive) goes through it.
-/
namespace ZV.C18

/-- what every arm of `parseField` does before its own work: end of data or a header that does not match give the default,
    an empty EXPLICIT wrapper a Flag, otherwise the arm `k` runs on the element -/
def fieldWith (perm : Bool) (s : Schema) (p : Params) (bs : Bytes) (k : TL → Nat → Bytes → Bytes → Res (Val × Bytes)) :
    Res (Val × Bytes) :=
  if bs.isEmpty then dfltOrErr s p bs
  else match parsePre perm s p bs with
    | .err => .err
    | .dflt => dfltOrErr s p bs
    | .flag r => .ok (.bool true, r)
    | .go t utag inner rest => k t utag inner rest

theorem parseField_struct (perm : Bool) (fs : Schema) (p : Params) (bs : Bytes) :
    parseField perm (.struct fs) p bs = fieldWith perm (.struct fs) p bs (fun _ _ inner rest =>
      match parseFields perm fs inner with
      | .ok (vs, _) => .ok (vs, rest)
      | .err => .err
      | .panic => .panic) := by
  rw [parseField]
  rfl

theorem parseField_seqOf (perm : Bool) (sn : Bool) (e : Schema) (p : Params) (bs : Bytes) :
    parseField perm (.seqOf sn e) p bs = fieldWith perm (.seqOf sn e) p bs (fun _ _ inner rest =>
      match univ e with
      | none => .err
      | some (matchAny, etag, ecomp) =>
        match countElems perm matchAny etag ecomp inner.length inner with
        | .err => .err
        | .panic => .panic
        | .ok n =>
          match parseElems (fun b => parseField perm e {} b) n inner with
          | .ok vs => .ok (vs, rest)
          | .err => .err
          | .panic => .panic) := by
  rw [parseField]
  rfl

theorem primField_eq (perm : Bool) (s : Schema) (p : Params) (bs : Bytes) :
    primField perm s p bs = fieldWith perm s p bs (fun t utag inner rest =>
      match parsePrim perm s utag t inner (takeFull bs rest) with
      | .ok v => .ok (v, rest)
      | .err => .err
      | .panic => .panic) := rfl

theorem dfltOrErr_eq (s : Schema) (p : Params) (bs : Bytes) :
    dfltOrErr s p bs = if p.optional then .ok (dfltVal s p, bs) else .err := by
  unfold dfltOrErr dfltVal
  cases p.defaultValue with
  | none => rfl
  | some d =>
    dsimp only
    by_cases ho : p.optional = true
    · rw [if_pos ho, if_pos ho]
      by_cases hi : isIntKind s = true
      · rw [if_pos hi, if_pos hi]
      · rw [if_neg hi, if_neg hi]
    · rw [if_neg ho, if_neg ho]

section
variable {perm : Bool} {s : Schema} {p : Params} {bs : Bytes} {k : TL → Nat → Bytes → Bytes → Res (Val × Bytes)}

theorem fieldWith_absent (h : bs.isEmpty = true ∨ parsePre perm s p bs = .dflt) :
    fieldWith perm s p bs k = dfltOrErr s p bs := by
  unfold fieldWith
  by_cases he : bs.isEmpty = true
  · rw [if_pos he]
  · rw [if_neg he, h.resolve_left he]

theorem fieldWith_flag {r : Bytes} (h : parsePre perm s p bs = .flag r) : fieldWith perm s p bs k = .ok (.bool true, r) := by
  cases bs with
  | nil => cases h
  | cons b t =>
    unfold fieldWith
    rw [List.isEmpty_cons, if_neg Bool.false_ne_true, h]

theorem fieldWith_go {t : TL} {utag : Nat} {inner rest : Bytes} (h : parsePre perm s p bs = .go t utag inner rest) :
    fieldWith perm s p bs k = k t utag inner rest := by
  cases bs with
  | nil => cases h
  | cons b r =>
    unfold fieldWith
    rw [List.isEmpty_cons, if_neg Bool.false_ne_true, h]

theorem fieldWith_elim {C : Res (Val × Bytes) → Prop}
    (absent : bs.isEmpty = true ∨ parsePre perm s p bs = .dflt → C (dfltOrErr s p bs)) (err : C .err)
    (flag : ∀ r, parsePre perm s p bs = .flag r → C (.ok (.bool true, r)))
    (go : ∀ t utag inner rest, parsePre perm s p bs = .go t utag inner rest → C (k t utag inner rest)) :
    C (fieldWith perm s p bs k) := by
  by_cases he : bs.isEmpty = true
  · rw [fieldWith_absent (Or.inl he)]
    exact absent (Or.inl he)
  · cases hp : parsePre perm s p bs with
    | err =>
      unfold fieldWith
      rw [if_neg he, hp]
      exact err
    | dflt =>
      rw [fieldWith_absent (Or.inr hp)]
      exact absent (Or.inr hp)
    | flag r =>
      rw [fieldWith_flag hp]
      exact flag r hp
    | go t utag inner rest =>
      rw [fieldWith_go hp]
      exact go t utag inner rest hp

end

theorem parseFields_cons_ok {perm : Bool} {p : Params} {s rest : Schema} {bs r' : Bytes} {vs : Val}
    (h : parseFields perm (.fcons p s rest) bs = .ok (vs, r')) :
    ∃ v r ws, parseField perm s p bs = .ok (v, r) ∧ parseFields perm rest r = .ok (ws, r') ∧ vs = .vcons v ws := by
  rw [parseFields] at h
  cases hx : parseField perm s p bs <;> rw [hx] at h <;> try cases h
  dsimp only at h
  cases hxs : parseFields perm rest _ <;> rw [hxs] at h <;> cases h
  exact ⟨_, _, _, rfl, hxs, rfl⟩

end ZV.C18
