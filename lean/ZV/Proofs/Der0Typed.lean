import ZV.Proofs.Der0CB
import ZV.Proofs.Der0Enc
/-!
  Every typed cryptobyte reader is `ReadASN1(&bytes, tag)` followed by a parser of the contents octets, and for the
  types both codecs know that parser is encoding/asn1's (`CB.typed`, one equation `CB.readX_eq` per reader; `readUint64` has
  none, encoding/asn1 has no `asn1Unsigned`).  Canonical decoding, agreement of the two codecs and write → read of a typed
  reader are then facts about the element reader (`Der0CB`) and about the content parser alone.
-/
open ZV ZV.Der0
namespace ZV.Der0

def CB.typed {α : Type} (tag : UInt8) (p : Bytes → Res α) (s : Bytes) : Res (α × Bytes) :=
  match CB.readASN1Tag s tag with
  | .ok (body, rest) =>
    (match p body with
     | .ok v => .ok (v, rest)
     | .err => .err
     | .panic => .panic)
  | .err => .err
  | .panic => .panic

theorem CB.typed_of_tag {α : Type} {tag : UInt8} {p : Bytes → Res α} {s body rest : Bytes}
    (h : CB.readASN1Tag s tag = .ok (body, rest)) :
    CB.typed tag p s = (match p body with | .ok v => .ok (v, rest) | .err => .err | .panic => .panic) := by
  rw [CB.typed, h]

theorem CB.typed_ok {α : Type} {tag : UInt8} {p : Bytes → Res α} {s rest : Bytes} {v : α}
    (h : CB.typed tag p s = .ok (v, rest)) : ∃ body, CB.readASN1Tag s tag = .ok (body, rest) ∧ p body = .ok v := by
  obtain ⟨body, r, hr, hk⟩ := CB.ofTag h
  cases hp : p body with
  | ok w =>
    rw [hp] at hk
    cases hk
    exact ⟨body, hr, hp⟩
  | err =>
    rw [hp] at hk
    cases hk
  | panic =>
    rw [hp] at hk
    cases hk

theorem CB.typed_canon {α : Type} {tag : UInt8} {p : Bytes → Res α} {c : α → Bytes} {s rest : Bytes} {v : α}
    (hp : ∀ {body}, p body = .ok v → c v = body) (h : CB.typed tag p s = .ok (v, rest)) :
    ∃ pre, CB.element tag (c v) = .ok pre ∧ s = pre ++ rest := by
  obtain ⟨body, hr, hb⟩ := CB.typed_ok h
  rw [hp hb]
  exact CB.readASN1Tag_canon hr

theorem CB.typed_back {α : Type} {tag : UInt8} {p : Bytes → Res α} {body pre : Bytes} {v : α} (t : Bytes)
    (h : CB.element tag body = .ok pre) (hsz : body.length < 4294967290) (hp : p body = .ok v) :
    CB.typed tag p (pre ++ t) = .ok (v, t) := by
  rw [CB.typed_of_tag (CB.readASN1Tag_back tag body pre t h hsz), hp]

theorem CB.typed_eq {α : Type} {tag : UInt8} {p : Bytes → Res α} {k : Bytes → Bytes → Res (α × Bytes)} (s : Bytes)
    (hk : ∀ body rest, k body rest = (match p body with | .ok v => .ok (v, rest) | .err => .err | .panic => .panic)) :
    (match CB.readASN1Tag s tag with | .ok (body, rest) => k body rest | .err => .err | .panic => .panic) =
      CB.typed tag p s := by
  unfold CB.typed
  cases CB.readASN1Tag s tag with
  | ok x => exact hk x.1 x.2
  | err => rfl
  | panic => rfl

theorem CB.readBool_eq (s : Bytes) : CB.readBool s = CB.typed 1 EA.parseBool s :=
  CB.typed_eq s fun body rest => by
    unfold EA.parseBool
    cases boolOfContent body <;> rfl

theorem CB.readBigInt_eq (s : Bytes) : CB.readBigInt s = CB.typed 2 EA.parseBigInt s :=
  CB.typed_eq s fun body rest => by
    unfold EA.parseBigInt
    cases checkInteger body <;> rfl

/-- `asn1Signed` after `checkASN1Integer` is `parseInt64` -/
theorem CB.readInt64Tag_eq (s : Bytes) (tag : UInt8) : CB.readInt64Tag s tag = CB.typed tag EA.parseInt64 s :=
  CB.typed_eq s fun body rest => by
    unfold EA.parseInt64 CB.asn1Signed
    cases checkInteger body
    · rfl
    · by_cases h8 : body.length > 8
      · simp only [Bool.not_true, Bool.false_eq_true, if_false, if_pos h8]
      · simp only [Bool.not_true, Bool.false_eq_true, if_false, if_neg h8]

theorem CB.readOID_eq (s : Bytes) : CB.readOID s = CB.typed 6 EA.parseObjectIdentifier s :=
  CB.typed_eq s fun body rest => by
    cases body with
    | nil => rfl
    | cons b t =>
      simp only [EA.parseObjectIdentifier, ← base128_agree, oidArcs_agree]
      cases EA.parseBase128Int (b :: t) with
      | ok y =>
        dsimp only
        cases CB.oidArcs y.2.length y.2 <;> rfl
      | err => rfl
      | panic => rfl

/-- cryptobyte tests the last DATA octet where encoding/asn1 tests the last octet of the contents -/
theorem CB.readBitString_eq (s : Bytes) : CB.readBitString s = CB.typed 3 EA.parseBitString s :=
  CB.typed_eq s fun body rest => by
    cases body with
    | nil => rfl
    | cons b0 tl =>
      simp only [EA.parseBitString, List.length_cons]
      rw [show ((tl.length + 1 : Nat) : Int) - 1 = tl.length by omega]
      by_cases h7 : b0.toNat > 7
      · rw [if_pos h7, if_pos h7]
      · rw [if_neg h7, if_neg h7]
        cases tl with
        | nil =>
          by_cases h0 : b0.toNat = 0
          · simp [lastByte, h0]
          · simp [h0, Nat.pos_of_ne_zero h0]
        | cons c t =>
          by_cases hl : (lastByte (c :: t)).toNat % 2 ^ b0.toNat = 0 <;> simp [lastByte, hl]

end ZV.Der0
