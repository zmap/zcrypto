import ZV.Model.C16Rd
/-! the reader layer: on failure-free scripts the result depends on the concatenated bytes only (`readFull_spec`);
  with the error classes forgotten (`erase`) the element loop of readASN1CertList is the loop of the chain decoder -/
namespace ZV.C16
open ZV.Wire

def erase {α} : RRes α → Res α
  | .ok a => .ok a
  | .fail _ => .err

theorem erase_ne_panic {α} (r : RRes α) : erase r ≠ .panic := by
  cases r <;> nofun

/-- io.ReadFull on a failure-free reader -/
theorem readFull_spec (s : Script) (n : Nat) (acc : Bytes) (hs : noFail s = true) :
    if n ≤ (flat s).length then
      (readFull s n acc).1 = .ok (acc ++ (flat s).take n) ∧ flat (readFull s n acc).2 = (flat s).drop n ∧
        noFail (readFull s n acc).2 = true
    else (readFull s n acc).1 = .fail (if (acc ++ flat s).isEmpty then .eof else .uexp) := by
  induction s generalizing n acc with
  | nil =>
    cases n with
    | zero => simp [readFull, flat, noFail]
    | succ m => simp [readFull, flat]
  | cons e r ih =>
    cases e with
    | fail => simp [noFail] at hs
    | data b =>
      have hr : noFail r = true := by simpa [noFail] using hs
      cases n with
      | zero => simp [readFull, hs]
      | succ m =>
        simp only [readFull, flat, List.length_append]
        by_cases hb : b.length ≤ m + 1
        · have := ih (m + 1 - b.length) (acc ++ b) hr
          rw [if_pos hb]
          by_cases hn : m + 1 ≤ b.length + (flat r).length
          · rw [if_pos (by omega)] at this
            rw [if_pos hn, this.1, this.2.1]
            simp [List.take_append, List.drop_append, List.take_of_length_le hb, List.drop_of_length_le hb, this.2.2]
          · rw [if_neg (by omega)] at this
            rw [if_neg hn, this, List.append_assoc]
            rfl
        · have hb' : m + 1 ≤ b.length := by omega
          rw [if_neg hb, if_pos (by omega)]
          simp [flat, noFail, hr, List.take_append_of_le_length hb', List.drop_append_of_le_length hb']

theorem certLoopB_erase (k : Nat) (bs : Bytes) (hk : 0 < k) (hk8 : k ≤ 8) :
    erase (certLoopB k bs) = parseEntries k bs := by
  fun_induction certLoopB k bs with
  | case1 => omega
  | case2 => omega
  | case3 bs _ h0 hl =>
    rw [parseEntries, if_neg h0, if_pos hl]
    rfl
  | case4 bs _ h0 hl l rest hr =>
    rw [parseEntries, if_neg h0, if_neg hl, if_pos hr]
    rfl
  | case5 bs _ h0 hl l rest hr es he ih =>
    rw [parseEntries, if_neg h0, if_neg hl, if_neg hr, ← ih, he]
    rfl
  | case6 bs _ h0 hl l rest hr e he ih =>
    rw [parseEntries, if_neg h0, if_neg hl, if_neg hr, ← ih, he]
    rfl

end ZV.C16
