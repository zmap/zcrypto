import ZV.Model.C23
import ZV.Proofs.Res
import ZV.Proofs.Base256
import Mathlib.Tactic.Ring
/-! byte-string ↔ integer lemmas for `ZV.Props.C23` (`os2ip`, `natToBytesBE`, `sizeBytes`, `encrypt`), and the
    separator scan the three paddings share (`findIdx?_eq_some_iff_append`). -/
namespace ZV.C23
open ZV ZV.Hash

theorem modPow_eq (a e n : Nat) : modPow a e n = a ^ e % n := by
  induction e using Nat.strong_induction_on with
  | _ e ih =>
    rw [modPow]
    split
    · next h => subst h; simp
    · next h =>
      have hlt : e / 2 < e := Nat.div_lt_self (Nat.pos_of_ne_zero h) (by decide)
      have hpow : a ^ e = a ^ (e / 2) * a ^ (e / 2) * a ^ (e % 2) := by
        rw [← pow_add, ← pow_add]; congr 1; omega
      simp only [ih (e / 2) hlt]
      split
      · next h1 =>
        rw [hpow, h1, pow_one]
        simp [Nat.mul_mod]
      · next h1 =>
        have h0 : e % 2 = 0 := by omega
        rw [hpow, h0, pow_zero, mul_one]
        simp [Nat.mul_mod]

theorem os2ip_nil : os2ip [] = 0 := rfl

theorem os2ip_cons (b : UInt8) (bs : Bytes) :
    os2ip (b :: bs) = b.toNat * 256 ^ bs.length + os2ip bs :=
  be256_cons b bs

theorem os2ip_lt (bs : Bytes) : os2ip bs < 256 ^ bs.length :=
  be256_lt bs

theorem natToBytesBE_eq (k v : Nat) : natToBytesBE k v = fixBE k v := by
  induction k with
  | zero => rfl
  | succ k ih => exact congrArg (_ :: ·) ih

theorem natToBytesBE_length (k v : Nat) : (natToBytesBE k v).length = k := by
  rw [natToBytesBE_eq, fixBE_length]

theorem os2ip_natToBytesBE (k v : Nat) : os2ip (natToBytesBE k v) = v % 256 ^ k := by
  rw [natToBytesBE_eq]
  exact be256_fixBE k v

theorem os2ip_natToBytesBE_of_lt {k v : Nat} (h : v < 256 ^ k) : os2ip (natToBytesBE k v) = v := by
  rw [os2ip_natToBytesBE, Nat.mod_eq_of_lt h]

theorem natToBytesBE_os2ip (bs : Bytes) : natToBytesBE bs.length (os2ip bs) = bs := by
  rw [natToBytesBE_eq]
  exact fixBE_be256 bs

theorem natToBytesBE_eq_iff {K v : Nat} {x : Bytes} (hv : v < 256 ^ K) :
    natToBytesBE K v = x ↔ x.length = K ∧ os2ip x = v := by
  constructor
  · rintro rfl
    exact ⟨natToBytesBE_length _ _, os2ip_natToBytesBE_of_lt hv⟩
  · rintro ⟨rfl, rfl⟩
    exact natToBytesBE_os2ip x

theorem lt_pow_sizeBytes (n : Nat) : n < 256 ^ sizeBytes n := by
  unfold sizeBytes bitLen
  split
  · next h => subst h; simp
  · have h1 : n < 2 ^ (n.log2 + 1) := Nat.lt_log2_self
    have h2 : n.log2 + 1 ≤ 8 * ((n.log2 + 1 + 7) / 8) := by omega
    have h3 : (256 : Nat) ^ ((n.log2 + 1 + 7) / 8) = 2 ^ (8 * ((n.log2 + 1 + 7) / 8)) := by
      rw [show (256 : Nat) = 2 ^ 8 by norm_num, ← pow_mul]
    rw [h3]
    exact Nat.lt_of_lt_of_le h1 (Nat.pow_le_pow_right (by decide) h2)

theorem mod_lt_pow_sizeBytes {n : Nat} (v : Nat) (hn : 0 < n) : v % n < 256 ^ sizeBytes n :=
  Nat.lt_trans (Nat.mod_lt _ hn) (lt_pow_sizeBytes n)

theorem two_pow_emBits_le {n : Nat} (hn : 0 < n) : 2 ^ (bitLen n - 1) ≤ n := by
  unfold bitLen
  rw [if_neg (by omega)]
  exact Nat.log2_self_le (by omega)

theorem pow_sizeBytes_pred_le {n : Nat} (hn : 0 < n) : 256 ^ (sizeBytes n - 1) ≤ n := by
  have hexp : 8 * (sizeBytes n - 1) ≤ bitLen n - 1 := by unfold sizeBytes; omega
  rw [show (256 : Nat) = 2 ^ 8 from rfl, ← Nat.pow_mul]
  exact Nat.le_trans (Nat.pow_le_pow_right (by decide) hexp) (two_pow_emBits_le hn)

theorem emLen_le_sizeBytes (n : Nat) : (bitLen n - 1 + 7) / 8 ≤ sizeBytes n :=
  Nat.div_le_div_right (Nat.add_le_add_right (Nat.sub_le _ 1) 7)

theorem os2ip_cons_lt (b : UInt8) (rest : Bytes) : os2ip (b :: rest) < (b.toNat + 1) * 256 ^ rest.length := by
  rw [os2ip_cons]
  have := os2ip_lt rest
  rw [Nat.add_mul, Nat.one_mul]
  omega

theorem os2ip_replicate_zero (j : Nat) (bs : Bytes) : os2ip (List.replicate j 0 ++ bs) = os2ip bs :=
  be256_replicate_zero j bs

theorem os2ip_00_lt {n : Nat} (hn : 0 < n) (rest : Bytes) (hl : (0 :: rest : Bytes).length = sizeBytes n) :
    os2ip (0 :: rest) < n := by
  have h1 := os2ip_lt rest
  have h2 := pow_sizeBytes_pred_le hn
  rw [← hl] at h2
  simp only [List.length_cons, Nat.add_sub_cancel] at h2
  rw [os2ip_cons]
  simp only [UInt8.toNat_zero, Nat.zero_mul, Nat.zero_add]
  omega

theorem encrypt_eq (n e : Nat) (pt : Bytes) :
    encrypt n e pt = if os2ip pt < n then .ok (natToBytesBE (sizeBytes n) (os2ip pt ^ e % n)) else .err := by
  unfold encrypt i2osp
  by_cases h : os2ip pt < n
  · have h2 := mod_lt_pow_sizeBytes (os2ip pt ^ e) (Nat.zero_lt_of_lt h)
    simp [h, modPow_eq, h2, Nat.not_le.2 h]
  · simp [h, Nat.not_lt.1 h]

theorem encrypt_ok_iff {n e : Nat} {x y : Bytes} :
    encrypt n e x = .ok y ↔ os2ip x < n ∧ y.length = sizeBytes n ∧ os2ip y = os2ip x ^ e % n := by
  rw [encrypt_eq, accept_eq_ok]
  exact and_congr_right fun hlt => natToBytesBE_eq_iff (mod_lt_pow_sizeBytes _ (Nat.zero_lt_of_lt hlt))

theorem findIdx?_eq_some_iff_append {α : Type} {p : α → Bool} {l : List α} {i : Nat} :
    l.findIdx? p = some i ↔ ∃ a x b, l = a ++ x :: b ∧ a.length = i ∧ p x = true ∧ ∀ y ∈ a, p y = false := by
  constructor
  · intro h
    obtain ⟨hlt, hx, hbefore⟩ := List.findIdx?_eq_some_iff_getElem.1 h
    refine ⟨l.take i, l[i], l.drop (i + 1), ?_, List.length_take_of_le hlt.le, hx, fun y hy => ?_⟩
    · rw [← List.drop_eq_getElem_cons hlt, List.take_append_drop]
    · obtain ⟨j, hj, rfl⟩ := List.getElem_of_mem hy
      rw [List.length_take] at hj
      rw [List.getElem_take]
      exact Bool.not_eq_true _ ▸ hbefore j (by omega)
  · rintro ⟨a, x, b, rfl, rfl, hx, ha⟩
    rw [List.findIdx?_append, List.findIdx?_eq_none_iff.2 ha, List.findIdx?_cons, if_pos hx]
    exact congrArg some (Nat.zero_add _)

end ZV.C23
