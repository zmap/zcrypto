/-!
  Three bytes as four 6-bit groups: the arithmetic under both base64 models (C15 over bytes, whose decoder shifts the groups
  into a 24-bit value; C33 over characters, whose decoder joins neighbouring groups byte by byte).
-/
namespace ZV

theorem sextet_lt (a b c : UInt8) :
    a.toNat / 4 < 64 ∧ a.toNat % 4 * 16 + b.toNat / 16 < 64 ∧ b.toNat % 16 * 4 + c.toNat / 64 < 64 ∧ c.toNat % 64 < 64 := by
  have := a.toNat_lt
  have := b.toNat_lt
  have := c.toNat_lt
  omega

theorem div_mod_pack (q r n : Nat) (h : r < n) : (q * n + r) / n = q ∧ (q * n + r) % n = r := by
  rw [Nat.mul_comm, Nat.mul_add_div (by omega), Nat.mul_add_mod, Nat.div_eq_of_lt h, Nat.mod_eq_of_lt h]
  exact ⟨rfl, rfl⟩

theorem sextet_join (a b c : UInt8) :
    UInt8.ofNat (a.toNat / 4 * 4 + (a.toNat % 4 * 16 + b.toNat / 16) / 16) = a ∧
    UInt8.ofNat ((a.toNat % 4 * 16 + b.toNat / 16) % 16 * 16 + (b.toNat % 16 * 4 + c.toNat / 64) / 4) = b ∧
    UInt8.ofNat ((b.toNat % 16 * 4 + c.toNat / 64) % 4 * 64 + c.toNat % 64) = c := by
  have h1 := div_mod_pack (a.toNat % 4) (b.toNat / 16) 16 (Nat.div_lt_of_lt_mul b.toNat_lt)
  have h2 := div_mod_pack (b.toNat % 16) (c.toNat / 64) 4 (Nat.div_lt_of_lt_mul c.toNat_lt)
  rw [h1.1, h1.2, h2.1, h2.2, Nat.div_add_mod', Nat.div_add_mod', Nat.div_add_mod']
  exact ⟨UInt8.ofNat_toNat, UInt8.ofNat_toNat, UInt8.ofNat_toNat⟩

theorem sextets_val (a b c : Nat) :
    a / 4 * 262144 + (a % 4 * 16 + b / 16) * 4096 + (b % 16 * 4 + c / 64) * 64 + c % 64 = a * 65536 + b * 256 + c := by
  omega

end ZV
