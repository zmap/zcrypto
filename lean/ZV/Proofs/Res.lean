import ZV.Base
/-!
  Inversion lemmas for the shapes every model function is built from: a rejecting guard in front of a
  `Res` (`if c then .err else x`, also `.panic`), a rejecting guard in front of an `Option` (`if c then none else x`),
  the accepting test `if c then .ok a else .err`, and `Res.bind`.  Proofs about a model function peel its guards with
  these, one line per guard, in the order of the code.

  There is no lemma here for the step `match o with | none => none | some (a, b) => k a b` (or its `Res` form) of a parser:
  two stuck `match`es unify only if their matchers take the same parameters, and the matcher of a statement over `{α β}`
  takes the two types as parameters, which the matcher of a model function over `Nat × Bytes` does not.  That inversion is
  stated per scrutinee type next to the model (`C28.bindNB`, `Der0.ofPair`, `Wire.par_ok`).  `Sat.elim` below has no
  matcher to unify: its motive abstracts the scrutinee.
-/
namespace ZV

section guards
variable {α : Type} {c : Prop} [Decidable c] {x : Res α} {o : Option α} {a b : α}

theorem guard_ok_iff : (if c then .err else x) = .ok a ↔ ¬ c ∧ x = .ok a := by
  by_cases h : c <;> simp [h]

theorem guard_ok (h : (if c then .err else x) = .ok a) : ¬ c ∧ x = .ok a :=
  guard_ok_iff.mp h

theorem guard_some_iff : (if c then none else o) = some a ↔ ¬ c ∧ o = some a := by
  by_cases h : c <;> simp [h]

theorem guard_some (h : (if c then none else o) = some a) : ¬ c ∧ o = some a :=
  guard_some_iff.mp h

/-- `(!c) = true` is how a model's `if !c then .err else x` over `c : Bool` elaborates -/
theorem guard_not_ok_iff {c : Bool} : (if (!c) = true then .err else x) = .ok a ↔ c = true ∧ x = .ok a := by
  cases c <;> simp

theorem guard_panic_eq_ok : (if c then .panic else x) = .ok a ↔ ¬c ∧ x = .ok a := by
  by_cases h : c <;> simp [h]

theorem guard_ne_panic : (if c then .err else x) ≠ .panic ↔ (¬c → x ≠ .panic) := by
  by_cases h : c <;> simp [h]

theorem accept_eq_ok : (if c then .ok a else (.err : Res α)) = .ok b ↔ c ∧ a = b := by
  by_cases h : c <;> simp [h]

theorem accept_eq_some : (if c then some a else none) = some b ↔ c ∧ a = b := by
  by_cases h : c <;> simp [h]

end guards

theorem Res.isOk_iff {α : Type} {r : Res α} : r.isOk = true ↔ ∃ a, r = .ok a := by
  cases r <;> simp [Res.isOk]

theorem Res.ok_bind {α β : Type} (a : α) (f : α → Res β) : (Res.ok a).bind f = f a := rfl

theorem Res.bind_ok {α β : Type} {r : Res α} {f : α → Res β} {b : β} :
    r.bind f = .ok b ↔ ∃ a, r = .ok a ∧ f a = .ok b := by
  cases r <;> simp [Res.bind]

end ZV

namespace ZV.Res

/-- `r` is not a panic, and the value it returns, if any, satisfies `P`: the shape of every statement about a parser that
    must not reach a failing index, slice or dereference, so that the parser is walked once for both halves -/
def Sat {α : Type} (P : α → Prop) : Res α → Prop
  | .ok a => P a
  | .err => True
  | .panic => False

namespace Sat
variable {α : Type} {P Q : α → Prop} {r : Res α}

theorem ne_panic (h : Sat P r) : r ≠ .panic := by
  rintro rfl; exact h

theorem of_ok (h : Sat P r) {a : α} (e : r = .ok a) : P a := by
  subst e; exact h

theorem intro (hnp : r ≠ .panic) (hok : ∀ a, r = .ok a → P a) : Sat P r := by
  cases r with
  | ok a => exact hok a rfl
  | err => trivial
  | panic => exact hnp rfl

theorem mono (h : Sat P r) (hPQ : ∀ a, P a → Q a) : Sat Q r := by
  cases r with
  | ok a => exact hPQ a h
  | err => trivial
  | panic => exact h

theorem ite {c : Prop} [Decidable c] {a b : Res α} (ha : Sat P a) (hb : Sat P b) : Sat P (if c then a else b) := by
  split
  · exact ha
  · exact hb

theorem guard {c : Prop} [Decidable c] {b : Res α} (hb : ¬c → Sat P b) : Sat P (if c then .err else b) := by
  split
  · trivial
  · exact hb ‹_›

/-- With `C r := Sat Q (match r with | .ok a => f a | .err => .err | .panic => .panic)` this is the rule for sequencing
    two parsers; the motive abstracts the scrutinee, so it applies to every matcher a model function happens to be
    compiled to. -/
@[elab_as_elim]
theorem elim {C : Res α → Prop} (h : Sat P r) (ok : ∀ a, P a → C (.ok a)) (err : C .err) : C r := by
  cases r with
  | ok a => exact ok a h
  | err => exact err
  | panic => exact h.elim

theorem map {β : Type} {P : β → Prop} {f : α → β} (h : Sat (fun a => P (f a)) r) : Sat P (r.map f) := by
  cases r with
  | ok a => exact h
  | err => trivial
  | panic => exact h

end Sat
end ZV.Res
