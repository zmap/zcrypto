import ZV.Model.C12
import ZV.Proofs.C11
/-! lemmas for `ZV.Props.C12`: the declarative predicates `ValidAt` / `EverValid` and `FilterByDate` as three filters
    by them, `parentsFromChains` as insertion of fingerprints, the revocation sets as membership, and the assembled
    result in closed form -/
namespace ZV.C12
open ZV.C10 ZV.C11

theorem later_lt {a b t : Int} : later a b < t ↔ a < t ∧ b < t := by
  unfold later
  split
  · exact ⟨fun h => ⟨h, Int.lt_trans ‹a > b› h⟩, And.left⟩
  · exact ⟨fun h => ⟨Int.lt_of_le_of_lt (Int.not_lt.mp ‹¬ a > b›) h, h⟩, And.right⟩

theorem lt_earlier {a b t : Int} : t < earlier a b ↔ t < a ∧ t < b := by
  unfold earlier
  split
  · exact ⟨fun h => ⟨h, Int.lt_trans h ‹a < b›⟩, And.left⟩
  · exact ⟨fun h => ⟨Int.lt_of_lt_of_le h (Int.not_lt.mp ‹¬ a < b›), h⟩, And.right⟩

theorem foldl_sel {P : Int → Prop} {f : Int → Int → Int} (hf : ∀ a b, P (f a b) ↔ P a ∧ P b)
    (k : Cert → Int) (tl : Chain) (a : Int) :
    P (tl.foldl (fun x c => f x (k c)) a) ↔ P a ∧ ∀ c ∈ tl, P (k c) := by
  induction tl generalizing a with
  | nil => exact ⟨fun h => ⟨h, fun _ hc => nomatch hc⟩, fun h => h.1⟩
  | cons x tl ih => simp only [List.foldl_cons, ih, List.forall_mem_cons, hf, and_assoc]

theorem lowerBound_lt (leaf : Cert) (tl : Chain) (t : Int) :
    lowerBound leaf tl < t ↔ ∀ c ∈ leaf :: tl, c.notBefore < t :=
  (foldl_sel (P := (· < t)) (fun _ _ => later_lt) (·.notBefore) tl _).trans
    (List.forall_mem_cons (p := fun c : Cert => c.notBefore < t)).symm

theorem lt_upperBound (leaf : Cert) (tl : Chain) (t : Int) :
    t < upperBound leaf tl ↔ ∀ c ∈ leaf :: tl, t < c.notAfter :=
  (foldl_sel (P := (t < ·)) (fun _ _ => lt_earlier) (·.notAfter) tl _).trans
    (List.forall_mem_cons (p := fun c : Cert => t < c.notAfter)).symm

/-- `t` is strictly earlier than `u` on the time line (seconds, then nanoseconds) -/
def Time.lt (t u : Time) : Prop := t.sec < u.sec ∨ (t.sec = u.sec ∧ t.nsec < u.nsec)

instance (t u : Time) : Decidable (t.lt u) := inferInstanceAs (Decidable (_ ∨ _))

/-- the first whole second that is not before `t` -/
def Time.up (t : Time) : Int := if t.nsec > 0 then t.sec + 1 else t.sec

theorem before_iff_lt (t u : Time) : t.before u = true ↔ t.lt u := by
  simp only [Time.before, Time.lt, Bool.or_eq_true, Bool.and_eq_true, decide_eq_true_eq]

theorem after_iff_lt (t u : Time) : t.after u = true ↔ u.lt t := by
  simp only [Time.after, Time.lt, Bool.or_eq_true, Bool.and_eq_true, decide_eq_true_eq, gt_iff_lt,
    @eq_comm _ t.sec]

theorem ofSec_lt_iff (a : Int) (t : Time) : (Time.ofSec a).lt t ↔ a < t.up := by
  unfold Time.up
  split
  · exact (or_congr_right (and_iff_left ‹t.nsec > 0›)).trans
      (Int.le_iff_lt_or_eq.symm.trans Int.lt_add_one_iff.symm)
  · exact or_iff_left fun h => ‹¬ t.nsec > 0› h.2

theorem lt_ofSec_iff (t : Time) (a : Int) : t.lt (Time.ofSec a) ↔ t.sec < a :=
  or_iff_left fun h => Nat.not_lt_zero _ h.2

theorem ofSec_lt_ofSec (a b : Int) : (Time.ofSec a).lt (Time.ofSec b) ↔ a < b :=
  lt_ofSec_iff _ b

/-- why the `panic("valid && !wasValid …")` of `FilterByDate` cannot be reached -/
theorem lt_of_ofSec_lt_of_lt_ofSec {a b : Int} {t : Time} (h1 : (Time.ofSec a).lt t) (h2 : t.lt (Time.ofSec b)) : a < b :=
  Int.lt_of_le_of_lt (h1.elim Int.le_of_lt fun h => Int.le_of_eq h.1) ((lt_ofSec_iff t b).mp h2)

/-- every certificate of the chain is valid at the instant `t`: `NotBefore < t < NotAfter` on the time line
    (`Time.lt`: seconds, then nanoseconds; the interval is open, as `time.Before/After`).  See
    `validAt_ns` for the reading in nanoseconds and `validAt_wholeSec` / `validAt_subsec`. -/
def ValidAt (ch : Chain) (t : Time) : Prop :=
  ∀ c ∈ ch, (Time.ofSec c.notBefore).lt t ∧ t.lt (Time.ofSec c.notAfter)

/-- the validity periods have a common (open) interval: every NotBefore precedes every NotAfter -/
def EverValid (ch : Chain) : Prop := ∀ c ∈ ch, ∀ d ∈ ch, c.notBefore < d.notAfter

instance (ch : Chain) (t : Time) : Decidable (ValidAt ch t) :=
  inferInstanceAs (Decidable (∀ c ∈ ch, (Time.ofSec c.notBefore).lt t ∧ t.lt (Time.ofSec c.notAfter)))
instance (ch : Chain) : Decidable (EverValid ch) :=
  inferInstanceAs (Decidable (∀ c ∈ ch, ∀ d ∈ ch, c.notBefore < d.notAfter))

theorem everValid_of_validAt {ch : Chain} {t : Time} (h : ValidAt ch t) : EverValid ch :=
  fun c hc d hd => lt_of_ofSec_lt_of_lt_ofSec (h c hc).1 (h d hd).2

/-- the `valid` flag of `FilterByDate` on a non-empty chain -/
theorem valid_flag (leaf : Cert) (tl : Chain) (now : Time) :
    ((Time.ofSec (lowerBound leaf tl)).before now && (Time.ofSec (upperBound leaf tl)).after now) =
      decide (ValidAt (leaf :: tl) now) := by
  rw [Bool.eq_iff_iff, decide_eq_true_iff]
  simp only [ValidAt, Bool.and_eq_true, before_iff_lt, after_iff_lt, ofSec_lt_iff, lt_ofSec_iff, lowerBound_lt,
    lt_upperBound, forall_and]

/-- the `wasValid` flag of `FilterByDate` on a non-empty chain -/
theorem wasValid_flag (leaf : Cert) (tl : Chain) :
    (Time.ofSec (lowerBound leaf tl)).before (Time.ofSec (upperBound leaf tl)) = decide (EverValid (leaf :: tl)) := by
  rw [Bool.eq_iff_iff, decide_eq_true_iff, before_iff_lt, ofSec_lt_ofSec, lt_upperBound]
  simp only [lowerBound_lt]
  exact ⟨fun h c hc d hd => h d hd c hc, fun h d hd c hc => h c hc d hd⟩

def currentOf (chains : List Chain) (now : Time) : List Chain :=
  chains.filter fun ch => decide (ch ≠ [] ∧ ValidAt ch now)
def expiredOf (chains : List Chain) (now : Time) : List Chain :=
  chains.filter fun ch => decide (ch ≠ [] ∧ ¬ ValidAt ch now ∧ EverValid ch)
def neverOf (chains : List Chain) : List Chain := chains.filter fun ch => decide (ch ≠ [] ∧ ¬ EverValid ch)

/-- the `panic` of `FilterByDate` would need a chain valid now whose validity periods have no common instant -/
theorem filterByDate_eq (chains : List Chain) (now : Time) :
    filterByDate chains now =
      .ok { current := currentOf chains now, expired := expiredOf chains now, never := neverOf chains } := by
  induction chains with
  | nil => rfl
  | cons ch rest ih =>
    cases ch with
    | nil => exact ih
    | cons leaf tl =>
      rw [filterByDate, ih, valid_flag, wasValid_flag]
      simp only [currentOf, expiredOf, neverOf, List.filter_cons, Bool.decide_and, decide_not]
      cases hv : decide (ValidAt (leaf :: tl) now)
      · cases decide (EverValid (leaf :: tl)) <;> rfl
      · rw [decide_eq_true (everValid_of_validAt (of_decide_eq_true hv))]
        rfl

theorem filter3_perm {α} {p q : α → Bool} (hpq : ∀ x, p x = true → q x = true) (l : List α) :
    (l.filter p ++ l.filter (fun x => !p x && q x) ++ l.filter (fun x => !q x)).Perm l := by
  have h := ((List.filter_append_perm p (l.filter q)).append_right _).trans (List.filter_append_perm q l)
  rw [List.filter_filter, List.filter_filter] at h
  have hp (x : α) : (p x && q x) = p x := by
    cases hx : p x with
    | false => rfl
    | true => exact hpq x hx
  rwa [List.filter_congr fun x _ => hp x] at h

theorem decide_and_nonempty (ch : Chain) (X : Prop) [Decidable X] :
    (decide X && !ch.isEmpty) = decide (ch ≠ [] ∧ X) := by
  cases ch <;> simp

theorem currentOf_expiredOf_neverOf_perm (chains : List Chain) (now : Time) :
    (currentOf chains now ++ expiredOf chains now ++ neverOf chains).Perm
      (chains.filter (fun ch => !ch.isEmpty)) := by
  have h := filter3_perm (p := fun ch => decide (ValidAt ch now)) (q := fun ch => decide (EverValid ch))
    (fun ch hv => decide_eq_true (everValid_of_validAt (of_decide_eq_true hv)))
    (chains.filter (fun ch => !ch.isEmpty))
  simp only [List.filter_filter, ← decide_not, ← Bool.decide_and, decide_and_nonempty] at h
  exact h

/-- `VerifyWithContext` filters the three classes again, for the time of expiry -/
theorem atExpiry_perm (chains : List Chain) (now t : Time) :
    (currentOf (currentOf chains now ++ expiredOf chains now ++ neverOf chains) t).Perm (currentOf chains t) := by
  have h := (currentOf_expiredOf_neverOf_perm chains now).filter fun ch => decide (ch ≠ [] ∧ ValidAt ch t)
  simp only [List.filter_filter, decide_and_nonempty, and_self_left] at h
  exact h

/-- the map update `parents[fp] = p`: `parentsFromChains chains` is, by definition,
    `(chains.filterMap second).foldl putParent []` -/
def putParent (acc : List Cert) (p : Cert) : List Cert :=
  if acc.any (fun q => q.fp == p.fp) then acc.map (fun q => if q.fp == p.fp then p else q) else acc ++ [p]

theorem putParent_fps (acc : List Cert) (p : Cert) :
    (putParent acc p).map (·.fp) =
      if p.fp ∈ acc.map (·.fp) then acc.map (·.fp) else acc.map (·.fp) ++ [p.fp] := by
  have hany : (acc.any fun q => q.fp == p.fp) = true ↔ p.fp ∈ acc.map (·.fp) := by
    simp only [List.any_eq_true, beq_iff_eq, List.mem_map]
  unfold putParent
  split
  · rw [if_pos (hany.mp ‹_›), List.map_map]
    apply List.map_congr_left
    intro q _
    show (if q.fp == p.fp then p else q).fp = q.fp
    split
    · exact (beq_iff_eq.mp ‹_›).symm
    · rfl
  · rw [if_neg (mt hany.mpr ‹_›), List.map_append, List.map_singleton]

theorem mem_putParent {acc : List Cert} {p x : Cert} (h : x ∈ putParent acc p) : x ∈ acc ∨ x = p := by
  unfold putParent at h
  split at h
  · obtain ⟨q, hq, hx⟩ := List.mem_map.mp h
    split at hx
    · exact Or.inr hx.symm
    · exact Or.inl (hx ▸ hq)
  · exact (List.mem_append.mp h).imp_right List.eq_of_mem_singleton

theorem mem_fps_putParent {acc : List Cert} {p : Cert} {f : Nat} :
    f ∈ (putParent acc p).map (·.fp) ↔ f ∈ acc.map (·.fp) ∨ f = p.fp := by
  rw [putParent_fps]
  split
  · exact ⟨Or.inl, fun h => h.elim id fun h => h ▸ ‹_›⟩
  · rw [List.mem_append, List.mem_singleton]

theorem foldl_putParent (ps acc : List Cert) (h : (acc.map (·.fp)).Nodup) :
    ((ps.foldl putParent acc).map (·.fp)).Nodup ∧
    (∀ x ∈ ps.foldl putParent acc, x ∈ acc ∨ x ∈ ps) ∧
    ∀ f, f ∈ (ps.foldl putParent acc).map (·.fp) ↔ f ∈ acc.map (·.fp) ∨ f ∈ ps.map (·.fp) := by
  induction ps generalizing acc with
  | nil => exact ⟨h, fun _ => Or.inl, fun f => (or_iff_left nofun).symm⟩
  | cons p ps ih =>
    obtain ⟨h1, h2, h3⟩ := ih (putParent acc p) (by
      rw [putParent_fps]
      split
      · exact h
      · exact nodup_concat h ‹_›)
    refine ⟨h1, fun x hx => ?_, fun f => ?_⟩
    · rcases h2 x hx with hx | hx
      · exact (mem_putParent hx).elim Or.inl fun hxp => Or.inr (hxp ▸ List.mem_cons_self)
      · exact Or.inr (List.mem_cons_of_mem _ hx)
    · rw [List.foldl_cons, h3, mem_fps_putParent, List.map_cons, List.mem_cons, or_assoc]

theorem parentsFromChains_spec (chains : List Chain) :
    ((parentsFromChains chains).map (·.fp)).Nodup ∧
    (∀ p ∈ parentsFromChains chains, ∃ ch ∈ chains, second ch = some p) ∧
    ∀ ch ∈ chains, ∀ q, second ch = some q → ∃ p ∈ parentsFromChains chains, p.fp = q.fp := by
  obtain ⟨h1, h2, h3⟩ := foldl_putParent (chains.filterMap second) [] List.nodup_nil
  exact ⟨h1, fun p hp => (h2 p hp).elim nofun List.mem_filterMap.mp, fun ch hch q hq =>
    List.mem_map.mp ((h3 q.fp).mpr (Or.inr (List.mem_map_of_mem (List.mem_filterMap.mpr ⟨ch, hch, hq⟩))))⟩

theorem walkChains_ne_nil (V : Ver) (g : Graph) (c : Cert) : ∀ ch ∈ walkChains V g c, ch ≠ [] := by
  intro ch hch hnil
  obtain ⟨t, ht⟩ := (walkChains_prefix hch).1
  cases hnil.symm.trans ht

theorem filter_nonempty_walk (V : Ver) (g : Graph) (c : Cert) :
    (walkChains V g c).filter (fun ch => !ch.isEmpty) = walkChains V g c :=
  List.filter_eq_self.mpr fun ch hch => by
    cases ch with
    | nil => exact absurd rfl (walkChains_ne_nil V g c _ hch)
    | cons _ _ => rfl

theorem any_pair_iff (l : List (Nat × Nat)) (x y : Nat) :
    l.any (fun e => e.1 == x && e.2 == y) = true ↔ (x, y) ∈ l := by
  simp only [List.any_eq_true, Bool.and_eq_true, beq_iff_eq]
  exact ⟨fun ⟨_, he, h1, h2⟩ => h1 ▸ h2 ▸ he, fun h => ⟨_, h, rfl, rfl⟩⟩

theorem oneCRL_check_iff (o : OneCRL) (c : Cert) :
    o.check c = true ↔ (c.subj, c.key) ∈ o.blocked ∨ (c.iss, c.serial) ∈ o.issuerSerial := by
  simp only [OneCRL.check, Bool.or_eq_true, any_pair_iff]

theorem crlSet_check_iff (s : CRLSet) (c : Cert) (k : Nat) :
    s.check c k = true ↔ k ∈ s.blockedSPKIs ∨ (k, c.serial) ∈ s.issuerSerial := by
  simp only [CRLSet.check, Bool.or_eq_true, any_pair_iff, List.any_beq', List.contains_iff_mem]

theorem revocationFlag_iff (opts : Opts) (c : Cert) (parents : List Cert) :
    revocationFlag opts c parents = true ↔
      (∃ o, opts.oneCRL = some o ∧ ((c.subj, c.key) ∈ o.blocked ∨ (c.iss, c.serial) ∈ o.issuerSerial)) ∨
      (∃ s, opts.crlSet = some s ∧
        ∃ p ∈ parents, p.key ∈ s.blockedSPKIs ∨ (p.key, c.serial) ∈ s.issuerSerial) := by
  have h : revocationFlag opts c parents =
      (opts.oneCRL.any (·.check c) || opts.crlSet.any fun s => parents.any fun p => s.check c p.key) := by
    unfold revocationFlag
    cases opts.oneCRL with
    | none => cases opts.crlSet <;> rfl
    | some o =>
      show (if o.check c = true then true else _) = (o.check c || _)
      cases o.check c <;> cases opts.crlSet <;> rfl
  simp only [h, Bool.or_eq_true, Option.any_eq_true, List.any_eq_true, oneCRL_check_iff, crlSet_check_iff]

theorem certType_rule (g : Graph) (c : Cert) (parents : List Cert) :
    (certType g c parents = .root ↔ isRoot g c = true) ∧
    (certType g c parents = .intermediate ↔ isRoot g c = false ∧ c.isCA = true ∧ parents ≠ []) ∧
    (certType g c parents = .leaf ↔ isRoot g c = false ∧ c.isCA = false ∧ parents ≠ []) ∧
    (certType g c parents = .unknown ↔ isRoot g c = false ∧ parents = []) := by
  unfold certType
  cases isRoot g c with
  | true => simp
  | false =>
    cases parents with
    | nil => simp
    | cons p ps => cases c.isCA <;> simp

/-- the result for the verification time `now`: `opts.time` and `opts.clock` are not looked at -/
def resultAt (g : Graph) (c : Cert) (opts : Opts) (now : Time) (chains : List Chain) : Result :=
  let atExpiry := currentOf (currentOf chains now ++ expiredOf chains now ++ neverOf chains)
    (Time.ofSec (c.notAfter - 1))
  let parents := if !timeInValidityPeriod c now then parentsFromChains atExpiry
    else parentsFromChains (currentOf chains now)
  { expired := !timeInValidityPeriod c now
    current := currentOf chains now
    expiredChains := expiredOf chains now
    never := neverOf chains
    validAtExpiration := atExpiry
    parents := parents
    nameError := match opts.name with
      | .none => Option.none
      | n => some (!nameMatches c n)
    inRevocationSet := revocationFlag opts c parents
    ctype := certType g c parents
    parentSK := parents.head?.map (·.sk)
    ocspCall := if ocspDue opts then some parents.head? else none
    ocsp := if ocspDue opts then (providerOf opts).ocsp else ProvAns.zero
    crlCall := crlDue opts
    crl := if crlDue opts then (providerOf opts).crl else ProvAns.zero }

theorem assemble_eq (g : Graph) (c : Cert) (opts : Opts) (chains : List Chain) :
    assemble g c opts chains = .ok (resultAt g c opts opts.now chains) := by
  simp only [assemble, filterByDate_eq]
  rfl

theorem eq_of_assemble {g : Graph} {c : Cert} {opts : Opts} {chains : List Chain} {r : Result}
    (h : assemble g c opts chains = .ok r) : r = resultAt g c opts opts.now chains :=
  (Res.ok.inj ((assemble_eq g c opts chains).symm.trans h)).symm

end ZV.C12
