import ZV.Model.Der0
import ZV.Proofs.Res
import ZV.Proofs.ByteFacts
import ZV.Proofs.ListFacts
import ZV.Proofs.Base256
/-! Big-endian byte strings as numbers (`natOfBytes` by `cons` and by `snoc`, its bound, `natToBytes` as its inverse
  on strings without a leading zero), and the inversion lemma `ofPair` with which, next to the guard
  lemmas of `ZV.Proofs.Res`, every `… = .ok y` hypothesis about a Der0 parser is peeled apart. -/
open ZV ZV.Der0
namespace ZV.Der0

theorem ofNat_eq_of {n : Nat} {b : UInt8} (h : n = b.toNat) : UInt8.ofNat n = b := by
  subst h; exact UInt8.ofNat_toNat

/-- the `match` is the shape an unfolded model parser has after each sub-parser call -/
theorem ofPair {α : Type} {r : Res (Nat × Bytes)} {k : Nat → Bytes → Res α} {y : α}
    (h : (match r with | .ok (v, rest) => k v rest | .err => .err | .panic => .panic) = .ok y) :
    ∃ v rest, r = .ok (v, rest) ∧ k v rest = .ok y := by
  cases r with
  | ok x => exact ⟨x.1, x.2, rfl, h⟩
  | err => cases h
  | panic => cases h

theorem natOfBytesAux_eq_foldl (acc : Nat) (bs : Bytes) :
    natOfBytesAux acc bs = bs.foldl (fun a b => a * 256 + b.toNat) acc := by
  induction bs generalizing acc with
  | nil => rfl
  | cons b r ih => exact ih _

theorem natOfBytes_eq (bs : Bytes) : natOfBytes bs = be256 bs :=
  natOfBytesAux_eq_foldl 0 bs

theorem natOfBytes_nil : natOfBytes [] = 0 := rfl

theorem natOfBytes_cons (b : UInt8) (bs : Bytes) :
    natOfBytes (b :: bs) = b.toNat * 256 ^ bs.length + natOfBytes bs := by
  rw [natOfBytes_eq, natOfBytes_eq, be256_cons]

theorem natOfBytes_snoc (bs : Bytes) (b : UInt8) :
    natOfBytes (bs ++ [b]) = natOfBytes bs * 256 + b.toNat := by
  rw [natOfBytes_eq, natOfBytes_eq, be256_snoc]

theorem natOfBytes_lt (bs : Bytes) : natOfBytes bs < 256 ^ bs.length := by
  rw [natOfBytes_eq]
  exact be256_lt bs

def headNZ : Bytes → Prop
  | [] => True
  | b :: _ => b ≠ 0

theorem natOfBytes_pos {b : UInt8} {bs : Bytes} (h : b ≠ 0) : 0 < natOfBytes (b :: bs) := by
  rw [natOfBytes_eq]
  exact Nat.lt_of_lt_of_le (Nat.pow_pos (by decide)) (be256_head_le h bs)

theorem natToBytes_zero : natToBytes 0 = [] := by rw [natToBytes]; simp

theorem natToBytes_step {n : Nat} (h : n ≠ 0) :
    natToBytes n = natToBytes (n / 256) ++ [UInt8.ofNat (n % 256)] := by
  rw [natToBytes]; simp [h]

theorem natToBytes_eq (n : Nat) : natToBytes n = minBE n :=
  minBE_unique natToBytes_zero (fun _ h => natToBytes_step h) n

/-- `big.Int.Bytes ∘ SetBytes` -/
theorem natToBytes_natOfBytes (bs : Bytes) (h : headNZ bs) : natToBytes (natOfBytes bs) = bs := by
  cases bs with
  | nil => exact natToBytes_zero
  | cons b t => rw [natToBytes_eq, natOfBytes_eq, minBE_be256_cons h t]

theorem natOfBytes_zero_cons (bs : Bytes) : natOfBytes ((0 : UInt8) :: bs) = natOfBytes bs := by
  rw [natOfBytes_eq, natOfBytes_eq, be256_zero_cons]

end ZV.Der0
