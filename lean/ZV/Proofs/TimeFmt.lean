import ZV.Proofs.Time
import ZV.Proofs.TimeStep
/-!
  `time.Parse` and `Time.Format` of `ZV.Model.Time` on the texts that the encoders write.  Every such text is
  `year digits ++ fieldsText c ++ zoneText off` for a normalised `c`; `parse_year_text` runs `parse` over it chunk by chunk
  (the result is `readBack`: the offset loses its seconds), `format_year_eq` shows `Format` writes the same text, except for
  an offset of 1..59 seconds (`Format`: `+0000`, `appendTimeCommon`: `Z`).  Bounds on the offset: `parse` refuses a zone
  hour above 24 (|off| < 25 h = 90000 s), `Format` has two digits for it (|off| < 100 h = 360000 s).
-/
namespace ZV.Time
open ZV

theorem digit_toNat (n : Nat) : (digit n).toNat = 48 + n % 10 := by
  simp [digit]
  omega

theorem isDigit_digit (n : Nat) : isDigit (digit n) = true := by
  simp [isDigit, digit_toNat]
  omega

theorem getnum_digits (v : Nat) (hv : v < 100) (r : Bytes) (fixed : Bool) :
    getnum (digit (v / 10) :: digit v :: r) fixed = some (v, r) := by
  simp [getnum, isDigit_digit, digit_toNat]
  omega

theorem leadingInt_digit (x n : Nat) (r : Bytes) (hx : n / 10 = x) (hn : n < 10 ^ 18) :
    leadingInt x (digit n :: r) = leadingInt n r := by
  subst hx
  rw [leadingInt, digit_toNat, Nat.add_sub_cancel_left, Nat.div_add_mod', if_neg (by omega), if_neg (by omega),
    if_neg (by omega)]

theorem atoi_digit (d0 : Nat) (r : Bytes) (q : Nat) (h : leadingInt 0 (digit d0 :: r) = some (q, [])) :
    atoi (digit d0 :: r) = some (q : Int) := by
  have hd := digit_toNat d0
  simp only [atoi, h, show ¬ (digit d0).toNat = 45 by omega, show ¬ (digit d0).toNat = 43 by omega, or_self, if_false,
    decide_false, List.isEmpty_nil, Bool.not_true, Bool.false_eq_true]

theorem atoi_two (v : Nat) (hv : v < 100) : atoi [digit (v / 10), digit v] = some (v : Int) := by
  refine atoi_digit _ _ v ?_
  rw [leadingInt_digit 0 _ _ ((Nat.div_div_eq_div_mul v 10 10).trans (Nat.div_eq_of_lt hv)) (by omega),
    leadingInt_digit _ _ _ rfl (by omega), leadingInt]

theorem atoi_four (v : Nat) (hv : v < 10000) :
    atoi [digit (v / 1000), digit (v / 100), digit (v / 10), digit v] = some (v : Int) := by
  have hb : v < 10 ^ 18 := Nat.lt_trans hv (by decide)
  have h (k) : v / k < 10 ^ 18 := Nat.lt_of_le_of_lt (Nat.div_le_self v k) hb
  refine atoi_digit _ _ v ?_
  rw [leadingInt_digit 0 _ _ ((Nat.div_div_eq_div_mul v 1000 10).trans (Nat.div_eq_of_lt hv)) (h 1000),
    leadingInt_digit _ _ _ (Nat.div_div_eq_div_mul v 100 10) (h 100),
    leadingInt_digit _ _ _ (Nat.div_div_eq_div_mul v 10 10) (h 10), leadingInt_digit _ _ _ rfl hb, leadingInt]

theorem step_year (st : PState) (v : Nat) (hv : v < 100) (r : Bytes) :
    step .year st (digit (v / 10) :: digit v :: r) =
      some ({ st with year := if (v : Int) ≥ 69 then (v : Int) + 1900 else (v : Int) + 2000 }, r) := by
  simp [step, atoi_two v hv]

theorem step_longYear (st : PState) (v : Nat) (hv : v < 10000) (r : Bytes) :
    step .longYear st (digit (v / 1000) :: digit (v / 100) :: digit (v / 10) :: digit v :: r) =
      some ({ st with year := (v : Int) }, r) := by
  simp [step, isDigitAt, isDigit_digit, atoi_four v hv]

theorem step_zeroMonth (st : PState) (v : Nat) (h1 : 1 ≤ v) (h2 : v ≤ 12) (r : Bytes) :
    step .zeroMonth st (digit (v / 10) :: digit v :: r) = some ({ st with month := (v : Int) }, r) := by
  have : ¬ (v = 0 ∨ 12 < v) := by omega
  simp [step, getnum_digits v (by omega), this]

theorem step_zeroDay (st : PState) (v : Nat) (hv : v < 100) (r : Bytes) :
    step .zeroDay st (digit (v / 10) :: digit v :: r) = some ({ st with day := (v : Int) }, r) := by
  simp [step, getnum_digits v hv]

theorem step_hour (st : PState) (v : Nat) (hv : v < 24) (r : Bytes) :
    step .hour st (digit (v / 10) :: digit v :: r) = some ({ st with hour := v }, r) := by
  simp [step, getnum_digits v (by omega), Nat.not_le.2 hv]

theorem step_zeroMinute (st : PState) (v : Nat) (hv : v < 60) (r : Bytes) :
    step .zeroMinute st (digit (v / 10) :: digit v :: r) = some ({ st with min := v }, r) := by
  simp [step, getnum_digits v (by omega), Nat.not_le.2 hv]

/-- `hr`: no fractional second follows (`time.Parse` takes one here though the layout has none) -/
theorem step_zeroSecond (st : PState) (v : Nat) (hv : v < 60) (r : Bytes)
    (hr : ∀ c0 r', r = c0 :: r' → commaOrPeriod c0 = false) :
    step .zeroSecond st (digit (v / 10) :: digit v :: r) = some ({ st with sec := v }, r) := by
  simp only [step, getnum_digits v (by omega), Nat.not_le.2 hv, if_false]
  match r, hr with
  | [], _ => rfl
  | [_], _ => rfl
  | c0 :: c1 :: r2, hr => simp [hr c0 _ rfl]

theorem step_tz_Z (st : PState) : step .isoTZ st [90] = some ({ st with utc := true }, []) := by
  simp [step]

theorem step_tz_num (st : PState) (sg : UInt8) (hh mm : Nat) (hsg : sg.toNat ≠ 90) (hhh : hh < 100) (hmm : mm < 100) :
    step .isoTZ st [sg, digit (hh / 10), digit hh, digit (mm / 10), digit mm] =
      if hh > 24 ∨ mm > 60 then none
      else if sg.toNat = 43 then some ({ st with zoneOffset := (((hh * 60 + mm) * 60 : Nat) : Int) }, [])
      else if sg.toNat = 45 then some ({ st with zoneOffset := - (((hh * 60 + mm) * 60 : Nat) : Int) }, [])
      else none := by
  simp only [step, hsg, if_false, List.length_cons, List.length_nil, show ¬ (0 + 1 + 1 + 1 + 1 + 1 < 5) by omega,
    List.drop_succ_cons, List.drop_zero, List.take_succ_cons, List.take_zero, getnum_digits hh hhh, getnum_digits mm hmm,
    List.drop_nil]

/-- `a` minutes; 1500 is 25 hours: `time.Parse` takes zone hours up to 24 -/
theorem step_tz_hhmm (st : PState) (sg : UInt8) (a : Nat) (hsg : sg.toNat ≠ 90) (ha : a < 6000) :
    step .isoTZ st ([sg] ++ EA.twoDigits (a / 60) ++ EA.twoDigits (a % 60)) =
      if a < 1500 then
        if sg.toNat = 43 then some ({ st with zoneOffset := 60 * (a : Int) }, [])
        else if sg.toNat = 45 then some ({ st with zoneOffset := 60 * -(a : Int) }, [])
        else none
      else none := by
  simp only [EA.twoDigits, List.cons_append, List.nil_append]
  rw [step_tz_num st _ _ _ hsg (by omega) (by omega)]
  by_cases h : a < 1500
  · rw [if_pos h, if_neg (by omega), Nat.div_add_mod', Int.natCast_mul, Int.mul_comm, Int.mul_neg]
    rfl
  · rw [if_neg h, if_pos (by omega)]

/-- MMDDhhmmss -/
def fieldsText (c : Civil) : Bytes :=
  EA.twoDigits c.month ++ EA.twoDigits c.day ++ EA.twoDigits c.hour ++ EA.twoDigits c.min ++ EA.twoDigits c.sec

def PState.withFields (st : PState) (c : Civil) : PState :=
  { st with month := (c.month : Int), day := (c.day : Int), hour := c.hour, min := c.min, sec := c.sec }

theorem daysIn_le (m : Nat) (y : Int) : daysIn m y ≤ 31 := by
  unfold daysIn
  split <;> (try split) <;> omega

theorem parseLoop_fields4 (st : PState) (c : Civil) (hv : c.valid = true) (L : List Std) (r : Bytes) :
    parseLoop (.zeroMonth :: .zeroDay :: .hour :: .zeroMinute :: L) st
        (EA.twoDigits c.month ++ EA.twoDigits c.day ++ EA.twoDigits c.hour ++ EA.twoDigits c.min ++ r) =
      parseLoop L { st with month := (c.month : Int), day := (c.day : Int), hour := c.hour, min := c.min } r := by
  obtain ⟨hm1, hm2, hd1, hd2, hh, hmi, hs⟩ := (valid_iff c).1 hv
  have hd3 := daysIn_le c.month c.year
  simp only [EA.twoDigits, List.cons_append, List.nil_append]
  rw [parseLoop_cons (step_zeroMonth _ _ hm1 hm2 _), parseLoop_cons (step_zeroDay _ _ (by omega) _),
    parseLoop_cons (step_hour _ _ hh _), parseLoop_cons (step_zeroMinute _ _ hmi _)]

theorem parseLoop_fieldsText (st : PState) (c : Civil) (hv : c.valid = true) (L : List Std) (z : Bytes)
    (hz0 : ∀ c0 r', z = c0 :: r' → commaOrPeriod c0 = false) :
    parseLoop (.zeroMonth :: .zeroDay :: .hour :: .zeroMinute :: .zeroSecond :: L) st (fieldsText c ++ z) =
      parseLoop L (st.withFields c) z := by
  have hs := ((valid_iff c).1 hv).2.2.2.2.2.2
  rw [fieldsText, List.append_assoc, parseLoop_fields4 st c hv]
  exact parseLoop_cons (step_zeroSecond _ _ hs _ hz0) L

/-- truncated division spelled with floor division (the form `omega` understands); with `Int.tmod_def` this also
    covers `Int.tmod _ 60` -/
theorem tdiv60 (a : Int) : Int.tdiv a 60 = a / 60 + if 0 ≤ a ∨ 60 ∣ a then 0 else 1 := Int.tdiv_eq_ediv

theorem tdiv60_abs (off : Int) :
    ∃ a : Nat, (∀ b : Nat, a < b ↔ -(60 * b : Int) < off ∧ off < 60 * b) ∧
      (0 < off ∧ Int.tdiv off 60 = a ∨ off ≤ 0 ∧ Int.tdiv off 60 = -a) :=
  match off with
  | 0 => ⟨0, fun b => by omega, .inr ⟨Int.le_refl 0, rfl⟩⟩
  | (n + 1 : Nat) => ⟨(n + 1) / 60, fun b => by omega, .inl ⟨by omega, rfl⟩⟩
  | .negSucc n => ⟨(n + 1) / 60, fun b => by omega, .inr ⟨by omega, rfl⟩⟩

/-- `Z`, or sign and hhmm of the offset truncated to minutes -/
def zoneText (off : Int) : Bytes :=
  if Int.tdiv off 60 = 0 then [90]
  else [if off > 0 then 43 else 45] ++ EA.twoDigits ((Int.tdiv off 60).natAbs / 60) ++
    EA.twoDigits ((Int.tdiv off 60).natAbs % 60)

/-- what the zone chunk leaves in the parse state -/
def zoneState (off : Int) (s : PState) : PState :=
  if Int.tdiv off 60 = 0 then { s with utc := true } else { s with zoneOffset := 60 * Int.tdiv off 60 }

theorem appendTimeCommon_eq (t : GoTime) :
    EA.appendTimeCommon t = fieldsText t.civil ++ zoneText t.off := by
  simp only [EA.appendTimeCommon, fieldsText, zoneText, GoTime.civil, ofUnix_off]
  by_cases h : Int.tdiv t.off 60 = 0
  · simp only [h, if_true]
  · simp only [h, if_false, List.append_assoc]
    rfl

theorem zoneText_not_fraction (off : Int) :
    ∀ c0 r', zoneText off = c0 :: r' → commaOrPeriod c0 = false := by
  intro c0 r' h
  unfold zoneText at h
  split at h
  · simp only [List.cons.injEq] at h; rw [← h.1]; decide
  · simp only [List.cons_append, List.nil_append, List.cons.injEq] at h
    rw [← h.1]; split <;> decide

theorem step_zoneText (off : Int) (h1 : -360000 < off) (h2 : off < 360000) (s : PState) :
    step .isoTZ s (zoneText off) = if -90000 < off ∧ off < 90000 then some (zoneState off s, []) else none := by
  obtain ⟨a, hab, hk⟩ := tdiv60_abs off
  have ha : a < 6000 := (hab 6000).2 ⟨h1, h2⟩
  have hc : a < 1500 ↔ -90000 < off ∧ off < 90000 := hab 1500
  unfold zoneText zoneState
  by_cases h0 : Int.tdiv off 60 = 0
  · rw [if_pos h0, if_pos h0, if_pos (hc.1 (by omega))]
    exact step_tz_Z s
  · rw [if_neg h0, if_neg h0]
    obtain ⟨hp, hk⟩ | ⟨hp, hk⟩ := hk
    · rw [hk, Int.natAbs_natCast, if_pos hp, step_tz_hhmm s 43 a (by decide) ha]
      exact ite_congr (propext hc) (fun _ => rfl) (fun _ => rfl)
    · rw [hk, Int.natAbs_neg, Int.natAbs_natCast, if_neg (Int.not_lt.2 hp), step_tz_hhmm s 45 a (by decide) ha]
      exact ite_congr (propext hc) (fun _ => rfl) (fun _ => rfl)

theorem toUnix_setOff (c : Civil) (o : Int) : toUnix { c with off := o } = toUnix c + c.off - o := by
  simp only [toUnix]; omega

theorem finish_withFields (c : Civil) (hv : c.valid = true) (st : PState) (hy : st.year = c.year) (hn : st.nsec = 0)
    (u : Bool) (z : Int) :
    finish { st.withFields c with utc := u, zoneOffset := z } =
      some (if u = true ∨ z = -1 then { unix := toUnix c + c.off, off := 0, nsec := 0 }
            else { unix := toUnix c + c.off - z, off := z, nsec := 0 }) := by
  obtain ⟨hm1, hm2, hd1, hd2, hh, hmi, hs⟩ := (valid_iff c).1 hv
  have e3 : ¬ ((c.day : Int) < 1 ∨ (c.day : Int) > (daysIn c.month c.year : Int)) := by omega
  simp only [finish, PState.withFields, hy, hn, if_neg (Int.not_lt.2 (Int.natCast_nonneg _)), Int.toNat_natCast, e3,
    if_false, date, toUnix_setOff c 0, Int.sub_zero]
  cases u
  · by_cases hz : z = -1 <;> simp [hz]
  · simp

theorem finish_zoneState (t : GoTime) (st : PState) (hy : st.year = t.year) (hn : st.nsec = 0) (hu : st.utc = false) :
    finish (zoneState t.off (st.withFields t.civil)) = some (readBack t) := by
  have hsplit := Int.tmod_def t.off 60
  have hu' := toUnix_ofUnix t.unix t.off
  unfold zoneState readBack
  split
  · rw [finish_withFields t.civil (ofUnix_valid _ _) st hy hn true, if_pos (Or.inl rfl)]
    simp only [GoTime.civil, ofUnix_off, hu', Option.some.injEq, GoTime.mk.injEq, and_true]
    omega
  · rw [finish_withFields t.civil (ofUnix_valid _ _) st hy hn (st.withFields t.civil).utc,
      if_neg (by simp only [show (st.withFields t.civil).utc = false from hu, Bool.false_eq_true, false_or]; omega)]
    simp only [GoTime.civil, ofUnix_off, hu', Option.some.injEq, GoTime.mk.injEq, and_true]
    omega

theorem parse_year_text (t : GoTime) (h1 : -360000 < t.off) (h2 : t.off < 360000) (yc : Std) (ytext : Bytes)
    (hyc : ∀ r, step yc {} (ytext ++ r) = some ({ ({} : PState) with year := t.year }, r)) :
    parse (yc :: [.zeroMonth, .zeroDay, .hour, .zeroMinute, .zeroSecond, .isoTZ])
        (ytext ++ (fieldsText t.civil ++ zoneText t.off)) =
      if -90000 < t.off ∧ t.off < 90000 then some (readBack t) else none := by
  rw [parse, parseLoop_cons (hyc _), parseLoop_fieldsText _ t.civil (ofUnix_valid _ _) _ _ (zoneText_not_fraction t.off), parseLoop,
    step_zoneText t.off h1 h2]
  by_cases hb : -90000 < t.off ∧ t.off < 90000
  · rw [if_pos hb, if_pos hb]
    exact finish_zoneState t _ rfl rfl rfl
  · rw [if_neg hb, if_neg hb]

theorem appendInt_two (v : Nat) (hv : v < 100) : appendInt (v : Int) 2 = EA.twoDigits v := by
  have : ¬ ((v : Int) < 0) := by omega
  simp [appendInt, hv, this, EA.twoDigits]

theorem appendInt_four (y : Int) (h0 : 0 ≤ y) (h1 : y ≤ 9999) : appendInt y 4 = EA.fourDigits y.toNat := by
  have e1 : ¬ (y < 0) := by omega
  have e3 : y.natAbs = y.toNat := by omega
  have e4 : y.toNat < 10000 := by omega
  simp only [appendInt, e1, e3, e4, EA.fourDigits, if_false, and_self, if_true, List.nil_append]
  simp

/-- `hz` fails for 1..59 seconds either side of UTC, where `Format` writes `+0000` and `appendTimeCommon` writes `Z` -/
theorem formatChunk_tz (cv : Civil) (h1 : -360000 < cv.off) (h2 : cv.off < 360000)
    (hz : cv.off = 0 ∨ Int.tdiv cv.off 60 ≠ 0) : formatChunk .isoTZ cv = zoneText cv.off := by
  simp only [formatChunk, zoneText]
  by_cases h0 : cv.off = 0
  · rw [if_pos h0, h0, if_pos (Int.zero_tdiv 60)]
  · rw [if_neg h0, if_neg (hz.resolve_left h0)]
    obtain ⟨a, hab, hk⟩ := tdiv60_abs cv.off
    have ha : a < 6000 := (hab 6000).2 ⟨h1, h2⟩
    -- on natural numbers `/` and `%` of `Int` are those of `Nat`, by definition
    have hd : appendInt ((a : Int) / 60) 2 = _ := appendInt_two (a / 60) (Nat.div_lt_of_lt_mul ha)
    have hm : appendInt ((a : Int) % 60) 2 = _ := appendInt_two (a % 60) (by omega)
    obtain ⟨hp, hk⟩ | ⟨hp, hk⟩ := hk
    · rw [hk, if_neg (by omega), if_pos hp, Int.natAbs_natCast, hd, hm]
      rfl
    · rw [hk, if_pos (by omega), if_neg (Int.not_lt.2 hp), Int.natAbs_neg, Int.natAbs_natCast, Int.neg_neg, hd, hm]
      rfl

theorem format_fields (cv : Civil) (hv : cv.valid = true) :
    formatChunk .zeroMonth cv ++ (formatChunk .zeroDay cv ++ (formatChunk .hour cv ++
      (formatChunk .zeroMinute cv ++ formatChunk .zeroSecond cv))) = fieldsText cv := by
  obtain ⟨hm1, hm2, hd1, hd2, hh, hmi, hs⟩ := (valid_iff cv).1 hv
  have hd3 := daysIn_le cv.month cv.year
  simp only [formatChunk, fieldsText, appendInt_two cv.month (by omega), appendInt_two cv.day (by omega),
    appendInt_two cv.hour (by omega), appendInt_two cv.min (by omega), appendInt_two cv.sec (by omega), List.append_assoc]

theorem format_year_chunks (yc : Std) (t : GoTime) :
    format (yc :: [.zeroMonth, .zeroDay, .hour, .zeroMinute, .zeroSecond, .isoTZ]) t =
      formatChunk yc t.civil ++ (fieldsText t.civil ++ formatChunk .isoTZ t.civil) := by
  simp only [format, List.map_cons, List.map_nil, List.flatten_cons, List.flatten_nil, List.append_nil]
  rw [← format_fields t.civil (ofUnix_valid _ _)]
  simp only [List.append_assoc]

theorem format_year_eq (yc : Std) (t : GoTime) (h1 : -360000 < t.off) (h2 : t.off < 360000)
    (hz : t.off = 0 ∨ Int.tdiv t.off 60 ≠ 0) :
    format (yc :: [.zeroMonth, .zeroDay, .hour, .zeroMinute, .zeroSecond, .isoTZ]) t =
      formatChunk yc t.civil ++ (fieldsText t.civil ++ zoneText t.off) := by
  rw [format_year_chunks, formatChunk_tz t.civil h1 h2 hz]
  rfl

/-- `t.Format("20060102150405Z0700")` -/
theorem format_gen_eq (t : GoTime) (hy0 : 0 ≤ t.year) (hy1 : t.year ≤ 9999) (h1 : -360000 < t.off) (h2 : t.off < 360000)
    (hz : t.off = 0 ∨ Int.tdiv t.off 60 ≠ 0) :
    format layoutGen t = EA.fourDigits t.year.toNat ++ (fieldsText t.civil ++ zoneText t.off) := by
  rw [layoutGen, format_year_eq _ t h1 h2 hz]
  exact congrArg (· ++ _) (appendInt_four _ hy0 hy1)

/-- `t.Format("060102150405Z0700")` -/
theorem format_utcsec_eq (t : GoTime) (h1 : -360000 < t.off) (h2 : t.off < 360000)
    (hz : t.off = 0 ∨ Int.tdiv t.off 60 ≠ 0) :
    format layoutUTCSec t = EA.twoDigits (t.year.natAbs % 100) ++ (fieldsText t.civil ++ zoneText t.off) := by
  rw [layoutUTCSec, format_year_eq _ t h1 h2 hz]
  -- `%` of `Int` on natural numbers is that of `Nat`, by definition
  exact congrArg (· ++ _) (appendInt_two (t.civil.year.natAbs % 100) (Nat.mod_lt _ (by decide)))

end ZV.Time
