import ZV.Model.C33
import ZV.Proofs.Base256
import ZV.Proofs.Dec
/-!
  C33, enumerated types.  Two decoder shapes cover them: by VALUE (`decodeByValue_iff`: the value fits the member's type
  and the name is the value's own name, for any naming function) and by NAME (`nameCode_roundtrip`: through the table when
  the names are pairwise distinct, `rlookup_lookup`, through the `unknown.N` fallback otherwise, which needs
  `Atoi (Itoa n) = n`).  The table hypotheses (`Nodup`, no name starts with `unknown.`) are discharged by
  `decide` on the generated tables, one statement per table (`signatureNames_table` …).  `bytesNat_natBytes` is `SetBytes (Bytes n) = n` for the key parameters.
-/
namespace ZV.C33

theorem lookup_mem (t : List (Nat × Str)) (k : Nat) (n : Str) (h : lookup t k = some n) : (k, n) ∈ t := by
  fun_induction lookup t k with
  | case1 => cases h
  | case2 n' r =>
    cases h
    exact List.mem_cons_self
  | case3 k' n' r hk ih => exact List.mem_cons_of_mem _ (ih h)

theorem rlookup_mem (t : List (Nat × Str)) (n : Str) (k : Nat) (h : rlookup t n = some k) : (k, n) ∈ t := by
  fun_induction rlookup t n with
  | case1 => cases h
  | case2 k' r =>
    cases h
    exact List.mem_cons_self
  | case3 k' n' r hk ih => exact List.mem_cons_of_mem _ (ih h)

theorem lookup_of_mem_keys (t : List (Nat × Str)) (k : Nat) (h : k ∈ keys t) : ∃ n, lookup t k = some n := by
  fun_induction lookup t k with
  | case1 => cases h
  | case2 n r => exact ⟨n, rfl⟩
  | case3 k' n r hk ih => exact ih ((List.mem_cons.mp h).resolve_left fun x => hk x.symm)

theorem rlookup_lookup (t : List (Nat × Str)) (hn : (names t).Nodup) (k : Nat) (n : Str)
    (h : lookup t k = some n) : rlookup t n = some k := by
  fun_induction lookup t k with
  | case1 => cases h
  | case2 n' r =>
    cases h
    exact if_pos rfl
  | case3 k' n' r hk ih =>
    have hn' := List.nodup_cons.mp hn
    have : n' ≠ n := fun x => hn'.1 (x ▸ List.mem_map.mpr ⟨_, lookup_mem r k _ h, rfl⟩)
    rw [rlookup, if_neg this]
    exact ih hn'.2 h

theorem inRange_iff (lo hi i : Int) : inRange lo hi i = true ↔ lo ≤ i ∧ i ≤ hi := by
  simp [inRange]

theorem toUint16_ofNat (v : Nat) (h : v < 65536) : toUint16 (Int.ofNat v) = v := by
  simp only [toUint16, Int.ofNat_eq_natCast]; omega

/-- the decoder of CipherSuiteID, CompressionMethod, CurveID and PointFormat -/
theorem decodeByValue_iff (nm : Nat → Str) (hi : Nat) (j : NameValue) (v : Nat) :
    (if !inRange 0 (Int.ofNat hi) j.value then Res.err
     else if nm j.value.toNat ≠ j.name then .err else .ok j.value.toNat) = .ok v
      ↔ j.value = Int.ofNat v ∧ v ≤ hi ∧ j.name = nm v := by
  simp only [Int.ofNat_eq_natCast]
  constructor
  · intro h
    split at h
    · cases h
    · rename_i hr
      split at h
      · cases h
      · rename_i hn
        cases h
        have hb := (inRange_iff _ _ _).mp (by simpa using hr)
        have hv : ((j.value.toNat : Nat) : Int) = j.value := Int.toNat_of_nonneg hb.1
        exact ⟨hv.symm, by omega, (by simpa using hn : nm j.value.toNat = j.name).symm⟩
  · rintro ⟨h1, h2, h3⟩
    have hr : inRange 0 hi v = true := (inRange_iff _ _ _).mpr (by omega)
    simp [hr, h1, h3]

theorem natToDecAux_eq (f n : Nat) (acc : Str) : natToDecAux f n acc = Nat.toDigitsCore 10 f n acc := by
  induction f generalizing n acc with
  | zero => rfl
  | succ f ih =>
    simp only [natToDecAux, Nat.toDigitsCore, ih]
    rw [show digitChar (n % 10) = _ from Dec.digitChar_eq ⟨n % 10, Nat.mod_lt _ (by decide)⟩]

theorem natToDec_eq (n : Nat) : natToDec n = Nat.toDigits 10 n :=
  natToDecAux_eq (n + 1) n []

theorem parseDigitsAux_digits (s : Str) (acc : Nat) (h : ∀ c ∈ s, c.isDigit = true) :
    parseDigitsAux s acc = some (Nat.ofDigitChars 10 s acc) := by
  induction s generalizing acc with
  | nil => rfl
  | cons c r ih =>
    have hc := Char.isDigit_iff_toNat.1 (h c List.mem_cons_self)
    simp only [parseDigitsAux, digitVal]
    rw [if_pos (by simpa using hc)]
    show parseDigitsAux r _ = _
    rw [ih _ (fun c hc => h c (List.mem_cons_of_mem _ hc)), Nat.ofDigitChars_cons, Nat.mul_comm]
    rfl

theorem natToDec_ne_nil (n : Nat) : natToDec n ≠ [] := natToDec_eq n ▸ Nat.toDigits_ne_nil

theorem natToDec_isDigit (n : Nat) (c : Char) (h : c ∈ natToDec n) : c.isDigit = true :=
  Dec.isDigit_mem (natToDec_eq n ▸ h)

theorem parseDigits_natToDec (n : Nat) : parseDigits (natToDec n) = some n := by
  have h := parseDigitsAux_digits (natToDec n) 0 (natToDec_isDigit n)
  rw [natToDec_eq] at h ⊢
  rw [Nat.ofDigitChars_ten_toDigits] at h
  unfold parseDigits
  split
  · rename_i e
    exact absurd e Nat.toDigits_ne_nil
  · exact h

theorem ne_of_isDigit {c d : Char} (hc : c.isDigit = true) (hd : d.isDigit = false) : c ≠ d := by
  rintro rfl
  rw [hd] at hc
  cases hc

theorem natToDec_not_mem (n : Nat) (c : Char) (hc : c.isDigit = false) : c ∉ natToDec n := fun h =>
  ne_of_isDigit (natToDec_isDigit n c h) hc rfl

theorem natToDec_head (n : Nat) : ∃ c r, natToDec n = c :: r ∧ c ≠ '-' ∧ c ≠ '+' := by
  match e : natToDec n with
  | [] => exact absurd e (natToDec_ne_nil n)
  | c :: r =>
    have := natToDec_isDigit n c (e ▸ List.mem_cons_self)
    exact ⟨c, r, rfl, ne_of_isDigit this rfl, ne_of_isDigit this rfl⟩

theorem natToDec_lead (n : Nat) (h0 : n ≠ 0) : ∃ c r, natToDec n = c :: r ∧ c ≠ '0' :=
  natToDec_eq n ▸ Dec.head_ne_zero n h0

theorem intToDec_ofNat (n : Nat) : intToDec (Int.ofNat n) = natToDec n := by
  have : ¬ ((n : Int) < 0) := by omega
  simp [intToDec, this]

theorem intToDec_no_dot (i : Int) : '.' ∉ intToDec i := by
  unfold intToDec
  split
  · intro h
    simp only [List.mem_cons] at h
    rcases h with h | h
    · exact absurd h (by decide)
    · exact natToDec_not_mem _ _ rfl h
  · exact natToDec_not_mem _ _ rfl

theorem intToDec_ne_nil (i : Int) : intToDec i ≠ [] := by
  unfold intToDec
  split
  · simp
  · exact natToDec_ne_nil _

/-- `strconv.Atoi (strconv.Itoa i) = i` on the whole int64 range. -/
theorem atoi_intToDec (i : Int) (h0 : -9223372036854775808 ≤ i) (h1 : i < 9223372036854775808) :
    atoi (intToDec i) = some i := by
  unfold intToDec
  split
  · rename_i hneg
    simp only [atoi]
    simp only [or_true, if_true, parseDigits_natToDec]
    have : ¬ ((-i).toNat > 9223372036854775808) := by omega
    simp only [this, if_false]
    simp
    omega
  · rename_i hneg
    obtain ⟨c, r, hs, hc1, hc2⟩ := natToDec_head i.toNat
    have hp := parseDigits_natToDec i.toNat
    rw [hs] at hp ⊢
    simp only [atoi, hc1, hc2, or_self, if_false, hp]
    have : ¬ (i.toNat ≥ 9223372036854775808) := by omega
    simp only [this, if_false]
    simp
    omega

theorem trimUnknown_unknownDot (s : Str) : trimUnknown (unknownDot ++ s) = s := by
  unfold trimUnknown
  rw [if_pos (List.isPrefixOf_iff_prefix.mpr (List.prefix_append _ _)), List.drop_left]

/-- `ParseInt(Itoa n, 10, 32)` below the clamp -/
theorem parseInt32Lossy_natToDec (n : Nat) (h : n < 2147483648) : parseInt32Lossy (natToDec n) = Int.ofNat n := by
  obtain ⟨c, r, hs, hc1, hc2⟩ := natToDec_head n
  have hp := parseDigits_natToDec n
  rw [hs] at hp ⊢
  simp only [parseInt32Lossy, hc1, hc2, or_self, if_false, hp]
  rw [if_neg (by omega)]

/-- `signatureToName (nameForSignature s) = s`, and the same for hashes (tls/tls_names.go), over any table `t` -/
theorem nameCode_roundtrip (t : List (Nat × Str)) (hn : (names t).Nodup)
    (hf : ∀ n ∈ names t, unknownDot.isPrefixOf n = false) (s : Nat) (hs : s < 256) :
    let name := match lookup t s with
      | some n => n
      | none => unknownDot ++ natToDec s
    (match rlookup t name with
     | some k => k
     | none => toUint8 (parseInt32Lossy (trimUnknown name))) = s := by
  intro name
  cases h : lookup t s with
  | some n =>
    have : name = n := by simp only [name, h]
    rw [this, rlookup_lookup t hn s n h]
  | none =>
    have : name = unknownDot ++ natToDec s := by simp only [name, h]
    have hr : rlookup t name = none := by
      cases hr : rlookup t name with
      | none => rfl
      | some k =>
        have hp := hf _ (List.mem_map_of_mem (rlookup_mem t _ k hr))
        rw [this, List.isPrefixOf_iff_prefix.mpr (List.prefix_append _ _)] at hp
        cases hp
    rw [hr, this, trimUnknown_unknownDot, parseInt32Lossy_natToDec s (by omega)]
    simp only [toUint8, Int.ofNat_eq_natCast]
    omega

/-! ### the generated tables: everything a `decide` reads off one table in one statement, so that its string literals
    are decoded once -/

theorem signatureNames_table : (names Gen.signatureNames).Nodup ∧
    ∀ n ∈ names Gen.signatureNames, unknownDot.isPrefixOf n = false ∧ parseDigits n = none := by decide +kernel

theorem hashNames_table : (names Gen.hashNames).Nodup ∧
    ∀ n ∈ names Gen.hashNames, unknownDot.isPrefixOf n = false ∧ parseDigits n = none := by decide +kernel

/-- encoding reads `keyAlgorithmNames`, decoding `publicKeyNameToAlgorithm`: two Go tables checked against each other -/
theorem keyAlgorithmNames_table : Gen.keyAlgorithmNames.Nodup ∧ ∀ p ∈ List.range Gen.totalKeyAlgorithms,
    (publicKeyAlgorithmEncode (Int.ofNat p)).bind publicKeyAlgorithmDecode = .ok (Int.ofNat p) := by decide +kernel

/-- `algoName` against `signatureAlgorithmDetails`; the three RSA-PSS constants share an OID and come back from their
    names, whence the `Nodup` conjunct -/
theorem algoName_table : (pssAlgs.map (fun a => signatureAlgorithmString (Int.ofNat a))).Nodup ∧
    ∀ a ∈ List.range Gen.algoName.length, a ≠ 0 →
      signatureAlgorithmDecode (signatureAlgorithmEncode (Int.ofNat a)) = .ok (Int.ofNat a) := by decide +kernel

theorem bytesNatFrom_eq_foldl (a : Nat) (l : Bytes) :
    bytesNatFrom a l = l.foldl (fun a b => a * 256 + b.toNat) a := by
  induction l generalizing a with
  | nil => rfl
  | cons b r ih => exact ih _

theorem natBytesAux_eq (f n : Nat) (acc : Bytes) (h : n ≤ f) : natBytesAux f n acc = minBE n ++ acc := by
  induction f generalizing n acc with
  | zero =>
    rw [Nat.le_zero.mp h, minBE_zero]
    rfl
  | succ f ih =>
    rw [natBytesAux]
    by_cases h0 : n = 0
    · rw [if_pos h0, h0, minBE_zero]
      rfl
    · have hlt : n / 256 < n := Nat.div_lt_self (Nat.pos_of_ne_zero h0) (by decide)
      rw [if_neg h0, ih _ _ (Nat.le_of_lt_succ (Nat.lt_of_lt_of_le hlt h)), minBE_pos h0, List.append_assoc]
      rfl

theorem bytesNat_natBytes (n : Nat) : bytesNat (natBytes n) = n := by
  rw [natBytes, natBytesAux_eq n n [] (Nat.le_refl n), List.append_nil]
  exact (bytesNatFrom_eq_foldl 0 _).trans (be256_minBE n)

end ZV.C33
