import ZV.Model.DerLite
import ZV.Proofs.ByteFacts
import ZV.Proofs.Base256
import ZV.Proofs.Der0Enc
import ZV.Proofs.Der0Hdr
/-! Basic lemmas of the DER TLV reader/writer: the length field (reader and writer inverse to each other), exact
    characterisations of what `readHdr` and `readElem` accept (`HdrEnc`, `readHdr_iff`, `readElem_iff`: an encoded header,
    a body of the announced length, the rest) with the element boundaries, locality and reader ∘ writer = id as
    corollaries, the SEQUENCE OF reader, and two's-complement / base-128 contents. -/
namespace ZV.Der

theorem lenDigits_step (n : Nat) (h1 : 256 ≤ n) (h2 : n < 4294967296) :
    lenDigits n = lenDigits (n / 256) ++ [UInt8.ofNat (n % 256)] := by
  have e1 : n / 256 < 256 ↔ n < 65536 := Nat.div_lt_iff_lt_mul (by decide)
  have e2 : n / 256 < 65536 ↔ n < 16777216 := Nat.div_lt_iff_lt_mul (by decide)
  have e3 : n / 256 < 16777216 := (Nat.div_lt_iff_lt_mul (by decide)).mpr h2
  simp only [lenDigits, Nat.not_lt.mpr h1, if_false, e1, e2, e3, if_true, Nat.div_div_eq_div_mul]
  split
  · rfl
  · split
    · rfl
    · rw [Nat.mod_eq_of_lt (a := n / (256 * 65536)) ((Nat.div_lt_iff_lt_mul (by decide)).mpr h2)]
      rfl

/-- `h0`: for 0 `lenDigits` has `[0]` where `minBE` has none -/
theorem lenDigits_eq (n : Nat) (h0 : n ≠ 0) (h2 : n < 4294967296) : lenDigits n = minBE n := by
  induction n using Nat.strongRecOn with
  | _ n ih =>
    rw [minBE_pos h0]
    by_cases c : n < 256
    · rw [Nat.div_eq_of_lt c, minBE_zero, lenDigits, if_pos c, Nat.mod_eq_of_lt c]
      rfl
    · rw [lenDigits_step n (by omega) h2, ih (n / 256) (by omega) (by omega) (by omega)]

theorem readLenLoop_cons (k acc : Nat) (b : UInt8) (tl : Bytes) :
    readLenLoop (k + 1) acc (b :: tl) =
      if acc ≥ 8388608 then .err else if acc * 256 + b.toNat = 0 then .err
      else readLenLoop k (acc * 256 + b.toNat) tl := rfl

/-- the long-form loop is the one of the layer-0 model, which characterises the accepted runs (`Der0.EA.lenLoop_digits`) -/
theorem readLenLoop_eq : ∀ (n acc : Nat) (bs : Bytes), readLenLoop n acc bs = Der0.EA.lenLoop bs n acc
  | 0, _, _ => by rw [readLenLoop, Der0.EA.lenLoop]
  | _ + 1, _, [] => rfl
  | n + 1, acc, b :: r => by
    rw [readLenLoop_cons, Der0.EA.lenLoop]
    simp only [readLenLoop_eq n _ r]

theorem readLenLoop_succ (k acc : Nat) (bs : Bytes) :
    readLenLoop (k + 1) acc bs = (readLenLoop k acc bs).bind fun r => readLenLoop 1 r.1 r.2 := by
  induction k generalizing acc bs with
  | zero => rfl
  | succ k ih =>
    cases bs with
    | nil => rfl
    | cons b tl =>
      rw [readLenLoop_cons, readLenLoop_cons]
      split
      · rfl
      · split
        · rfl
        · exact ih _ _

/-- `n < 2^31` because the reader refuses to shift an accumulator ≥ 2^23 ("length too large") -/
theorem readLenLoop_digs (n : Nat) (rest : Bytes) (h2 : n < 2147483648) :
    readLenLoop (minBE n).length 0 (minBE n ++ rest) = .ok (n, rest) := by
  induction n using Nat.strongRecOn generalizing rest with
  | ind n ih =>
    by_cases h0 : n = 0
    · rw [h0, minBE_zero]
      rfl
    · rw [minBE_pos h0, List.length_append, List.length_singleton, readLenLoop_succ,
        List.append_assoc, ih (n / 256) (by omega) _ (by omega)]
      show readLenLoop 1 (n / 256) (UInt8.ofNat (n % 256) :: rest) = _
      rw [readLenLoop_cons, toNat_ofNat_lt (by omega), if_neg (by omega), if_neg (by omega),
        show n / 256 * 256 + n % 256 = n by omega]
      rfl

theorem lenDigits_length (n : Nat) : 1 ≤ (lenDigits n).length ∧ (lenDigits n).length ≤ 4 := by
  unfold lenDigits
  repeat' split
  all_goals simp only [List.length_cons, List.length_nil]; omega

theorem encLen_length_ge (n : Nat) : 1 ≤ (encLen n).length ∧ (encLen n).length ≤ 5 ∧
    (2 ≤ (encLen n).length ↔ 128 ≤ n) ∧ (3 ≤ (encLen n).length ↔ 256 ≤ n) ∧
    (4 ≤ (encLen n).length ↔ 65536 ≤ n) ∧ (5 ≤ (encLen n).length ↔ 16777216 ≤ n) := by
  unfold encLen lenDigits
  repeat' split
  all_goals simp only [List.length_cons, List.length_nil]; omega

theorem encLen_length (n : Nat) : 1 ≤ (encLen n).length ∧ (encLen n).length ≤ 5 :=
  ⟨(encLen_length_ge n).1, (encLen_length_ge n).2.1⟩

theorem readLen_encLen (n : Nat) (rest : Bytes) (hn : n < 2147483648) :
    readLen (encLen n ++ rest) = .ok (n, rest) := by
  unfold encLen
  split
  · rename_i h
    show readLen (UInt8.ofNat n :: rest) = _
    rw [readLen, toNat_ofNat_lt (by omega), if_pos h]
  · rename_i h
    have hl := lenDigits_length n
    have hd := readLenLoop_digs n rest hn
    rw [← lenDigits_eq n (by omega) (by omega)] at hd
    show readLen (UInt8.ofNat (128 + (lenDigits n).length) :: (lenDigits n ++ rest)) = _
    rw [readLen, toNat_ofNat_lt (by omega), if_neg (by omega), if_neg (by omega), Nat.add_sub_cancel_left, hd]
    simp only [h, if_false]

theorem readLen_ok (bs : Bytes) (n : Nat) (rest : Bytes) (h : readLen bs = .ok (n, rest)) :
    n < 2147483648 ∧ bs = encLen n ++ rest := by
  cases bs with
  | nil => cases h
  | cons b tl =>
    have hb := b.toNat_lt
    rw [readLen] at h
    split at h
    · rename_i h1
      cases h
      rw [encLen, if_pos h1, UInt8.ofNat_toNat]
      exact ⟨by omega, rfl⟩
    · split at h
      · cases h
      · split at h
        · rename_i len rest' heq
          split at h
          · cases h
          · rename_i hge
            cases h
            obtain ⟨hv, pre, hp, hl, hd⟩ := Der0.EA.lenLoop_digits (by decide) ((readLenLoop_eq _ _ _).symm.trans heq)
            rw [← lenDigits_eq _ (by omega) (by omega), minBE_zero, List.nil_append] at hd
            refine ⟨hv, ?_⟩
            rw [encLen, if_neg hge, hd, hp, hl, show 128 + (b.toNat - 128) = b.toNat by omega, UInt8.ofNat_toNat]
            rfl
        · cases h
        · cases h

theorem readBase128_prefix : ∀ (f s acc : Nat) (bs : Bytes) (v : Nat) (rest : Bytes),
    readBase128 f s acc bs = .ok (v, rest) →
    ∃ pre, bs = pre ++ rest ∧ ∀ t, readBase128 f s acc (pre ++ t) = .ok (v, t) := by
  intro f
  induction f with
  | zero => intro s acc bs v rest h; cases h
  | succ f ih =>
    intro s acc bs v rest h
    cases bs with
    | nil => cases h
    | cons b tl =>
      simp only [readBase128] at h
      split at h
      · cases h
      · rename_i hc
        split at h
        · rename_i hb
          split at h
          · cases h
          · rename_i hgt
            cases h
            exact ⟨[b], rfl, fun t => by simp only [List.singleton_append, readBase128, if_neg hc, hb, if_true, if_neg hgt]⟩
        · rename_i hb
          obtain ⟨pre, hp, hr⟩ := ih _ _ _ _ _ h
          exact ⟨b :: pre, by rw [hp]; rfl,
            fun t => by simp only [List.cons_append, readBase128, if_neg hc, hb, if_false, hr t]⟩

/-- `pre` is an accepted encoding of the header `h`.  Only a low tag number has its octets spelled out (`low`); of a
    high-tag-number header only `two_le` and `read` are known. -/
structure HdrEnc (pre : Bytes) (h : Hdr) : Prop where
  two_le : 2 ≤ pre.length
  read : ∀ t, readHdr (pre ++ t) = .ok (h, t)
  low : h.tag < 31 → ∃ b : UInt8, b.toNat % 32 ≠ 31 ∧ h = hdrOf b h.len ∧ h.len < 2147483648 ∧ pre = b :: encLen h.len

theorem HdrEnc.ofLow (t : UInt8) (n : Nat) (ht : t.toNat % 32 ≠ 31) (hn : n < 2147483648) :
    HdrEnc (t :: encLen n) (hdrOf t n) := by
  refine ⟨?_, fun r => ?_, fun _ => ⟨t, ht, rfl, hn, rfl⟩⟩
  · have := encLen_length n
    rw [List.length_cons]
    omega
  · simp only [List.cons_append, readHdr, if_neg ht, readLen_encLen _ _ hn]
    rfl

theorem readHdr_iff (bs : Bytes) (hd : Hdr) (rest : Bytes) :
    readHdr bs = .ok (hd, rest) ↔ ∃ pre, HdrEnc pre hd ∧ bs = pre ++ rest := by
  refine ⟨fun h => ?_, fun ⟨pre, hp, e⟩ => e ▸ hp.read rest⟩
  cases bs with
  | nil => cases h
  | cons b tl =>
    simp only [readHdr] at h
    split at h
    · rename_i h31
      split at h
      · rename_i tg rest1 heq
        split at h
        · cases h
        · rename_i hlt
          split at h
          · rename_i l rest2 heq2
            cases h
            obtain ⟨p1, hp1, hr1⟩ := readBase128_prefix _ _ _ _ _ _ heq
            obtain ⟨hv, hp2⟩ := readLen_ok _ _ _ heq2
            have := encLen_length l
            refine ⟨b :: (p1 ++ encLen l), ⟨?_, fun t => ?_, fun hl => absurd hl hlt⟩,
              by rw [hp1, hp2, List.cons_append, List.append_assoc]⟩
            · rw [List.length_cons, List.length_append]
              omega
            · simp only [List.cons_append, List.append_assoc, readHdr, if_pos h31, hr1, if_neg hlt,
                readLen_encLen _ _ hv]
          · cases h
          · cases h
      · cases h
      · cases h
    · rename_i h31
      split at h
      · rename_i l rest2 heq2
        cases h
        obtain ⟨hv, hp2⟩ := readLen_ok _ _ _ heq2
        exact ⟨b :: encLen l, HdrEnc.ofLow b l h31 hv, by rw [hp2]; rfl⟩
      · cases h
      · cases h

theorem readElem_iff (bs : Bytes) (e : Elem) (rest : Bytes) :
    readElem bs = .ok (e, rest) ↔
      ∃ pre, HdrEnc pre e.hdr ∧ e.body.length = e.hdr.len ∧ e.full = pre ++ e.body ∧ bs = e.full ++ rest := by
  constructor
  · intro h
    simp only [readElem] at h
    split at h
    · rename_i hd after heq
      split at h
      · cases h
      · rename_i hlen
        obtain ⟨pre, hp, rfl⟩ := (readHdr_iff _ _ _).mp heq
        cases h
        have hle : hd.len ≤ after.length := Nat.le_of_not_lt hlen
        have e1 : (pre ++ after).length - after.length + hd.len = pre.length + hd.len := by
          rw [List.length_append, Nat.add_sub_cancel]
        have e2 : (pre ++ after).take (pre.length + hd.len) = pre ++ after.take hd.len := by
          rw [List.take_append]
          simp [List.take_of_length_le (Nat.le_add_right pre.length hd.len)]
        refine ⟨pre, hp, ?_, ?_, ?_⟩
        · exact List.length_take_of_le hle
        · simp only [e1, e2]
        · simp only [e1, e2, List.append_assoc, List.take_append_drop]
    · cases h
    · cases h
  · rintro ⟨pre, hp, hl, hf, rfl⟩
    obtain ⟨hd, body, full⟩ := e
    simp only at hl hf hp ⊢
    subst hf
    have hn : ¬ (body ++ rest).length < hd.len := by
      rw [List.length_append]
      omega
    have e1 : (pre ++ (body ++ rest)).length - (body ++ rest).length + hd.len = (pre ++ body).length := by
      simp only [List.length_append]
      omega
    rw [readElem, List.append_assoc, hp.read]
    simp only [if_neg hn, e1]
    rw [← List.append_assoc, List.take_left' rfl, ← hl, List.take_left' rfl, List.drop_left' rfl]

theorem readElem_split (bs : Bytes) (e : Elem) (rest : Bytes) (h : readElem bs = .ok (e, rest)) :
    bs = e.full ++ rest ∧ (∃ hb, 2 ≤ hb.length ∧ e.full = hb ++ e.body) ∧ e.body.length = e.hdr.len :=
  let ⟨pre, hp, hl, hf, hb⟩ := (readElem_iff bs e rest).mp h
  ⟨hb, ⟨pre, hp.two_le, hf⟩, hl⟩

theorem readElem_rest_lt (bs : Bytes) (e : Elem) (rest : Bytes) (h : readElem bs = .ok (e, rest)) :
    rest.length + 2 ≤ bs.length := by
  obtain ⟨h1, ⟨hb, h2, h3⟩, _⟩ := readElem_split bs e rest h
  rw [h1, h3]; simp; omega

theorem readElem_full_eq_take (bs : Bytes) (e : Elem) (rest : Bytes) (h : readElem bs = .ok (e, rest)) :
    e.full = bs.take e.full.length := by
  obtain ⟨h1, _, _⟩ := readElem_split bs e rest h
  conv => rhs; rw [h1]
  simp

theorem readElem_append (bs : Bytes) (e : Elem) (rest t : Bytes) (h : readElem bs = .ok (e, rest)) :
    readElem (bs ++ t) = .ok (e, rest ++ t) := by
  obtain ⟨pre, hp, hl, hf, rfl⟩ := (readElem_iff _ _ _).mp h
  exact (readElem_iff _ _ _).mpr ⟨pre, hp, hl, hf, List.append_assoc _ _ _⟩

theorem readElem_ne_nil (bs : Bytes) (e : Elem) (rest : Bytes) (h : readElem bs = .ok (e, rest)) :
    bs.isEmpty = false := by
  obtain ⟨pre, hp, _, hf, rfl⟩ := (readElem_iff _ _ _).mp h
  cases pre with
  | nil => exact absurd hp.two_le (by decide)
  | cons a p =>
    rw [hf]
    rfl

theorem readHdr_writeTLV (t : UInt8) (body rest : Bytes) (ht : t.toNat % 32 ≠ 31)
    (hl : body.length < 2147483648) :
    readHdr (writeTLV t body ++ rest) = .ok (hdrOf t body.length, body ++ rest) := by
  rw [writeTLV, List.cons_append, List.append_assoc]
  exact (HdrEnc.ofLow t body.length ht hl).read (body ++ rest)

theorem readElem_writeTLV (t : UInt8) (body rest : Bytes) (ht : t.toNat % 32 ≠ 31)
    (hl : body.length < 2147483648) :
    readElem (writeTLV t body ++ rest) = .ok (⟨hdrOf t body.length, body, writeTLV t body⟩, rest) :=
  (readElem_iff _ _ _).mpr ⟨t :: encLen body.length, HdrEnc.ofLow t _ ht hl, rfl, rfl, rfl⟩

theorem writeTLV_length (t : UInt8) (body : Bytes) :
    (writeTLV t body).length = 1 + (encLen body.length).length + body.length := by
  simp [writeTLV]; omega

theorem readElemsFuel_nil (f : Nat) : readElemsFuel f [] = .ok [] := by
  cases f <;> simp [readElemsFuel]

/-- the element `readElem` reports for a written TLV -/
def elemOf (t : UInt8) (body : Bytes) : Elem := ⟨hdrOf t body.length, body, writeTLV t body⟩

theorem writeTLV_length_ge (t : UInt8) (body : Bytes) : body.length + 2 ≤ (writeTLV t body).length := by
  have := encLen_length body.length
  rw [writeTLV_length]; omega

theorem writeTLV_length_le (t : UInt8) (body : Bytes) : (writeTLV t body).length ≤ body.length + 6 := by
  have := encLen_length body.length
  rw [writeTLV_length]; omega

/-- `hle`: the element's place in what the bound `h` is about, e.g. `Nat.le_add_right _ _` for the first of two -/
theorem lt_of_writeTLV_le {t : UInt8} {body : Bytes} {n N : Nat} (hle : (writeTLV t body).length ≤ n) (h : n < N) :
    body.length < N := by
  have := writeTLV_length_ge t body
  omega

theorem lt_of_writeTLV {t : UInt8} {body : Bytes} {N : Nat} (h : (writeTLV t body).length < N) : body.length < N :=
  lt_of_writeTLV_le (Nat.le_refl _) h

theorem readElemsFuel_map {α} (enc : α → Bytes) (el : α → Elem) : ∀ (xs : List α) (f : Nat),
    (∀ x ∈ xs, readElem (enc x) = .ok (el x, [])) → (xs.map enc).flatten.length ≤ f →
    readElemsFuel f (xs.map enc).flatten = .ok (xs.map el) := by
  intro xs
  induction xs with
  | nil => intro f _ _; simp [readElemsFuel_nil]
  | cons x xs ih =>
    intro f h hf
    have hb := h x List.mem_cons_self
    have hne := readElem_ne_nil _ _ _ hb
    have h2 := readElem_rest_lt _ _ _ hb
    simp only [List.map_cons, List.flatten_cons, List.length_append] at hf ⊢
    cases f with
    | zero => simp at h2; omega
    | succ f =>
      have hne' : (enc x ++ (xs.map enc).flatten).isEmpty = false := by
        cases hx : enc x with
        | nil => rw [hx] at hne; cases hne
        | cons _ _ => rfl
      simp only [readElemsFuel, hne']
      have := readElem_append _ _ _ (xs.map enc).flatten hb
      simp only [List.nil_append] at this
      rw [this]
      simp only [Bool.false_eq_true, if_false]
      rw [ih f (fun y hy => h y (List.mem_cons_of_mem _ hy)) (by simp at h2; omega)]

theorem readElems_map {α} (enc : α → Bytes) (el : α → Elem) (xs : List α)
    (h : ∀ x ∈ xs, readElem (enc x) = .ok (el x, [])) : readElems (xs.map enc).flatten = .ok (xs.map el) :=
  readElemsFuel_map enc el xs _ h (Nat.le_refl _)

theorem readElems_writeTLVs {α} (t : α → UInt8) (b : α → Bytes) (xs : List α)
    (h : ∀ x ∈ xs, (t x).toNat % 32 ≠ 31 ∧ (b x).length < 2147483648) :
    readElems ((xs.map fun x => writeTLV (t x) (b x)).flatten) = .ok (xs.map fun x => elemOf (t x) (b x)) :=
  readElems_map _ _ xs fun x hx => by
    have := readElem_writeTLV (t x) (b x) [] (h x hx).1 (h x hx).2
    rwa [List.append_nil] at this

theorem natOfBytes_nil : natOfBytes [] = 0 := rfl

theorem natOfBytes_cons (a : UInt8) (t : Bytes) :
    natOfBytes (a :: t) = a.toNat * 256 ^ t.length + natOfBytes t :=
  be256_cons a t

theorem natOfBytes_lt (bs : Bytes) : natOfBytes bs < 256 ^ bs.length :=
  be256_lt bs

theorem twos_top (P a N : Nat) (v : Int) (hN : N < P)
    (hu : ((a * P + N : Nat) : Int) = if v < 0 then v + ((P * 256 : Nat) : Int) else v)
    (hlo : -(128 * (P : Int)) ≤ v) (hhi : v < 128 * (P : Int)) : (128 ≤ a ↔ v < 0) := by
  by_cases h : 128 ≤ a
  · have : 128 * P ≤ a * P := Nat.mul_le_mul_right _ h
    split at hu <;> omega
  · have : a * P ≤ 127 * P := Nat.mul_le_mul_right _ (by omega)
    split at hu <;> omega

theorem int_decode (bs : Bytes) (k : Nat) (v : Int) (hl : bs.length = k + 1)
    (hu : (natOfBytes bs : Int) = if v < 0 then v + (256 : Int) ^ (k + 1) else v)
    (hlo : -(128 * (256 : Int) ^ k) ≤ v) (hhi : v < 128 * (256 : Int) ^ k)
    (hmin : ∀ j, k = j + 1 → v < -(128 * (256 : Int) ^ j) ∨ 128 * (256 : Int) ^ j ≤ v) :
    checkInteger bs = true ∧ intOfBytes bs = v := by
  have hP : ∀ j, (256 : Int) ^ j = ((256 ^ j : Nat) : Int) := fun j => by simp
  rw [hP, Nat.pow_succ] at hu
  rw [hP] at hlo hhi
  cases bs with
  | nil => cases hl
  | cons a t =>
    cases Nat.succ.inj hl
    have hN := natOfBytes_lt t
    rw [natOfBytes_cons] at hu
    -- the top octet carries the sign; `hmin` then rules out the two redundant leading octets
    have hs := twos_top _ _ _ v hN hu hlo hhi
    constructor
    · cases t with
      | nil => rfl
      | cons b t' =>
        have hm := hmin _ rfl
        have hN' := natOfBytes_lt t'
        rw [hP] at hm
        rw [natOfBytes_cons, List.length_cons, Nat.pow_succ] at hu
        simp only [checkInteger, Bool.not_eq_true', decide_eq_false_iff_not]
        rintro (⟨h0, hb⟩ | ⟨h0, hb⟩)
        · have : b.toNat * 256 ^ t'.length ≤ 127 * 256 ^ t'.length := Nat.mul_le_mul_right _ (Nat.le_of_lt_succ hb)
          rw [h0, if_neg (mt hs.mpr (h0 ▸ by decide)), Nat.zero_mul, Nat.zero_add] at hu
          omega
        · have : 128 * 256 ^ t'.length ≤ b.toNat * 256 ^ t'.length := Nat.mul_le_mul_right _ hb
          rw [h0, if_pos (hs.mp (h0 ▸ by decide))] at hu
          omega
    · have h2 : 2 ^ (8 * (a :: t).length) = 256 ^ t.length * 256 := by
        rw [List.length_cons, Nat.pow_mul, Nat.pow_succ]
      rw [intOfBytes, h2, natOfBytes_cons, hu]
      by_cases hv : v < 0
      · rw [if_pos (hs.mpr hv), if_pos hv]
        exact Int.add_sub_cancel _ _
      · rw [if_neg fun h => hv (hs.mp h), if_neg hv]

/-! `checkInteger`, the signed value and `parseInt64` are those of the layer-0 model (`Der0`), which has the theory of minimal
    two's complement in both directions (`Der0.int_enc`, `Der0.int_canon`). -/

theorem checkInteger_eq : ∀ bs : Bytes, checkInteger bs = Der0.checkInteger bs
  | [] => rfl
  | [_] => rfl
  | a :: b :: _ => by
    rw [Bool.eq_iff_iff]
    simp [checkInteger, Der0.checkInteger, uint8_eq_zero_iff, uint8_eq_ff_iff]

theorem intOfBytes_eq (bs : Bytes) : intOfBytes bs = Der0.twos bs := by
  cases bs with
  | nil => rfl
  | cons a t =>
    rw [intOfBytes, Der0.twos, Der0.natOfBytes_eq, Nat.pow_mul]
    rfl

theorem parseInt64_eq (bs : Bytes) : parseInt64 bs = Der0.EA.parseInt64 bs := by
  rw [parseInt64, Der0.EA.parseInt64, checkInteger_eq, intOfBytes_eq]

theorem base128Aux_zero (f : Nat) (acc : Bytes) : base128Aux f 0 acc = acc := by
  cases f <;> simp [base128Aux]

/-! `parseBase128Int` / `appendBase128Int` are those of the layer-0 model (`Der0`): the fuel counts the octets still allowed,
    the writer's fuel is never exhausted. -/

theorem readBase128_eq : ∀ (f sh acc : Nat) (bs : Bytes), f + sh = 5 →
    readBase128 f sh acc bs = Der0.EA.b128Loop bs sh acc
  | 0, sh, acc, bs, h => by
    cases bs with
    | nil => rfl
    | cons b r => rw [readBase128, Der0.EA.b128Loop, if_pos (by omega)]
  | f + 1, sh, acc, [], _ => rfl
  | f + 1, sh, acc, b :: r, h => by
    have h5 : ¬ sh = 5 := by omega
    simp only [readBase128, Der0.EA.b128Loop, if_neg h5, readBase128_eq f (sh + 1) _ r (by omega),
      ← UInt8.toNat_inj (b := 0x80)]
    rfl

theorem base128Aux_eq : ∀ (f m : Nat) (acc : Bytes), m ≤ f → base128Aux f m acc = Der0.hi128 m ++ acc
  | 0, m, acc, h => by
    rw [Nat.le_zero.mp h, Der0.hi128_zero]
    rfl
  | f + 1, m, acc, h => by
    rw [base128Aux]
    by_cases h0 : m = 0
    · rw [if_pos h0, h0, Der0.hi128_zero]
      rfl
    · rw [if_neg h0, base128Aux_eq f (m / 128) _ (by omega), Der0.hi128_step h0, Nat.add_comm 128, List.append_assoc]
      rfl

theorem encBase128_eq (n : Nat) : encBase128 n = Der0.appendBase128 n := by
  rw [encBase128, base128Aux_eq _ _ _ (by omega), Der0.appendBase128_eq]

theorem readBase128_encBase128 (n : Nat) (rest : Bytes) (hn : n ≤ 2147483647) :
    readBase128 5 0 0 (encBase128 n ++ rest) = .ok (n, rest) := by
  rw [readBase128_eq 5 0 0 _ rfl, Der0.b128Loop_agree, encBase128_eq]
  exact (Der0.CB.readBase128Int_written n rest).trans (if_pos (by omega))

theorem encBase128_length (n : Nat) : 1 ≤ (encBase128 n).length := by
  rw [encBase128_eq]
  exact List.length_pos_iff.mpr (Der0.appendBase128_ne_nil n)

end ZV.Der
