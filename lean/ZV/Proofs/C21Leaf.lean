import ZV.Model.C21
import ZV.Proofs.Der0Typed
import ZV.Proofs.ListFacts
/-!
  write → read lemmas for the leaf operations of C21: fixed-width integers and length-prefixed blocks, then the ASN.1
  leaves: every `ReadASN1…` reader returns exactly what the matching `AddASN1…` builder method wrote, and leaves
  exactly the tail.
-/
open ZV ZV.Der0
namespace ZV.C21

theorem readU_beBytes (w v : Nat) (t : Bytes) (h : v < 256 ^ w) :
    readU w (beBytes w v ++ t) = .ok (v, t) := by
  unfold readU
  have hl := beBytes_length w v
  have h1 : ¬ (beBytes w v ++ t).length < w := by simp [hl]
  simp only [h1, if_false]
  rw [List.take_left' hl, List.drop_left' hl, natOfBytes_beBytes w v h]

theorem readBytes_append (c t : Bytes) : readBytes c.length (c ++ t) = .ok (c, t) := by
  unfold readBytes
  simp

theorem readLengthPrefixed_back (n : Nat) (c t : Bytes) (h : c.length < 256 ^ n) :
    readLengthPrefixed n (beBytes n c.length ++ (c ++ t)) = .ok (c, t) := by
  unfold readLengthPrefixed
  rw [readU_beBytes n c.length (c ++ t) h]
  exact readBytes_append c t

/-- the sub-identifiers `AddASN1ObjectIdentifier` writes: `40·a + b`, then every further arc. -/
def oidSubIds : List Nat → List Nat
  | a :: b :: rest => (a * 40 + b) :: rest
  | _ => []

/-- every sub-identifier written for the OID is below 2^31 (what `readBase128Int` can return). -/
def oidInRange (o : List Nat) : Bool := (oidSubIds o).all (fun x => decide (x < 2147483648))

theorem element_length {tag : UInt8} {body pre : Bytes} (h : CB.element tag body = .ok pre) :
    pre.length ≤ body.length + 6 := by
  unfold CB.element at h
  split at h
  · cases h
  · rcases CB.derLength_cases body.length with ⟨_, hd, _⟩ | ⟨k, lb, _, hk4, _, _, _, _, hd, _⟩ | ⟨_, hd⟩
    · rw [hd] at h; cases h
      rw [List.length_append, Nat.add_comm]
      exact Nat.add_le_add_left (Nat.le_add_left 2 4) _
    · rw [hd] at h; cases h
      rw [List.length_append, List.length_cons, List.length_cons, beBytes_length, Nat.add_comm]
      exact Nat.add_le_add_left (Nat.add_le_add_right hk4 2) _
    · rw [hd] at h; cases h

theorem element_head {tag : UInt8} {body pre : Bytes} (h : CB.element tag body = .ok pre) :
    ∃ r, pre = tag :: r := by
  unfold CB.element at h
  split at h
  · simp at h
  · split at h
    · simp only [Res.ok.injEq] at h; exact ⟨_, h.symm⟩
    · simp at h
    · simp at h

theorem peekTag_element {tag : UInt8} {body pre : Bytes} (t : Bytes) (h : CB.element tag body = .ok pre) :
    peekTag (pre ++ t) tag = true := by
  obtain ⟨r, rfl⟩ := element_head h
  exact beq_self_eq_true tag

theorem signedContent_length (v : Int) : (CB.signedContent v).length = intLen v := by
  simp [CB.signedContent, intBytes_length]

/-- `ReadASN1Int64WithTag` / `ReadASN1Integer(*int64)` / `ReadASN1Enum` after `addASN1Signed`. -/
theorem readInt64Tag_back (tag : UInt8) (v : Int) (pre t : Bytes)
    (h : CB.addASN1Int64Tag tag v = .ok pre)
    (h1 : -9223372036854775808 ≤ v) (h2 : v ≤ 9223372036854775807) :
    CB.readInt64Tag (pre ++ t) tag = .ok (v, t) := by
  have h8 := intLen_int64 h1 h2
  rw [CB.readInt64Tag_eq]
  exact CB.typed_back t h (Nat.lt_of_le_of_lt (signedContent_length v ▸ h8) (by decide)) (EA.parseInt64_ok.2 ⟨rfl, h8⟩)

/-- `ReadASN1Integer(*uint64)` after `AddASN1Uint64` (`asn1Unsigned` has no counterpart in encoding/asn1, so this reader has no
    `CB.typed` form and is unfolded here). -/
theorem readUint64_back (v : Nat) (pre t : Bytes) (h : CB.addASN1Uint64 v = .ok pre)
    (hr : v < 18446744073709551616) : CB.readUint64 (pre ++ t) = .ok (v, t) := by
  have hcont : CB.unsignedContent v = intBytes (v : Int) (intLen (v : Int)) := by
    rw [CB.unsignedContent, uintLen_eq_intLen']
  have hl : intLen (v : Int) ≤ 9 :=
    intLen_le 8 (v : Int) (by omega) (by omega)
  have hlen : (CB.unsignedContent v).length = intLen (v : Int) := by rw [hcont, intBytes_length]
  unfold CB.addASN1Uint64 at h
  unfold CB.readUint64
  rw [CB.readASN1Tag_back 2 _ pre t h (by rw [hlen]; exact Nat.lt_of_le_of_lt hl (by decide))]
  have hc : checkInteger (CB.unsignedContent v) = true := by rw [hcont]; exact checkInteger_intBytes _
  have ht : twos (CB.unsignedContent v) = (v : Int) := by rw [hcont]; exact twos_intBytes _
  have hpos := intLen_pos (v : Int)
  generalize CB.unsignedContent v = c at hc ht hlen
  cases c with
  | nil => exact absurd hlen (Nat.ne_of_lt hpos)
  | cons a tl =>
    obtain ⟨ha, hnat⟩ := twos_nonneg_head (a := a) (t := tl) (by rw [ht]; exact Int.natCast_nonneg v)
    have hval : natOfBytes (a :: tl) = v := by exact_mod_cast hnat.symm.trans ht
    -- nine content octets of a value below 2^64 = 256^8 start with a zero octet
    have h9 : ¬ ((a :: tl).length > 9 ∨ ((a :: tl).length = 9 ∧ a ≠ 0)) := by
      rintro (hgt | ⟨h9, hne⟩)
      · rw [hlen] at hgt; exact Nat.not_lt.2 hl hgt
      · have hcons := natOfBytes_cons a tl
        rw [Nat.succ.inj h9, hval] at hcons
        exact hne ((uint8_eq_zero_iff a).2 (by omega))
    simp only [hc, Bool.not_true, Bool.false_eq_true, if_false, CB.asn1Unsigned, if_neg h9,
      if_neg (Nat.not_le.2 ha), hval]

/-- `ReadASN1Integer(*big.Int)` after `AddASN1BigInt`, any magnitude. -/
theorem readBigInt_back (v : Int) (pre t : Bytes) (h : CB.addASN1BigInt v = .ok pre)
    (hsz : (bigIntBytes v).length < 4294967290) : CB.readBigInt (pre ++ t) = .ok (v, t) := by
  rw [CB.readBigInt_eq]
  exact CB.typed_back t h hsz (EA.parseBigInt_ok.2 rfl)

theorem readBool_back (v : Bool) (pre t : Bytes) (h : CB.addASN1Boolean v = .ok pre) :
    CB.readBool (pre ++ t) = .ok (v, t) := by
  rw [CB.readBool_eq]
  exact CB.typed_back t h (by cases v <;> decide) (EA.parseBool_ok.2 rfl)

theorem readBitString_back (bs pre t : Bytes) (h : CB.addASN1BitString 0 bs = .ok pre)
    (hsz : bs.length + 1 < 4294967290) :
    CB.readBitString (pre ++ t) = .ok ({ bitLength := (bs.length : Int) * 8, bytes := bs }, t) := by
  rw [CB.readBitString_eq]
  exact CB.typed_back t h hsz (EA.parseBitString_ok.2 ⟨⟨Nat.zero_le 7, Nat.mod_one _, fun _ => rfl⟩, by simp⟩)

theorem splitFirst_valid {a b : Nat} {rest : List Nat} (h : CB.isValidOID (a :: b :: rest) = true) :
    splitFirst (a * 40 + b) = [a, b] := by
  obtain ⟨ha2, hb40⟩ := CB.isValidOID_cons.1 h
  unfold splitFirst
  by_cases ha : a < 2
  · have hb := hb40 ha
    have hlt : a * 40 + b < 80 := Nat.add_lt_add_of_le_of_lt (Nat.mul_le_mul_right 40 (Nat.le_of_lt_succ ha)) hb
    rw [if_pos hlt, Nat.add_comm, Nat.add_mul_div_right _ _ (by decide), Nat.add_mul_mod_self_right,
      Nat.div_eq_of_lt hb, Nat.mod_eq_of_lt hb, Nat.zero_add]
  · obtain rfl : a = 2 := Nat.le_antisymm ha2 (Nat.not_lt.1 ha)
    rw [if_neg (Nat.not_lt.2 (Nat.le_add_right _ b))]
    exact congrArg (fun x => [2, x]) (Nat.add_sub_cancel_left (n := 80) (m := b))

/-- `ReadASN1ObjectIdentifier` after `AddASN1ObjectIdentifier`: the OID is read back iff every sub-identifier is
    below 2^31 (the reader's limit: at most 5 groups, and `ret < 2^24` before every shift); otherwise the reader
    rejects the writer's output. -/
theorem readOID_written (o : List Nat) (pre t : Bytes) (h : CB.addASN1OID o = .ok pre)
    (hsz : (oidBody o).length < 4294967290) :
    CB.readOID (pre ++ t) = if oidInRange o then .ok (o, t) else .err := by
  unfold CB.addASN1OID at h
  split at h
  · cases h
  rename_i hv
  rw [Bool.not_eq_true, Bool.not_eq_false'] at hv
  unfold CB.isValidOID at hv
  split at hv
  case h_2 => cases hv
  rename_i a b rest
  unfold CB.readOID
  rw [CB.readASN1Tag_back 6 _ pre t h hsz]
  simp only [oidBody, oidInRange, oidSubIds, List.all_cons, Bool.and_eq_true, decide_eq_true_eq, List.all_eq_true]
  obtain ⟨x, xs, hm⟩ := List.exists_cons_of_ne_nil (appendBase128_ne_nil (a * 40 + b))
  rw [hm]
  have hf := CB.readBase128Int_written (a * 40 + b) (rest.map appendBase128).flatten
  rw [hm] at hf
  simp only [List.cons_append] at hf ⊢
  by_cases hfirst : a * 40 + b < 2147483648
  · rw [if_pos hfirst] at hf
    simp only [hf, CB.oidArcs_written rest _ (Nat.le_refl _), hfirst, true_and]
    by_cases hrest : ∀ w ∈ rest, w < 2147483648
    · simp only [if_pos hrest, splitFirst_valid (rest := rest) hv, List.cons_append, List.nil_append]
    · simp only [if_neg hrest]
  · rw [if_neg hfirst] at hf
    simp only [hf, hfirst, false_and, if_false]

/-- `rd` on a child String that has to be consumed completely, the value passed through `f` -/
def whole {α β : Type} (f : α → β) (rd : Bytes → Res (α × Bytes)) (child : Bytes) : Res β :=
  match rd child with
  | .ok (v, r) => if r.isEmpty then .ok (f v) else .err
  | .err => .err
  | .panic => .panic

theorem whole_ok {α β : Type} {f : α → β} {rd : Bytes → Res (α × Bytes)} {child : Bytes} {w : β} :
    whole f rd child = .ok w ↔ ∃ v, rd child = .ok (v, []) ∧ w = f v := by
  unfold whole
  cases rd child with
  | ok x =>
    obtain ⟨v, r⟩ := x
    cases r with
    | nil =>
      refine ⟨fun h => ⟨v, rfl, (Res.ok.inj h).symm⟩, fun ⟨_, h1, h2⟩ => ?_⟩
      cases h1
      exact congrArg Res.ok h2.symm
    | cons a r => exact ⟨nofun, fun ⟨_, h1, _⟩ => nomatch h1⟩
  | err => exact ⟨nofun, fun ⟨_, h1, _⟩ => nomatch h1⟩
  | panic => exact ⟨nofun, fun ⟨_, h1, _⟩ => nomatch h1⟩

theorem readOptionalInt_eq (s : Bytes) (tag : UInt8) (d : Int) :
    readOptionalInt s tag d = if peekTag s tag = true then CB.typed tag (whole id CB.readInt64) s else .ok (d, s) := by
  unfold readOptionalInt readOptionalASN1
  cases peekTag s tag with
  | false => rfl
  | true =>
    unfold CB.typed whole
    rw [if_pos rfl, if_pos rfl]
    cases CB.readASN1Tag s tag with
    | ok x =>
      dsimp only
      cases CB.readInt64 x.1 with
      | ok y =>
        dsimp only
        cases y.2.isEmpty <;> rfl
      | err => rfl
      | panic => rfl
    | err => rfl
    | panic => rfl

theorem readOptionalOctets_eq (s : Bytes) (tag : UInt8) :
    readOptionalOctets s tag =
      if peekTag s tag = true then CB.typed tag (whole some (CB.readASN1Tag · 4)) s else .ok (none, s) := by
  unfold readOptionalOctets readOptionalASN1
  cases peekTag s tag with
  | false => rfl
  | true =>
    unfold CB.typed whole
    rw [if_pos rfl, if_pos rfl]
    cases CB.readASN1Tag s tag with
    | ok x =>
      dsimp only
      cases CB.readASN1Tag x.1 4 with
      | ok y =>
        dsimp only
        cases y.2.isEmpty <;> rfl
      | err => rfl
      | panic => rfl
    | err => rfl
    | panic => rfl

theorem readOptionalASN1_present (tag : UInt8) (body pre t : Bytes) (h : CB.element tag body = .ok pre)
    (hsz : body.length < 4294967290) : readOptionalASN1 (pre ++ t) tag = .ok (some body, t) := by
  simp only [readOptionalASN1, peekTag_element t h, if_true, CB.readASN1Tag_back tag body pre t h hsz]

theorem readOptionalInt_present (tag : UInt8) (v d : Int) (inner pre t : Bytes)
    (hi : CB.addASN1Int64 v = .ok inner) (h : CB.element tag inner = .ok pre)
    (h1 : -9223372036854775808 ≤ v) (h2 : v ≤ 9223372036854775807) :
    readOptionalInt (pre ++ t) tag d = .ok (v, t) := by
  have hil : inner.length ≤ 8 + 6 := Nat.le_trans (element_length hi)
    (Nat.add_le_add_right (signedContent_length v ▸ intLen_int64 h1 h2) 6)
  rw [readOptionalInt_eq, peekTag_element t h, if_pos rfl]
  exact CB.typed_back t h (Nat.lt_of_le_of_lt hil (by decide))
    (whole_ok.2 ⟨v, List.append_nil inner ▸ readInt64Tag_back 2 v inner [] hi h1 h2, rfl⟩)

theorem readOptionalOctets_present (tag : UInt8) (bs inner pre t : Bytes)
    (hi : CB.element 4 bs = .ok inner) (h : CB.element tag inner = .ok pre)
    (hsz : bs.length < 4294967290) (hsz2 : inner.length < 4294967290) :
    readOptionalOctets (pre ++ t) tag = .ok (some bs, t) := by
  rw [readOptionalOctets_eq, peekTag_element t h, if_pos rfl]
  exact CB.typed_back t h hsz2 (whole_ok.2 ⟨bs, List.append_nil inner ▸ CB.readASN1Tag_back 4 bs inner [] hi hsz, rfl⟩)

theorem readOptionalBool_present (v d : Bool) (pre t : Bytes) (h : CB.addASN1Boolean v = .ok pre) :
    readOptionalBool (pre ++ t) d = .ok (v, t) := by
  have hp : peekTag (pre ++ t) 1 = true := peekTag_element t h
  simp only [readOptionalBool, hp, Bool.not_true, Bool.false_eq_true, if_false, readBool_back v pre t h]

/-! ### the ingredients of the predicate `readable` (ZV/Props/C21.lean) -/

/-- an ASN.1 body the reader can accept: shorter than 2^32 - 6 bytes (`readASN1`'s uint32 guard). -/
def bodyFits (r : Res Bytes) : Bool :=
  match r with
  | .ok c => decide (c.length < 4294967290)
  | _ => true

/-- the byte that follows an absent optional field is not the field's tag. -/
def nextIsNot (tag : UInt8) (r : Res Bytes) (tail : Bytes) : Bool :=
  match r with
  | .ok y => !peekTag (y ++ tail) tag
  | _ => true

def int64Range (v : Int) : Bool := decide (-9223372036854775808 ≤ v ∧ v ≤ 9223372036854775807)

theorem bodyFits_ok {r : Res Bytes} {c : Bytes} (h : bodyFits r = true) (hr : r = .ok c) :
    c.length < 4294967290 := by
  subst hr; exact of_decide_eq_true h

theorem nextIsNot_ok {tag : UInt8} {r : Res Bytes} {tail y : Bytes} (h : nextIsNot tag r tail = true)
    (hr : r = .ok y) : peekTag (y ++ tail) tag = false := by
  subst hr; simpa [nextIsNot] using h

theorem int64Range_ok {v : Int} (h : int64Range v = true) :
    -9223372036854775808 ≤ v ∧ v ≤ 9223372036854775807 :=
  of_decide_eq_true h

theorem elementR_ok {tag : UInt8} {r : Res Bytes} {x : Bytes} (h : elementR tag r = .ok x) :
    ∃ c, r = .ok c ∧ CB.element tag c = .ok x := by
  unfold elementR at h
  split at h
  · exact ⟨_, rfl, h⟩
  · simp at h
  · simp at h

theorem inline_ok {rb rk : Bytes → Res (List Val × Bytes)} {s mid tail : Bytes} {vs ws : List Val}
    (hb : rb s = .ok (vs, mid)) (hk : rk mid = .ok (ws, tail)) :
    inline rb rk s = .ok (vs ++ ws, tail) := by
  simp [inline, hb, hk]

theorem nested_ok {rb rk : Bytes → Res (List Val × Bytes)} {child rest tail : Bytes} {vs ws : List Val}
    (hb : rb child = .ok (vs, [])) (hk : rk rest = .ok (ws, tail)) :
    nested rb rk child rest = .ok (vs ++ ws, tail) := by
  simp [nested, hb, hk]

theorem consumed_append (pre t : Bytes) : consumed (pre ++ t) t = pre := take_sub_suffix pre t

/-- what an alternative reader needs: the ASN.1 body passes `readASN1`'s uint32 guard; an ABSENT element
    skipped by `SkipOptionalASN1` is followed by a byte different from its tag. -/
def altReadable (a : Alt) (r : Res Bytes) (tail : Bytes) : Bool :=
  match a with
  | .skip _ => true
  | .copy _ => true
  | .elem _ b => decide (b.length < 4294967290)
  | .any _ b => decide (b.length < 4294967290)
  | .anyElem _ b => decide (b.length < 4294967290)
  | .skipAsn1 _ b => decide (b.length < 4294967290)
  | .skipOpt _ b => decide (b.length < 4294967290)
  | .noSkipOpt tag => nextIsNot tag r tail
  | .bitsBytes b => decide (b.length + 1 < 4294967290)

theorem altRead_back (a : Alt) (r : Res Bytes) (x y tail : Bytes) (h : altSer a = .ok x) (hr : r = .ok y)
    (ha : altReadable a r tail = true) : altRead a (x ++ (y ++ tail)) = .ok (altVal a, y ++ tail) := by
  cases a with
  | skip bs =>
    simp only [altSer, Res.ok.injEq] at h; subst h
    simp only [altRead, readBytes_append, altVal]
  | copy bs =>
    simp only [altSer, Res.ok.injEq] at h; subst h
    simp only [altRead, readBytes_append, altVal]
  | elem tag bs =>
    simp only [altReadable, decide_eq_true_eq] at ha
    obtain ⟨H, he⟩ := CB.readASN1_back tag bs x (y ++ tail) h ha
    simp only [altSer] at h
    simp only [altRead, he, ne_eq, not_true_eq_false, if_false, consumed_append, altVal, elemBytes, h]
  | any tag bs =>
    simp only [altReadable, decide_eq_true_eq] at ha
    obtain ⟨H, he⟩ := CB.readASN1_back tag bs x (y ++ tail) h ha
    simp only [altRead, he, altVal]
  | anyElem tag bs =>
    simp only [altReadable, decide_eq_true_eq] at ha
    obtain ⟨H, he⟩ := CB.readASN1_back tag bs x (y ++ tail) h ha
    simp only [altSer] at h
    simp only [altRead, he, consumed_append, altVal, elemBytes, h]
  | skipAsn1 tag bs =>
    simp only [altReadable, decide_eq_true_eq] at ha
    simp only [altRead, CB.readASN1Tag_back tag bs x (y ++ tail) h ha, altVal]
  | skipOpt tag bs =>
    simp only [altReadable, decide_eq_true_eq] at ha
    simp only [altSer] at h
    simp only [altRead, peekTag_element (y ++ tail) h, Bool.not_true, Bool.false_eq_true, if_false,
      CB.readASN1Tag_back tag bs x (y ++ tail) h ha, altVal]
  | noSkipOpt tag =>
    simp only [altSer, Res.ok.injEq] at h; subst h
    simp only [altReadable] at ha
    have := nextIsNot_ok ha hr
    simp only [altRead, List.nil_append, this, Bool.not_false, if_true, altVal]
  | bitsBytes bs =>
    simp only [altReadable, decide_eq_true_eq] at ha
    simp only [altSer, CB.addASN1BitString] at h
    simp only [altRead, CB.readASN1Tag_back 3 (0 :: bs) x (y ++ tail) h ha, ne_eq,
      not_true_eq_false, if_false, altVal]

end ZV.C21
