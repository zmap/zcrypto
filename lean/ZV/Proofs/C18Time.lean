import ZV.Model.C18Time
import ZV.Proofs.C18
import ZV.Proofs.TimeRT
/-!
  `MarshalWithParams` / `UnmarshalWithParams` of a bare `time.Time` (`ZV.Model.C18Time`): on Marshal's framing of
  the time content the decoder's header / EXPLICIT / IMPLICIT matching succeeds, selects the parser that matches
  the encoder, and returns `readBack t`.
-/
namespace ZV.C18.TimeField
open ZV.Time

theorem timeSubstTag_universal (p : Params) (tag len : Nat) (hset : p.set = false) (htag : tag = 23 ∨ tag = 24) :
    timeSubstTag p { cls := 0, tag := tag, len := len, compound := false } = tag := by
  simp only [timeSubstTag, hset, Bool.false_eq_true, if_false, if_true]
  rcases htag with h | h <;> subst h <;> simp

/-- the domain of `time_field_roundtrip` beyond `Good p`: no string kind, no `set`, and — for an IMPLICIT tag,
    where the wire carries no universal tag — the decoder's choice (`utc` / `generalized` parameter, else UTCTime)
    is the encoder's choice. -/
def fieldOK (p : Params) (t : GoTime) : Bool :=
  decide (p.stringType = 0) && !p.set && !omittedTime p t &&
  (match p.tag with
   | some _ => p.explicit || decide (EA.timeTag p.timeType t = (if p.timeType ≠ 0 then p.timeType else 23))
   | none => true)

theorem parseTimeField_wrap (perm : Bool) (p : Params) (t : GoTime) (body rest : Bytes) (hg : Good p)
    (hok : fieldOK p t = true) (hlen : (wrap p (EA.timeTag p.timeType t) false body).length < 2147483648) :
    parseTimeField perm p (wrap p (EA.timeTag p.timeType t) false body ++ rest) =
      (match EA.parseTimeBody perm (EA.timeTag p.timeType t) body with
       | .ok v => .ok (v, rest)
       | .err => .err
       | .panic => .panic) := by
  simp only [fieldOK, Bool.and_eq_true, decide_eq_true_eq, Bool.not_eq_true'] at hok
  obtain ⟨⟨⟨_, hset⟩, _⟩, himp⟩ := hok
  have htc := EA.timeTag_cases p.timeType t
  generalize EA.timeTag p.timeType t = tag at *
  obtain ⟨t0, r0, h1, _, h2⟩ := wrap_stage perm anyPlainType p tag false body rest rfl hg hlen (by omega)
  -- the tag the decoder picks the content parser by is the one written
  have hsub : timeSubstTag p (innerTL p tag false body) = tag := by
    unfold innerTL
    cases hpt : p.tag with
    | none => exact timeSubstTag_universal p tag _ hset htc
    | some tg =>
      rw [hpt] at himp
      cases he : p.explicit with
      | true => exact timeSubstTag_universal p tag _ hset htc
      | false =>
        rw [he] at himp
        simp only [Bool.false_or, decide_eq_true_eq] at himp
        have hc := (pcls_lt p).2
        unfold pcls at hc
        simp only [timeSubstTag, hset, Bool.false_eq_true, if_false, hc]
        exact himp.symm
  obtain ⟨e1, e2, e3, e4⟩ := innerTL_expected p tag false body false tag hg (fun _ => rfl)
  simp only [parseTimeField, append_isEmpty_false (wrap_nonempty p tag false body), h1, h2, hsub, expected_fst,
    ← e1, ← e2, e3, e4, bne_self_eq_false, Bool.or_self, Bool.and_false, Bool.false_eq_true, if_false, List.length_append, List.take_left',
    List.drop_left']
  rw [if_neg (by omega)]
  cases EA.parseTimeBody perm tag body <;> rfl

theorem field_roundtrip (perm : Bool) (p : Params) (t : GoTime) (enc rest : Bytes) (hg : Good p)
    (hok : fieldOK p t = true) (hy0 : 0 ≤ t.year) (hy1 : t.year ≤ 9999) (h1 : -90000 < t.off)
    (h2 : t.off < 90000) (henc : makeTimeField p t = .ok enc) (hlen : enc.length < 2147483648) :
    parseTimeField perm p (enc ++ rest) = .ok (readBack t, rest) := by
  obtain ⟨body, hb, hp⟩ := EA.body_roundtrip perm p.timeType t hy0 hy1 h1 h2
  have hok' := hok
  simp only [fieldOK, Bool.and_eq_true, decide_eq_true_eq, Bool.not_eq_true'] at hok'
  obtain ⟨⟨⟨hstr, hset⟩, hom⟩, _⟩ := hok'
  simp only [makeTimeField, hom, Bool.false_eq_true, if_false, hstr, ne_eq, not_true_eq_false, hset, hb,
    Res.ok.injEq] at henc
  subst henc
  rw [parseTimeField_wrap perm p t body rest hg hok hlen, hp]

end ZV.C18.TimeField
