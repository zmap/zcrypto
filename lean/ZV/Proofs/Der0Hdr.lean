import ZV.Proofs.Der0B128
/-! Identifier and length octets of encoding/asn1: `parseTagAndLength` consumes exactly what `appendTagAndLength`
  writes for the header it returns. The length part goes through `minBE`: the long-form octets read are the minimal
  digits of the length (`EA.lenLoop_digits`), which is what `appendLength` writes. (cryptobyte's header is in `Der0CB`.) -/
open ZV ZV.Der0
namespace ZV.Der0

theorem EA.lengthBytes_length (i : Nat) : ∀ n, (EA.lengthBytes i n).length = n
  | 0 => rfl
  | n + 1 => congrArg (· + 1) (EA.lengthBytes_length i n)

theorem EA.lengthBytes_snoc (i k : Nat) :
    EA.lengthBytes i (k + 1) = EA.lengthBytes (i / 256) k ++ [UInt8.ofNat (i % 256)] := by
  induction k with
  | zero => rw [EA.lengthBytes, EA.lengthBytes, Nat.pow_zero, Nat.div_one]; rfl
  | succ k ih => rw [EA.lengthBytes, ih, div_pow_succ]; rfl

theorem EA.appendLength_eq (i : Nat) (h : 0 < i) : EA.appendLength i = minBE i := by
  unfold EA.appendLength
  fun_induction EA.lengthLength i with
  | case1 i hbig ih => rw [EA.lengthBytes_snoc, ih (Nat.div_pos hbig (by decide)), ← minBE_pos (Nat.ne_of_gt h)]
  | case2 i hbig =>
    rw [minBE_pos (Nat.ne_of_gt h), EA.lengthBytes_snoc, Nat.div_eq_of_lt (Nat.lt_of_not_le hbig), minBE_zero]
    rfl

/-- `2^31`: the reader refuses to shift an accumulator ≥ 2^23; `Der.readLenLoop` and `C18.parseLenBytes` are this loop -/
theorem EA.lenLoop_digits {r rest : Bytes} {k acc v : Nat} (h2 : acc < 2147483648)
    (h : EA.lenLoop r k acc = .ok (v, rest)) :
    v < 2147483648 ∧ ∃ pre, r = pre ++ rest ∧ pre.length = k ∧ minBE v = minBE acc ++ pre := by
  induction k generalizing r acc with
  | zero =>
    rw [EA.lenLoop] at h
    cases h
    exact ⟨h2, [], rfl, rfl, (List.append_nil _).symm⟩
  | succ k ih =>
    cases r with
    | nil => cases h
    | cons b t =>
      dsimp only [EA.lenLoop] at h
      by_cases hbig : acc ≥ 8388608
      · rw [if_pos hbig] at h; cases h
      rw [if_neg hbig] at h
      by_cases hz : acc * 256 + b.toNat = 0
      · rw [if_pos hz] at h; cases h
      rw [if_neg hz] at h
      have hb := b.toNat_lt
      obtain ⟨hv, pre, h1, hl, hd⟩ := ih (by omega) h
      refine ⟨hv, b :: pre, congrArg (List.cons b) h1, congrArg (· + 1) hl, ?_⟩
      rw [hd, minBE_pos hz, Nat.mul_comm, Nat.mul_add_div (by decide), Nat.mul_add_mod, Nat.div_eq_of_lt hb,
        Nat.mod_eq_of_lt hb, UInt8.ofNat_toNat, List.append_assoc]
      rfl

/-- the length octets written by `appendTagAndLength` -/
def EA.lenOctets (l : Nat) : Bytes :=
  if l ≥ 128 then UInt8.ofNat (128 + EA.lengthLength l) :: EA.appendLength l else [UInt8.ofNat l]

theorem EA.parseLength_canon {r : Bytes} {l : Nat} {r' : Bytes}
    (h : EA.parseLength r = .ok (l, r')) : ∃ pre, r = pre ++ r' ∧ EA.lenOctets l = pre := by
  cases r with
  | nil => cases h
  | cons b t =>
    dsimp only [EA.parseLength] at h
    unfold EA.lenOctets
    by_cases hshort : b.toNat < 128
    · rw [if_pos hshort] at h
      cases h
      exact ⟨[b], rfl, by rw [if_neg (Nat.not_le_of_lt hshort), UInt8.ofNat_toNat]⟩
    rw [if_neg hshort] at h
    by_cases hind : b.toNat % 128 = 0
    · rw [if_pos hind] at h; cases h
    rw [if_neg hind] at h
    obtain ⟨l0, r0, hloop, h⟩ := ofPair h
    by_cases hl128 : l0 < 128
    · rw [if_pos hl128] at h; cases h
    rw [if_neg hl128] at h
    cases h
    obtain ⟨_, pre, h1, h2, hd⟩ := EA.lenLoop_digits (by decide) hloop
    have hl : l ≥ 128 := Nat.le_of_not_lt hl128
    have henc : EA.appendLength l = pre := by
      rw [EA.appendLength_eq l (Nat.lt_of_lt_of_le (by decide) hl), hd, minBE_zero, List.nil_append]
    -- the count octet: as many octets as were written
    have hll : EA.lengthLength l = b.toNat % 128 :=
      (EA.lengthBytes_length l _).symm.trans ((congrArg List.length henc).trans h2)
    refine ⟨b :: pre, congrArg (List.cons b) h1, ?_⟩
    rw [if_pos hl, henc, hll, ofNat_eq_of ((Nat.add_comm _ _).trans (high_group hshort b.toNat_lt))]

/-- class, constructed bit and tag number reassemble the identifier octet -/
theorem ident_octet {n : Nat} (h : n < 256) :
    n / 64 * 64 % 256 + (if (n / 32 % 2 == 1) = true then 32 else 0) + n % 32 = n := by
  have h1 := Nat.div_add_mod' n 32
  have h2 := Nat.div_add_mod' (n / 32) 2
  rw [Nat.div_div_eq_div_mul] at h2
  rw [← h2] at h1
  rw [Nat.mod_eq_of_lt (Nat.lt_of_le_of_lt (Nat.div_mul_le_self n 64) h)]
  rcases Nat.mod_two_eq_zero_or_one (n / 32) with hc | hc
  · rw [hc, Nat.add_zero, Nat.mul_assoc] at h1
    rw [hc]
    exact h1
  · rw [hc, Nat.add_mul, Nat.mul_assoc] at h1
    rw [hc]
    exact h1

theorem EA.parseTagAndLength_canon {bs : Bytes} {t : EA.TagAndLength} {rest : Bytes}
    (h : EA.parseTagAndLength bs = .ok (t, rest)) :
    ∃ pre, bs = pre ++ rest ∧ EA.appendTagAndLength t = pre := by
  cases bs with
  | nil => cases h
  | cons b r1 =>
    have hid := ofNat_eq_of (ident_octet b.toNat_lt)
    dsimp only [EA.parseTagAndLength] at h
    by_cases htag : b.toNat % 32 = 31
    · rw [if_pos htag] at h
      obtain ⟨tg, r2, hp, h⟩ := ofPair h
      by_cases hmin : tg < 31
      · rw [if_pos hmin] at h; cases h
      rw [if_neg hmin] at h
      obtain ⟨l, r3, hl, h⟩ := ofPair h
      cases h
      obtain ⟨p1, e1, e2⟩ := EA.parseBase128Int_canon hp
      obtain ⟨p2, e3, e4⟩ := EA.parseLength_canon hl
      refine ⟨b :: p1 ++ p2, by rw [e1, e3, List.append_assoc]; rfl, ?_⟩
      show (if tg ≥ 31 then _ else _) ++ EA.lenOctets l = _
      rw [if_pos (Nat.le_of_not_lt hmin), e2, e4, ← htag, hid]
    · rw [if_neg htag] at h
      obtain ⟨l, r3, hl, h⟩ := ofPair h
      cases h
      obtain ⟨p2, e3, e4⟩ := EA.parseLength_canon hl
      refine ⟨b :: p2, congrArg (List.cons b) e3, ?_⟩
      show (if b.toNat % 32 ≥ 31 then _ else _) ++ EA.lenOctets l = _
      rw [if_neg fun hge => htag (Nat.le_antisymm (Nat.le_of_lt_succ (Nat.mod_lt _ (by decide))) hge), e4, hid]
      rfl

end ZV.Der0
