/-! Facts about `List` that core Lean does not state and several clusters use. -/
namespace ZV

/-- what a reader consumed, cut back out of its input by the length of what it left -/
theorem take_sub_suffix {α} (pre rest : List α) : (pre ++ rest).take ((pre ++ rest).length - rest.length) = pre :=
  List.take_left' (by simp)

theorem snoc_induction {α : Type} {motive : List α → Prop} (nil : motive [])
    (snoc : ∀ init l, motive init → motive (init ++ [l])) (bs : List α) : motive bs := by
  rw [← List.reverse_reverse bs]
  induction bs.reverse with
  | nil => exact nil
  | cons a t ih =>
    rw [List.reverse_cons]
    exact snoc _ a ih

theorem append_isEmpty_false {α} {a b : List α} (h : a.isEmpty = false) : (a ++ b).isEmpty = false := by
  cases a <;> simp_all

theorem nodup_concat {α : Type} {l : List α} {a : α} (h : l.Nodup) (ha : a ∉ l) : (l ++ [a]).Nodup :=
  List.nodup_append.mpr ⟨h, List.pairwise_singleton _ _, fun _ hb _ hc e => ha (List.mem_singleton.mp hc ▸ e ▸ hb)⟩

/-- the counting invariants of the interleaving models (`ZV.C17.occ`, `ZV.C34.inflightOf`) are sums over the thread
    list, and a step rewrites one thread -/
theorem sum_map_set {α : Type} (f : α → Nat) (l : List α) (i : Nat) (a x : α) (h : l[i]? = some a) :
    ((l.set i x).map f).sum + f a = (l.map f).sum + f x := by
  induction l generalizing i with
  | nil => simp at h
  | cons y ys ih =>
    cases i with
    | zero =>
      simp at h
      simp only [h, List.set_cons_zero, List.map_cons, List.sum_cons]
      omega
    | succ i =>
      have := ih i (by simpa using h)
      simp only [List.set_cons_succ, List.map_cons, List.sum_cons]
      omega

theorem sum_map_zero {α : Type} (f : α → Nat) (l : List α) (h : ∀ x ∈ l, f x = 0) : (l.map f).sum = 0 :=
  List.sum_eq_zero_iff_forall_eq_nat.mpr fun _ hx => have ⟨a, ha, e⟩ := List.mem_map.mp hx; e ▸ h a ha

theorem mapM_eq_some {α β} {f : α → Option β} {l : List α} {os : List β} : l.mapM f = some os ↔ l.map f = os.map some := by
  induction l generalizing os with
  | nil => cases os <;> simp
  | cons a l ih =>
    cases os with
    | nil => simp [Option.bind_eq_some_iff]
    | cons o os => simp [Option.bind_eq_some_iff, ih]

theorem mem_of_mapM {α β} {f : α → Option β} {l : List α} {os : List β} (h : l.mapM f = some os) {b : β} (hb : b ∈ os) :
    ∃ a ∈ l, f a = some b :=
  List.mem_map.mp (mapM_eq_some.mp h ▸ List.mem_map_of_mem hb)

/-- a loop that spends one unit of fuel per round and calls itself only on inputs no longer than the tail of its own
    gives the same answer for every fuel that is at least the length of the input -/
theorem fuel_irrelevant {α β : Type} (loop : Nat → List α → β) (nil : ∀ f g, loop f [] = loop g [])
    (step : ∀ f g b r, (∀ r' : List α, r'.length ≤ r.length → loop f r' = loop g r') →
      loop (f + 1) (b :: r) = loop (g + 1) (b :: r)) :
    ∀ (f g : Nat) (bs : List α), bs.length ≤ f → bs.length ≤ g → loop f bs = loop g bs
  | _, _, [], _, _ => nil _ _
  | f + 1, g + 1, _ :: r, hf, hg =>
    step f g _ r fun r' h =>
      fuel_irrelevant loop nil step f g r' (Nat.le_trans h (Nat.le_of_succ_le_succ hf)) (Nat.le_trans h (Nat.le_of_succ_le_succ hg))

end ZV
