import ZV.Model.C23
import ZV.Proofs.C23Bytes
/-! EME-PKCS1-v1_5 (`EncryptPKCS1v15` / `DecryptPKCS1v15`): the non-zero padding string, the separator scan, and the
    unexported `decryptPKCS1v15` / `DecryptPKCS1v15SessionKey` as functions of the same unpadding — for `ZV.Props.C23`. -/
namespace ZV.C23
open ZV

theorem redraw_ne_zero {rnd rnd' : Bytes} {b : UInt8} (h : redraw rnd = some (b, rnd')) : b ≠ 0 := by
  fun_induction redraw rnd with
  | case1 => contradiction
  | case2 r rest hz ih => exact ih h
  | case3 r rest hz => exact (Prod.mk.inj (Option.some.inj h)).1 ▸ hz

theorem fixZeros_spec {bs rnd out : Bytes} (h : fixZeros bs rnd = some out) :
    out.length = bs.length ∧ ∀ b ∈ out, b ≠ 0 := by
  fun_induction fixZeros bs rnd generalizing out with
  | case1 =>
    cases h
    exact ⟨rfl, nofun⟩
  | case2 bs rnd hr => contradiction
  | case3 bs rnd b' rnd' hr ih =>
    obtain ⟨o, ho, rfl⟩ := Option.map_eq_some_iff.1 h
    exact ⟨congrArg (· + 1) (ih ho).1, List.forall_mem_cons.2 ⟨redraw_ne_zero hr, (ih ho).2⟩⟩
  | case4 b bs rnd hb ih =>
    obtain ⟨o, ho, rfl⟩ := Option.map_eq_some_iff.1 h
    exact ⟨congrArg (· + 1) (ih ho).1, List.forall_mem_cons.2 ⟨hb, (ih ho).2⟩⟩

theorem nonZeroRandomBytes_spec {n : Nat} {rnd ps : Bytes} (h : nonZeroRandomBytes n rnd = some ps) :
    ps.length = n ∧ ∀ b ∈ ps, b ≠ 0 := by
  unfold nonZeroRandomBytes at h
  split at h
  · simp at h
  · next hl =>
    obtain ⟨h1, h2⟩ := fixZeros_spec h
    refine ⟨?_, h2⟩
    rw [h1, List.length_take]; omega

theorem drop_em (b0 b1 : UInt8) (ps msg : Bytes) :
    (b0 :: b1 :: (ps ++ 0 :: msg)).drop (ps.length + 2 + 1) = msg := by
  simp only [List.drop_succ_cons]
  rw [show ps.length + 1 = (ps ++ [0]).length by simp, show ps ++ 0 :: msg = (ps ++ [0]) ++ msg by simp,
    List.drop_left']
  rfl

theorem firstZeroFrom2_eq_some_iff {b0 b1 : UInt8} {t : Bytes} {idx : Nat} :
    firstZeroFrom2 (b0 :: b1 :: t) = some idx ↔
      ∃ ps msg, (∀ b ∈ ps, b ≠ 0) ∧ idx = ps.length + 2 ∧ t = ps ++ 0 :: msg := by
  unfold firstZeroFrom2
  rw [List.drop_succ_cons, List.drop_succ_cons, List.drop_zero]
  constructor
  · intro h
    cases hfi : t.findIdx? (· == 0) with
    | none =>
      rw [hfi] at h
      contradiction
    | some i =>
      rw [hfi] at h
      obtain ⟨ps, x, msg, rfl, rfl, hx, hps⟩ := findIdx?_eq_some_iff_append.1 hfi
      exact ⟨ps, msg, fun b hb => by simpa using hps b hb, (Option.some.inj h).symm, by rw [eq_of_beq hx]⟩
  · rintro ⟨ps, msg, hps, rfl, rfl⟩
    rw [findIdx?_eq_some_iff_append.2 ⟨ps, 0, msg, rfl, rfl, rfl, fun b hb => by simpa using hps b hb⟩]

/-- what `DecryptPKCS1v15` does with the decrypted block: `00 02`, the separator scan, at least 8 padding octets -/
def pkcs1Unpad (em : Bytes) : Res Bytes :=
  match em with
  | b0 :: b1 :: _ =>
    (match firstZeroFrom2 em with
     | none => .err
     | some idx => if b0 = 0 ∧ b1 = 2 ∧ 10 ≤ idx then .ok (em.drop (idx + 1)) else .err)
  | _ => .panic

theorem decryptPKCS1v15_eq (k : Priv) (c : Bytes) :
    decryptPKCS1v15 k c =
      match checkPub k.pub with
      | .err => .err
      | .panic => .panic
      | .ok _ =>
        if sizeBytes k.n < 11 then .err
        else match decrypt k c false with
          | .err => .err
          | .panic => .panic
          | .ok em => pkcs1Unpad em := rfl

theorem pkcs1Unpad_ok_iff (em msg : Bytes) :
    pkcs1Unpad em = .ok msg ↔ ∃ ps, (∀ b ∈ ps, b ≠ 0) ∧ 8 ≤ ps.length ∧ em = 0 :: 2 :: (ps ++ 0 :: msg) := by
  constructor
  · intro h
    unfold pkcs1Unpad at h
    split at h
    · next b0 b1 t =>
      split at h
      · contradiction
      · next idx hfz =>
        obtain ⟨⟨rfl, rfl, hidx⟩, hm⟩ := accept_eq_ok.1 h
        obtain ⟨ps, m, hnz, rfl, rfl⟩ := firstZeroFrom2_eq_some_iff.1 hfz
        rw [drop_em] at hm
        exact ⟨ps, hnz, by omega, by rw [hm]⟩
    · contradiction
  · rintro ⟨ps, hnz, hps, rfl⟩
    unfold pkcs1Unpad
    dsimp only
    rw [firstZeroFrom2_eq_some_iff.2 ⟨ps, msg, hnz, rfl, rfl⟩]
    dsimp only
    rw [if_pos ⟨rfl, rfl, by omega⟩, drop_em]

theorem encryptPKCS1v15_ok_iff {pub : Pub} {n e : Nat} {rnd msg c : Bytes} (hc : checkPub pub = .ok (n, e)) :
    encryptPKCS1v15 pub rnd msg = .ok c ↔
      msg.length + 11 ≤ sizeBytes n ∧ ∃ ps, nonZeroRandomBytes (sizeBytes n - msg.length - 3) rnd = some ps ∧
        encrypt n e (0 :: 2 :: (ps ++ 0 :: msg)) = .ok c := by
  unfold encryptPKCS1v15
  rw [hc]
  simp only [guard_ok_iff]
  refine and_congr (by omega) ?_
  cases nonZeroRandomBytes (sizeBytes n - msg.length - 3) rnd <;> simp

theorem decryptPKCS1v15_ok_iff {k : Priv} {ne : Nat × Nat} {c msg : Bytes} (hc : checkPub k.pub = .ok ne) :
    decryptPKCS1v15 k c = .ok msg ↔
      11 ≤ sizeBytes k.n ∧ ∃ em, decrypt k c false = .ok em ∧ pkcs1Unpad em = .ok msg := by
  rw [decryptPKCS1v15_eq, hc]
  simp only [guard_ok_iff, Nat.not_lt]
  refine and_congr_right fun _ => ?_
  cases decrypt k c false <;> simp

theorem pkcs1_em_length {k : Nat} {ps msg : Bytes} (hmsg : msg.length + 11 ≤ k) (hps : ps.length = k - msg.length - 3) :
    (0 :: 2 :: (ps ++ 0 :: msg) : Bytes).length = k ∧ 8 ≤ ps.length := by
  simp only [List.length_cons, List.length_append, hps]
  omega

theorem pkcs1Unpad_ne_panic {em : Bytes} (h : 2 ≤ em.length) : pkcs1Unpad em ≠ .panic := by
  unfold pkcs1Unpad
  split
  · split
    · simp
    · split <;> simp
  · next hne =>
    match em, h with
    | b0 :: b1 :: t, _ => exact absurd rfl (hne b0 b1 t)

theorem decryptPKCS1v15Core_eq (k : Priv) (c : Bytes) :
    decryptPKCS1v15Core k c =
      if sizeBytes k.n < 11 then .err
      else match decrypt k c false with
        | .err => .err
        | .panic => .panic
        | .ok em =>
          match pkcs1Unpad em with
          | .ok msg => .ok (true, em, em.length - msg.length)
          | .err => .ok (false, em, 0)
          | .panic => .panic := by
  unfold decryptPKCS1v15Core
  split
  · rfl
  · cases decrypt k c false with
    | err => rfl
    | panic => rfl
    | ok em =>
      unfold pkcs1Unpad
      match em with
      | [] => rfl
      | [_] => rfl
      | b0 :: b1 :: t =>
        dsimp only
        cases hfz : firstZeroFrom2 (b0 :: b1 :: t) with
        | none => rfl
        | some idx =>
          dsimp only
          split
          · obtain ⟨ps, msg, _, rfl, rfl⟩ := firstZeroFrom2_eq_some_iff.1 hfz
            dsimp only
            rw [drop_em]
            simp only [List.length_cons, List.length_append]
            exact congrArg (fun i => Res.ok (true, _, i)) (by omega)
          · rfl

theorem pkcs1Unpad_suffix {em msg : Bytes} (h : pkcs1Unpad em = .ok msg) : ∃ pre, em = pre ++ msg := by
  obtain ⟨ps, _, _, rfl⟩ := (pkcs1Unpad_ok_iff em msg).1 h
  exact ⟨0 :: 2 :: (ps ++ [0]), by simp⟩

theorem decryptSessionKey_ok_iff {k : Priv} {ct key key' : Bytes} :
    decryptSessionKey k ct key = .ok key' ↔
      ∃ ne em, checkPub k.pub = .ok ne ∧ key.length + 11 ≤ sizeBytes k.n ∧ decrypt k ct false = .ok em ∧
        em.length = sizeBytes k.n ∧
        key' = match pkcs1Unpad em with
          | .ok msg => if msg.length = key.length then msg else key
          | _ => key := by
  unfold decryptSessionKey
  cases checkPub k.pub with
  | err => simp
  | panic => simp
  | ok ne =>
    simp only [guard_ok_iff, Res.ok.injEq, exists_and_left, exists_eq_left']
    refine (and_congr_left' (by omega)).trans (and_congr_right fun hroom => ?_)
    rw [decryptPKCS1v15Core_eq, if_neg (by omega)]
    cases decrypt k ct false with
    | err => simp
    | panic => simp
    | ok em =>
      simp only [Res.ok.injEq, exists_eq_left']
      cases hu : pkcs1Unpad em with
      | err => simp [accept_eq_ok, eq_comm]
      | panic => exact iff_of_false nofun fun h => pkcs1Unpad_ne_panic (by omega) hu
      | ok msg =>
        obtain ⟨pre, rfl⟩ := pkcs1Unpad_suffix hu
        dsimp only
        rw [guard_ok_iff, List.length_append, Nat.add_sub_cancel, Nat.add_sub_cancel_left]
        refine and_congr not_not ?_
        by_cases hm : msg.length = key.length
        · rw [if_pos ⟨rfl, hm⟩, if_pos hm, ← hm, Nat.add_sub_cancel, List.drop_left, Res.ok.injEq]
          exact eq_comm
        · simp [hm, eq_comm]

end ZV.C23
