import ZV.Proofs.Der0Int
import ZV.Proofs.Der0B128
/-!
  encode → decode lemmas for the layer-0 DER model (the direction opposite to the canonicity lemmas
  of `Der0Int` / `Der0B128`): what the encoders write passes the decoders' checks and decodes to the
  value written.  At the end the two directions are joined, per content parser of encoding/asn1: an iff with the encoder for
  `parseInt64`, `parseBigInt` and `parseBool`; `parseInt32` is reduced to `parseInt64`; `parseBitString` gets its accepting conditions.
-/
open ZV ZV.Der0
namespace ZV.Der0

theorem intLen_pos (v : Int) : 1 ≤ intLen v := by
  rw [intLen]; split <;> omega

theorem intBytes_length (v : Int) (n : Nat) : (intBytes v n).length = n := by
  induction n with
  | zero => rfl
  | succ n ih => simp [intBytes, ih]

theorem byteOfInt_toNat (v : Int) : (byteOfInt v).toNat = (v % 256).toNat := by
  unfold byteOfInt
  exact toNat_ofNat_lt (by omega)

theorem intBytes_one (v : Int) : intBytes v 1 = [byteOfInt v] := by
  simp [intBytes]

theorem checkInteger_snoc {init : Bytes} (b : UInt8) (h : 2 ≤ init.length) :
    checkInteger (init ++ [b]) = checkInteger init := by
  match init, h with
  | a :: c :: t, _ => rfl

theorem byteOfInt_cast (v : Int) : ((byteOfInt v).toNat : Int) = v % 256 := by
  rw [byteOfInt_toNat, Int.toNat_of_nonneg (Int.emod_nonneg v (by decide))]

theorem checkInteger_pair {a b : UInt8} (h : twos [a] * 256 + b.toNat > 127 ∨ twos [a] * 256 + b.toNat < -128) :
    checkInteger [a, b] = true := by
  have ha := a.toNat_lt
  have hb := b.toNat_lt
  rw [twos_single] at h
  exact checkInteger_cons2.2 (by omega)

theorem int_enc (v : Int) :
    checkInteger (intBytes v (intLen v)) = true ∧ twos (intBytes v (intLen v)) = v := by
  induction v using intLen.induct with
  | case1 v hbig ih =>
    obtain ⟨ih1, ih2⟩ := ih
    have hlen := intBytes_length (v / 256) (intLen (v / 256))
    have hpos := intLen_pos (v / 256)
    have hv : twos (intBytes (v / 256) (intLen (v / 256))) * 256 + (byteOfInt v).toNat = v := by
      rw [ih2, byteOfInt_cast, Int.ediv_mul_add_emod]
    rw [intLen_big hbig, intBytes_snoc]
    refine ⟨?_, ?_⟩
    · by_cases h1 : intLen (v / 256) = 1
      · rw [h1, intBytes_one] at hv ⊢
        exact checkInteger_pair (by rw [hv]; exact hbig)
      · rw [checkInteger_snoc _ (by omega)]
        exact ih1
    · rw [twos_snoc _ (List.ne_nil_of_length_pos (by omega)), hv]
  | case2 v hsmall =>
    have hr : -128 ≤ v ∧ v ≤ 127 := by omega
    have hc := byteOfInt_cast v
    rw [intLen_small hr.1 hr.2, intBytes_one, twos_single]
    exact ⟨rfl, by omega⟩

theorem checkInteger_intBytes (v : Int) : checkInteger (intBytes v (intLen v)) = true := (int_enc v).1
theorem twos_intBytes (v : Int) : twos (intBytes v (intLen v)) = v := (int_enc v).2

theorem intLen_le (n : Nat) : ∀ v : Int, -(2 ^ (8 * n + 7) : Int) ≤ v → v < (2 ^ (8 * n + 7) : Int) →
    intLen v ≤ n + 1 := by
  induction n with
  | zero =>
    intro v h1 h2
    exact Nat.le_of_eq (intLen_small h1 (Int.le_of_lt_add_one h2))
  | succ n ih =>
    intro v h1 h2
    by_cases hb : v > 127 ∨ v < -128
    · have e : (2 : Int) ^ (8 * (n + 1) + 7) = 2 ^ (8 * n + 7) * 256 := Int.pow_add 2 (8 * n + 7) 8
      rw [e] at h1 h2
      rw [intLen_big hb]
      exact Nat.succ_le_succ (ih (v / 256) (by omega) (by omega))
    · rw [intLen_small (by omega) (by omega)]
      exact Nat.le_add_left 1 _

theorem intLen_int64 {v : Int} (h1 : -9223372036854775808 ≤ v) (h2 : v ≤ 9223372036854775807) :
    intLen v ≤ 8 := by
  have := intLen_le 7 v (by omega) (by omega)
  omega

theorem bigIntBytes_eq (v : Int) : bigIntBytes v = intBytes v (intLen v) := by
  have h := bigIntBytes_canon (checkInteger_intBytes v)
  rw [twos_intBytes] at h
  exact h

theorem int_canon {bs : Bytes} (h : checkInteger bs = true) :
    intLen (twos bs) = bs.length ∧ intBytes (twos bs) bs.length = bs := by
  have e := (bigIntBytes_eq (twos bs)).symm.trans (bigIntBytes_canon h)
  have hl := (intBytes_length _ _).symm.trans (congrArg List.length e)
  exact ⟨hl, hl ▸ e⟩

theorem twos_nonneg_head {a : UInt8} {t : Bytes} (h : 0 ≤ twos (a :: t)) :
    a.toNat < 128 ∧ twos (a :: t) = (natOfBytes (a :: t) : Int) := by
  simp only [twos] at h ⊢
  split
  · rename_i hge
    simp only [hge, if_true] at h
    have := natOfBytes_lt (a :: t)
    omega
  · rename_i hlt
    exact ⟨by omega, rfl⟩

theorem b128Count_le (k : Nat) : ∀ n, n < 128 ^ k → b128Count n ≤ k := by
  induction k with
  | zero => intro n h; exact Nat.le_of_eq (Nat.lt_one_iff.mp h ▸ b128Count_zero)
  | succ k ih =>
    intro n h
    by_cases h0 : n = 0
    · rw [h0, b128Count_zero]; exact Nat.zero_le _
    · rw [b128Count_step h0]
      exact Nat.succ_le_succ (ih (n / 128) (Nat.div_lt_of_lt_mul (Nat.pow_succ' ▸ h)))

theorem CB.b128Loop_cons (b : UInt8) (rest : Bytes) {i ret : Nat} (hi : i ≠ 5) (hret : ret < 16777216)
    (h0 : i = 0 → b.toNat ≠ 128) :
    CB.b128Loop (b :: rest) i ret =
      if b.toNat < 128 then .ok (ret * 128 + b.toNat % 128, rest)
      else CB.b128Loop rest (i + 1) (ret * 128 + b.toNat % 128) := by
  simp only [CB.b128Loop]
  rw [if_neg hi, if_neg (Nat.not_le.2 hret), if_neg fun h => h0 h.1 (congrArg UInt8.toNat h.2)]

theorem CB.b128Loop_flag {g i ret : Nat} (rest : Bytes) (hg : g < 128) (hi : i ≠ 5) (hret : ret < 16777216)
    (h0 : i = 0 → g ≠ 0) :
    CB.b128Loop (UInt8.ofNat (g + 128) :: rest) i ret = CB.b128Loop rest (i + 1) (ret * 128 + g) := by
  have e : (UInt8.ofNat (g + 128)).toNat = g + 128 := toNat_ofNat_lt (by omega)
  rw [CB.b128Loop_cons _ _ hi hret (by rw [e]; omega), e, if_neg (by omega), Nat.add_mod_right, Nat.mod_eq_of_lt hg]

theorem CB.b128Loop_overflow (bs : Bytes) (i ret : Nat) (h : 16777216 ≤ ret) : CB.b128Loop bs i ret = .err :=
  (b128Loop_agree bs i ret).symm.trans (EA.b128Loop_big bs i ret h)

/-- from 2^24 on the reader rejects whatever follows: the group that takes the accumulator there is still accepted, and
    the next turn overflows or runs out of input -/
theorem CB.b128Loop_hi (m : Nat) (tail : Bytes) :
    CB.b128Loop (hi128 m ++ tail) 0 0 = if m < 16777216 then CB.b128Loop tail (b128Count m) m else .err := by
  fun_induction hi128 m generalizing tail with
  | case1 =>
    rw [b128Count_zero]
    rfl
  | case2 m h ih =>
    rw [List.append_assoc, ih]
    by_cases hb : m / 128 < 16777216
    · have hc := b128Count_le 4 (m / 128) (by omega)
      -- a leading group 0x80 would need `m / 128 = 0` and `m % 128 = 0`
      have h0 : b128Count (m / 128) = 0 → m % 128 ≠ 0 := fun hz h0 => by
        rw [b128Count_step (by omega)] at hz
        omega
      rw [if_pos hb, List.singleton_append, CB.b128Loop_flag _ (Nat.mod_lt _ (by decide)) (by omega) hb h0, Nat.div_add_mod',
        ← b128Count_step h]
      by_cases hm : m < 16777216
      · rw [if_pos hm]
      · rw [if_neg hm, CB.b128Loop_overflow _ _ _ (Nat.le_of_not_lt hm)]
    · rw [if_neg hb, if_neg (by omega)]

theorem CB.readBase128Int_written (n : Nat) (rest : Bytes) :
    CB.readBase128Int (appendBase128 n ++ rest) = if n < 2147483648 then .ok (n, rest) else .err := by
  have e : (UInt8.ofNat (n % 128)).toNat = n % 128 := toNat_ofNat_lt (by omega)
  rw [CB.readBase128Int, appendBase128_eq, List.append_assoc, CB.b128Loop_hi]
  by_cases h24 : n / 128 < 16777216
  · have hc := b128Count_le 4 (n / 128) (by omega)
    rw [if_pos h24, List.singleton_append, CB.b128Loop_cons _ _ (by omega) h24 (by rw [e]; omega), e,
      if_pos (Nat.mod_lt _ (by decide)), Nat.mod_mod, Nat.div_add_mod', if_pos (by omega)]
  · rw [if_neg h24, if_neg (by omega)]

theorem appendBase128_ne_nil (n : Nat) : appendBase128 n ≠ [] := by
  rw [appendBase128_eq]; simp

theorem CB.oidArcs_step (v fuel : Nat) (r : Bytes) (hf : (appendBase128 v ++ r).length ≤ fuel) :
    r.length ≤ fuel - 1 ∧ CB.oidArcs fuel (appendBase128 v ++ r) =
      match CB.readBase128Int (appendBase128 v ++ r) with
      | .ok (w, rest) =>
        (match CB.oidArcs (fuel - 1) rest with
         | .ok vs => .ok (w :: vs)
         | .err => .err
         | .panic => .panic)
      | .err => .err
      | .panic => .panic := by
  match hm : appendBase128 v, appendBase128_ne_nil v with
  | b :: t, _ =>
    rw [hm] at hf
    simp only [List.cons_append, List.length_cons, List.length_append] at hf
    cases fuel with
    | zero => omega
    | succ fuel => exact ⟨by simp only [Nat.add_sub_cancel]; omega, rfl⟩

theorem CB.oidArcs_written (vs : List Nat) :
    ∀ fuel, ((vs.map appendBase128).flatten).length ≤ fuel →
      CB.oidArcs fuel (vs.map appendBase128).flatten = if ∀ v ∈ vs, v < 2147483648 then .ok vs else .err := by
  induction vs with
  | nil =>
    intro fuel _
    cases fuel <;> exact (if_pos nofun).symm
  | cons v vs ih =>
    intro fuel hf
    obtain ⟨hl, hs⟩ := CB.oidArcs_step v fuel _ hf
    rw [List.map_cons, List.flatten_cons, hs, CB.readBase128Int_written]
    by_cases hv : v < 2147483648
    · rw [if_pos hv]
      simp only [ih _ hl, List.forall_mem_cons, hv, true_and]
      by_cases hvs : ∀ w ∈ vs, w < 2147483648
      · rw [if_pos hvs, if_pos hvs]
      · rw [if_neg hvs, if_neg hvs]
    · rw [if_neg hv, if_neg fun h => hv (h v List.mem_cons_self)]

/-- the domain is "fits eight content octets"; `intLen_int64` gives it for every Go `int64` -/
theorem EA.parseInt64_ok {bs : Bytes} {v : Int} :
    EA.parseInt64 bs = .ok v ↔ bs = EA.encodeInt64 v ∧ intLen v ≤ 8 := by
  unfold EA.parseInt64 EA.encodeInt64
  constructor
  · intro h
    obtain ⟨hc, h⟩ := guard_not_ok_iff.1 h
    by_cases h8 : bs.length > 8
    · rw [if_pos h8] at h
      cases h
    rw [if_neg h8] at h
    cases h
    obtain ⟨h1, h2⟩ := int_canon hc
    exact ⟨by rw [h1, h2], h1 ▸ Nat.le_of_not_lt h8⟩
  · rintro ⟨rfl, h8⟩
    rw [checkInteger_intBytes, intBytes_length, if_neg (Nat.not_lt.2 h8), twos_intBytes]
    rfl

theorem EA.parseInt32_ok {bs : Bytes} {v : Int} (h : EA.parseInt32 bs = .ok v) : EA.parseInt64 bs = .ok v := by
  obtain ⟨_, h⟩ := guard_ok h
  cases hp : EA.parseInt64 bs with
  | ok w =>
    rw [hp] at h
    dsimp only at h
    by_cases hr : w < -2147483648 ∨ w > 2147483647
    · rw [if_pos hr] at h
      cases h
    rw [if_neg hr] at h
    exact h
  | err =>
    rw [hp] at h
    cases h
  | panic =>
    rw [hp] at h
    cases h

theorem EA.parseBigInt_ok {bs : Bytes} {v : Int} : EA.parseBigInt bs = .ok v ↔ bs = EA.makeBigInt v := by
  unfold EA.parseBigInt EA.makeBigInt
  constructor
  · intro h
    obtain ⟨hc, h⟩ := guard_not_ok_iff.1 h
    cases h
    rw [bigOfBytes_eq_twos, bigIntBytes_canon hc]
  · rintro rfl
    rw [bigIntBytes_eq, checkInteger_intBytes, bigOfBytes_eq_twos, twos_intBytes]
    rfl

theorem EA.parseBool_ok {bs : Bytes} {v : Bool} : EA.parseBool bs = .ok v ↔ bs = boolContent v := by
  refine ⟨fun h => ?_, fun h => h ▸ Bool.casesOn v rfl rfl⟩
  match bs, h with
  | [b], h =>
    simp only [EA.parseBool, boolOfContent, beq_iff_eq] at h
    by_cases h0 : b = 0
    · rw [if_pos h0] at h
      cases h
      rw [h0]
      rfl
    rw [if_neg h0] at h
    by_cases hf : b = 0xff
    · rw [if_pos hf] at h
      cases h
      rw [hf]
      rfl
    rw [if_neg hf] at h
    cases h

theorem EA.parseBitString_ok {b0 : UInt8} {tl : Bytes} {v : EA.BitString} :
    EA.parseBitString (b0 :: tl) = .ok v ↔
      (b0.toNat ≤ 7 ∧ (lastByte (b0 :: tl)).toNat % 2 ^ b0.toNat = 0 ∧ (tl = [] → b0.toNat = 0)) ∧
      v = { bitLength := (tl.length : Int) * 8 - b0.toNat, bytes := tl } := by
  simp only [EA.parseBitString, List.length_cons]
  rw [show ((tl.length + 1 : Nat) : Int) - 1 = tl.length by omega]
  by_cases h7 : b0.toNat > 7
  · rw [if_pos h7]
    exact ⟨nofun, fun h => absurd h.1.1 (Nat.not_le.2 h7)⟩
  rw [if_neg h7]
  by_cases h1 : tl.length + 1 = 1 ∧ b0.toNat > 0
  · rw [if_pos h1]
    refine ⟨nofun, fun h => ?_⟩
    have := h.1.2.2 (List.length_eq_zero_iff.1 (Nat.succ.inj h1.1))
    omega
  rw [if_neg h1]
  by_cases hl : (lastByte (b0 :: tl)).toNat % 2 ^ b0.toNat ≠ 0
  · rw [if_pos hl]
    exact ⟨nofun, fun h => absurd h.1.2.1 hl⟩
  rw [if_neg hl]
  refine ⟨fun h => ⟨⟨Nat.le_of_not_lt h7, Decidable.of_not_not hl, fun ht => ?_⟩, (Res.ok.inj h).symm⟩, fun h => congrArg Res.ok h.2.symm⟩
  subst ht
  exact Nat.eq_zero_of_not_pos fun hp => h1 ⟨rfl, hp⟩

/-- the pad octet `b` of a BIT STRING with `n` content octets is recomputed from the bit length `8n - b` -/
theorem bitPad_canon {n : Nat} {b : UInt8} (hp : b.toNat ≤ 7) (hn : n = 0 → b.toNat = 0) :
    byteOfInt ((8 - ((n : Int) * 8 - b.toNat).tmod 8).tmod 8) = b := by
  have h0 : (0 : Int) ≤ (n : Int) * 8 - b.toNat := by
    rcases Nat.eq_zero_or_pos n with h | h
    · have := hn h; omega
    · omega
  rw [Int.tmod_eq_emod_of_nonneg h0]
  have h8 : (0 : Int) ≤ 8 - ((n : Int) * 8 - b.toNat) % 8 := by omega
  rw [Int.tmod_eq_emod_of_nonneg h8]
  exact ofNat_eq_of (by omega)

end ZV.Der0
