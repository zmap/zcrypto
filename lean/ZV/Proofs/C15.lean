import ZV.Model.C15
import ZV.Proofs.Wire
import ZV.Proofs.Sextet
/-!
  C15: what the three parsers compute on well-formed input, and membership in what they build.
  `listed m k x` (some list under key `k` holds `x`) is what the `Check`s decide, `madd` its one step under the grouping loops of
  mozilla.Parse and microsoft.parse.  CRLSet: on a `serAll blockFmt` encoding `parseBlocks` is the fold `addBlocks` (a repeated
  issuer overwrites).  SST: `sstLoop` on `sstElemBytes` elements and an end marker returns the certificate blobs.  OneCRL: base64
  decoding of an encoding followed by anything, and `EntryOf ntbl r e`, the entries `Entry.UnmarshalJSON` reads from the record `r`.
-/
namespace ZV.C15
open ZV.Wire

theorem mget_mset {V} (m : List (Str × V)) (k k2 : Str) (v : V) :
    mget (mset m k v) k2 = if k = k2 then some v else mget m k2 := by
  induction m with
  | nil => rfl
  | cons p r ih =>
    by_cases h2 : k = k2
    · subst h2
      by_cases h1 : p.1 = k <;> simp [mset, mget, h1, ih]
    · by_cases h1 : p.1 = k <;> simp [mset, mget, h1, h2, ih]

theorem mset_absent {V} (m : List (Str × V)) (k : Str) (v : V) (h : k ∉ m.map (·.1)) : mset m k v = m ++ [(k, v)] := by
  induction m with
  | nil => simp [mset]
  | cons p rest ih =>
    obtain ⟨k', v'⟩ := p
    simp only [List.map_cons, List.mem_cons, not_or] at h
    have h1 : ¬ k' = k := fun x => h.1 x.symm
    simp [mset, h1, ih h.2]

theorem mget_mem {V} (m : List (Str × V)) (k : Str) (v : V) (h : mget m k = some v) : (k, v) ∈ m := by
  induction m with
  | nil => simp [mget] at h
  | cons p rest ih =>
    obtain ⟨k', v'⟩ := p
    by_cases hk : k' = k
    · simp [mget, hk] at h; simp [hk, h]
    · simp [mget, hk] at h; exact List.mem_cons_of_mem _ (ih h)

theorem mget_of_mem_nodup {V} (m : List (Str × V)) (k : Str) (v : V) (hn : (m.map (·.1)).Nodup) (h : (k, v) ∈ m) :
    mget m k = some v := by
  induction m with
  | nil => cases h
  | cons p rest ih =>
    obtain ⟨k', v'⟩ := p
    simp only [List.map_cons, List.nodup_cons] at hn
    simp only [List.mem_cons, Prod.mk.injEq] at h
    rcases h with ⟨h1, h2⟩ | h
    · simp [mget, h1, h2]
    · have hk : ¬ k' = k := by
        intro hx
        apply hn.1
        rw [hx]
        exact List.mem_map.mpr ⟨(k, v), h, rfl⟩
      simp [mget, hk, ih hn.2 h]

def listed {V} (m : List (Str × List V)) (k : Str) (x : V) : Prop := ∃ l, mget m k = some l ∧ x ∈ l

theorem mget_madd {V} (m : List (Str × List V)) (k k2 : Str) (v : V) :
    mget (madd m k v) k2 = if k = k2 then some ((mget m k).getD [] ++ [v]) else mget m k2 := by
  unfold madd
  cases mget m k <;> exact mget_mset _ _ _ _

theorem listed_madd {V} (m : List (Str × List V)) (k k2 : Str) (v x : V) :
    listed (madd m k v) k2 x ↔ listed m k2 x ∨ (k2 = k ∧ x = v) := by
  unfold listed
  rw [mget_madd]
  by_cases hk : k2 = k
  · subst hk
    rw [if_pos rfl]
    cases mget m k2 <;> simp [or_comm]
  · rw [if_neg (Ne.symm hk)]
    simp [hk]

theorem not_listed_nil {V} (k : Str) (x : V) : ¬ listed ([] : List (Str × List V)) k x := by
  rintro ⟨l, hl, _⟩; simp [mget] at hl

theorem listed_map {β V} (m : List β) (key : β → Str) (val : β → List V) (hn : (m.map key).Nodup) (k : Str) (x : V) :
    listed (m.map fun b => (key b, val b)) k x ↔ ∃ b ∈ m, key b = k ∧ x ∈ val b := by
  have hn' : ((m.map fun b => (key b, val b)).map (·.1)).Nodup := by
    rwa [List.map_map]
  constructor
  · rintro ⟨l, hl, hx⟩
    obtain ⟨b, hb, he⟩ := List.mem_map.mp (mget_mem _ _ _ hl)
    cases he
    exact ⟨b, hb, rfl, hx⟩
  · rintro ⟨b, hb, rfl, hx⟩
    exact ⟨val b, mget_of_mem_nodup _ _ _ hn' (List.mem_map.mpr ⟨b, hb, rfl⟩), hx⟩

theorem findSerial_isSome (l : List Int) (s : Int) : (findSerial l s).isSome = true ↔ s ∈ l := by
  induction l with
  | nil => simp [findSerial]
  | cons e rest ih =>
    by_cases h : e = s
    · simp [findSerial, h]
    · have h' : ¬ s = e := fun x => h x.symm
      simp [findSerial, h, h', ih]

theorem findSerial_eq (l : List Int) (s r : Int) (h : findSerial l s = some r) : r = s := by
  induction l with
  | nil => simp [findSerial] at h
  | cons e rest ih =>
    by_cases he : e = s
    · simp [findSerial, he] at h; exact h.symm
    · simp [findSerial, he] at h; exact ih h

theorem msCheck_isSome (m : List (Str × List Int)) (k : Str) (s : Int) : (msCheck m k s).isSome = true ↔ listed m k s := by
  unfold msCheck listed
  cases mget m k with
  | none => simp
  | some l => simp [findSerial_isSome]

theorem natBE_eq (n : Nat) : natBE n = minBE n := by
  refine minBE_unique (f := natBE) ?_ (fun n h => ?_) n
  · rw [natBE, natLE, dif_pos rfl]
    rfl
  · rw [natBE, natLE, dif_neg h, List.reverse_cons]
    rfl

/-- `new(big.Int).SetBytes(n.Bytes()) = n` -/
theorem beVal_natBE (n : Nat) : beVal (natBE n) = n := by
  rw [beVal, leVal_eq, List.reverse_reverse, natBE_eq, be256_minBE]

theorem lawful_serial : Lawful serialFmt := by
  refine lawful_piso _ _ ?_ (lawful_varBytes (lawful_uintLE 1))
  intro b a h
  cases h
  exact beVal_natBE b

theorem lawful_block : Lawful blockFmt :=
  lawful_pair (lawful_bytesN 32) (lawful_countList (lawful_uintLE 4) lawful_serial)

theorem block_progress (bs : Bytes) (b : Bytes × List Nat) (rest : Bytes) (h : blockFmt.par bs = .ok (b, rest)) :
    rest.length < bs.length := by
  obtain ⟨x, r, h1, h⟩ := par_ok h
  obtain ⟨y, r', h2, h⟩ := par_ok h
  cases h
  have := (lawful_countList (lawful_uintLE 4) lawful_serial).consumes _ _ _ h2
  simp only [bytesN] at h1
  split at h1
  · cases h1
  · cases h1
    simp only [List.length_drop] at this
    omega

theorem block_ser_nonempty (b : Bytes × List Nat) (a : Bytes) (h : blockFmt.ser b = .ok a) : 0 < a.length :=
  block_progress a b [] (lawful_block.roundtrip b a h)

/-- what the block loop computes from the accumulated map -/
def addBlocks (acc : List (Str × List Int)) (blocks : List (Bytes × List Nat)) : List (Str × List Int) :=
  blocks.foldl (fun a b => mset a (hexStr b.1) (b.2.map Int.ofNat)) acc

theorem parseBlocks_serAll (blocks : List (Bytes × List Nat)) (bs : Bytes) (acc : List (Str × List Int))
    (h : serAll blockFmt blocks = .ok bs) : parseBlocks bs acc = .ok (addBlocks acc blocks) := by
  induction blocks generalizing bs acc with
  | nil =>
    cases h
    rw [parseBlocks]
    rfl
  | cons b rest ih =>
    obtain ⟨a, h1, h⟩ := ser_ok h
    obtain ⟨y, h2, h⟩ := ser_ok h
    cases h
    have hpos := block_ser_nonempty b a h1
    have hlt : y.length < (a ++ y).length := by rw [List.length_append]; omega
    rw [parseBlocks, if_neg (by omega), lawful_block.rt b a y h1]
    simp only [hlt, if_true]
    exact ih y _ h2

theorem parseBlocks_noPanic (bs : Bytes) (acc : List (Str × List Int)) : parseBlocks bs acc ≠ .panic := by
  fun_induction parseBlocks bs acc with
  | case1 => nofun
  | case2 bs acc h0 spki serials rest hp hlt ih =>
    -- the induction principle has the map of the recursive call over `serials.attach`
    rw [List.map_attach_eq_pmap, List.pmap_eq_map] at ih
    exact ih
  | case3 bs acc h0 spki serials rest hp hlt => exact absurd (block_progress bs _ rest hp) hlt
  | case4 => nofun
  | case5 bs acc h0 hp => exact absurd hp (lawful_block.parNoPanic bs)

theorem getHeader_eq (inp : Bytes) (h : Hdr) :
    getHeader inp h =
      match (varBytes (uintLE 2)).par inp with
      | .ok (_, rest) => if h.jsonOk then .ok (h, rest) else .err
      | .err => .err
      | .panic => .panic := by
  unfold getHeader varBytes uintLE
  by_cases h1 : inp.length < 2
  · simp only [h1, if_true]
  by_cases h2 : (inp.drop 2).length < leVal (inp.take 2)
  · simp only [h1, h2, if_true, if_false]
  cases h.jsonOk <;> simp only [h1, h2, if_false, Bool.not_false, Bool.not_true, if_true, Bool.false_eq_true]

theorem getHeader_noPanic (inp : Bytes) (h : Hdr) : getHeader inp h ≠ .panic := by
  rw [getHeader_eq]
  refine ((lawful_varBytes (lawful_uintLE 2)).parOk inp).elim (fun ⟨_, rest⟩ _ => ?_) nofun
  dsimp only
  split
  · nofun
  · nofun

theorem addBlocks_nodup (acc : List (Str × List Int)) (blocks : List (Bytes × List Nat))
    (h : (acc.map (·.1) ++ blocks.map (fun b => hexStr b.1)).Nodup) :
    addBlocks acc blocks = acc ++ blocks.map (fun b => (hexStr b.1, b.2.map Int.ofNat)) := by
  induction blocks generalizing acc with
  | nil => simp [addBlocks]
  | cons b rest ih =>
    simp only [addBlocks, List.foldl_cons]
    have hb : hexStr b.1 ∉ acc.map (·.1) := by
      intro hm
      rw [List.nodup_append] at h
      exact h.2.2 _ hm _ (by simp) rfl
    rw [mset_absent acc _ _ hb]
    have := ih (acc ++ [(hexStr b.1, b.2.map Int.ofNat)]) (by
      simp only [List.map_append, List.map_cons, List.map_nil, List.append_assoc, List.singleton_append]
      simpa using h)
    simp only [addBlocks] at this
    rw [this]
    simp

theorem hexDigitB_inj : ∀ a, a < 16 → ∀ b, b < 16 → hexDigitB a = hexDigitB b → a = b := by decide +kernel

theorem hexStr_inj (a b : Bytes) (h : hexStr a = hexStr b) : a = b := by
  induction a generalizing b with
  | nil => cases b with
    | nil => rfl
    | cons y ys => simp [hexStr] at h
  | cons x xs ih =>
    cases b with
    | nil => simp [hexStr] at h
    | cons y ys =>
      simp only [hexStr, List.cons.injEq] at h
      obtain ⟨h1, h2, h3⟩ := h
      have e1 := hexDigitB_inj _ (Nat.div_lt_of_lt_mul x.toNat_lt) _ (Nat.div_lt_of_lt_mul y.toNat_lt) h1
      have e2 := hexDigitB_inj _ (Nat.mod_lt _ (by decide)) _ (Nat.mod_lt _ (by decide)) h2
      have : x = y := UInt8.toNat_inj.mp (by rw [← Nat.div_add_mod x.toNat 16, e1, e2, Nat.div_add_mod])
      rw [this, ih ys h3]

theorem readU32_leBytes (v : Nat) (hv : v < 256 ^ 4) (rest : Bytes) : readU32 (leBytes 4 v ++ rest) = (v, rest) := by
  have hl := leBytes_length 4 v
  unfold readU32
  have : ¬ ((leBytes 4 v ++ rest).length < 4) := by simp only [List.length_append]; omega
  simp only [this, if_false]
  rw [List.take_left' hl, List.drop_left' hl, leVal_leBytes, Nat.mod_eq_of_lt hv]

theorem sstLoop_end (acc : List Bytes) (tail : Bytes) : sstLoop (leBytes 4 0 ++ tail) acc = .ok acc := by
  have hl := leBytes_length 4 0
  rw [sstLoop]
  have : ¬ ((leBytes 4 0 ++ tail).length < 4) := by simp only [List.length_append]; omega
  simp only [this, dite_false]
  rw [List.take_left' hl, leVal_leBytes]
  simp

/-- well-formed element: id, format and length fit their u32 fields, the id is not the end marker, and a
    certificate element (id 32) declares ASN.1 encoding (format 1) -/
def SstElemOk (e : SstElem) : Prop :=
  e.id < 256 ^ 4 ∧ e.id ≠ 0 ∧ e.format < 256 ^ 4 ∧ e.value.length < 256 ^ 4 ∧ (e.id = 32 → e.format = 1)

theorem sstLoop_elem (e : SstElem) (rest : Bytes) (acc : List Bytes) (h : SstElemOk e) :
    sstLoop (sstElemBytes e ++ rest) acc = sstLoop rest (if e.id = 32 then acc ++ [e.value] else acc) := by
  obtain ⟨hid, h0, hf, hv, h32⟩ := h
  have hl := leBytes_length 4 e.id
  rw [sstLoop, sstElemBytes, List.append_assoc, dif_neg (by rw [List.length_append, hl]; omega)]
  simp only [List.append_assoc]
  rw [List.take_left' hl, List.drop_left' hl, leVal_leBytes, Nat.mod_eq_of_lt hid, readU32_leBytes e.format hf,
    readU32_leBytes e.value.length hv, if_neg h0, List.take_left, List.drop_left]
  by_cases hc : e.id = 32
  · rw [if_pos hc, if_pos hc, if_neg (fun hx => hx (h32 hc)), if_neg (by rw [List.length_append]; omega)]
  · rw [if_neg hc, if_neg hc]

theorem sstLoop_elems (es : List SstElem) (acc : List Bytes) (tail : Bytes) (h : ∀ e ∈ es, SstElemOk e) :
    sstLoop ((es.map sstElemBytes).flatten ++ (leBytes 4 0 ++ tail)) acc = .ok (acc ++ sstCerts es) := by
  induction es generalizing acc with
  | nil => simp [sstLoop_end, sstCerts]
  | cons e rest ih =>
    rw [List.map_cons, List.flatten_cons, List.append_assoc, sstLoop_elem e _ acc (h e List.mem_cons_self),
      ih _ fun x hx => h x (List.mem_cons_of_mem _ hx), sstCerts]
    by_cases h32 : e.id = 32
    · rw [if_pos h32, if_pos h32, List.append_assoc, List.singleton_append]
    · rw [if_neg h32, if_neg h32]

/-- microsoft.parse: version 0, the magic, then the element loop -/
theorem msParse_store (body : Bytes) (tbl : Bytes → Option CertInfo) :
    msParse (leBytes 4 0 ++ (certMagic ++ body)) tbl =
      match sstLoop body [] with
      | .ok certs => msBuild certs tbl []
      | .err => .err
      | .panic => .panic := by
  have hml : certMagic.length = 4 := rfl
  unfold msParse
  rw [readU32_leBytes 0 (by decide)]
  simp only [List.length_append, hml, Nat.not_lt.mpr (Nat.le_add_right 4 _), if_false, List.take_left' hml, List.drop_left' hml,
    ne_eq, not_true_eq_false, or_self]
  rfl

theorem sstEncode_eq (certs : List Bytes) :
    sstEncode certs = sstEncodeElems (certs.map (⟨32, 1, ·⟩)) (leBytes 8 0) := by
  simp only [sstEncode, sstEncodeElems, List.map_map, Function.comp_def, sstElemBytes, List.append_assoc]

theorem sstCerts_eq (es : List SstElem) : sstCerts es = (es.filter (·.id = 32)).map (·.value) := by
  induction es with
  | nil => rfl
  | cons e rest ih =>
    rw [sstCerts, ih, List.filter_cons]
    by_cases h : e.id = 32 <;> simp [h]

theorem sstCerts_certElems (certs : List Bytes) : sstCerts (certs.map (⟨32, 1, ·⟩)) = certs := by
  induction certs with
  | nil => rfl
  | cons c r ih => rw [List.map_cons, sstCerts, if_pos rfl, ih]

theorem b64Val_b64Char : ∀ v, v < 64 → b64Val (b64Char v) = some v := by decide +kernel

theorem b64Char_b64Val : ∀ n, n < 256 → ∀ v ∈ b64Val (UInt8.ofNat n), v < 64 ∧ b64Char v = UInt8.ofNat n := by
  decide +kernel

theorem b64Char_of_b64Val (c : UInt8) (v : Nat) (h : b64Val c = some v) : v < 64 ∧ b64Char v = c := by
  have := b64Char_b64Val c.toNat c.toNat_lt v
  rw [UInt8.ofNat_toNat] at this
  exact this h

/-- the bytes `Decode` cuts out of a 24-bit value are its three big-endian bytes -/
theorem cut24 (v : Nat) : [UInt8.ofNat (v / 65536), UInt8.ofNat (v / 256), UInt8.ofNat v] = beBytes 3 v := by
  simp only [beBytes, leBytes, List.reverse_cons, List.reverse_nil, List.nil_append, List.cons_append, UInt8.ofNat_mod_size',
    Nat.div_div_eq_div_mul]

theorem beVal3 (a b c : UInt8) : beVal [a, b, c] = a.toNat * 65536 + b.toNat * 256 + c.toNat := by
  simp only [beVal, List.reverse_cons, List.reverse_nil, List.nil_append, List.cons_append, leVal]
  omega

theorem qBytes_of_val (acc : List Nat) (a b c : UInt8) (h : qVal acc = a.toNat * 65536 + b.toNat * 256 + c.toNat) :
    qBytes acc = [a, b, c].take (acc.length - 1) := by
  have hb : beBytes 3 (beVal [a, b, c]) = [a, b, c] := beBytes_beVal [a, b, c]
  rw [qBytes, cut24, h, ← beVal3, hb]

theorem qBytes_four (a b c : UInt8) :
    qBytes [a.toNat / 4, a.toNat % 4 * 16 + b.toNat / 16, b.toNat % 16 * 4 + c.toNat / 64, c.toNat % 64] = [a, b, c] :=
  qBytes_of_val _ a b c (sextets_val a.toNat b.toNat c.toNat)

theorem qBytes_three (a b : UInt8) :
    qBytes [a.toNat / 4, a.toNat % 4 * 16 + b.toNat / 16, b.toNat % 16 * 4] = [a, b] :=
  qBytes_of_val _ a b 0 (by simpa [qVal] using sextets_val a.toNat b.toNat 0)

theorem qBytes_two (a : UInt8) : qBytes [a.toNat / 4, a.toNat % 4 * 16] = [a] := by
  have h : a.toNat / 4 * 262144 + a.toNat % 4 * 16 * 4096 = a.toNat * 65536 := by omega
  show [UInt8.ofNat ((a.toNat / 4 * 262144 + a.toNat % 4 * 16 * 4096) / 65536)] = [a]
  rw [h, Nat.mul_div_cancel _ (by decide), UInt8.ofNat_toNat]

theorem b64Val_pad : b64Val 61 = none := by decide

theorem b64Go_val (c : UInt8) (rest : Str) (acc : List Nat) (out : Bytes) (v : Nat) (h : b64Val c = some v) (hl : acc.length ≠ 3) :
    b64Go (c :: rest) acc out = b64Go rest (acc ++ [v]) out := by
  rw [b64Go, h]; simp [hl]

theorem b64Go_val3 (c : UInt8) (rest : Str) (acc : List Nat) (out : Bytes) (v : Nat) (h : b64Val c = some v) (hl : acc.length = 3) :
    b64Go (c :: rest) acc out = b64Go rest [] (out ++ qBytes (acc ++ [v])) := by
  rw [b64Go, h]; simp [hl]

theorem b64Go_pad2 (acc : List Nat) (out : Bytes) (rest : Str) (hl : acc.length = 2) :
    b64Go (61 :: 61 :: rest) acc out = (out ++ qBytes acc, !(skipNL rest).isEmpty) := by
  rw [b64Go, b64Val_pad]
  simp only [isNL, hl, show skipNL (61 :: rest) = 61 :: rest from rfl]
  cases skipNL rest <;> simp

theorem b64Go_pad3 (acc : List Nat) (out : Bytes) (rest : Str) (hl : acc.length = 3) :
    b64Go (61 :: rest) acc out = (out ++ qBytes acc, !(skipNL rest).isEmpty) := by
  rw [b64Go, b64Val_pad]
  simp only [isNL, hl]
  cases skipNL rest <;> simp

theorem b64Go_quad (a b c : UInt8) (rest : Str) (out : Bytes) :
    b64Go (b64Char (a.toNat / 4) :: b64Char (a.toNat % 4 * 16 + b.toNat / 16) ::
      b64Char (b.toNat % 16 * 4 + c.toNat / 64) :: b64Char (c.toNat % 64) :: rest) [] out = b64Go rest [] (out ++ [a, b, c]) := by
  obtain ⟨l1, l2, l3, l4⟩ := sextet_lt a b c
  rw [b64Go_val _ _ _ _ _ (b64Val_b64Char _ l1) (by simp), b64Go_val _ _ _ _ _ (b64Val_b64Char _ l2) (by simp),
    b64Go_val _ _ _ _ _ (b64Val_b64Char _ l3) (by simp), b64Go_val3 _ _ _ _ _ (b64Val_b64Char _ l4) (by simp), ← qBytes_four a b c]
  rfl

theorem b64Go_encode_append (bs : Bytes) (rest : Str) (out : Bytes) :
    b64Go (b64Encode bs ++ rest) [] out =
      if bs.length % 3 = 0 then b64Go rest [] (out ++ bs) else (out ++ bs, !(skipNL rest).isEmpty) := by
  induction bs using b64Encode.induct generalizing out with
  | case1 =>
    rw [b64Encode, List.nil_append, List.append_nil]
    rfl
  | case2 a =>
    have ha := a.toNat_lt
    rw [b64Encode, if_neg (by simp)]
    simp only [List.cons_append, List.nil_append]
    rw [b64Go_val _ _ _ _ _ (b64Val_b64Char _ (Nat.div_lt_of_lt_mul ha)) (by simp), b64Go_val _ _ _ _ _ (b64Val_b64Char _ (by omega)) (by simp),
      b64Go_pad2 _ _ _ (by simp)]
    simp [qBytes_two]
  | case3 a b =>
    have ha := a.toNat_lt
    have hb := b.toNat_lt
    rw [b64Encode, if_neg (by simp)]
    simp only [List.cons_append, List.nil_append]
    rw [b64Go_val _ _ _ _ _ (b64Val_b64Char _ (Nat.div_lt_of_lt_mul ha)) (by simp), b64Go_val _ _ _ _ _ (b64Val_b64Char _ (by omega)) (by simp),
      b64Go_val _ _ _ _ _ (b64Val_b64Char _ (by omega)) (by simp), b64Go_pad3 _ _ _ (by simp)]
    simp [qBytes_three]
  | case4 a b c bs ih =>
    have h3 : (a :: b :: c :: bs).length % 3 = bs.length % 3 := Nat.add_mod_right bs.length 3
    rw [b64Encode, List.cons_append, List.cons_append, List.cons_append, List.cons_append, b64Go_quad, ih, h3, List.append_assoc]
    rfl

theorem b64Go_encode (bs : Bytes) (out : Bytes) : b64Go (b64Encode bs) [] out = (out ++ bs, false) := by
  have h := b64Go_encode_append bs [] out
  rw [List.append_nil] at h
  rw [h]
  split
  · rfl
  · rfl

theorem b64Encode_isEmpty (bs : Bytes) : (b64Encode bs).isEmpty = bs.isEmpty := by
  match bs with
  | [] => simp [b64Encode]
  | [_] => simp [b64Encode]
  | [_, _] => simp [b64Encode]
  | _ :: _ :: _ :: _ => simp [b64Encode]

theorem unmarshalEntry_cond_iff (r : Rec) : (!r.subject.isEmpty && !r.pubKeyHash.isEmpty) = true ↔ r.subject ≠ [] ∧ r.pubKeyHash ≠ [] := by
  simp

theorem decodePkixName_sat (name : Str) (ntbl : Bytes → Option Str) :
    Res.Sat (fun p => b64Decode name = (p.2, false) ∧ ntbl p.2 = some p.1) (decodePkixName name ntbl) := by
  unfold decodePkixName
  cases he : (b64Decode name).2
  · rw [if_neg Bool.false_ne_true]
    cases ht : ntbl (b64Decode name).1 with
    | none => trivial
    | some s => exact ⟨Prod.ext rfl he, ht⟩
  · trivial

theorem decodePkixName_of (name : Str) (ntbl : Bytes → Option Str) (s : Str) (raw : Bytes)
    (h1 : b64Decode name = (raw, false)) (h2 : ntbl raw = some s) : decodePkixName name ntbl = .ok (s, raw) := by
  simp only [decodePkixName, h1, h2, Bool.false_eq_true, if_false]

/-- the entries `Entry.UnmarshalJSON` reads from a (non-null) record: a blocked key when subject and key hash are both there,
    both valid base64 and the subject a name the ASN.1 layer accepts; else an issuer/serial entry when the issuer is such a
    name, the serial being whatever bytes base64 yields, error or not -/
inductive EntryOf (ntbl : Bytes → Option Str) (r : Rec) : OEntry → Prop
  | blocked {i : Str} {raw pk : Bytes} : r.subject ≠ [] → r.pubKeyHash ≠ [] → b64Decode r.subject = (raw, false) →
      ntbl raw = some i → b64Decode r.pubKeyHash = (pk, false) → EntryOf ntbl r (.blocked raw pk)
  | serial {iss : Str} {raw : Bytes} : r.subject = [] ∨ r.pubKeyHash = [] → b64Decode r.issuerName = (raw, false) →
      ntbl raw = some iss → EntryOf ntbl r (.serial iss (Int.ofNat (beVal (b64Decode r.serialNumber).1)))

theorem unmarshalEntry_sat (r : Rec) (ntbl : Bytes → Option Str) :
    Res.Sat (fun e => r.isNull = false ∧ EntryOf ntbl r e) (unmarshalEntry r ntbl) := by
  unfold unmarshalEntry
  cases r.isNull
  · rw [if_neg Bool.false_ne_true]
    by_cases hc : r.subject ≠ [] ∧ r.pubKeyHash ≠ []
    · rw [if_pos ((unmarshalEntry_cond_iff r).mpr hc)]
      refine (decodePkixName_sat r.subject ntbl).elim (fun p hp => ?_) trivial
      cases hk : (b64Decode r.pubKeyHash).2
      · exact ⟨rfl, .blocked hc.1 hc.2 hp.1 hp.2 (Prod.ext rfl hk)⟩
      · trivial
    · rw [if_neg (mt (unmarshalEntry_cond_iff r).mp hc)]
      refine (decodePkixName_sat r.issuerName ntbl).elim (fun p hp => ?_) trivial
      exact ⟨rfl, .serial ((Decidable.not_and_iff_not_or_not.mp hc).imp Decidable.not_not.mp Decidable.not_not.mp) hp.1 hp.2⟩
  · trivial

theorem unmarshalEntry_of (r : Rec) (ntbl : Bytes → Option Str) (e : OEntry) (h0 : r.isNull = false) (h : EntryOf ntbl r e) :
    unmarshalEntry r ntbl = .ok e := by
  rw [unmarshalEntry, h0, if_neg Bool.false_ne_true]
  cases h with
  | blocked h1 h2 hs ht hp =>
    rw [if_pos ((unmarshalEntry_cond_iff r).mpr ⟨h1, h2⟩), decodePkixName_of _ _ _ _ hs ht, hp]
    rfl
  | serial hc hs ht =>
    rw [if_neg (mt (unmarshalEntry_cond_iff r).mp fun hx => hc.elim hx.1 hx.2), decodePkixName_of _ _ _ _ hs ht]

theorem unmarshalAll_noPanic (recs : List Rec) (ntbl : Bytes → Option Str) : unmarshalAll recs ntbl ≠ .panic := by
  induction recs with
  | nil => nofun
  | cons r rest ih =>
    rw [unmarshalAll]
    refine (unmarshalEntry_sat r ntbl).elim (fun e _ => ?_) nofun
    cases h : unmarshalAll rest ntbl with
    | ok es => nofun
    | err => nofun
    | panic => exact absurd h ih

end ZV.C15
