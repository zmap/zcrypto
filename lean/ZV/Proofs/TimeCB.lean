import ZV.Proofs.Der0Typed
import ZV.Proofs.TimeRT
/-!
  cryptobyte GeneralizedTime: `ReadASN1GeneralizedTime` is `CB.typed` over the strict `parseGeneralizedTime` of encoding/asn1;
  write → read: `ReadASN1GeneralizedTime` on what `AddASN1GeneralizedTime` wrote.
-/
open ZV ZV.Der0
namespace ZV.Time

/-- the zone offsets whose text form `ReadASN1GeneralizedTime` accepts: below 25 hours, and not a non-zero
    number of seconds below one minute (`Format` writes `+0000` there, which re-serialises as `Z`). -/
def gtimeOK (t : GoTime) : Bool :=
  decide (-90000 < t.off ∧ t.off < 90000 ∧ (t.off = 0 ∨ Int.tdiv t.off 60 ≠ 0))

theorem CB.readGeneralizedTime_eq (s : Bytes) :
    CB.readGeneralizedTime s = Der0.CB.typed 0x18 (EA.parseGeneralizedTime false) s :=
  Der0.CB.typed_eq s fun body rest => by
    unfold EA.parseGeneralizedTime
    cases parse layoutGen body with
    | none => rfl
    | some ret =>
      simp only [EA.reserialises, Bool.false_or, bne]
      by_cases hc : (!format layoutGen ret == body) = true
      · rw [if_pos hc, if_pos hc]
      · rw [if_neg hc, if_neg hc]

theorem CB.readGeneralizedTime_ok {s : Bytes} {t : GoTime} {rest : Bytes} (h : CB.readGeneralizedTime s = .ok (t, rest)) :
    ∃ body, Der0.CB.readASN1Tag s 0x18 = .ok (body, rest) ∧ parse layoutGen body = some t ∧ format layoutGen t = body := by
  obtain ⟨body, hr, hb⟩ := Der0.CB.typed_ok (CB.readGeneralizedTime_eq s ▸ h)
  obtain ⟨hp, hre⟩ := EA.parseGeneralizedTime_ok.1 hb
  exact ⟨body, hr, hp, EA.format_of_reserialises hre⟩

theorem addGeneralizedTime_ok {t : GoTime} {pre : Bytes} (h : CB.addGeneralizedTime t = .ok pre) :
    0 ≤ t.year ∧ t.year ≤ 9999 ∧ Der0.CB.element 0x18 (format layoutGen t) = .ok pre := by
  unfold CB.addGeneralizedTime at h
  split at h
  · simp at h
  · rename_i hy
    exact ⟨by omega, by omega, h⟩

/-- For the offsets `Format` has digits for (below 100 hours).  Two kinds of zone are written and then refused: 25 hours or
    more (`time.Parse` takes zone hours up to 24), and 1..59 seconds either side of UTC (the Builder writes `+0000`, which
    reads as UTC, whose text ends in `Z`: the reader rejects its own re-serialisation test). -/
theorem readGeneralizedTime_written (t : GoTime) (pre tail : Bytes) (h : CB.addGeneralizedTime t = .ok pre)
    (h1 : -360000 < t.off) (h2 : t.off < 360000) :
    CB.readGeneralizedTime (pre ++ tail) = if gtimeOK t = true then .ok (readBack t, tail) else .err := by
  obtain ⟨hy0, hy1, hel⟩ := addGeneralizedTime_ok h
  simp only [CB.readGeneralizedTime_eq, gtimeOK, decide_eq_true_eq]
  by_cases hzone : t.off = 0 ∨ Int.tdiv t.off 60 ≠ 0
  · rw [format_gen_eq t hy0 hy1 h1 h2 hzone] at hel
    have hlen : (genText t).length < 4294967290 := by have := genText_length t; omega
    rw [Der0.CB.typed_of_tag (Der0.CB.readASN1Tag_back 0x18 (genText t) pre tail hel hlen)]
    by_cases hb : -90000 < t.off ∧ t.off < 90000
    · rw [parseGeneralizedTime_genText false t hy0 hy1 hb.1 hb.2, if_pos ⟨hb.1, hb.2, hzone⟩]
    · rw [parseGeneralizedTime_25h false t hy0 hy1 (by omega) h1 h2, if_neg fun hg => hb ⟨hg.1, hg.2.1⟩]
  · -- 1..59 seconds: `Format` writes `+0000` where `zoneText` (the text of `appendTimeCommon`) has `Z`, so the lemmas about
    -- `genText` do not apply and this text is parsed chunk by chunk here
    have hsub : t.off ≠ 0 ∧ Int.tdiv t.off 60 = 0 ∧ -60 < t.off ∧ t.off < 60 := by
      have := tdiv60 t.off
      omega
    obtain ⟨h0, hk, hlo, hhi⟩ := hsub
    rw [if_neg fun hg => hzone hg.2.2]
    have hv : t.civil.valid = true := ofUnix_valid _ _
    have hoff : t.civil.off = t.off := rfl
    have hfmt : format layoutGen t =
        EA.fourDigits t.year.toNat ++ (fieldsText t.civil ++ [43, digit 0, digit 0, digit 0, digit 0]) := by
      have hz : formatChunk .isoTZ t.civil = [43, digit 0, digit 0, digit 0, digit 0] := by
        simp only [formatChunk, hoff, h0, if_false, hk]
        decide
      rw [layoutGen, format_year_chunks, hz]
      exact congrArg (· ++ _) (appendInt_four _ hy0 hy1)
    have hparse : parse layoutGen (format layoutGen t) = some (readBack t) := by
      rw [hfmt]
      simp only [parse, layoutGen, EA.fourDigits, List.cons_append, List.nil_append]
      rw [parseLoop_cons (step_longYear _ _ (by omega) _)]
      have hstep : ∀ s : PState, step .isoTZ s [43, digit 0, digit 0, digit 0, digit 0] =
          some ({ s with zoneOffset := 0 }, []) := by
        intro s
        have := step_tz_num s 43 0 0 (by decide) (by omega) (by omega)
        simpa using this
      rw [parseLoop_fieldsText _ t.civil hv _ _
        (by intro c0 r' e; simp only [List.cons.injEq] at e; rw [← e.1]; decide), parseLoop_cons (hstep _)]
      simp only [parseLoop, List.isEmpty_nil, if_true]
      rw [finish_withFields t.civil hv { ({} : PState) with year := (t.year.toNat : Int) } (Int.toNat_of_nonneg hy0) rfl]
      have hm : Int.tmod t.off 60 = t.off := by
        rw [Int.tmod_def, hk]
        omega
      simp [GoTime.civil, toUnix_ofUnix, readBack, hm]
    have hre : format layoutGen (readBack t) ≠ format layoutGen t := by
      rw [format_gen_readBack t hy0 hy1 (by omega) (by omega), hfmt, genText]
      intro e
      have e' := List.append_cancel_left (List.append_cancel_left e)
      simp [zoneText, hk] at e'
    have hlen : (format layoutGen t).length < 4294967290 := by
      rw [hfmt]; simp [EA.fourDigits, fieldsText, EA.twoDigits]
    rw [Der0.CB.typed_of_tag (Der0.CB.readASN1Tag_back 0x18 _ pre tail hel hlen)]
    simp only [EA.parseGeneralizedTime, hparse, EA.reserialises, Bool.false_or]
    simp [hre]

theorem readGeneralizedTime_back (t : GoTime) (pre tail : Bytes) (h : CB.addGeneralizedTime t = .ok pre)
    (hz : gtimeOK t = true) : CB.readGeneralizedTime (pre ++ tail) = .ok (readBack t, tail) := by
  have hb : -90000 < t.off ∧ t.off < 90000 ∧ _ := of_decide_eq_true hz
  rw [readGeneralizedTime_written t pre tail h (by omega) (by omega), if_pos hz]

end ZV.Time
