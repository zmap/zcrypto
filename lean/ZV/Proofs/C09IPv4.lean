import ZV.Proofs.C09
import ZV.Proofs.ByteFacts
/-!
  Declarative specification of the dotted-quad syntax accepted by
  `netip.parseIPv4Fields` (the IPv4 half of `net.ParseIP`) and the proof that the
  model's `parseIPv4Fields` accepts exactly that syntax with exactly that value.

  The specification (`decVal`, `IsDec`, `IsOctet`, `DottedQuad`) does not mention any
  model function.
-/
namespace ZV.C09

/-- an ASCII decimal digit -/
def IsDec (c : UInt8) : Prop := 48 ≤ c.toNat ∧ c.toNat ≤ 57

/-- value of a decimal digit string (most significant digit first) -/
def decVal (f : Str) : Nat := f.foldl (fun acc c => acc * 10 + (c.toNat - 48)) 0

/-- `f` is the text of one IPv4 field with value `v`: at least one decimal digit, no leading
    zero unless the field is exactly "0", value at most 255.  (At most three digits is a
    consequence: `IsOctet.length_le`.) -/
structure IsOctet (f : Str) (v : Nat) : Prop where
  ne : f ≠ []
  digits : ∀ c ∈ f, IsDec c
  nlz : 2 ≤ f.length → f.head? ≠ some 48
  val : decVal f = v
  le : v ≤ 255

/-- `s` is four octets separated by single dots, with values `a b c d`. -/
def DottedQuad (s : Str) (a b c d : UInt8) : Prop :=
  ∃ f1 f2 f3 f4 : Str, s = f1 ++ 46 :: (f2 ++ 46 :: (f3 ++ 46 :: f4)) ∧
    IsOctet f1 a.toNat ∧ IsOctet f2 b.toNat ∧ IsOctet f3 c.toNat ∧ IsOctet f4 d.toNat

theorem isDigit_iff (c : UInt8) : isDigit c = true ↔ IsDec c := by
  simp [isDigit, IsDec]

theorem isDec_ne_dot {c : UInt8} (h : IsDec c) : c ≠ dot := by
  rintro rfl
  simp [IsDec, dot] at h

theorem decVal_nil : decVal [] = 0 := rfl

theorem decVal_snoc (f : Str) (c : UInt8) : decVal (f ++ [c]) = decVal f * 10 + (c.toNat - 48) := by
  simp [decVal, List.foldl_append]

theorem foldl_dec_ge (y : Str) (acc : Nat) :
    acc * 10 ^ y.length ≤ y.foldl (fun acc c => acc * 10 + (c.toNat - 48)) acc := by
  induction y generalizing acc with
  | nil => exact Nat.le_of_eq (Nat.mul_one acc)
  | cons c y ih =>
    rw [List.length_cons, Nat.pow_succ', ← Nat.mul_assoc]
    exact Nat.le_trans (Nat.mul_le_mul_right _ (Nat.le_add_right _ _)) (ih _)

theorem decVal_append_ge (x y : Str) : decVal x ≤ decVal (x ++ y) := by
  simp only [decVal, List.foldl_append]
  exact Nat.le_trans (Nat.le_mul_of_pos_right _ (Nat.pow_pos (by decide))) (foldl_dec_ge y _)

theorem decVal_ge_pow {c : UInt8} (t : Str) (hc : 48 < c.toNat) : 10 ^ t.length ≤ decVal (c :: t) :=
  Nat.le_trans (Nat.le_mul_of_pos_left _ (Nat.le_trans (Nat.sub_pos_of_lt hc) (Nat.le_add_left _ _)))
    (foldl_dec_ge t _)

theorem decVal_single (c : UInt8) : decVal [c] = c.toNat - 48 := by simp [decVal]

theorem IsOctet.head_pos {c : UInt8} {t : Str} {v : Nat} (h : IsOctet (c :: t) v)
    (hl : 2 ≤ (c :: t).length) : 48 < c.toNat :=
  Nat.lt_of_le_of_ne (h.digits c List.mem_cons_self).1
    fun e => h.nlz hl (congrArg some (UInt8.toNat_inj.mp e.symm))

/-- `n + 1` digits without a leading zero are worth at least `10 ^ n`, and `10 ^ 3` exceeds 255 -/
theorem IsOctet.length_le {f : Str} {v : Nat} (h : IsOctet f v) : f.length ≤ 3 := by
  obtain ⟨c, t, rfl⟩ := List.exists_cons_of_ne_nil h.ne
  cases t with
  | nil => exact (by decide : 1 ≤ 3)
  | cons c2 t =>
    have hv := Nat.le_trans (h.val ▸ decVal_ge_pow _ (h.head_pos (Nat.le_add_left 2 _))) h.le
    exact Nat.succ_le_of_lt ((Nat.pow_lt_pow_iff_right (by decide)).mp (Nat.lt_of_le_of_lt hv (by decide)))

/-- `hlz` and `hle` are the two checks `v4Loop` makes before it takes a digit -/
theorem IsOctet.snoc {cur : Str} {c : UInt8} (hcur : cur = [] ∨ IsOctet cur (decVal cur))
    (hc : IsDec c) (hlz : ¬ (cur.length = 1 ∧ decVal cur = 0)) (hle : decVal cur * 10 + (c.toNat - 48) ≤ 255) :
    IsOctet (cur ++ [c]) (decVal (cur ++ [c])) := by
  refine ⟨by simp, ?_, ?_, rfl, decVal_snoc cur c ▸ hle⟩
  · intro x hx
    rcases List.mem_append.mp hx with hx | hx
    · rcases hcur with rfl | ho
      · cases hx
      · exact ho.digits x hx
    · simp only [List.mem_singleton] at hx
      subst hx; exact hc
  · intro hlen
    rcases hcur with rfl | ho
    · simp at hlen
    · obtain ⟨x, t, rfl⟩ := List.exists_cons_of_ne_nil ho.ne
      intro e
      cases t with
      | nil => exact hlz ⟨rfl, by rw [Option.some.inj e]; rfl⟩
      | cons y t => exact ho.nlz (Nat.le_add_left 2 _) e

theorem IsOctet.init {f d : Str} {c : UInt8} {v : Nat} (h : IsOctet (f ++ c :: d) v) (hf : f ≠ []) :
    IsOctet f (decVal f) ∧ 1 ≤ decVal f := by
  obtain ⟨x, t, rfl⟩ := List.exists_cons_of_ne_nil hf
  have hl : 2 ≤ (x :: t ++ c :: d).length := by
    simp only [List.cons_append, List.length_cons, List.length_append]
    omega
  have hx : 48 < x.toNat := h.head_pos hl
  have hle : decVal (x :: t) ≤ v := h.val ▸ decVal_append_ge _ _
  exact ⟨⟨hf, fun y hy => h.digits y (List.mem_append_left _ hy),
    fun _ e => Nat.ne_of_gt hx (congrArg UInt8.toNat (Option.some.inj e)), rfl, Nat.le_trans hle h.le⟩,
    Nat.le_trans (Nat.pow_pos (by decide)) (decVal_ge_pow t hx)⟩

theorem IsOctet.no_extend_zero {cur d : Str} {c : UInt8} {v : Nat}
    (hlen : cur.length = 1) (hz : decVal cur = 0) : ¬ IsOctet (cur ++ c :: d) v :=
  fun ho => absurd (ho.init (List.ne_nil_of_length_pos (hlen ▸ Nat.one_pos))).2 (hz ▸ nofun)

theorem IsOctet.dotFree {f : Str} {v : Nat} (h : IsOctet f v) : DotFree f :=
  fun hm => isDec_ne_dot (h.digits _ hm) rfl

/-- `cur` is a ghost variable, the digits of the current field consumed so far (the loop's `val` is its
    value, `digLen` its length, `prev` a digit iff it is non-empty); `pos` dots have been passed, `k` are to
    come.  The fields are the labels of `splitDot`, as for host names. -/
theorem v4Loop_iff (s : Str) : ∀ (prev : Option UInt8) (pos k : Nat) (fields cur out : List UInt8),
    pos + k = 3 → (cur = [] ∨ IsOctet cur (decVal cur)) →
    (cur = [] ↔ prev = none ∨ prev = some dot) → (cur ++ s = [] → k ≠ 0) →
    (v4Loop prev (decVal cur) pos cur.length fields s = some out ↔
      (splitDot (cur ++ s)).length = k + 1 ∧ (∀ g ∈ splitDot (cur ++ s), IsOctet g (decVal g)) ∧
        out = fields ++ (splitDot (cur ++ s)).map fun g => UInt8.ofNat (decVal g)) := by
  induction s with
  | nil =>
    intro prev pos k fields cur out hpos hcur hprev hne
    rw [List.append_nil, v4Loop, splitDot_dotFree_self cur (hcur.elim (fun e => e ▸ nofun) IsOctet.dotFree)]
    simp only [List.length_singleton, List.mem_singleton, forall_eq, List.map_cons, List.map_nil]
    cases k with
    | succ k =>
      rw [if_pos (by omega)]
      exact iff_of_false nofun fun h => nomatch h.1
    | zero =>
      have ho : IsOctet cur (decVal cur) := hcur.resolve_left fun e => hne (by rw [e]; rfl) rfl
      rw [if_neg (by omega)]
      simp only [Option.some.injEq, ho, true_and, eq_comm]
  | cons c rest ih =>
    intro prev pos k fields cur out hpos hcur hprev hne
    have hdf : DotFree cur := hcur.elim (fun e => e ▸ nofun) IsOctet.dotFree
    rw [v4Loop]
    by_cases hdig : isDigit c = true
    · have hdec : IsDec c := (isDigit_iff c).mp hdig
      have hdf' : DotFree (cur ++ [c]) := by
        simp only [DotFree, List.mem_append, List.mem_singleton, not_or]
        exact ⟨hdf, fun e => isDec_ne_dot hdec e.symm⟩
      obtain ⟨d, fs, e⟩ := splitDot_prefix (cur ++ [c]) rest hdf'
      rw [if_pos hdig, show cur ++ c :: rest = (cur ++ [c]) ++ rest by simp]
      by_cases hz : cur.length = 1 ∧ decVal cur = 0
      · rw [if_pos hz]
        refine iff_of_false nofun fun h => ?_
        have ho := h.2.1 _ (e ▸ List.mem_cons_self)
        rw [List.append_assoc] at ho
        exact IsOctet.no_extend_zero hz.1 hz.2 ho
      · rw [if_neg hz]
        by_cases hbig : decVal cur * 10 + (c.toNat - 48) > 255
        · rw [if_pos hbig]
          refine iff_of_false nofun fun h => ?_
          have ho := h.2.1 _ (e ▸ List.mem_cons_self)
          have h1 := decVal_append_ge (cur ++ [c]) d
          rw [decVal_snoc] at h1
          exact Nat.not_le_of_gt hbig (Nat.le_trans h1 ho.le)
        · have hoct := IsOctet.snoc hcur hdec hz (Nat.le_of_not_gt hbig)
          rw [if_neg hbig, ← decVal_snoc, show cur.length + 1 = (cur ++ [c]).length from (List.length_append (as := cur) (bs := [c])).symm]
          exact ih (some c) pos k fields (cur ++ [c]) out hpos (Or.inr hoct)
            (iff_of_false hoct.ne (by simp [isDec_ne_dot hdec])) (fun e => by simp at e)
    · rw [if_neg hdig]
      by_cases hdot : c = dot
      · subst hdot
        rw [if_pos rfl, splitDot_append_dot cur rest hdf]
        simp only [List.length_cons, List.forall_mem_cons, List.map_cons, Nat.add_right_cancel_iff]
        by_cases hbad : prev = none ∨ rest = [] ∨ prev = some dot
        · rw [if_pos hbad]
          refine iff_of_false nofun fun h => ?_
          rcases hbad with hb | rfl | hb
          · exact h.2.1.1.ne (hprev.mpr (Or.inl hb))
          · exact (h.2.1.2 [] List.mem_cons_self).ne rfl
          · exact h.2.1.1.ne (hprev.mpr (Or.inr hb))
        · have ho := hcur.resolve_left fun e => hbad ((hprev.mp e).imp_right Or.inr)
          rw [if_neg hbad]
          cases k with
          | zero =>
            rw [if_pos (by omega)]
            exact iff_of_false nofun fun h => splitDot_ne_nil rest (List.length_eq_zero_iff.mp h.1)
          | succ k =>
            rw [if_neg (by omega)]
            refine (ih (some dot) (pos + 1) k (fields ++ [UInt8.ofNat (decVal cur)]) [] out (by omega) (Or.inl rfl)
              (iff_of_true rfl (Or.inr rfl)) (fun e _ => hbad (Or.inr (Or.inl e)))).trans ?_
            simp only [List.nil_append, ho, true_and, List.append_assoc, List.singleton_append]
      · rw [if_neg hdot]
        refine iff_of_false nofun fun h => ?_
        have hm : c ∈ joinDot (splitDot (cur ++ c :: rest)) := by
          rw [joinDot_splitDot]
          exact List.mem_append_right _ List.mem_cons_self
        rcases mem_joinDot hm with hx | ⟨g, hg, hx⟩
        · exact hdot hx
        · exact hdig ((isDigit_iff c).mpr ((h.2.1 g hg).digits c hx))

theorem parseIPv4Fields_eq (s : Str) (out : List UInt8) :
    parseIPv4Fields s = some out ↔
      (splitDot s).length = 4 ∧ (∀ g ∈ splitDot s, IsOctet g (decVal g)) ∧
        out = (splitDot s).map fun g => UInt8.ofNat (decVal g) :=
  v4Loop_iff s none 0 3 [] [] out rfl (Or.inl rfl) (iff_of_true rfl (Or.inl rfl)) (fun _ => nofun)

theorem parseIPv4Fields_length (s : Str) (out : List UInt8) (h : parseIPv4Fields s = some out) :
    out.length = 4 := by
  obtain ⟨hl, -, rfl⟩ := (parseIPv4Fields_eq s out).mp h
  rw [List.length_map, hl]

theorem octet_ofNat {f : Str} {x : UInt8} : IsOctet f x.toNat ↔ IsOctet f (decVal f) ∧ x = UInt8.ofNat (decVal f) := by
  constructor
  · intro h
    rw [h.val]
    exact ⟨h, by simp⟩
  · rintro ⟨h, rfl⟩
    rwa [toNat_ofNat_lt (Nat.lt_succ_of_le h.le)]

theorem parseIPv4Fields_iff (s : Str) (a b c d : UInt8) :
    parseIPv4Fields s = some [a, b, c, d] ↔ DottedQuad s a b c d := by
  rw [parseIPv4Fields_eq]
  constructor
  · rintro ⟨hl, hall, hout⟩
    match hs : splitDot s, hl with
    | [f1, f2, f3, f4], _ =>
      rw [hs] at hall hout
      simp only [List.forall_mem_cons, List.map_cons, List.map_nil, List.cons.injEq, and_true] at hall hout
      refine ⟨f1, f2, f3, f4, ?_, octet_ofNat.mpr ⟨hall.1, hout.1⟩, octet_ofNat.mpr ⟨hall.2.1, hout.2.1⟩,
        octet_ofNat.mpr ⟨hall.2.2.1, hout.2.2.1⟩, octet_ofNat.mpr ⟨hall.2.2.2.1, hout.2.2.2⟩⟩
      rw [← joinDot_splitDot s, hs]
      rfl
  · rintro ⟨f1, f2, f3, f4, rfl, o1, o2, o3, o4⟩
    have hs : splitDot (f1 ++ 46 :: (f2 ++ 46 :: (f3 ++ 46 :: f4))) = [f1, f2, f3, f4] :=
      splitDot_joinDot [f1, f2, f3, f4] nofun (by
        simp only [List.forall_mem_cons]
        exact ⟨IsOctet.dotFree o1, IsOctet.dotFree o2, IsOctet.dotFree o3, IsOctet.dotFree o4, nofun⟩)
    rw [hs]
    simp only [List.forall_mem_cons, List.map_cons, List.map_nil, List.cons.injEq, and_true]
    exact ⟨rfl, ⟨(octet_ofNat.mp o1).1, (octet_ofNat.mp o2).1, (octet_ofNat.mp o3).1, (octet_ofNat.mp o4).1, nofun⟩,
      (octet_ofNat.mp o1).2, (octet_ofNat.mp o2).2, (octet_ofNat.mp o3).2, (octet_ofNat.mp o4).2⟩

theorem parseIPv4Fields_some (s : Str) (f : List UInt8) (h : parseIPv4Fields s = some f) :
    ∃ a b c d, f = [a, b, c, d] ∧ DottedQuad s a b c d := by
  have hl := parseIPv4Fields_length s f h
  match f, hl with
  | [a, b, c, d], _ => exact ⟨a, b, c, d, rfl, (parseIPv4Fields_iff s a b c d).mp h⟩

/-- the text of `q * 10 + r` is the text of `q` (nothing, if `q = 0`) followed by the digit `r` -/
theorem IsOctet.exists (v : Nat) (h : v ≤ 255) : ∃ f, IsOctet f v := by
  induction v using Nat.strongRecOn with
  | _ v ih =>
    obtain ⟨cur, hcur, hval, hlz⟩ : ∃ cur : Str, (cur = [] ∨ IsOctet cur (decVal cur)) ∧ decVal cur = v / 10 ∧
        ¬ (cur.length = 1 ∧ decVal cur = 0) := by
      by_cases hq : v / 10 = 0
      · exact ⟨[], Or.inl rfl, hq.symm, by simp⟩
      · have hv : 0 < v := Nat.pos_of_ne_zero fun e => hq (by rw [e])
        obtain ⟨f, hf⟩ := ih _ (Nat.div_lt_self hv (by decide)) (Nat.le_trans (Nat.div_le_self v 10) h)
        exact ⟨f, Or.inr (hf.val ▸ hf), hf.val, fun h => hq (hf.val ▸ h.2)⟩
    have e := toNat_ofNat_lt (n := 48 + v % 10) (by omega)
    have ho := IsOctet.snoc (c := UInt8.ofNat (48 + v % 10)) hcur (by unfold IsDec; omega) hlz (by omega)
    rw [decVal_snoc, hval, e, Nat.add_sub_cancel_left, Nat.div_add_mod'] at ho
    exact ⟨_, ho⟩

theorem DottedQuad.exists (a b c d : UInt8) : ∃ s, DottedQuad s a b c d := by
  obtain ⟨f1, o1⟩ := IsOctet.exists a.toNat (Nat.le_of_lt_succ a.toNat_lt)
  obtain ⟨f2, o2⟩ := IsOctet.exists b.toNat (Nat.le_of_lt_succ b.toNat_lt)
  obtain ⟨f3, o3⟩ := IsOctet.exists c.toNat (Nat.le_of_lt_succ c.toNat_lt)
  obtain ⟨f4, o4⟩ := IsOctet.exists d.toNat (Nat.le_of_lt_succ d.toNat_lt)
  exact ⟨_, f1, f2, f3, f4, rfl, o1, o2, o3, o4⟩

/-- the last digits agree, and so do the values of what precedes them -/
theorem IsOctet.text_unique : ∀ {f g : Str} {v : Nat}, IsOctet f v → IsOctet g v → f = g
  | f, g, v, hf, hg => by
    rcases List.eq_nil_or_concat f with rfl | ⟨f', c, rfl⟩
    · exact absurd rfl hf.ne
    rcases List.eq_nil_or_concat g with rfl | ⟨g', d, rfl⟩
    · exact absurd rfl hg.ne
    simp only [List.concat_eq_append] at hf hg ⊢
    have hc := hf.digits c (by simp)
    have hd := hg.digits d (by simp)
    have hv := hf.val.trans hg.val.symm
    rw [decVal_snoc, decVal_snoc] at hv
    unfold IsDec at hc hd
    have hcd : c = d := UInt8.toNat_inj.mp (by omega)
    subst hcd
    have hfg : decVal f' = decVal g' := Nat.eq_of_mul_eq_mul_right (by decide) (Nat.add_right_cancel hv)
    by_cases e1 : f' = []
    · by_cases e2 : g' = []
      · rw [e1, e2]
      · have := (hg.init e2).2
        rw [← hfg, e1] at this
        cases this
    · by_cases e2 : g' = []
      · have := (hf.init e1).2
        rw [hfg, e2] at this
        cases this
      · rw [IsOctet.text_unique (hf.init e1).1 (hfg ▸ (hg.init e2).1)]
termination_by f => f.length
decreasing_by subst_vars; simp

theorem DottedQuad.chars {s : Str} {a b c d : UInt8} (h : DottedQuad s a b c d) :
    ∀ x ∈ s, IsDec x ∨ x = 46 := by
  obtain ⟨f1, f2, f3, f4, rfl, o1, o2, o3, o4⟩ := h
  intro x hx
  rcases mem_joinDot (ls := [f1, f2, f3, f4]) hx with h | ⟨g, hg, hg'⟩
  · exact Or.inr h
  · simp only [List.mem_cons, List.not_mem_nil, or_false] at hg
    rcases hg with rfl | rfl | rfl | rfl
    · exact Or.inl (o1.digits x hg')
    · exact Or.inl (o2.digits x hg')
    · exact Or.inl (o3.digits x hg')
    · exact Or.inl (o4.digits x hg')
end ZV.C09
