import ZV.Proofs.Sched
/-!
  The asynchronous delivery of `WalkChains`: the walk runs in a goroutine that sends each chain
  on a buffered channel and closes it when done; the caller ranges over the channel.
  A tiny bounded-FIFO producer / consumer model: every scheduling of the two sides delivers
  exactly the produced sequence, in order, and then terminates (no deadlock, no loss, no
  duplication), for every capacity `cap ≥ 1`.

  (An unbuffered Go channel, `cap = 0`, is a rendezvous: send and receive happen as one step;
  it behaves like this model with `cap = 1` in which `send` is immediately followed by `recv`.)
-/
namespace ZV.C11.Async

structure St (α : Type) where
  remaining : List α      -- chains the producer has still to send, in order
  buffer : List α         -- the channel buffer (FIFO), `length ≤ cap`
  closed : Bool           -- `close(ch)` done
  received : List α       -- what the consumer got so far, in order
  deriving Repr, DecidableEq

inductive Step where
  | send    -- `ch <- chain`
  | close   -- `close(ch)` after the last send
  | recv    -- one iteration of `for chain := range ch`
  deriving Repr, DecidableEq

variable {α : Type}

def init (items : List α) : St α := { remaining := items, buffer := [], closed := false, received := [] }

def enabled (cap : Nat) (s : St α) : Step → Bool
  | .send => !s.remaining.isEmpty && decide (s.buffer.length < cap)
  | .close => s.remaining.isEmpty && !s.closed
  | .recv => !s.buffer.isEmpty

/-- a disabled step is a no-op (the goroutine stays blocked) -/
def step (cap : Nat) (s : St α) : Step → St α
  | .send =>
    match s.remaining with
    | [] => s
    | x :: r => if s.buffer.length < cap then { s with remaining := r, buffer := s.buffer ++ [x] } else s
  | .close =>
    match s.remaining with
    | [] => if s.closed then s else { s with closed := true }
    | _ :: _ => s
  | .recv =>
    match s.buffer with
    | [] => s
    | x :: b => { s with buffer := b, received := s.received ++ [x] }

def run (cap : Nat) : St α → List Step → St α
  | s, [] => s
  | s, t :: ts => run cap (step cap s t) ts

/-- everything in flight, in order -/
def stream (s : St α) : List α := s.received ++ s.buffer ++ s.remaining

/-- no step is enabled -/
def terminal (cap : Nat) (s : St α) : Prop := ∀ t, enabled cap s t = false

def measure (s : St α) : Nat :=
  2 * s.remaining.length + s.buffer.length + (if s.closed then 0 else 1)

/-- the state invariant: the buffer never exceeds the capacity, and nothing is left to send
    once the channel is closed (no send on a closed channel, which would panic in Go) -/
def Inv (cap : Nat) (s : St α) : Prop :=
  s.buffer.length ≤ cap ∧ (s.closed = true → s.remaining = [])

/-- the moves of the two goroutines, on states written out field by field -/
inductive Move (cap : Nat) : Step → St α → St α → Prop
  | send {x : α} {r b rc : List α} {c : Bool} :
    b.length < cap → Move cap .send ⟨x :: r, b, c, rc⟩ ⟨r, b ++ [x], c, rc⟩
  | close {b rc : List α} : Move cap .close ⟨[], b, false, rc⟩ ⟨[], b, true, rc⟩
  | recv {x : α} {r b rc : List α} {c : Bool} : Move cap .recv ⟨r, x :: b, c, rc⟩ ⟨r, b, c, rc ++ [x]⟩

theorem step_send {cap : Nat} {b : List α} (h : b.length < cap) (x : α) (r : List α) (c : Bool) (rc : List α) :
    step cap ⟨x :: r, b, c, rc⟩ .send = ⟨r, b ++ [x], c, rc⟩ := if_pos h

theorem step_cases (cap : Nat) (s : St α) (t : Step) :
    enabled cap s t = false ∧ step cap s t = s ∨ enabled cap s t = true ∧ Move cap t s (step cap s t) := by
  obtain ⟨rem, b, c, rc⟩ := s
  cases t with
  | send =>
    cases rem with
    | nil => exact .inl ⟨rfl, rfl⟩
    | cons x r =>
      if h : b.length < cap then exact .inr ⟨decide_eq_true h, step_send h .. ▸ .send h⟩
      else exact .inl ⟨decide_eq_false h, if_neg h⟩
  | close =>
    cases rem with
    | cons => exact .inl ⟨rfl, rfl⟩
    | nil =>
      cases c with
      | true => exact .inl ⟨rfl, rfl⟩
      | false => exact .inr ⟨rfl, .close⟩
  | recv =>
    cases b with
    | nil => exact .inl ⟨rfl, rfl⟩
    | cons => exact .inr ⟨rfl, .recv⟩

theorem step_disabled (cap : Nat) (s : St α) (t : Step) (h : enabled cap s t = false) :
    step cap s t = s :=
  (step_cases cap s t).elim (·.2) (fun h' => nomatch h.symm.trans h'.1)

theorem step_stream (cap : Nat) (s : St α) (t : Step) : stream (step cap s t) = stream s := by
  obtain ⟨-, e⟩ | ⟨-, m⟩ := step_cases cap s t
  · rw [e]
  · generalize step cap s t = s' at m
    cases m with
    | send _ => simp only [stream, List.append_assoc, List.singleton_append]
    | close => rfl
    | recv => simp only [stream, List.append_assoc, List.singleton_append]

theorem step_inv (cap : Nat) (s : St α) (t : Step) (h : Inv cap s) : Inv cap (step cap s t) := by
  obtain ⟨-, e⟩ | ⟨-, m⟩ := step_cases cap s t
  · rwa [e]
  · generalize step cap s t = s' at m
    cases m with
    | send hlt => exact ⟨by rw [List.length_append]; exact hlt, fun hc => nomatch h.2 hc⟩
    | close => exact ⟨h.1, fun _ => rfl⟩
    | recv => exact ⟨Nat.le_of_succ_le h.1, h.2⟩

theorem step_measure (cap : Nat) (s : St α) (t : Step) (h : enabled cap s t = true) :
    measure (step cap s t) < measure s := by
  obtain ⟨e, -⟩ | ⟨-, m⟩ := step_cases cap s t
  · cases h.symm.trans e
  · generalize step cap s t = s' at m
    cases m with
    | send _ => simp only [measure, List.length_cons, List.length_append, List.length_nil]; omega
    | close => exact Nat.lt_succ_self _
    | recv => simp only [measure, List.length_cons]; omega

theorem terminal_delivered {cap : Nat} (hcap : 1 ≤ cap) {s : St α} (h : terminal cap s) :
    s.received = stream s ∧ s.buffer = [] ∧ s.remaining = [] ∧ s.closed = true := by
  obtain ⟨rem, b, c, rc⟩ := s
  cases b with
  | cons => exact nomatch h .recv
  | nil =>
    cases rem with
    | cons => exact absurd hcap (of_decide_eq_false (h .send))
    | nil =>
      cases c with
      | false => exact nomatch h .close
      | true => exact ⟨by simp only [stream, List.append_nil], rfl, rfl, rfl⟩

theorem runs (cap : Nat) : Sched.Runs (fun t (s : St α) => step cap s t) (run cap) := ⟨fun _ => rfl, fun _ _ _ => rfl⟩

theorem measured (cap : Nat) :
    Sched.Measured (fun t (s : St α) => step cap s t) (fun t s => enabled cap s t) (fun _ => True) measure :=
  ⟨fun _ _ _ => trivial, fun t s _ => step_measure cap s t, fun t s _ => step_disabled cap s t⟩

/-- a schedule all of whose steps are enabled when taken -/
def AllEnabled (cap : Nat) : St α → List Step → Prop
  | _, [] => True
  | s, t :: ts => enabled cap s t = true ∧ AllEnabled cap (step cap s t) ts

/-- The delivery theorem: `sched` is ANY schedule (disabled steps are no-ops).  By the last conjunct every run that
    keeps taking enabled steps stops after at most `2 * items.length + 1` of them (`async_terminates`). -/
theorem async_delivers {cap : Nat} (hcap : 1 ≤ cap) (items : List α) (sched : List Step) :
    let s := run cap (init items) sched
    s.received ++ s.buffer ++ s.remaining = items ∧
    (∃ t, items = s.received ++ t) ∧
    s.buffer.length ≤ cap ∧ (s.closed = true → s.remaining = []) ∧
    (terminal cap s → s.received = items ∧ s.closed = true) ∧
    (¬ terminal cap s → ∃ t, enabled cap s t = true) ∧
    (∀ t, enabled cap s t = true → measure (step cap s t) < measure s) := by
  intro s
  have hst : stream s = items := (runs cap).inv (P := (stream · = items)) (fun t s h => (step_stream cap s t).trans h) sched _ rfl
  have hinv : Inv cap s := (runs cap).inv (fun t s => step_inv cap s t) sched _ ⟨Nat.zero_le _, nofun⟩
  refine ⟨hst, ⟨_, hst.symm.trans (List.append_assoc ..)⟩, hinv.1, hinv.2, fun ht => ?_, fun hnt => ?_,
    step_measure cap s⟩
  · have := terminal_delivered hcap ht
    exact ⟨this.1.trans hst, this.2.2.2⟩
  · exact Classical.byContradiction fun hne => hnt fun t => Bool.eq_false_iff.mpr fun h => hne ⟨t, h⟩

theorem async_terminates {cap : Nat} (hcap : 1 ≤ cap) (items : List α) (sched : List Step)
    (hen : AllEnabled cap (init items) sched) :
    sched.length ≤ 2 * items.length + 1 ∧
    (terminal cap (run cap (init items) sched) →
      (run cap (init items) sched).received = items ∧ (run cap (init items) sched).closed = true) := by
  have := (measured cap).length_le (runs cap) (fun _ _ _ h => h) sched (init items) trivial hen
  have hm : measure (init items) = 2 * items.length + 1 := rfl
  exact ⟨by omega, (async_delivers hcap items sched).2.2.2.2.1⟩

theorem step_received_le (cap : Nat) (s : St α) (t : Step) :
    (step cap s t).received.length ≤ (if t == .recv then 1 else 0) + s.received.length := by
  obtain ⟨-, e⟩ | ⟨-, m⟩ := step_cases cap s t
  · rw [e]; exact Nat.le_add_left ..
  · generalize step cap s t = s' at m
    cases m with
    | send _ => exact Nat.le_of_eq (Nat.zero_add _).symm
    | close => exact Nat.le_of_eq (Nat.zero_add _).symm
    | recv => exact Nat.le_of_eq (List.length_append.trans (Nat.add_comm ..))

theorem run_received_le (cap : Nat) : ∀ (sched : List Step) (s : St α),
    (run cap s sched).received.length ≤ sched.count .recv + s.received.length
  | [], _ => Nat.le_of_eq (Nat.zero_add _).symm
  | t :: ts, s => by
    rw [run, List.count_cons, Nat.add_assoc]
    exact Nat.le_trans (run_received_le cap ts _) (Nat.add_le_add_left (step_received_le cap s t) _)

theorem run_sends_close (cap : Nat) : ∀ (items b rc : List α), items.length + b.length ≤ cap →
    run cap ⟨items, b, false, rc⟩ (List.replicate items.length .send ++ [.close]) = ⟨[], b ++ items, true, rc⟩
  | [], b, rc, _ => by rw [List.append_nil]; rfl
  | x :: r, b, rc, h => by
    have h : r.length + 1 + b.length ≤ cap := h
    rw [List.length_cons, List.replicate_succ, List.cons_append, run,
      step_send (Nat.lt_of_lt_of_le (Nat.lt_add_of_pos_left (Nat.succ_pos _)) h), run_sends_close cap r,
      List.append_assoc]
    · rfl
    · rw [List.length_append, ← Nat.add_assoc, Nat.add_right_comm]
      exact h

/-! ### the hypotheses are satisfiable -/

example : run 1 (init [10, 20]) [.send, .send, .recv, .close, .send, .recv, .close, .recv] =
    { remaining := [], buffer := [], closed := true, received := [10, 20] } := rfl
example : terminal 1 (run 1 (init [10, 20]) [.send, .recv, .send, .recv, .close]) :=
  fun | .send => rfl | .close => rfl | .recv => rfl
example : AllEnabled 2 (init [10, 20]) [.send, .send, .recv, .close, .recv] :=
  ⟨rfl, rfl, rfl, rfl, rfl, trivial⟩
example : enabled 1 (init [10, 20]) .send = true := rfl
example : enabled 1 (init [10, 20]) .recv = false := rfl
example : Inv 1 (init [10, 20]) := ⟨Nat.zero_le _, nofun⟩
example : (init [10]).received ≠ stream (init [10]) ∨ (init [10]).closed = false := Or.inr rfl

end ZV.C11.Async
