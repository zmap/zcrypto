import ZV.Proofs.C04Ext
/-! Running the extension reader `applyExts` over everything `buildExtensions` generates. A builder is taken as data
    (`Gen`) and the ten builders of `buildExtensions` as a list `gens`: each parser reads back what its builder wrote
    (`gens_parse`), the ten updates of the empty field vector add up to `expected` (`gens_fold`), and an accepted
    `buildExtensions` is what `gens` generates followed by the extra extensions (`buildExtensions_ok`). -/
namespace ZV.C04
open ZV ZV.Der ZV.C06

theorem gen_cases {cond : Bool} {oid : List Nat} {crit : Bool} {v : Option Bytes} {extra l : List Ext}
    (h : gen cond oid crit v extra = .ok l) :
    (l = [] ∧ (cond && !inExtra oid extra) = false) ∨
    (∃ val, v = some val ∧ l = [⟨oid, crit, val⟩] ∧ cond = true ∧ inExtra oid extra = false) := by
  unfold gen at h
  split at h
  · rename_i hc
    split at h
    · rename_i val
      simp only [Res.ok.injEq] at h
      simp only [Bool.and_eq_true, Bool.not_eq_true'] at hc
      exact Or.inr ⟨val, rfl, h.symm, hc.1, hc.2⟩
    · cases h
  · rename_i hc
    simp only [Res.ok.injEq] at h
    exact Or.inl ⟨h.symm, by simpa using hc⟩

theorem catRes_nil_ok {l : List Ext} (h : catRes [] = .ok l) : l = [] := by
  cases h
  rfl

theorem catRes_cons_ok {r : Res (List Ext)} {rs : List (Res (List Ext))} {l : List Ext}
    (h : catRes (r :: rs) = .ok l) : ∃ a b, r = .ok a ∧ catRes rs = .ok b ∧ l = a ++ b := by
  unfold catRes at h
  split at h
  · rename_i a
    split at h
    · rename_i b hb
      simp only [Res.ok.injEq] at h
      exact ⟨a, b, rfl, hb, h.symm⟩
    · cases h
    · cases h
  · cases h
  · cases h

theorem applyExts_append (f : Fields) (a b : List Ext) :
    applyExts f (a ++ b) = (applyExts f a).bind fun f' => applyExts f' b := by
  induction a generalizing f with
  | nil => rfl
  | cons x xs ih =>
    simp only [List.cons_append, applyExts]
    cases applyExt f x with
    | ok f' => exact ih f'
    | err => rfl
    | panic => rfl

/-- one builder of `buildExtensions`: the arguments of its `gen`, and `upd on f`, the fields after the extension loop of
    `parseCertificate` has passed what the builder generated: its extension (`on`) or nothing -/
structure Gen where
  cond : Bool
  oid : List Nat
  crit : Bool
  value : Option Bytes
  upd : Bool → Fields → Fields

def Gen.run (extra : List Ext) (g : Gen) : Res (List Ext) := gen g.cond g.oid g.crit g.value extra

def Gen.apply (extra : List Ext) (f : Fields) (g : Gen) : Fields := g.upd (g.cond && !inExtra g.oid extra) f

theorem applyExts_gens (extra : List Ext) : ∀ (gs : List Gen) (f : Fields) (l : List Ext),
    catRes (gs.map (Gen.run extra)) = .ok l → (∀ x ∈ l, x.value.length < 2147483648) →
    (∀ g ∈ gs, ∀ f, g.upd false f = f ∧ ∀ val, g.value = some val → val.length < 2147483648 →
      applyExt f ⟨g.oid, g.crit, val⟩ = .ok (g.upd true f)) →
    applyExts f l = .ok (gs.foldl (Gen.apply extra) f)
  | [], f, l, h, _, _ => by
    cases catRes_nil_ok h
    rfl
  | g :: gs, f, l, h, hsz, hp => by
    obtain ⟨a, b, ha, hb, rfl⟩ := catRes_cons_ok h
    have ih := applyExts_gens extra gs (Gen.apply extra f g) b hb (fun x hx => hsz x (List.mem_append_right _ hx))
      fun g' hg' => hp g' (List.mem_cons_of_mem _ hg')
    obtain ⟨hoff, hon⟩ := hp g List.mem_cons_self f
    rw [applyExts_append, List.foldl_cons]
    rcases gen_cases ha with ⟨rfl, hc⟩ | ⟨val, hv, rfl, hc, hi⟩
    · rw [Gen.apply, hc, hoff] at ih ⊢
      exact ih
    · rw [Gen.apply, hc, hi] at ih ⊢
      simp only [applyExts, hon val hv (hsz _ (List.mem_append_left _ List.mem_cons_self))]
      exact ih

theorem gens_not_overridden (extra : List Ext) : ∀ (gs : List Gen) {l : List Ext},
    catRes (gs.map (Gen.run extra)) = .ok l → ∀ x ∈ l, inExtra x.oid extra = false
  | [], l, h => by
    cases catRes_nil_ok h
    exact nofun
  | g :: gs, l, h => by
    obtain ⟨a, b, ha, hb, rfl⟩ := catRes_cons_ok h
    intro x hx
    rcases List.mem_append.mp hx with hx | hx
    · rcases gen_cases ha with ⟨rfl, _⟩ | ⟨val, _, rfl, _, hi⟩
      · cases hx
      · rwa [List.mem_singleton.mp hx]
    · exact gens_not_overridden extra gs hb x hx

/-- the nine OIDs `applyExt` has an arm for; any other extension (name constraints included: `applyExt_NC`) leaves the
    fields alone -/
def modelled : List (List Nat) := [oidKU, oidBC, oidSAN, oidCRLDP, oidAKI, oidEKU, oidSKI, oidPolicies, oidAIA]

theorem applyExt_other (f : Fields) (x : Ext) (h : x.oid ∉ modelled) : applyExt f x = .ok f := by
  simp only [modelled, List.mem_cons, List.mem_nil_iff, or_false, not_or] at h
  obtain ⟨h1, h2, h3, h4, h5, h6, h7, h8, h9⟩ := h
  simp only [applyExt, h1, h2, h3, h4, h5, h6, h7, h8, h9, if_false]

theorem applyExts_other (f : Fields) (xs : List Ext) (h : ∀ x ∈ xs, x.oid ∉ modelled) : applyExts f xs = .ok f := by
  induction xs with
  | nil => rfl
  | cons x xs ih =>
    simp only [applyExts, applyExt_other f x (h x List.mem_cons_self)]
    exact ih (fun y hy => h y (List.mem_cons_of_mem _ hy))

theorem applyExt_KU (f : Fields) (c : Bool) (v : Bytes) : applyExt f ⟨oidKU, c, v⟩ =
    (match parseKeyUsage v with | .ok ku => .ok { f with keyUsage := ku } | _ => .ok f) := rfl
theorem applyExt_BC (f : Fields) (c : Bool) (v : Bytes) : applyExt f ⟨oidBC, c, v⟩ =
    (match parseBasicConstraints v with
     | .ok (ca, m) => .ok { f with bcValid := true, isCA := ca, maxPathLen := m, maxPathLenZero := m == 0 }
     | _ => .ok f) := rfl
theorem applyExt_SAN (f : Fields) (c : Bool) (v : Bytes) : applyExt f ⟨oidSAN, c, v⟩ =
    (parseSAN v).bind fun s => .ok { f with san := s } := rfl
theorem applyExt_CRLDP (f : Fields) (c : Bool) (v : Bytes) : applyExt f ⟨oidCRLDP, c, v⟩ =
    (parseCRLDP v).bind fun l => .ok { f with crldp := f.crldp ++ l } := rfl
theorem applyExt_AKI (f : Fields) (c : Bool) (v : Bytes) : applyExt f ⟨oidAKI, c, v⟩ =
    (parseAKI v).bind fun a => .ok { f with aki := a } := rfl
theorem applyExt_EKU (f : Fields) (c : Bool) (v : Bytes) : applyExt f ⟨oidEKU, c, v⟩ =
    (parseEKU v).bind fun l => .ok { f with ekuOids := f.ekuOids ++ l } := rfl
theorem applyExt_SKI (f : Fields) (c : Bool) (v : Bytes) : applyExt f ⟨oidSKI, c, v⟩ =
    (parseSKI v).bind fun s => .ok { f with ski := s } := rfl
theorem applyExt_Policies (f : Fields) (c : Bool) (v : Bytes) : applyExt f ⟨oidPolicies, c, v⟩ =
    (parsePolicies v).bind fun p => .ok { f with policies := p } := rfl
theorem applyExt_AIA (f : Fields) (c : Bool) (v : Bytes) : applyExt f ⟨oidAIA, c, v⟩ =
    (parseAIA v).bind fun a => .ok { f with ocsp := f.ocsp ++ a.1, issuing := f.issuing ++ a.2 } := rfl
theorem applyExt_NC (f : Fields) (c : Bool) (v : Bytes) : applyExt f ⟨oidNC, c, v⟩ = .ok f := rfl

/-- `oidFromExtKeyUsage` over the table -/
def ekuLookup (tbl : List (Nat × List Nat)) (u : Nat) : Option (List Nat) := (tbl.find? (fun p => p.1 == u)).map (·.2)

/-- the documented template domain (decidable): nine key-usage bits, a 64-bit path length, OID arcs the reader
    accepts (sub-identifiers up to MaxInt32), IP addresses of 4 or 16 octets. -/
def Tmpl.inDomain (tbl : List (Nat × List Nat)) (t : Tmpl) : Bool :=
  decide (t.keyUsage < 512) && decide (-9223372036854775808 ≤ t.maxPathLen) && decide (t.maxPathLen ≤ 9223372036854775807)
    && tbl.all (fun p => oidOk p.2) && t.unknownEku.all oidOk && t.policies.all oidOk
    && t.ips.all (fun ip => ip.length == 4 || ip.length == 16)

/-- the field vector `parseCertificate` must report for the GENERATED extensions of template `t`: every field the
    template sets, normalised (unset path length → -1, IPv4-mapped addresses → 4 octets, OIDs as content octets);
    a field whose extension is overridden through `ExtraExtensions` keeps its zero value here (it is then filled
    from the extra extension). -/
def expected (tbl : List (Nat × List Nat)) (t : Tmpl) : Fields :=
  let ov := fun oid => inExtra oid t.extra
  let bc := t.bcValid && !ov oidBC
  let m := effectiveMaxPathLen t.maxPathLen t.maxPathLenZero
  { keyUsage := if ov oidKU then 0 else t.keyUsage
    ekuOids := if ov oidEKU then [] else oidContents (t.eku.filterMap (ekuLookup tbl) ++ t.unknownEku)
    bcValid := bc
    isCA := bc && t.isCA
    maxPathLen := if bc then m else 0
    maxPathLenZero := bc && m == 0
    ski := if ov oidSKI then [] else t.ski
    aki := if ov oidAKI then [] else t.aki
    san := if ov oidSAN then ⟨[], [], [], []⟩ else ⟨t.dns, t.email, [], t.ips.map to4⟩
    ocsp := if ov oidAIA then [] else t.ocsp
    issuing := if ov oidAIA then [] else t.issuing
    crldp := if ov oidCRLDP then [] else t.crldp
    policies := if ov oidPolicies then [] else oidContents t.policies }

theorem ekuLookup_ok {tbl : List (Nat × List Nat)} (htbl : tbl.all (fun p => oidOk p.2) = true) {u : Nat} {o : List Nat}
    (h : ekuLookup tbl u = some o) : oidOk o = true := by
  unfold ekuLookup at h
  cases hf : tbl.find? (fun p => p.1 == u) with
  | none => simp [hf] at h
  | some p =>
    simp [hf] at h
    subst h
    rw [List.all_eq_true] at htbl
    exact htbl p (List.mem_of_find?_eq_some hf)

/-- the ten builders in the order of `buildExtensions` -/
def gens (tbl : List (Nat × List Nat)) (t : Tmpl) : List Gen :=
  let m := effectiveMaxPathLen t.maxPathLen t.maxPathLenZero
  [ ⟨t.keyUsage ≠ 0, oidKU, true, some (buildKeyUsage t.keyUsage),
      fun on f => { f with keyUsage := if on then t.keyUsage else f.keyUsage }⟩,
    ⟨!t.eku.isEmpty || !t.unknownEku.isEmpty, oidEKU, false,
      (match t.eku.mapM (ekuLookup tbl) with
       | some os => (encOIDs (os ++ t.unknownEku)).map (tlv 0x30)
       | none => none),
      fun on f => { f with ekuOids :=
        if on then f.ekuOids ++ oidContents (t.eku.filterMap (ekuLookup tbl) ++ t.unknownEku) else f.ekuOids }⟩,
    ⟨t.bcValid, oidBC, true, some (buildBasicConstraints t.isCA t.maxPathLen t.maxPathLenZero),
      fun on f => { f with bcValid := if on then true else f.bcValid, isCA := if on then t.isCA else f.isCA,
                           maxPathLen := if on then m else f.maxPathLen,
                           maxPathLenZero := if on then m == 0 else f.maxPathLenZero }⟩,
    ⟨!t.ski.isEmpty, oidSKI, false, some (buildSKI t.ski), fun on f => { f with ski := if on then t.ski else f.ski }⟩,
    ⟨!t.aki.isEmpty, oidAKI, false, some (buildAKI t.aki), fun on f => { f with aki := if on then t.aki else f.aki }⟩,
    ⟨!t.ocsp.isEmpty || !t.issuing.isEmpty, oidAIA, false, buildAIA t.ocsp t.issuing,
      fun on f => { f with ocsp := if on then f.ocsp ++ t.ocsp else f.ocsp,
                           issuing := if on then f.issuing ++ t.issuing else f.issuing }⟩,
    ⟨!t.dns.isEmpty || !t.email.isEmpty || !t.ips.isEmpty, oidSAN, false, some (buildSAN t.dns t.email t.ips),
      fun on f => { f with san := if on then ⟨t.dns, t.email, [], t.ips.map to4⟩ else f.san }⟩,
    ⟨!t.policies.isEmpty, oidPolicies, false, buildPolicies t.policies,
      fun on f => { f with policies := if on then oidContents t.policies else f.policies }⟩,
    ⟨t.nc.isSome, oidNC, (match t.nc with | some (c, _) => c | none => false),
      (match t.nc with | some (_, v) => some v | none => none), fun _ f => f⟩,
    ⟨!t.crldp.isEmpty, oidCRLDP, false, some (buildCRLDP t.crldp),
      fun on f => { f with crldp := if on then f.crldp ++ t.crldp else f.crldp }⟩ ]

theorem gens_parse (tbl : List (Nat × List Nat)) (t : Tmpl) (hd : t.inDomain tbl = true) :
    ∀ g ∈ gens tbl t, ∀ f, g.upd false f = f ∧ ∀ val, g.value = some val → val.length < 2147483648 →
      applyExt f ⟨g.oid, g.crit, val⟩ = .ok (g.upd true f) := by
  simp only [Tmpl.inDomain, Bool.and_eq_true, decide_eq_true_eq] at hd
  obtain ⟨⟨⟨⟨⟨⟨d1, d2⟩, d3⟩, d4⟩, d5⟩, d6⟩, d7⟩ := hd
  simp only [gens, List.forall_mem_cons, List.not_mem_nil, false_imp_iff, implies_true, and_true]
  refine ⟨?_, ?_, ?_, ?_, ?_, ?_, ?_, ?_, ?_, ?_⟩
  · refine fun f => ⟨rfl, fun val hv _ => ?_⟩
    cases hv
    rw [applyExt_KU, parseKeyUsage_build, Nat.mod_eq_of_lt d1]
    rfl
  · refine fun f => ⟨rfl, fun val hv hl => ?_⟩
    cases hm : t.eku.mapM (ekuLookup tbl) with
    | none => simp [hm] at hv
    | some os =>
      obtain ⟨body, he, rfl⟩ : ∃ body, encOIDs (os ++ t.unknownEku) = some body ∧ tlv 0x30 body = val := by
        simpa [hm] using hv
      have hos := mapM_filterMap _ _ _ hm
      have hok : ∀ o ∈ os ++ t.unknownEku, oidOk o = true := by
        intro o ho
        rcases List.mem_append.mp ho with ho | ho
        · obtain ⟨u, _, hu⟩ := mem_of_mapM hm ho
          exact ekuLookup_ok d4 hu
        · exact List.all_eq_true.mp d5 o ho
      rw [applyExt_EKU, parseEKU_build _ _ he hok hl, hos]
      rfl
  · refine fun f => ⟨rfl, fun val hv _ => ?_⟩
    cases hv
    rw [applyExt_BC, parseBasicConstraints_build _ _ _ d2 d3]
    rfl
  · refine fun f => ⟨rfl, fun val hv hl => ?_⟩
    cases hv
    rw [applyExt_SKI, parseSKI_build _ (lt_of_writeTLV hl)]
    rfl
  · refine fun f => ⟨rfl, fun val hv hl => ?_⟩
    cases hv
    rw [applyExt_AKI, parseAKI_build _ hl]
    rfl
  · refine fun f => ⟨rfl, fun val hv hl => ?_⟩
    rw [applyExt_AIA, parseAIA_build _ _ _ hv hl]
    rfl
  · refine fun f => ⟨rfl, fun val hv hl => ?_⟩
    cases hv
    have hip' : t.ips.all (fun ip => (to4 ip).length == 4 || (to4 ip).length == 16) = true :=
      List.all_eq_true.mpr fun ip hm =>
        by simpa using to4_length ip (by simpa using List.all_eq_true.mp d7 ip hm)
    rw [applyExt_SAN, parseSAN_build _ _ _ hl, if_pos hip']
    rfl
  · refine fun f => ⟨rfl, fun val hv hl => ?_⟩
    rw [applyExt_Policies, parsePolicies_build _ _ hv (fun o ho => List.all_eq_true.mp d6 o ho) hl]
    rfl
  · exact fun f => ⟨trivial, fun val _ _ => applyExt_NC _ _ _⟩
  · refine fun f => ⟨rfl, fun val hv hl => ?_⟩
    cases hv
    rw [applyExt_CRLDP, parseCRLDP_build _ hl]
    rfl

theorem Fields.ext' {a b : Fields} (h1 : a.keyUsage = b.keyUsage) (h2 : a.ekuOids = b.ekuOids) (h3 : a.bcValid = b.bcValid)
    (h4 : a.isCA = b.isCA) (h5 : a.maxPathLen = b.maxPathLen) (h6 : a.maxPathLenZero = b.maxPathLenZero) (h7 : a.ski = b.ski)
    (h8 : a.aki = b.aki) (h9 : a.san = b.san) (h10 : a.ocsp = b.ocsp) (h11 : a.issuing = b.issuing)
    (h12 : a.crldp = b.crldp) (h13 : a.policies = b.policies) : a = b := by
  cases a
  cases b
  congr

/-- a builder that is switched off (`c = false`) has nothing to write (`v = d`): its field reads `v` unless overridden -/
theorem ite_on {α} {c ov : Bool} {v d : α} (hoff : c = false → v = d) :
    (if (c && !ov) = true then v else d) = if ov = true then d else v := by
  cases c
  · cases ov <;> simp [hoff rfl]
  · cases ov <;> rfl

theorem gens_fold (tbl : List (Nat × List Nat)) (t : Tmpl) :
    (gens tbl t).foldl (Gen.apply t.extra) {} = expected tbl t := by
  have hb : ∀ (b : Bool) (x : Bool), (if b = true then x else false) = (b && x) := by decide
  -- the flag sits inside the updates, so each field of the fold reduces to `if cond && !overridden then value else default`;
  -- the goals come in the order of the fields of `Fields`
  apply Fields.ext'
  · exact ite_on (d := 0) fun h => by simpa using h
  · exact ite_on (v := oidContents (t.eku.filterMap (ekuLookup tbl) ++ t.unknownEku)) (d := []) fun h => by
      simp only [Bool.or_eq_false_iff, Bool.not_eq_false', List.isEmpty_iff] at h
      simp [h, oidContents]
  · exact (hb _ true).trans (Bool.and_true _)
  · exact hb _ _
  · rfl
  · exact hb _ _
  · exact ite_on (d := []) fun h => by simpa using h
  · exact ite_on (d := []) fun h => by simpa using h
  · exact ite_on (d := (⟨[], [], [], []⟩ : SAN)) fun h => by
      simp only [Bool.or_eq_false_iff, Bool.not_eq_false', List.isEmpty_iff] at h
      simp [h]
  · exact ite_on (v := t.ocsp) (d := []) fun h => by
      simp only [Bool.or_eq_false_iff, Bool.not_eq_false', List.isEmpty_iff] at h
      exact h.1
  · exact ite_on (v := t.issuing) (d := []) fun h => by
      simp only [Bool.or_eq_false_iff, Bool.not_eq_false', List.isEmpty_iff] at h
      exact h.2
  · exact ite_on (v := t.crldp) (d := []) fun h => by simpa using h
  · exact ite_on (d := []) fun h => by
      simp only [Bool.not_eq_false', List.isEmpty_iff] at h
      simp [h, oidContents]

theorem buildExtensions_ok (tbl : List (Nat × List Nat)) (t : Tmpl) {exts : List Ext}
    (h : buildExtensions tbl t = .ok exts) :
    ∃ l, catRes ((gens tbl t).map (Gen.run t.extra)) = .ok l ∧ exts = l ++ t.extra := by
  unfold buildExtensions at h
  simp only at h
  split at h
  · cases h
  · split at h
    · rename_i l hg
      cases h
      exact ⟨l, hg, rfl⟩
    · cases h
    · cases h

/-- the template's field vector: what `parseCertificate` reports when no `ExtraExtensions` entry overrides a builder -/
def templateFields (tbl : List (Nat × List Nat)) (t : Tmpl) : Fields :=
  let m := effectiveMaxPathLen t.maxPathLen t.maxPathLenZero
  { keyUsage := t.keyUsage
    ekuOids := oidContents (t.eku.filterMap (ekuLookup tbl) ++ t.unknownEku)
    bcValid := t.bcValid
    isCA := t.bcValid && t.isCA
    maxPathLen := if t.bcValid then m else 0
    maxPathLenZero := t.bcValid && m == 0
    ski := t.ski
    aki := t.aki
    san := ⟨t.dns, t.email, [], t.ips.map to4⟩
    ocsp := t.ocsp
    issuing := t.issuing
    crldp := t.crldp
    policies := oidContents t.policies }

theorem inExtra_false_of_not_modelled {extra : List Ext} (h : ∀ x ∈ extra, x.oid ∉ modelled) {oid : List Nat}
    (ho : oid ∈ modelled) : inExtra oid extra = false := by
  unfold inExtra
  rw [List.any_eq_false]
  intro x hx hc
  have : x.oid = oid := by simpa using hc
  exact h x hx (this ▸ ho)

theorem expected_eq_templateFields (tbl : List (Nat × List Nat)) (t : Tmpl) (h : ∀ x ∈ t.extra, x.oid ∉ modelled) :
    expected tbl t = templateFields tbl t := by
  have a := fun {oid} ho => inExtra_false_of_not_modelled (oid := oid) h ho
  simp [expected, templateFields, a (oid := oidKU) (by decide), a (oid := oidEKU) (by decide),
    a (oid := oidBC) (by decide), a (oid := oidSKI) (by decide), a (oid := oidAKI) (by decide),
    a (oid := oidSAN) (by decide), a (oid := oidAIA) (by decide), a (oid := oidCRLDP) (by decide),
    a (oid := oidPolicies) (by decide)]

end ZV.C04
