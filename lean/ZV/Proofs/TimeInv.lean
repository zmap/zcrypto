import ZV.Proofs.TimeRT
/-!
  Inversion of `time.Parse` (`ZV.Time.parse`) on ARBITRARY input: what an accepted GeneralizedTime / UTCTime text
  tells about the resulting time (calendar fields in range, year window, zone a whole number of minutes of at
  most 25 hours).
-/
namespace ZV.Time
open ZV

/-- what every successful run of the loop over one of the three layouts establishes -/
def Fields (st : PState) : Prop :=
  1 ≤ st.month ∧ st.month ≤ 12 ∧ 0 ≤ st.day ∧ st.hour < 24 ∧ st.min < 60 ∧ st.sec < 60 ∧
  (st.utc = true ∨ (st.utc = false ∧ ∃ k : Int, st.zoneOffset = 60 * k ∧ -1500 ≤ k ∧ k ≤ 1500))

theorem fields_of_tz {s6 st : PState} {v : Bytes} (h : parseLoop [.isoTZ] s6 v = some st)
    (hm : 1 ≤ s6.month ∧ s6.month ≤ 12) (hd : 0 ≤ s6.day) (hh : s6.hour < 24) (hmi : s6.min < 60) (hs : s6.sec < 60)
    (hu : s6.utc = false) : Fields st ∧ st.year = s6.year ∧ st.nsec = s6.nsec := by
  obtain ⟨s7, v7, h7, h⟩ := parseLoop_cons_inv h
  obtain rfl := parseLoop_nil_inv h
  rcases (step_inv h7).1 with rfl | ⟨k, hk0, hk1, rfl⟩
  · exact ⟨⟨hm.1, hm.2, hd, hh, hmi, hs, Or.inl rfl⟩, rfl, rfl⟩
  · exact ⟨⟨hm.1, hm.2, hd, hh, hmi, hs, Or.inr ⟨hu, k, rfl, hk0, hk1⟩⟩, rfl, rfl⟩

/-- only the seconds chunk writes `nsec` -/
theorem parseLoop_tail_inv {L : List Std} (hL : L = [.isoTZ] ∨ L = [.zeroSecond, .isoTZ]) {st0 st : PState} {v : Bytes}
    (hu : st0.utc = false) (hs : st0.sec < 60)
    (h : parseLoop (.zeroMonth :: .zeroDay :: .hour :: .zeroMinute :: L) st0 v = some st) :
    Fields st ∧ st.year = st0.year ∧ (L = [.isoTZ] → st.nsec = st0.nsec) := by
  obtain ⟨s2, v2, h2, h⟩ := parseLoop_cons_inv h
  obtain ⟨s3, v3, h3, h⟩ := parseLoop_cons_inv h
  obtain ⟨s4, v4, h4, h⟩ := parseLoop_cons_inv h
  obtain ⟨s5, v5, h5, h⟩ := parseLoop_cons_inv h
  obtain ⟨m, hm01, rfl⟩ := step_inv h2
  obtain ⟨d, rfl⟩ := step_inv h3
  obtain ⟨hh, hh1, rfl⟩ := step_inv h4
  obtain ⟨mi, hmi, rfl⟩ := step_inv h5
  have hm : 1 ≤ (m : Int) ∧ (m : Int) ≤ 12 := by omega
  have hd : 0 ≤ (d : Int) := by omega
  rcases hL with rfl | rfl
  · obtain ⟨hf, hy, hn⟩ := fields_of_tz h hm hd hh1 hmi hs hu
    exact ⟨hf, hy, fun _ => hn⟩
  · obtain ⟨s6, v6, h6, h⟩ := parseLoop_cons_inv h
    obtain ⟨x, ns, hx, rfl, -⟩ := step_inv h6
    obtain ⟨hf, hy, -⟩ := fields_of_tz h hm hd hh1 hmi hx hu
    exact ⟨hf, hy, fun e => absurd e (by decide)⟩

theorem parseLoop_gen_inv {s : Bytes} {st : PState} (h : parseLoop layoutGen {} s = some st) :
    Fields st ∧ 0 ≤ st.year ∧ st.year ≤ 9999 := by
  obtain ⟨s1, v1, h1, h⟩ := parseLoop_cons_inv h
  obtain ⟨y, hy0, hy1, rfl⟩ := step_inv h1
  obtain ⟨hf, hy, -⟩ := parseLoop_tail_inv (Or.inr rfl) rfl (Nat.zero_lt_succ _) h
  exact ⟨hf, hy ▸ hy0, hy ▸ hy1⟩

theorem parseLoop_utc_inv {L : List Std} (hL : L = [.isoTZ] ∨ L = [.zeroSecond, .isoTZ]) {s : Bytes} {st : PState}
    (h : parseLoop (.year :: .zeroMonth :: .zeroDay :: .hour :: .zeroMinute :: L) {} s = some st) :
    Fields st ∧ (L = [.isoTZ] → st.nsec = 0) ∧ 1969 ≤ st.year ∧ st.year ≤ 2068 := by
  obtain ⟨s1, v1, h1, h⟩ := parseLoop_cons_inv h
  obtain ⟨y, hy0, hy1, rfl⟩ := step_inv h1
  obtain ⟨hf, hy, hn⟩ := parseLoop_tail_inv hL rfl (Nat.zero_lt_succ _) h
  refine ⟨hf, hn, ?_⟩
  rw [hy]
  simp only []
  omega

/-- the broken-down time that `finish` hands to `Date` -/
def civilOfState (st : PState) (o : Int) : Civil :=
  { year := st.year, month := st.month.toNat, day := st.day.toNat, hour := st.hour, min := st.min, sec := st.sec,
    off := o }

theorem finish_inv {st : PState} {t : GoTime} (hf : Fields st) (h : finish st = some t) :
    ∃ c : Civil, c.valid = true ∧ c.year = st.year ∧ (∃ k : Int, c.off = 60 * k ∧ -1500 ≤ k ∧ k ≤ 1500) ∧
      t.unix = toUnix c ∧ t.off = c.off ∧ t.nsec = st.nsec := by
  obtain ⟨hm0, hm1, hd0, hh, hmi, hs, hz⟩ := hf
  simp only [finish] at h
  have e1 : ¬ (st.month < 0) := by omega
  have e2 : ¬ (st.day < 0) := by omega
  simp only [e1, e2, if_false] at h
  obtain ⟨hday, h⟩ := Option.ite_none_left_eq_some.mp h
  have hvalid : ∀ o : Int, (civilOfState st o).valid = true := by
    intro o
    rw [valid_iff]
    simp only [civilOfState]
    refine ⟨by omega, by omega, by omega, by omega, hh, hmi, hs⟩
  rcases hz with hu | ⟨hu, k, hk, hk0, hk1⟩
  · simp only [hu, if_true, Option.some.injEq] at h
    subst h
    exact ⟨civilOfState st 0, hvalid 0, rfl, ⟨0, by simp [civilOfState], by omega, by omega⟩, rfl, rfl, rfl⟩
  · have hne : st.zoneOffset ≠ -1 := by omega
    rw [hu, if_neg Bool.false_ne_true, if_pos hne, Option.some.injEq] at h
    subst h
    refine ⟨civilOfState st st.zoneOffset, hvalid _, rfl, ⟨k, hk, hk0, hk1⟩, ?_, rfl, rfl⟩
    simp only [date, toUnix, civilOfState]
    omega

theorem civil_of_built {t : GoTime} {c : Civil} (hv : c.valid = true) (hu : t.unix = toUnix c) (ho : t.off = c.off) :
    t.civil = c := by
  simp only [GoTime.civil, hu, ho]
  exact ofUnix_toUnix c hv

/-- facts about any time returned by `time.Parse` with one of the three layouts -/
structure Parsed (t : GoTime) (ylo yhi : Int) : Prop where
  year_lo : ylo ≤ t.year
  year_hi : t.year ≤ yhi
  zone : ∃ k : Int, t.off = 60 * k ∧ -1500 ≤ k ∧ k ≤ 1500

theorem parsed_of_finish {st : PState} {t : GoTime} {ylo yhi : Int} (hf : Fields st) (hy0 : ylo ≤ st.year)
    (hy1 : st.year ≤ yhi) (h : finish st = some t) : Parsed t ylo yhi := by
  obtain ⟨c, hv, hy, hz, hu, ho, _⟩ := finish_inv hf h
  have hc := civil_of_built hv hu ho
  refine ⟨?_, ?_, ?_⟩
  · simp only [GoTime.year, hc, hy]; exact hy0
  · simp only [GoTime.year, hc, hy]; exact hy1
  · rw [ho]; exact hz

theorem parse_facts {L : List Std} {s : Bytes} {t : GoTime} {ylo yhi : Int}
    (hinv : ∀ {st}, parseLoop L {} s = some st → Fields st ∧ ylo ≤ st.year ∧ st.year ≤ yhi)
    (h : parse L s = some t) : Parsed t ylo yhi := by
  obtain ⟨st, hst, hfin⟩ := parse_inv h
  obtain ⟨hf, hy0, hy1⟩ := hinv hst
  exact parsed_of_finish hf hy0 hy1 hfin

theorem parse_gen_facts {s : Bytes} {t : GoTime} (h : parse layoutGen s = some t) : Parsed t 0 9999 :=
  parse_facts parseLoop_gen_inv h

theorem parse_utcsec_facts {s : Bytes} {t : GoTime} (h : parse layoutUTCSec s = some t) : Parsed t 1969 2068 :=
  parse_facts (fun hl => have hl := parseLoop_utc_inv (Or.inr rfl) hl; ⟨hl.1, hl.2.2⟩) h

theorem parse_utcmin_facts {s : Bytes} {t : GoTime} (h : parse layoutUTCMin s = some t) : Parsed t 1969 2068 :=
  parse_facts (fun hl => have hl := parseLoop_utc_inv (Or.inl rfl) hl; ⟨hl.1, hl.2.2⟩) h

/-- for a zone of whole minutes (below 100 hours) `Time.Format` writes the text of the encoders of `encoding/asn1` -/
theorem Parsed.zone_ok {t : GoTime} {ylo yhi : Int} (p : Parsed t ylo yhi) :
    -360000 < t.off ∧ t.off < 360000 ∧ (t.off = 0 ∨ Int.tdiv t.off 60 ≠ 0) := by
  obtain ⟨k, hk, hk0, hk1⟩ := p.zone
  rw [hk, tdiv_mul60]
  omega

theorem Parsed.format_gen {t : GoTime} (p : Parsed t 0 9999) : format layoutGen t = genText t :=
  format_gen_eq t p.year_lo p.year_hi p.zone_ok.1 p.zone_ok.2.1 p.zone_ok.2.2

theorem Parsed.format_utcsec {t : GoTime} {ylo yhi : Int} (p : Parsed t ylo yhi) : format layoutUTCSec t = utcText t :=
  format_utcsec_eq t p.zone_ok.1 p.zone_ok.2.1 p.zone_ok.2.2

theorem appendGeneralizedTime_eq_format {t : GoTime} (p : Parsed t 0 9999) :
    EA.appendGeneralizedTime t = .ok (format layoutGen t) := by
  rw [appendGeneralizedTime_eq t p.year_lo p.year_hi, p.format_gen]

theorem appendUTCTime_eq_format {t : GoTime} {ylo yhi : Int} (p : Parsed t ylo yhi) (h0 : 1950 ≤ t.year)
    (h1 : t.year < 2050) : EA.appendUTCTime t = .ok (format layoutUTCSec t) := by
  rw [appendUTCTime_eq t h0 h1, p.format_utcsec]

theorem valid_minus100 (c : Civil) (hv : c.valid = true) (h0 : 2050 ≤ c.year) (h1 : c.year ≤ 2068) :
    ({ c with year := c.year + -100 } : Civil).valid = true :=
  valid_of_leap c hv _ (by simp only [isLeap, decide_eq_true_eq]; omega)

/-- the `AddDate(-100, 0, 0)` step of the UTCTime parsers -/
theorem addYears_minus100 (ret : GoTime) (h0 : 2050 ≤ ret.year) (h1 : ret.year ≤ 2068) :
    (addYears ret (-100)).civil = { ret.civil with year := ret.year + -100 } ∧
    (addYears ret (-100)).off = ret.off := by
  have hv := valid_minus100 ret.civil (ofUnix_valid _ _) h0 h1
  refine ⟨?_, rfl⟩
  exact civil_of_built hv rfl rfl

theorem appendUTCTime_minus100 {ret : GoTime} {ylo yhi : Int} (p : Parsed ret ylo yhi) (h0 : 2050 ≤ ret.year)
    (h1 : ret.year ≤ 2068) : EA.appendUTCTime (addYears ret (-100)) = .ok (format layoutUTCSec ret) := by
  obtain ⟨hc, ho⟩ := addYears_minus100 ret h0 h1
  have hy : (addYears ret (-100)).year = ret.year + -100 := by simp only [GoTime.year, hc]
  rw [appendUTCTime_eq _ (by omega) (by omega), p.format_utcsec]
  simp only [utcText, hy, hc, ho, fieldsText]
  have : (ret.year + -100).natAbs % 100 = ret.year.natAbs % 100 := by omega
  rw [this]

theorem whole_of_reparse {L : List Std} {s : Bytes} {t : GoTime} {c : Prop} [Decidable c] (hp : parse L s = some t)
    (hr : parse L s = if c then some (readBack t) else none) : t.nsec = 0 :=
  congrArg GoTime.nsec (accept_eq_some.1 (hp ▸ hr).symm).2.symm

/-- `time.Parse` reads `.5`, but a text that `Format` reproduces is the text of the time it was read as, and `time.Parse`
    reads that as a time of whole seconds. -/
theorem whole_seconds_gen {s : Bytes} {t : GoTime} (hp : parse layoutGen s = some t) (hf : format layoutGen t = s) :
    t.nsec = 0 := by
  have p := parse_gen_facts hp
  rw [← hf, p.format_gen] at hp
  exact whole_of_reparse hp (parse_genText_zone t p.year_lo p.year_hi p.zone_ok.1 p.zone_ok.2.1)

theorem whole_seconds_utcsec {s : Bytes} {t : GoTime} (hp : parse layoutUTCSec s = some t)
    (hf : format layoutUTCSec t = s) : t.nsec = 0 := by
  have p := parse_utcsec_facts hp
  rw [← hf, p.format_utcsec] at hp
  exact whole_of_reparse hp (parse_utcText_zone t p.year_lo p.year_hi p.zone_ok.1 p.zone_ok.2.1)

/-- the layout without seconds has no seconds chunk at all -/
theorem whole_seconds_utcmin {s : Bytes} {t : GoTime} (hp : parse layoutUTCMin s = some t) : t.nsec = 0 := by
  obtain ⟨st, hst, hfin⟩ := parse_inv hp
  obtain ⟨hf, hn, -⟩ := parseLoop_utc_inv (Or.inl rfl) hst
  obtain ⟨c, -, -, -, -, -, ht⟩ := finish_inv hf hfin
  rw [ht, hn rfl]

end ZV.Time
