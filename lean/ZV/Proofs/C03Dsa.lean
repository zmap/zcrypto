import ZV.Model.C03
import ZV.Proofs.C23
/-!
  DSA correctness for the C03 model: a signature returned by `dsaSign` is accepted by `dsaVerify` under the matching
  public key (`dsaVerify_of_dsaSign`), for every digest and every random stream, when `q` is prime and `g^q ≡ 1 (mod p)`.
-/
namespace ZV.C03
open ZV ZV.Hash

theorem egcd_bezout (a b : Nat) :
    (egcd a b).1 = Nat.gcd a b ∧
    (a : Int) * (egcd a b).2.1 + (b : Int) * (egcd a b).2.2 = ((egcd a b).1 : Int) := by
  fun_induction egcd a b with
  | case1 a => exact ⟨(Nat.gcd_zero_right a).symm, by rw [mul_one, Int.mul_zero, add_zero]⟩
  | case2 a b h r ih =>
    refine ⟨?_, ?_⟩
    · rw [ih.1, Nat.gcd_comm a b, Nat.gcd_rec b a, Nat.gcd_comm]
    · rw [← ih.2, Int.natCast_mod, Int.emod_def, Int.natCast_div]
      ring

theorem egcd_fst (a b : Nat) : (egcd a b).1 = Nat.gcd a b := (egcd_bezout a b).1

theorem modInverse_correct {a m w : Nat} (hm : 0 < m) (h : modInverse a m = some w) :
    a * w % m = 1 % m := by
  unfold modInverse at h
  dsimp only at h
  split at h
  · next h1 =>
    injection h with h
    -- Bezout: `a·x + m·y = 1`, and `w` is `x` reduced modulo `m`
    have hb := (egcd_bezout a m).2
    rw [h1] at hb
    have hw : (w : Int) = (egcd a m).2.1 % m :=
      h ▸ Int.toNat_of_nonneg (Int.emod_nonneg _ (Int.ofNat_ne_zero.2 hm.ne'))
    refine Int.natCast_modEq_iff.1 ?_
    rw [Nat.cast_mul, hw, ← hb]
    exact ((Int.mod_modEq _ _).mul_left _).trans Int.modEq_add_fac_self.symm
  · contradiction

theorem modInverse_of_coprime {a m : Nat} (h : Nat.Coprime a m) : ∃ w, modInverse a m = some w := by
  unfold modInverse
  dsimp only
  rw [if_pos (by rw [egcd_fst]; exact h)]
  exact ⟨_, rfl⟩

theorem readK_range {n q : Nat} (rnd : Bytes) {k : Nat} {rnd' : Bytes}
    (h : readK n q rnd = some (k, rnd')) : 0 < k ∧ k < q := by
  fun_induction readK n q rnd with
  | case1 => contradiction
  | case2 => contradiction
  | case3 _ _ _ _ hk => exact (Prod.mk.inj (Option.some.inj h)).1 ▸ hk
  | case4 _ _ _ _ _ ih => exact ih h

theorem signLoop_spec {p q g x n : Nat} {hash : Bytes} (fuel : Nat) (rnd : Bytes) {r s : Nat}
    (h : signLoop p q g x hash n fuel rnd = .ok (r, s)) :
    ∃ k, 0 < k ∧ k < q ∧ r = g ^ k % p % q ∧ r ≠ 0 ∧
      s = (x * r + C23.os2ip hash) % q * (k ^ (q - 2) % q) % q ∧ s ≠ 0 := by
  fun_induction signLoop p q g x hash n fuel rnd with
  | case1 => contradiction
  | case2 => contradiction
  | case3 _ _ _ _ _ _ _ ih => exact ih h
  | case4 _ _ _ _ _ _ _ _ _ _ _ ih => exact ih h
  | case5 _ rnd k _ hk _ _ hr _ _ hs =>
    obtain ⟨rfl, rfl⟩ := Prod.mk.inj (Res.ok.inj h)
    obtain ⟨hk0, hkq⟩ := readK_range rnd hk
    exact ⟨k, hk0, hkq, by rw [← C23.modPow_eq], hr, by rw [← C23.modPow_eq], hs⟩

theorem pow_congr_order {p q g a b : Nat} (hg : g ^ q % p = 1) (hab : a ≡ b [MOD q]) :
    g ^ a ≡ g ^ b [MOD p] := by
  unfold Nat.ModEq
  rw [C23.pow_mod_order hg a, C23.pow_mod_order hg b, hab]

/-- the exponent arithmetic of DSA modulo `q`: with `s = k⁻¹(z + x·r)`, `k⁻¹ = k^(q-2)` (Fermat) and `w = s⁻¹`,
    the exponent `u1 + x·u2` that `Verify` raises `g` to is `k` -/
theorem dsa_exponent {q k x r z s w : Nat} (hq : Nat.Prime q) (hk0 : 0 < k) (hkq : k < q)
    (hs : s = (x * r + z) % q * (k ^ (q - 2) % q) % q)
    (hw : s * w ≡ 1 [MOD q]) :
    z * w % q + x * (r * w % q) ≡ k [MOD q] := by
  have hf : k ^ (q - 2) * k ≡ 1 [MOD q] := by
    rw [← pow_succ, show q - 2 + 1 = q - 1 from by have := hq.two_le; omega, ← Nat.totient_prime hq]
    exact Nat.ModEq.pow_totient (hq.coprime_iff_not_dvd.2 (Nat.not_dvd_of_pos_of_lt hk0 hkq)).symm
  have hs' : (x * r + z) * k ^ (q - 2) ≡ s [MOD q] :=
    hs ▸ (((Nat.mod_modEq _ _).mul (Nat.mod_modEq _ _)).symm.trans (Nat.mod_modEq _ _).symm)
  calc z * w % q + x * (r * w % q) ≡ z * w + x * (r * w) [MOD q] :=
        (Nat.mod_modEq _ _).add ((Nat.mod_modEq _ _).mul_left x)
    _ = (x * r + z) * w * 1 := by ring
    _ ≡ (x * r + z) * w * (k ^ (q - 2) * k) [MOD q] := hf.symm.mul_left _
    _ = k * ((x * r + z) * k ^ (q - 2) * w) := by ring
    _ ≡ k * (s * w) [MOD q] := (hs'.mul_right w).mul_left k
    _ ≡ k * 1 [MOD q] := hw.mul_left k
    _ = k := mul_one k

theorem not_outside {a q : Nat} (h0 : a ≠ 0) (hq : a < q) : ¬((a : Int) < 1 ∨ (a : Int) ≥ q) := by omega

theorem dsaVerify_of_dsaSign {p q g x : Nat} {hash rnd : Bytes} {r s : Nat}
    (hq : Nat.Prime q) (hg : g ^ q % p = 1)
    (h : dsaSign p q g x hash rnd = .ok (r, s)) :
    dsaVerify p q g (C23.modPow g x p) hash (r : Int) (s : Int) = true := by
  unfold dsaSign at h
  split at h
  · contradiction
  · next hc =>
    simp only [not_or, ne_eq, not_not] at hc
    obtain ⟨-, hp0, -, -, hbl⟩ := hc
    obtain ⟨k, hk0, hkq, hr, hr0, hs, hs0⟩ := signLoop_spec 10 rnd h
    have hq0 : 0 < q := hq.pos
    have hrq : r < q := hr ▸ Nat.mod_lt _ hq0
    have hsq : s < q := hs ▸ Nat.mod_lt _ hq0
    obtain ⟨w, hw⟩ := modInverse_of_coprime
      (hq.coprime_iff_not_dvd.2 (Nat.not_dvd_of_pos_of_lt (Nat.pos_of_ne_zero hs0) hsq)).symm
    have hexp := dsa_exponent (x := x) (r := r) (z := C23.os2ip hash) hq hk0 hkq hs (modInverse_correct hq0 hw)
    unfold dsaVerify
    rw [if_neg hp0, if_neg (not_outside hr0 hrq), if_neg (not_outside hs0 hsq)]
    simp only [Int.toNat_natCast]
    rw [hw]
    dsimp only
    rw [if_neg (not_not.2 hbl)]
    simp only [C23.modPow_eq, beq_iff_eq]
    rw [← Nat.pow_mod, ← Nat.mul_mod, ← pow_mul, ← pow_add, pow_congr_order hg hexp, ← hr]

theorem bitLen_251 : C23.bitLen 251 = 8 := by
  unfold C23.bitLen
  have h : Nat.log2 251 = 7 := (Nat.log2_eq_iff (by decide)).2 ⟨by decide, by decide⟩
  rw [if_neg (by decide), h]

/-- `p = 503`, `q = 251`, `g = 4`, `x = 5`, digest `[9]`, nonce `k = 7`: the signature is `(37, 207)`. -/
theorem dsaSign_example : dsaSign 503 251 4 5 [9] [7] = .ok (37, 207) := by
  unfold dsaSign
  rw [bitLen_251, if_neg (by decide)]
  unfold signLoop
  rw [readK]
  simp [C23.modPow_eq, C23.os2ip]

end ZV.C03
