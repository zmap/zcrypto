import ZV.Model.C03
/-!
  For the signer-side theorems of `ZV.Props.C03`: `signingParamsForPublicKey` is checked against the verifier's scheme
  by `decide` over its (key label x details row) table, every key / algorithm outside the table being refused; the
  rows recorded at run time from the real creation APIs are checked against the model.
-/
namespace ZV.C03
open ZV ZV.Hash

/-- what `CheckSignatureFromKey` checks for algorithm `a` on a key of kind `kt`: (PSS?, hash id) -/
def verifyScheme (kt : String) (a : Nat) : Option (Bool × Nat) :=
  match algoHash a with
  | some (some h) => some ((kt == "rsa") && isPSS a, h)
  | _ => none

def keyFamily (kt : String) : String :=
  if kt == "rsa" then "RSA" else if kt == "ed25519" then "Ed25519" else "ECDSA"

def detailsFamily (a : Nat) : Option String := (Gen.C03.x509Details.find? (fun r => r.1 == a)).map (·.2.1)

/-- key algorithm of the arm of `signingParamsForPublicKey`'s type switch a key falls into -/
def labelFamily (pkg : SignPkg) (label : String) : Option String :=
  (pkg.defaults.find? (fun r => r.1 == label)).map (·.2.1)

/-- the `kt` argument of `verifyScheme` for a key algorithm -/
def ktOf (fam : String) : String := if fam == "RSA" then "rsa" else if fam == "Ed25519" then "ed25519" else "ecdsa"

/-- one (key label, requested algorithm) pair of a `signingParamsForPublicKey` copy: if it succeeds, the algorithm
    `readBack` recovers from what is written into the object is of the key's family and is verified with the scheme
    `opts` hands to the signer; an RSA key gets a hash the model implements -/
def signRowOk (pkg : SignPkg) (readBack : SignParams → Nat) (opts : Nat → Nat → Bool × Nat) (label : String) (req : Nat) :
    Bool :=
  match signingParams pkg label req with
  | .ok sp =>
    let a := readBack sp
    (match labelFamily pkg label with
     | some fam => detailsFamily a == some fam && verifyScheme (ktOf fam) a == some (opts req sp.hash) &&
         (fam != "RSA" || (sp.hash != 0 && (C23.hashAlg sp.hash).isSome))
     | none => false)
  | .err => true
  | .panic => false

/-- the table a copy of the function is checked over: every key label it knows × (default + every details row) -/
def signTableOk (pkg : SignPkg) (readBack : SignParams → Nat) (opts : Nat → Nat → Bool × Nat) : Bool :=
  pkg.defaults.all fun d => (0 :: pkg.details.map (·.1)).all fun r => signRowOk pkg readBack opts d.1 r

/-- both copies of `signingParamsForPublicKey` over their tables, evaluated together (they share the details tables) -/
theorem sign_tables_ok :
    signTableOk x509Pkg (fun sp => algoFromAI sp.oid sp.params) signerOpts = true ∧
    signTableOk ocspPkg (fun sp => algoFromOID sp.oid) (fun _ h => signerOptsOcsp h) = true := by
  decide +kernel

theorem signingParams_unknown_key {pkg : SignPkg} {label : String} (req : Nat)
    (h : ∀ d ∈ pkg.defaults, d.1 ≠ label) : signingParams pkg label req = .err := by
  unfold signingParams
  have : pkg.defaults.find? (fun r => r.1 == label) = none := by
    rw [List.find?_eq_none]
    intro d hd
    simpa using h d hd
  rw [this]

theorem signingParams_unknown_algo {pkg : SignPkg} (label : String) {req : Nat} (h0 : req ≠ 0)
    (h : ∀ d ∈ pkg.details, d.1 ≠ req) : signingParams pkg label req = .err := by
  unfold signingParams
  have : pkg.details.find? (fun r => r.1 == req) = none := by
    rw [List.find?_eq_none]
    intro d hd
    simpa using h d hd
  split
  · rfl
  · simp only [if_neg h0, this]

/-- outside the table every request is refused, so the table check covers all labels and algorithms -/
theorem signRowOk_all {pkg : SignPkg} {readBack : SignParams → Nat} {opts : Nat → Nat → Bool × Nat}
    (htab : signTableOk pkg readBack opts = true) (label : String) (req : Nat) :
    signRowOk pkg readBack opts label req = true := by
  by_cases hl : ∃ d ∈ pkg.defaults, d.1 = label
  · by_cases hr : req = 0 ∨ ∃ d ∈ pkg.details, d.1 = req
    · obtain ⟨d, hd, rfl⟩ := hl
      have h1 := List.all_eq_true.1 htab d hd
      refine List.all_eq_true.1 h1 req ?_
      rcases hr with rfl | ⟨e, he, rfl⟩
      · exact List.mem_cons_self
      · exact List.mem_cons_of_mem _ (List.mem_map_of_mem he)
    · have := signingParams_unknown_algo (pkg := pkg) label (req := req) (by intro h; exact hr (Or.inl h))
        (by intro d hd h; exact hr (Or.inr ⟨d, hd, h⟩))
      simp [signRowOk, this]
  · have := signingParams_unknown_key (pkg := pkg) (label := label) req
      (by intro d hd h; exact hl ⟨d, hd, h⟩)
    simp [signRowOk, this]

theorem signRowOk_ok {pkg : SignPkg} {readBack : SignParams → Nat} {opts : Nat → Nat → Bool × Nat}
    (htab : signTableOk pkg readBack opts = true) {label : String} {req : Nat} {sp : SignParams}
    (h : signingParams pkg label req = .ok sp) :
    ∃ fam, labelFamily pkg label = some fam ∧ detailsFamily (readBack sp) = some fam ∧
      verifyScheme (ktOf fam) (readBack sp) = some (opts req sp.hash) ∧
      (fam != "RSA" || (sp.hash != 0 && (C23.hashAlg sp.hash).isSome)) = true := by
  have hk := signRowOk_all htab label req
  unfold signRowOk at hk
  rw [h] at hk
  dsimp only at hk
  split at hk
  · next fam hf =>
    simp only [Bool.and_eq_true, beq_iff_eq] at hk
    exact ⟨fam, hf, hk.1.1, hk.1.2, hk.2⟩
  · contradiction

def labelOfKeyName (k : String) : String :=
  if k == "rsa" then "*rsa.PublicKey" else if k == "ecdsa-p256" then "*ecdsa.PublicKey:P256"
  else if k == "ecdsa-p384" then "*ecdsa.PublicKey:P384" else "ed25519.PublicKey"


/-- one recorded row (api, requested, key, written, pss, hash) of the real creation APIs against the model -/
def signRowMatches (r : String × Nat × String × Nat × Bool × Nat) : Bool :=
  if r.1 == "ocsp" then
    (match signingParams ocspPkg (labelOfKeyName r.2.2.1) r.2.1 with
     | .ok sp => algoFromOID sp.oid == r.2.2.2.1 && signerOptsOcsp sp.hash == (r.2.2.2.2.1, r.2.2.2.2.2)
     | _ => false)
  else
    (match signingParams x509Pkg (labelOfKeyName r.2.2.1) r.2.1 with
     | .ok sp => algoFromAI sp.oid sp.params == r.2.2.2.1 && signerOpts r.2.1 sp.hash == (r.2.2.2.2.1, r.2.2.2.2.2)
     | _ => false)

/-- one refused (api, requested, key) against the model -/
def refusedRowMatches (r : String × Nat × String) : Bool :=
  if r.1 == "crl" then r.2.1 != 0
  else if r.1 == "ocsp" then signingParams ocspPkg (labelOfKeyName r.2.2) r.2.1 == .err
  else signingParams x509Pkg (labelOfKeyName r.2.2) r.2.1 == .err

/-- the rows recorded from the real creation APIs, evaluated in one pass: accepted and refused rows are the model's;
    every accepted row is signed with the scheme the verifier checks for the identifier written, of the key's family;
    the accepted rows cover the default algorithm of every API and RSA-PSS where it is offered -/
theorem recorded_rows_ok :
    Gen.C03.signRows.all signRowMatches = true ∧ Gen.C03.refusedRows.all refusedRowMatches = true ∧
    (Gen.C03.signRows.all fun r =>
      verifyScheme r.2.2.1 r.2.2.2.1 == some (r.2.2.2.2.1, r.2.2.2.2.2) &&
      detailsFamily r.2.2.2.1 == some (keyFamily r.2.2.1)) = true ∧
    ((["cert", "csr", "rl"].all fun api => [13, 14, 15].all fun a =>
        Gen.C03.signRows.any fun r => r.1 == api && r.2.1 == a && r.2.2.1 == "rsa") &&
     (["cert", "csr", "crl", "rl", "ocsp"].all fun api =>
        Gen.C03.signRows.any fun r => r.1 == api && r.2.1 == 0)) = true := by
  decide +kernel

end ZV.C03
