/-! A system that takes steps from a list, abstractly: `step w s` is total, `run` executes a list of steps front to
    back (a schedule of thread ids, a sequence of operations).  What an invariant of the single step gives for runs
    (`Runs.inv`, `Runs.append`), and what a measure that every enabled step lowers gives for schedules and for round
    robin (`Measured`), is proved here once; a system enters by `⟨fun _ => rfl, fun _ _ _ => rfl⟩`. -/
namespace ZV.Sched

variable {σ ι : Type} {step : ι → σ → σ} {run : σ → List ι → σ}

structure Runs (step : ι → σ → σ) (run : σ → List ι → σ) : Prop where
  nil : ∀ s, run s [] = s
  cons : ∀ s w ws, run s (w :: ws) = run (step w s) ws

theorem Runs.inv (R : Runs step run) {P : σ → Prop} (h : ∀ w s, P s → P (step w s)) (ws : List ι) :
    ∀ s, P s → P (run s ws) := by
  induction ws with
  | nil =>
    intro s hs
    rw [R.nil]
    exact hs
  | cons w ws ih =>
    intro s hs
    rw [R.cons]
    exact ih _ (h w s hs)

theorem Runs.append (R : Runs step run) (a b : List ι) : ∀ s, run s (a ++ b) = run (run s a) b := by
  induction a with
  | nil =>
    intro s
    rw [R.nil]
    rfl
  | cons w a ih =>
    intro s
    rw [List.cons_append, R.cons, R.cons]
    exact ih _

structure Measured (step : ι → σ → σ) (en : ι → σ → Bool) (Inv : σ → Prop) (mu : σ → Nat) : Prop where
  inv : ∀ w s, Inv s → Inv (step w s)
  dec : ∀ w s, Inv s → en w s = true → mu (step w s) < mu s
  idle : ∀ w s, Inv s → en w s = false → step w s = s

variable {en : ι → σ → Bool} {Inv : σ → Prop} {mu : σ → Nat}

theorem Measured.run_mu (M : Measured step en Inv mu) (R : Runs step run) (ws : List ι) : ∀ s, Inv s →
    mu (run s ws) ≤ mu s ∧ ((∃ w ∈ ws, en w s = true) → mu (run s ws) < mu s) := by
  induction ws with
  | nil =>
    intro s _
    rw [R.nil]
    exact ⟨Nat.le_refl _, fun ⟨w, hw, _⟩ => nomatch hw⟩
  | cons w' ws ih =>
    intro s hs
    rw [R.cons]
    cases he : en w' s with
    | true =>
      have h := Nat.lt_of_le_of_lt (ih _ (M.inv w' s hs)).1 (M.dec w' s hs he)
      exact ⟨Nat.le_of_lt h, fun _ => h⟩
    | false =>
      rw [M.idle w' s hs he]
      refine ⟨(ih s hs).1, fun ⟨w, hw, hen⟩ => ?_⟩
      rcases List.mem_cons.mp hw with rfl | hw
      · rw [he] at hen
        cases hen
      · exact (ih s hs).2 ⟨w, hw, hen⟩

theorem Measured.length_le (M : Measured step en Inv mu) (R : Runs step run) {AE : σ → List ι → Prop}
    (hAE : ∀ s w ws, AE s (w :: ws) → en w s = true ∧ AE (step w s) ws) (ws : List ι) :
    ∀ s, Inv s → AE s ws → ws.length + mu (run s ws) ≤ mu s := by
  induction ws with
  | nil =>
    intro s _ _
    rw [R.nil, List.length_nil, Nat.zero_add]
    exact Nat.le_refl _
  | cons w ws ih =>
    intro s hs h
    have h1 := M.dec w s hs (hAE s w ws h).1
    have h2 := ih _ (M.inv w s hs) (hAE s w ws h).2
    rw [R.cons, List.length_cons, Nat.add_right_comm]
    exact Nat.lt_of_le_of_lt h2 h1

/-- Round robin: while the system has not finished one of `workers s` is enabled, so a round lowers the measure;
    once it has finished nobody is enabled and further rounds change nothing.  `mu s` rounds finish. -/
theorem Measured.roundRobin_finishes (M : Measured step en Inv mu) (R : Runs step run)
    {workers : σ → List ι} {fin : σ → Bool} {rr : σ → Nat → σ}
    (rr_zero : ∀ s, rr s 0 = s) (rr_succ : ∀ s n, rr s (n + 1) = rr (run s (workers s)) n)
    (live : ∀ s, Inv s → fin s = false → ∃ w ∈ workers s, en w s = true)
    (stop : ∀ s, Inv s → fin s = true → ∀ w, en w s = false) (n : Nat) :
    ∀ s, Inv s → (fin s = false → mu s ≤ n) → fin (rr s n) = true := by
  induction n with
  | zero =>
    intro s hs hm
    rw [rr_zero]
    cases hf : fin s with
    | true => rfl
    | false =>
      obtain ⟨w, _, he⟩ := live s hs hf
      exact absurd (Nat.lt_of_lt_of_le (M.dec w s hs he) (hm hf)) (Nat.not_lt_zero _)
  | succ n ih =>
    intro s hs hm
    rw [rr_succ]
    cases hf : fin s with
    | true =>
      have same : run s (workers s) = s :=
        R.inv (P := (· = s)) (fun w _ e => e ▸ M.idle w s hs (stop s hs hf w)) _ s rfl
      rw [same]
      exact ih s hs fun hf' => absurd hf (hf' ▸ Bool.false_ne_true)
    | false =>
      have hlt := (M.run_mu R (workers s) s hs).2 (live s hs hf)
      exact ih _ (R.inv M.inv _ s hs) fun _ => Nat.le_of_lt_succ (Nat.lt_of_lt_of_le hlt (hm hf))

end ZV.Sched
