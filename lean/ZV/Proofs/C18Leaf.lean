import ZV.Proofs.C18
/-! C18: the OBJECT IDENTIFIER and BIT STRING content round trips, the content round trip of every leaf kind with a fixed
    universal tag (`content_roundtrip`), and the field round trip of a RawValue. -/
namespace ZV.C18

theorem base128Digits_ne_nil (n : Nat) : base128Digits n ≠ [] := by
  unfold base128Digits; simp

theorem appendBase128_nonneg (a : Int) (h : 0 ≤ a) : appendBase128 a = base128Digits a.toNat := by
  unfold appendBase128; rw [if_neg (by omega)]

theorem parseArcs_enc (l : List Int) : ∀ fuel, (∀ a ∈ l, 0 ≤ a ∧ a ≤ 2147483647) →
    ((l.map appendBase128).flatten).length ≤ fuel →
    parseArcs fuel ((l.map appendBase128).flatten) = .ok l := by
  induction l with
  | nil => intro fuel _ _; cases fuel <;> simp [parseArcs]
  | cons a l ih =>
    intro fuel hr hf
    have ha := hr a (by simp)
    have hrest : ∀ x ∈ l, 0 ≤ x ∧ x ≤ 2147483647 := fun x hx => hr x (by simp [hx])
    simp only [List.map_cons, List.flatten_cons, List.length_append] at hf ⊢
    rw [appendBase128_nonneg a ha.1] at hf ⊢
    have hdec := base128_digits a.toNat (by omega) ((l.map appendBase128).flatten)
    cases hd : base128Digits a.toNat with
    | nil => exact absurd hd (base128Digits_ne_nil _)
    | cons b t =>
      rw [hd] at hf hdec
      simp only [List.length_cons] at hf
      cases fuel with
      | zero => omega
      | succ f =>
        simp only [List.cons_append] at hdec ⊢
        simp only [parseArcs, hdec]
        rw [ih f hrest (by omega)]
        simp only [Res.ok.injEq, List.cons.injEq, and_true]
        omega

theorem parseOID_makeOID (l : List Int) (h : oidOK l = true) :
    ∃ body, makeOID l = .ok body ∧ parseOID body = .ok (.oid l) := by
  match l, h with
  | a :: b :: rest, h =>
    simp only [oidOK, Bool.and_eq_true, Bool.or_eq_true, decide_eq_true_eq, List.all_eq_true] at h
    obtain ⟨⟨⟨⟨⟨h1, h2⟩, h3⟩, h4⟩, h5⟩, h6⟩ := h
    have hcond : ¬ (a > 2 ∨ (a < 2 ∧ b ≥ 40)) := by omega
    refine ⟨appendBase128 (a * 40 + b) ++ (rest.map appendBase128).flatten, by simp only [makeOID, if_neg hcond], ?_⟩
    have hnn : 0 ≤ a * 40 + b := by omega
    rw [appendBase128_nonneg _ hnn]
    have hdec := base128_digits (a * 40 + b).toNat (by omega) ((rest.map appendBase128).flatten)
    have harcs := parseArcs_enc rest ((rest.map appendBase128).flatten).length (fun x hx => h6 x hx) (Nat.le_refl _)
    cases hd : base128Digits (a * 40 + b).toNat with
    | nil => exact absurd hd (base128Digits_ne_nil _)
    | cons c t =>
      rw [hd] at hdec
      simp only [List.cons_append] at hdec ⊢
      simp only [parseOID, hdec, harcs]
      by_cases h80 : (a * 40 + b).toNat < 80
      · rw [if_pos h80]
        simp only [Res.ok.injEq, Val.oid.injEq, List.cons.injEq, and_true]
        omega
      · rw [if_neg h80]
        simp only [Res.ok.injEq, Val.oid.injEq, List.cons.injEq, and_true]
        omega

theorem parseBitString_makeBits (bs : Bytes) (n : Int) (h : bitsOK bs n = true) :
    parseBitString (makeBits bs n) = .ok (.bits bs n) := by
  simp only [bitsOK, Bool.and_eq_true, decide_eq_true_eq] at h
  obtain ⟨⟨h0, hlen⟩, hpad⟩ := h
  rw [makeBits, Int.tmod_eq_emod_of_nonneg h0]
  obtain ⟨pad, hp, hp7, hn⟩ : ∃ pad : Nat,
      ((8 - n % 8) % 8).toNat = pad ∧ pad ≤ 7 ∧ ((bs.length * 8 : Nat) : Int) - pad = n := ⟨_, rfl, by omega, by omega⟩
  rw [hp] at hpad ⊢
  rw [parseBitString, toNat_ofNat_lt (by omega)]
  cases hl : bs.getLast? with
  | none =>
    have hnil : bs = [] := by simpa using hl
    subst hnil
    have : pad = 0 := by simp at hn hlen; omega
    subst this
    rw [← hn]; rfl
  | some l =>
    rw [hl] at hpad
    have hne : bs.isEmpty = false := by
      cases bs with
      | nil => cases hl
      | cons _ _ => rfl
    rw [if_neg (by rw [hne]; simpa using ⟨by omega, of_decide_eq_true hpad⟩), hn]

/-- what the decoder returns for a present leaf: the value written, except `true` for a Flag and the empty slice for a nil
    `[]byte` -/
def readLeaf : Schema → Val → Val
  | .flag, _ => .bool true
  | .octets, .null => .bytes []
  | _, v => v

theorem content_roundtrip (s : Schema) (p : Params) (v : Val) (body : Bytes) (hok : leafOK s p v = true)
    (hb : makePrimBody s p v = .ok body) (hs : s ≠ .str) (u : Nat) (t : TL) (full : Bytes) :
    parsePrim false s u t body full = .ok (readLeaf s v) := by
  -- for a value that is not of the type Marshal fails; where the content is written out, `hb` names it
  cases s <;> cases v <;> first | cases hb | exact absurd rfl hs | skip
  case int64.int i =>
    simp only [leafOK, Bool.and_eq_true, decide_eq_true_eq] at hok
    simp only [parsePrim, parseInt64_encInt64 i hok.1 hok.2, resInt, readLeaf]
  case int32.int i =>
    simp only [leafOK, Bool.and_eq_true, decide_eq_true_eq] at hok
    simp only [parsePrim, parseInt32_encInt64 i hok.1 hok.2, resInt, readLeaf]
  case enum.int i =>
    simp only [leafOK, Bool.and_eq_true, decide_eq_true_eq] at hok
    simp only [parsePrim, parseInt32_encInt64 i hok.1 hok.2, resInt, readLeaf]
  case bigint.int i => simp only [parsePrim, parseBigInt_makeBigInt, resInt, readLeaf]
  case bool.bool b => cases b <;> rfl
  case oid.oid l =>
    obtain ⟨body', h1, h2⟩ := parseOID_makeOID l hok
    rw [makePrimBody, h1] at hb
    injection hb with hb
    rw [← hb]
    exact h2
  case bits.bits bs n => exact parseBitString_makeBits bs n hok
  all_goals rfl

theorem univ_plain (s : Schema) (hleaf : isLeaf s = true) (hr : isRaw s = false) (hs : s ≠ .str) :
    ∃ utag, univ s = some (false, utag, false) ∧ utag ≠ 19 ∧ utag ≤ 30 := by
  cases s <;> first | exact ⟨_, rfl, by decide, by decide⟩ | contradiction

theorem leaf_field_roundtrip (s : Schema) (p : Params) (v : Val) (enc rest : Bytes) (hg : Good p) (hleaf : isLeaf s = true)
    (hr : isRaw s = false) (hs : s ≠ .str) (hok : leafOK s p v = true) (homit : omitted s p v = false)
    (hm : primMake s p v = .ok enc) (hlen : enc.length < 2147483648) :
    primField false s p (enc ++ rest) = .ok (readLeaf s v, rest) := by
  obtain ⟨utag, hu, hne, ht⟩ := univ_plain s hleaf hr hs
  exact plain_field_roundtrip s p v _ utag enc rest hg hu hne ht homit hm hlen
    (fun body hb => content_roundtrip s p v body hok hb hs)

theorem bool_field_roundtrip (p : Params) (b : Bool) (enc rest : Bytes) (hg : Good p)
    (homit : omitted .bool p (.bool b) = false) (hm : primMake .bool p (.bool b) = .ok enc) (hlen : enc.length < 2147483648) :
    primField false .bool p (enc ++ rest) = .ok (.bool b, rest) :=
  leaf_field_roundtrip .bool p _ enc rest hg rfl rfl nofun rfl homit hm hlen

theorem octets_field_roundtrip (p : Params) (bs : Bytes) (enc rest : Bytes) (hg : Good p)
    (homit : omitted .octets p (.bytes bs) = false) (hm : primMake .octets p (.bytes bs) = .ok enc) (hlen : enc.length < 2147483648) :
    primField false .octets p (enc ++ rest) = .ok (.bytes bs, rest) :=
  leaf_field_roundtrip .octets p _ enc rest hg rfl rfl nofun rfl homit hm hlen

theorem octets_null_roundtrip (p : Params) (enc rest : Bytes) (hg : Good p)
    (homit : omitted .octets p .null = false) (hm : primMake .octets p .null = .ok enc)
    (hlen : enc.length < 2147483648) :
    primField false .octets p (enc ++ rest) = .ok (.bytes [], rest) :=
  leaf_field_roundtrip .octets p _ enc rest hg rfl rfl nofun rfl homit hm hlen

theorem int64_field_roundtrip (p : Params) (i : Int) (enc rest : Bytes) (hg : Good p)
    (h1 : -9223372036854775808 ≤ i) (h2 : i < 9223372036854775808)
    (homit : omitted .int64 p (.int i) = false) (hm : primMake .int64 p (.int i) = .ok enc) (hlen : enc.length < 2147483648) :
    primField false .int64 p (enc ++ rest) = .ok (.int i, rest) :=
  leaf_field_roundtrip .int64 p _ enc rest hg rfl rfl nofun (by simp [leafOK, h1, h2]) homit hm hlen

theorem int32_field_roundtrip (p : Params) (i : Int) (enc rest : Bytes) (hg : Good p)
    (h1 : -2147483648 ≤ i) (h2 : i ≤ 2147483647)
    (homit : omitted .int32 p (.int i) = false) (hm : primMake .int32 p (.int i) = .ok enc) (hlen : enc.length < 2147483648) :
    primField false .int32 p (enc ++ rest) = .ok (.int i, rest) :=
  leaf_field_roundtrip .int32 p _ enc rest hg rfl rfl nofun (by simp [leafOK, h1, h2]) homit hm hlen

theorem enum_field_roundtrip (p : Params) (i : Int) (enc rest : Bytes) (hg : Good p)
    (h1 : -2147483648 ≤ i) (h2 : i ≤ 2147483647)
    (homit : omitted .enum p (.int i) = false) (hm : primMake .enum p (.int i) = .ok enc) (hlen : enc.length < 2147483648) :
    primField false .enum p (enc ++ rest) = .ok (.int i, rest) :=
  leaf_field_roundtrip .enum p _ enc rest hg rfl rfl nofun (by simp [leafOK, h1, h2]) homit hm hlen

theorem bigint_field_roundtrip (p : Params) (i : Int) (enc rest : Bytes) (hg : Good p)
    (homit : omitted .bigint p (.int i) = false) (hm : primMake .bigint p (.int i) = .ok enc)
    (hlen : enc.length < 2147483648) :
    primField false .bigint p (enc ++ rest) = .ok (.int i, rest) :=
  leaf_field_roundtrip .bigint p _ enc rest hg rfl rfl nofun rfl homit hm hlen

theorem oid_field_roundtrip (p : Params) (l : List Int) (enc rest : Bytes) (hg : Good p) (hok : oidOK l = true)
    (homit : omitted .oid p (.oid l) = false) (hm : primMake .oid p (.oid l) = .ok enc)
    (hlen : enc.length < 2147483648) :
    primField false .oid p (enc ++ rest) = .ok (.oid l, rest) :=
  leaf_field_roundtrip .oid p _ enc rest hg rfl rfl nofun hok homit hm hlen

theorem bits_field_roundtrip (p : Params) (bs : Bytes) (n : Int) (enc rest : Bytes) (hg : Good p)
    (hok : bitsOK bs n = true)
    (homit : omitted .bits p (.bits bs n) = false) (hm : primMake .bits p (.bits bs n) = .ok enc)
    (hlen : enc.length < 2147483648) :
    primField false .bits p (enc ++ rest) = .ok (.bits bs n, rest) :=
  leaf_field_roundtrip .bits p _ enc rest hg rfl rfl nofun hok homit hm hlen

theorem flag_field_roundtrip (p : Params) (b : Bool) (enc rest : Bytes) (hg : Good p)
    (homit : omitted .flag p (.bool b) = false) (hm : primMake .flag p (.bool b) = .ok enc)
    (hlen : enc.length < 2147483648) :
    primField false .flag p (enc ++ rest) = .ok (.bool true, rest) :=
  -- the content written does not depend on `b`: it is that of `true`, the one Flag value of the domain
  plain_field_roundtrip .flag p (.bool b) _ 1 enc rest hg rfl (by omega) (by omega) homit hm hlen
    (fun body hb => content_roundtrip .flag p (.bool true) body rfl hb Schema.noConfusion)

theorem octets_null_same (p : Params) (h : omitted .octets p .null = false) :
    primMake .octets p (.bytes []) = primMake .octets p .null := by
  have h2 : omitted .octets p (.bytes []) = false := omitted_mono _ p _ _ h (fun _ _ => rfl) nofun (fun _ => nofun)
  simp only [primMake, h, h2, makePrimBody, marshalTag, univ, show ¬ (4 = 19) by omega, if_false]

theorem takeFull_append (a b : Bytes) : takeFull (a ++ b) b = a := take_sub_suffix a b

theorem raw_field_roundtrip (p : Params) (cls tag : Nat) (comp : Bool) (bs full enc rest : Bytes) (hg : Good p)
    (hpt : p.tag = none) (hok : rawOK cls tag comp bs full = true)
    (homit : omitted .raw p (.raw cls tag comp bs full) = false)
    (hm : makeField .raw p (.raw cls tag comp bs full) = .ok enc) (hlen : enc.length < 2147483648) :
    primField false .raw p (enc ++ rest) = .ok (.raw cls tag comp bs full, rest) := by
  obtain ⟨hc, ht, henc, hfull⟩ := makeField_raw_ok p cls tag comp bs full enc hok homit hm
  subst hfull
  have hne : p.explicit = false := by
    cases he : p.explicit with
    | false => rfl
    | true => exact absurd hpt (hg.explicitTag he)
  rw [henc, List.length_append] at hlen
  rw [henc, primField, append_isEmpty_false (appendTL_append_isEmpty _ _), parsePre, List.append_assoc,
    parseTL_appendTL false _ hc ht (by simp only; omega)]
  simp [explicitStage, hne, matchStage, univ, expected, hpt, parsePrim, ← List.append_assoc, takeFull_append]

end ZV.C18
