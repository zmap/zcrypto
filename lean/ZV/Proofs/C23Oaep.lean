import ZV.Model.C23
import ZV.Proofs.C23Pss
/-! EME-OAEP: the padding layer of `EncryptOAEP` / `decryptOAEP` as two functions, the guards around them, and what the
    unpadding accepts — for `ZV.Props.C23`. -/
namespace ZV.C23
open ZV ZV.Hash

/-- the encoded message `EncryptOAEP` hands to `encrypt`: `00 ‖ maskedSeed ‖ maskedDB`,
    `DB = lHash ‖ PS ‖ 01 ‖ M` (`k` = modulus size in octets) -/
def oaepPad (h : HashAlg) (k : Nat) (seed msg label : Bytes) : Bytes :=
  let db := h.hash label ++ List.replicate (k - 2 * h.outSize - 2 - msg.length) 0 ++ (1 :: msg)
  let db' := mgf1XOR h db seed
  let seed' := mgf1XOR h seed db'
  0 :: (seed' ++ db')

/-- what `decryptOAEP` does with the octets `decrypt` returns -/
def oaepUnpad (h mgf : HashAlg) (em label : Bytes) : Res Bytes :=
  match em with
  | [] => .panic
  | b0 :: body =>
    let seed := body.take h.outSize
    let db := body.drop h.outSize
    let seed' := mgf1XOR mgf seed db
    let db' := mgf1XOR mgf db seed'
    let lHash2 := db'.take h.outSize
    let rest := db'.drop h.outSize
    match rest.findIdx? (· == 1) with
    | none => .err
    | some idx =>
      if b0 = 0 ∧ h.hash label = lHash2 ∧ (rest.take idx).all (· == 0) then .ok (rest.drop (idx + 1))
      else .err

theorem encryptOAEP_eq (h : HashAlg) (pub : Pub) (rnd msg label : Bytes) :
    encryptOAEP h pub rnd msg label =
      match checkPub pub with
      | .err => .err
      | .panic => .panic
      | .ok (n, e) =>
        if (msg.length : Int) > (sizeBytes n : Int) - 2 * (h.outSize : Int) - 2 then .err
        else if rnd.length < h.outSize then .err
        else encrypt n e (oaepPad h (sizeBytes n) (rnd.take h.outSize) msg label) := by
  unfold encryptOAEP oaepPad
  rfl

theorem decryptOAEP_eq (h mgf : HashAlg) (k : Priv) (ct label : Bytes) :
    decryptOAEP h mgf k ct label =
      match checkPub k.pub with
      | .err => .err
      | .panic => .panic
      | .ok _ =>
        if ct.length > sizeBytes k.n ∨ sizeBytes k.n < h.outSize * 2 + 2 then .err
        else match decrypt k ct false with
          | .err => .err
          | .panic => .panic
          | .ok em => oaepUnpad h mgf em label := by
  unfold decryptOAEP oaepUnpad
  rfl

theorem encryptOAEP_ok_iff {h : HashAlg} {pub : Pub} {n e : Nat} {rnd msg label c : Bytes}
    (hc : checkPub pub = .ok (n, e)) :
    encryptOAEP h pub rnd msg label = .ok c ↔
      msg.length + 2 * h.outSize + 2 ≤ sizeBytes n ∧ h.outSize ≤ rnd.length ∧
        encrypt n e (oaepPad h (sizeBytes n) (rnd.take h.outSize) msg label) = .ok c := by
  rw [encryptOAEP_eq, hc]
  simp only [guard_ok_iff, Nat.not_lt]
  exact and_congr_left' (by omega)

theorem decryptOAEP_ok_iff {h mgf : HashAlg} {k : Priv} {ne : Nat × Nat} {ct label msg : Bytes}
    (hc : checkPub k.pub = .ok ne) :
    decryptOAEP h mgf k ct label = .ok msg ↔
      ct.length ≤ sizeBytes k.n ∧ 2 * h.outSize + 2 ≤ sizeBytes k.n ∧
        ∃ em, decrypt k ct false = .ok em ∧ oaepUnpad h mgf em label = .ok msg := by
  rw [decryptOAEP_eq, hc]
  simp only [guard_ok_iff, ← and_assoc]
  refine and_congr (by omega) ?_
  cases decrypt k ct false <;> simp

theorem oaepPad_length {h : HashAlg} (hk : HashOk h) (k : Nat) (seed msg label : Bytes)
    (hseed : seed.length = h.outSize) (hmsg : msg.length + 2 * h.outSize + 2 ≤ k) :
    (oaepPad h k seed msg label).length = k := by
  simp only [oaepPad, List.length_cons, List.length_append, mgf1XOR_length hk, hk.len, hseed, List.length_replicate]
  omega

theorem oaepUnpad_ok_inv {h : HashAlg} (hk : HashOk h) (k : Nat) {em label msg : Bytes}
    (hlen : em.length = k) (hk2 : 2 * h.outSize + 2 ≤ k) (hu : oaepUnpad h h em label = .ok msg) :
    ∃ seed, seed.length = h.outSize ∧ msg.length + 2 * h.outSize + 2 ≤ k ∧ em = oaepPad h k seed msg label := by
  cases em with
  | nil => contradiction
  | cons b0 body =>
    have hbl : h.outSize ≤ body.length := by rw [List.length_cons] at hlen; omega
    obtain ⟨seedM, dbM, hsl, rfl⟩ : ∃ s d, s.length = h.outSize ∧ body = s ++ d :=
      ⟨_, _, List.length_take_of_le hbl, (List.take_append_drop h.outSize body).symm⟩
    simp only [oaepUnpad, List.take_left' hsl, List.drop_left' hsl] at hu
    have hseedl : (mgf1XOR h seedM dbM).length = h.outSize := by rw [mgf1XOR_length hk, hsl]
    have hdbl := mgf1XOR_length hk dbM (mgf1XOR h seedM dbM)
    have hc1 := mgf1XOR_cancel hk seedM dbM
    have hc2 := mgf1XOR_cancel hk dbM (mgf1XOR h seedM dbM)
    generalize mgf1XOR h seedM dbM = seed at hu hseedl hdbl hc1 hc2
    generalize mgf1XOR h dbM seed = db at hu hdbl hc1 hc2
    cases hfi : (db.drop h.outSize).findIdx? (· == 1) with
    | none => rw [hfi] at hu; contradiction
    | some idx =>
      rw [hfi] at hu
      obtain ⟨⟨rfl, hlh, hz⟩, rfl⟩ := accept_eq_ok.1 hu
      obtain ⟨hlt, h1, _⟩ := List.findIdx?_eq_some_iff_getElem.1 hfi
      have hrest := eq_pssDB (l := db.drop h.outSize) (n := idx) (by simpa using hz)
        (by rw [List.getElem?_eq_getElem hlt]; simpa using h1)
      have hDB : db = h.hash label ++ pssDB idx ((db.drop h.outSize).drop (idx + 1)) := by
        rw [← hrest, hlh, List.take_append_drop]
      have hl := congrArg List.length hDB
      rw [List.length_append, pssDB_length, hk.len, hdbl] at hl
      simp only [List.length_cons, List.length_append, hsl] at hlen
      refine ⟨seed, hseedl, by omega, ?_⟩
      rw [oaepPad, show k - 2 * h.outSize - 2 - ((db.drop h.outSize).drop (idx + 1)).length = idx by omega,
        List.append_assoc, ← pssDB, ← hDB, hc2, hc1]

end ZV.C23
