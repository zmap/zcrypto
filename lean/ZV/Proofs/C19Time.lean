import ZV.Model.Time
import ZV.Proofs.Res
/-! When the two `encoding/asn1` time parsers succeed, for either value of the mode: which layout parsed, that the
    re-serialisation test passed, and what is returned. -/
namespace ZV.Time.EA
open ZV ZV.Time

theorem tail_ok {c : Bool} {a t : GoTime} : (if (!c) = true then Res.err else Res.ok a) = .ok t ↔ c = true ∧ t = a := by
  rw [guard_not_ok_iff, Res.ok.injEq, @eq_comm _ a]

theorem format_of_reserialises {layout : List Std} {t : GoTime} {s : Bytes} (h : reserialises false layout t s = true) :
    format layout t = s := by
  simpa [reserialises] using h

theorem parseGeneralizedTime_ok {perm : Bool} {s : Bytes} {t : GoTime} :
    parseGeneralizedTime perm s = .ok t ↔ parse layoutGen s = some t ∧ reserialises perm layoutGen t s = true := by
  unfold parseGeneralizedTime
  cases parse layoutGen s with
  | none => exact ⟨nofun, nofun⟩
  | some ret =>
    refine tail_ok.trans ⟨fun h => ?_, fun h => ?_⟩
    · rw [h.2]; exact ⟨rfl, h.1⟩
    · cases h.1; exact ⟨h.2, rfl⟩

/-- the window rule of UTCTime: years 50..99 of the layout's 20YY reading are moved back one century -/
def utcWindow (ret : GoTime) : GoTime := if ret.year ≥ 2050 then addYears ret (-100) else ret

/-- the tail of `parseUTCTime` after a successful `time.Parse` -/
theorem utcTail_ok {perm : Bool} {layout : List Std} {ret t : GoTime} {s : Bytes} :
    (if (!reserialises perm layout ret s) = true then Res.err
      else if ret.year ≥ 2050 then Res.ok (addYears ret (-100)) else Res.ok ret) = .ok t ↔
    reserialises perm layout ret s = true ∧ t = utcWindow ret := by
  rw [show (if ret.year ≥ 2050 then Res.ok (addYears ret (-100)) else Res.ok ret) = Res.ok (utcWindow ret) by
    unfold utcWindow; split <;> rfl]
  exact tail_ok

theorem parseUTCTime_ok {perm : Bool} {s : Bytes} {t : GoTime} :
    parseUTCTime perm s = .ok t ↔ ∃ layout ret,
      (layout = layoutUTCMin ∧ parse layoutUTCMin s = some ret ∨
        layout = layoutUTCSec ∧ parse layoutUTCMin s = none ∧ parse layoutUTCSec s = some ret) ∧
      reserialises perm layout ret s = true ∧ t = utcWindow ret := by
  unfold parseUTCTime
  cases hmin : parse layoutUTCMin s with
  | some r =>
    refine utcTail_ok.trans ⟨fun h => ⟨_, r, .inl ⟨rfl, rfl⟩, h⟩, ?_⟩
    rintro ⟨_, ret, ⟨rfl, hr⟩ | ⟨_, hn, _⟩, h⟩
    · cases hr; exact h
    · cases hn
  | none =>
    cases hsec : parse layoutUTCSec s with
    | some r =>
      refine utcTail_ok.trans ⟨fun h => ⟨_, r, .inr ⟨rfl, rfl, rfl⟩, h⟩, ?_⟩
      rintro ⟨_, ret, ⟨_, hr⟩ | ⟨rfl, _, hr⟩, h⟩
      · cases hr
      · cases hr; exact h
    | none =>
      refine ⟨nofun, ?_⟩
      rintro ⟨_, ret, ⟨_, hr⟩ | ⟨_, _, hr⟩, _⟩
      · cases hr
      · cases hr

end ZV.Time.EA
