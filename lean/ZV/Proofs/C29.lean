import ZV.Model.C29
import ZV.Proofs.Res
/-!
  C29: the `TlsHello` parser undoes the fingerprint encoder.  Every encoder but NullExtension writes
  `type ‖ u16 len ‖ extBody e` (`marshalExt_frame`); in the domain `extOk` the arm the parser selects for that type
  maps `extBody e` to `applyExt e` (`parseExt_extBody`), so the extension loop computes
  `parseExts (marshalExts es) m = some (applyExts m es)` (`parseExts_marshalExts`; `extsOk` threads the parser state,
  because the SNI arm looks at the name stored so far).
  Last, two facts about the model of what is sent (`wireHello`): `ticketLoop_plain` (the `Autopopulate` loop of the
  session-ticket extension) and `wtcExt_fixed` (`WriteToConfig`).
-/
namespace ZV.C29
open ZV.TlsHello

/-! The writers truncate (`uint8(x>>8), uint8(x)`), so what a reader returns is the value modulo the field width. -/

theorem readU8_u8 (n : Nat) (r : Bytes) : readU8 (u8 n ++ r) = some (n % 256, r) := by
  simp only [u8, readU8, List.cons_append, List.nil_append, UInt8.toNat_ofNat']

theorem readU16_u16 (n : Nat) (r : Bytes) : readU16 (u16 n ++ r) = some (n % 65536, r) := by
  simp only [u16, readU16, List.cons_append, List.nil_append, UInt8.toNat_ofNat']
  rw [show 65536 = 256 * 256 from rfl, Nat.mod_mul, Nat.mul_comm, Nat.add_comm]

-- In the next two the base-256 digits are generalised: what is left is a linear identity in the digits.
theorem readU24_u24 (n : Nat) (r : Bytes) : readU24 (u24 n ++ r) = some (n % 16777216, r) := by
  simp only [u24, readU24, List.cons_append, List.nil_append, UInt8.toNat_ofNat']
  rw [show 16777216 = 256 * (256 * 256) from rfl, Nat.mod_mul, Nat.mod_mul, Nat.div_div_eq_div_mul]
  generalize n / (256 * 256) % 256 = a
  generalize n / 256 % 256 = b
  generalize n % 256 = c
  simp +arith

theorem readU32_u32 (n : Nat) (r : Bytes) : readU32 (u32 n ++ r) = some (n % 4294967296, r) := by
  simp only [u32, readU32, List.cons_append, List.nil_append, UInt8.toNat_ofNat']
  rw [show 4294967296 = 256 * (256 * (256 * 256)) from rfl, Nat.mod_mul, Nat.mod_mul, Nat.mod_mul,
    Nat.div_div_eq_div_mul, Nat.div_div_eq_div_mul]
  generalize n / (256 * 256 * 256) % 256 = a
  generalize n / (256 * 256) % 256 = b
  generalize n / 256 % 256 = c
  generalize n % 256 = d
  simp +arith

theorem ofNat_mod_div (n k j : Nat) : UInt8.ofNat (n % (k * (256 * j)) / k) = UInt8.ofNat (n / k) := by
  apply UInt8.toNat_inj.mp
  rw [UInt8.toNat_ofNat', UInt8.toNat_ofNat', Nat.mod_mul_right_div_self, Nat.mod_mul_right_mod]

theorem u32_mod (n : Nat) : u32 (n % 4294967296) = u32 n := by
  simp only [u32]
  rw [ofNat_mod_div n 16777216 1, ofNat_mod_div n 65536 256, ofNat_mod_div n 256 65536]
  rw [← Nat.div_one (n % 4294967296), ofNat_mod_div n 1 16777216, Nat.div_one]

theorem u16_mod (n : Nat) : u16 (n % 65536) = u16 n := by
  simp only [u16]
  rw [ofNat_mod_div n 256 1, ← Nat.div_one (n % 65536), ofNat_mod_div n 1 256, Nat.div_one]

theorem readU16_w16 (x : UInt16) (r : Bytes) : readU16 (w16 x ++ r) = some (x.toNat, r) := by
  rw [w16, readU16_u16, Nat.mod_eq_of_lt x.toNat_lt]

theorem readBytes_append {n : Nat} (b r : Bytes) (h : b.length = n) : readBytes n (b ++ r) = some (b, r) := by
  subst h
  simp [readBytes]

theorem readU8LP_lp (b r : Bytes) (h : b.length < 256) : readU8LP (u8 b.length ++ (b ++ r)) = some (b, r) := by
  rw [readU8LP, readU8_u8, Nat.mod_eq_of_lt h]
  exact readBytes_append b r rfl

theorem readU16LP_lp (b r : Bytes) (h : b.length < 65536) : readU16LP (u16 b.length ++ (b ++ r)) = some (b, r) := by
  rw [readU16LP, readU16_u16, Nat.mod_eq_of_lt h]
  exact readBytes_append b r rfl

theorem readU24LP_lp (b r : Bytes) (h : b.length < 16777216) : readU24LP (u24 b.length ++ (b ++ r)) = some (b, r) := by
  rw [readU24LP, readU24_u24, Nat.mod_eq_of_lt h]
  exact readBytes_append b r rfl

@[simp] theorem u8_length (n : Nat) : (u8 n).length = 1 := rfl
@[simp] theorem u16_length (n : Nat) : (u16 n).length = 2 := rfl
@[simp] theorem u24_length (n : Nat) : (u24 n).length = 3 := rfl
@[simp] theorem u32_length (n : Nat) : (u32 n).length = 4 := rfl
@[simp] theorem w16_length (x : UInt16) : (w16 x).length = 2 := rfl

@[simp] theorem w16s_length (l : List UInt16) : (w16s l).length = 2 * l.length := by
  induction l with
  | nil => rfl
  | cons a t ih => simp only [w16s, List.map_cons, List.flatten_cons, List.length_append, w16_length, List.length_cons] at *; omega

theorem readU16s_w16s (l : List UInt16) : readU16s (w16s l) = some (l.map (·.toNat)) := by
  induction l with
  | nil => rfl
  | cons a t ih =>
    have ha := a.toNat_lt
    have : w16s (a :: t) = UInt8.ofNat (a.toNat / 256) :: UInt8.ofNat a.toNat :: w16s t := by
      simp [w16s, w16, u16]
    rw [this, readU16s, ih]
    simp; omega

theorem suiteBlock_eq (l : List UInt16) : suiteBlock l = u16 (w16s l).length ++ w16s l := by
  have h1 : l.length / 128 = 2 * l.length / 256 := by omega
  simp only [suiteBlock, u16, w16s_length, h1, Nat.mul_comm l.length 2]

def extType : Ext → Nat
  | .null => 0
  | .sni _ => extensionServerName
  | .alpn _ => extensionALPN
  | .reneg => extensionRenegotiationInfo
  | .ems => extensionExtendedMasterSecret
  | .status => extensionStatusRequest
  | .sct => extensionSCT
  | .curves _ => extensionSupportedCurves
  | .points _ => extensionSupportedPoints
  | .ticket _ => extensionSessionTicket
  | .sigalgs _ => extensionSignatureAlgorithms

/-- the extension_data each encoder writes (inner length bytes as the code computes them) -/
def extBody : Ext → Bytes
  | .null => []
  | .sni ds => u16 ((sniNames ds).length + 1) ++ ([0] ++ sniNames ds)
  | .alpn ps => u16 (alpnProtos ps).length ++ alpnProtos ps
  | .reneg => [0]
  | .ems => []
  | .status => [1, 0, 0, 0, 0]
  | .sct => []
  | .curves l => u16 (2 * l.length) ++ w16s l
  | .points l => u8 l.length ++ l
  | .ticket t => t
  | .sigalgs l => u16 (2 * l.length) ++ w16s l

theorem extType_lt (e : Ext) : extType e < 65536 := by
  cases e <;> simp only [extType] <;> decide

theorem marshalExt_frame (e : Ext) (h : e ≠ .null) :
    marshalExt e = u16 (extType e) ++ (u16 (extBody e).length ++ extBody e) := by
  cases e with
  | null => exact absurd rfl h
  | sni ds => simp [marshalExt, extType, extBody, extensionServerName, u16]
  | alpn ps => simp [marshalExt, extType, extBody]
  | reneg => decide
  | ems => decide
  | status => decide
  | sct => decide
  | points l =>
    simp only [marshalExt, extType, extBody, List.length_append, u8_length, List.append_assoc]
  | ticket t => simp only [marshalExt, extType, extBody, List.append_assoc]
  | curves l | sigalgs l =>
    simp only [marshalExt, extType, extBody, List.length_append, u16_length, w16s_length, List.append_assoc]

theorem parseExts_step {t : Nat} (ht : t < 65536) (body rest : Bytes) (hb : body.length < 65536) (m : ClientHello) :
    parseExts (u16 t ++ (u16 body.length ++ (body ++ rest))) m =
      match parseExt t body rest.isEmpty m with
      | none => none
      | some m' => parseExts rest m' := by
  have hr := readU16_u16 t (u16 body.length ++ (body ++ rest))
  rw [Nat.mod_eq_of_lt ht] at hr
  rw [parseExts]
  have hne : (u16 t ++ (u16 body.length ++ (body ++ rest))).isEmpty = false := rfl
  simp only [hne, Bool.false_eq_true, if_false]
  split
  · rename_i h1; rw [hr] at h1; cases h1
  · rename_i ext r1 h1
    rw [hr] at h1
    cases h1
    split
    · rename_i h2; rw [readU16LP_lp body rest hb] at h2; cases h2
    · rename_i extData r2 h2
      rw [readU16LP_lp body rest hb] at h2
      cases h2
      rfl

theorem parseExts_nil (m : ClientHello) : parseExts [] m = some m := by
  rw [parseExts]; rfl

/-- the effect on the parsed message that the configured extension is meant to have -/
def applyExt (e : Ext) (m : ClientHello) : ClientHello :=
  match e with
  | .null => m
  | .sni [name] => { m with serverName := name }
  | .sni _ => m
  | .alpn ps => { m with alpnProtocols := m.alpnProtocols ++ ps }
  | .reneg => { m with secureRenegotiation := [], secureRenegotiationSupported := true }
  | .ems => { m with extendedMasterSecret := true }
  | .status => { m with ocspStapling := true }
  | .sct => { m with scts := true }
  | .curves l => { m with supportedCurves := m.supportedCurves ++ l.map (·.toNat) }
  | .points l => { m with supportedPoints := l }
  | .ticket t => { m with ticketSupported := true, sessionTicket := t }
  | .sigalgs l => { m with sigAlgs := m.sigAlgs ++ l.map (·.toNat) }

/-- domain of `ext_parse_back`: contents the encoder frames correctly and the parser accepts.
    SNI: exactly one non-empty name without trailing dot, and no host name seen before (D13: with 0 or
    ≥ 2 names the encoder's output is not a server_name list). Lists non-empty (the parser rejects empty
    ones), ALPN protocols 1..255 bytes, every length within its length field. -/
def extOk (e : Ext) (m : ClientHello) : Bool :=
  match e with
  | .sni [name] => decide (name ≠ [] ∧ name.getLast? ≠ some 46 ∧ name.length < 65531 ∧ m.serverName = [])
  | .sni _ => false
  | .alpn ps => decide (ps ≠ [] ∧ (∀ p ∈ ps, p ≠ [] ∧ p.length < 256) ∧ (alpnProtos ps).length < 65534)
  | .curves l => decide (l ≠ [] ∧ l.length < 32767)
  | .points l => decide (l ≠ [] ∧ l.length < 256)
  | .ticket t => decide (t.length < 65536)
  | .sigalgs l => decide (l ≠ [] ∧ l.length < 32767)
  | _ => true

theorem extOk_sni {ds : List Bytes} {m : ClientHello} (h : extOk (.sni ds) m = true) :
    ∃ name, ds = [name] ∧ name ≠ [] ∧ name.getLast? ≠ some 46 ∧ name.length < 65531 ∧ m.serverName = [] :=
  match ds, h with
  | [name], h => ⟨name, rfl, of_decide_eq_true h⟩

theorem parseNameList_nil (cur : Bytes) : parseNameList [] cur = some cur := by
  rw [parseNameList]; rfl

theorem parseNameList_cons (t : UInt8) (name rest cur : Bytes) (hl : name.length < 65536) :
    parseNameList (t :: (u16 name.length ++ (name ++ rest))) cur =
      if name.isEmpty then none
      else if t.toNat != 0 then parseNameList rest cur
      else if !cur.isEmpty then none
      else if name.getLast? == some 46 then none
      else parseNameList rest name := by
  rw [parseNameList]
  simp only [List.isEmpty_cons, Bool.false_eq_true, if_false]
  split
  · rename_i h; simp [readU8] at h
  · rename_i nameType r1 hr
    simp only [readU8, Option.some.injEq, Prod.mk.injEq] at hr
    obtain ⟨hr1, hr2⟩ := hr
    subst hr1 hr2
    split
    · rename_i h; rw [readU16LP_lp name rest hl] at h; cases h
    · rename_i nm r2 h
      rw [readU16LP_lp name rest hl] at h
      cases h
      rfl

theorem parseProtoList_alpnProtos (ps : List Bytes) (h : ∀ p ∈ ps, p ≠ [] ∧ p.length < 256) :
    parseProtoList (alpnProtos ps) = some ps := by
  induction ps with
  | nil => rw [parseProtoList]; rfl
  | cons p t ih =>
    have hp := h p (List.mem_cons_self ..)
    have ht : ∀ q ∈ t, q ≠ [] ∧ q.length < 256 := fun q hq => h q (List.mem_cons_of_mem _ hq)
    have hcons : alpnProtos (p :: t) = u8 p.length ++ (p ++ alpnProtos t) := by
      simp [alpnProtos]
    rw [parseProtoList, hcons]
    have hne : (u8 p.length ++ (p ++ alpnProtos t)).isEmpty = false := by simp [u8]
    simp only [hne, Bool.false_eq_true, if_false]
    split
    · rename_i h1; rw [readU8LP_lp p _ hp.2] at h1; cases h1
    · rename_i proto r h1
      rw [readU8LP_lp p _ hp.2] at h1
      cases h1
      simp only [List.isEmpty_eq_false_iff.2 hp.1, Bool.false_eq_true, if_false, ih ht]

theorem arm_sni (name : Bytes) (m : ClientHello) (h1 : name ≠ []) (h2 : name.getLast? ≠ some 46)
    (h3 : name.length < 65531) (h4 : m.serverName = []) :
    armServerName (extBody (.sni [name])) m = some ({ m with serverName := name }, []) := by
  have hb : extBody (.sni [name]) =
      u16 ((0 : UInt8) :: (u16 name.length ++ (name ++ []))).length ++ (((0 : UInt8) :: (u16 name.length ++ (name ++ []))) ++ []) := by
    simp [extBody, sniNames]
  rw [hb, armServerName, readU16LP_lp _ _ (by simp; omega)]
  simp only [List.isEmpty_cons, Bool.false_eq_true, if_false, h4]
  rw [parseNameList_cons 0 name [] [] (by omega)]
  simp [h1, h2, parseNameList_nil]

theorem arm_alpn (ps : List Bytes) (m : ClientHello) (h1 : ps ≠ []) (h2 : ∀ p ∈ ps, p ≠ [] ∧ p.length < 256)
    (h3 : (alpnProtos ps).length < 65534) :
    armALPN (extBody (.alpn ps)) m = some ({ m with alpnProtocols := m.alpnProtocols ++ ps }, []) := by
  have hb : extBody (.alpn ps) = u16 (alpnProtos ps).length ++ (alpnProtos ps ++ []) := by simp [extBody]
  have hne : alpnProtos ps ≠ [] := by
    cases ps with
    | nil => exact absurd rfl h1
    | cons p t => simp [alpnProtos, u8]
  rw [hb, armALPN, readU16LP_lp _ _ (by omega)]
  simp only [List.isEmpty_eq_false_iff.2 hne, Bool.false_eq_true, if_false, parseProtoList_alpnProtos ps h2]

theorem w16s_ne_nil {l : List UInt16} (h : l ≠ []) : w16s l ≠ [] := by
  intro hc
  have := congrArg List.length hc
  simp at this
  exact h (List.eq_nil_of_length_eq_zero (by omega))

theorem arm_curves (l : List UInt16) (m : ClientHello) (h1 : l ≠ []) (h2 : l.length < 32767) :
    armSupportedCurves (extBody (.curves l)) m =
      some ({ m with supportedCurves := m.supportedCurves ++ l.map (·.toNat) }, []) := by
  have hb : extBody (.curves l) = u16 (w16s l).length ++ (w16s l ++ []) := by simp [extBody]
  rw [hb, armSupportedCurves, readU16LP_lp _ _ (by simp; omega)]
  simp only [List.isEmpty_eq_false_iff.2 (w16s_ne_nil h1), Bool.false_eq_true, if_false, readU16s_w16s]

theorem arm_sigalgs (l : List UInt16) (m : ClientHello) (h1 : l ≠ []) (h2 : l.length < 32767) :
    armSignatureAlgorithms (extBody (.sigalgs l)) m =
      some ({ m with sigAlgs := m.sigAlgs ++ l.map (·.toNat) }, []) := by
  have hb : extBody (.sigalgs l) = u16 (w16s l).length ++ (w16s l ++ []) := by simp [extBody]
  rw [hb, armSignatureAlgorithms, readU16LP_lp _ _ (by simp; omega)]
  simp only [List.isEmpty_eq_false_iff.2 (w16s_ne_nil h1), Bool.false_eq_true, if_false, readU16s_w16s]

theorem arm_points (l : Bytes) (m : ClientHello) (h1 : l ≠ []) (h2 : l.length < 256) :
    armSupportedPoints (extBody (.points l)) m = some ({ m with supportedPoints := l }, []) := by
  have hb : extBody (.points l) = u8 l.length ++ (l ++ []) := by simp [extBody]
  rw [hb, armSupportedPoints, readU8LP_lp _ _ h2]
  simp only [List.isEmpty_eq_false_iff.2 h1, Bool.false_eq_true, if_false]

theorem arm_ticket (t : Bytes) (m : ClientHello) :
    armSessionTicket (extBody (.ticket t)) m = some ({ m with ticketSupported := true, sessionTicket := t }, []) := by
  have := readBytes_append t [] rfl
  rw [List.append_nil] at this
  simp only [extBody, armSessionTicket, this]

theorem arm_reneg (m : ClientHello) :
    armRenegotiationInfo (extBody .reneg) m =
      some ({ m with secureRenegotiation := [], secureRenegotiationSupported := true }, []) := by
  simp [extBody, armRenegotiationInfo, readU8LP, readU8, readBytes]

theorem arm_status (m : ClientHello) :
    armStatusRequest (extBody .status) m = some ({ m with ocspStapling := true }, []) := by
  simp [extBody, armStatusRequest, readU16LP, readU16, readU8, readBytes, statusTypeOCSP]

-- the switch of `parseExt` compares the written type with these constants in turn
attribute [local simp] extensionServerName extensionStatusRequest extensionSupportedCurves extensionSupportedPoints
  extensionSessionTicket extensionSignatureAlgorithms extensionSignatureAlgorithmsCert extensionRenegotiationInfo
  extensionALPN extensionSCT extensionSupportedVersions extensionCookie extensionKeyShare extensionEarlyData
  extensionPSKModes extensionPreSharedKey extensionExtendedRandom extensionExtendedMasterSecret in
/-- `ext_parse_back`, all types at once -/
theorem parseExt_extBody (e : Ext) (m : ClientHello) (isLast : Bool) (hn : e ≠ .null) (h : extOk e m = true) :
    parseExt (extType e) (extBody e) isLast m = some (applyExt e m) := by
  cases e with
  | null => exact absurd rfl hn
  | sni ds =>
    obtain ⟨name, rfl, h1, h2, h3, h4⟩ := extOk_sni h
    simp [parseExt, extType, arm_sni name m h1 h2 h3 h4, finish, applyExt]
  | alpn ps =>
    have h := of_decide_eq_true h
    simp [parseExt, extType, arm_alpn ps m h.1 h.2.1 h.2.2, finish, applyExt]
  | reneg => simp [parseExt, extType, arm_reneg, finish, applyExt]
  | ems => simp [parseExt, extType, extBody, finish, applyExt]
  | status => simp [parseExt, extType, arm_status, finish, applyExt]
  | sct => simp [parseExt, extType, extBody, finish, applyExt]
  | curves l =>
    have h := of_decide_eq_true h
    simp [parseExt, extType, arm_curves l m h.1 h.2, finish, applyExt]
  | points l =>
    have h := of_decide_eq_true h
    simp [parseExt, extType, arm_points l m h.1 h.2, finish, applyExt]
  | ticket t => simp [parseExt, extType, arm_ticket, finish, applyExt]
  | sigalgs l =>
    have h := of_decide_eq_true h
    simp [parseExt, extType, arm_sigalgs l m h.1 h.2, finish, applyExt]

theorem extBody_length_lt (e : Ext) (m : ClientHello) (h : extOk e m = true) : (extBody e).length < 65536 := by
  cases e with
  | sni ds =>
    obtain ⟨name, rfl, _, _, h3, _⟩ := extOk_sni h
    simp [extBody, sniNames]
    omega
  | alpn ps => have := (of_decide_eq_true h).2.2; simp [extBody]; omega
  | curves l | sigalgs l => have := (of_decide_eq_true h).2; simp [extBody]; omega
  | points l => have := (of_decide_eq_true h).2; simp [extBody]; omega
  | ticket t => exact of_decide_eq_true h
  | _ => decide

theorem parseExts_marshalExt (e : Ext) (rest : Bytes) (m : ClientHello) (h : extOk e m = true) :
    parseExts (marshalExt e ++ rest) m = parseExts rest (applyExt e m) := by
  by_cases hn : e = .null
  · subst hn; simp [marshalExt, applyExt]
  · rw [marshalExt_frame e hn]
    simp only [List.append_assoc]
    rw [parseExts_step (extType_lt e) (extBody e) rest (extBody_length_lt e m h) m,
      parseExt_extBody e m rest.isEmpty hn h]

/-- the list of extensions is in the domain: each one is, in the state the parser has reached -/
def extsOk (m : ClientHello) : List Ext → Bool
  | [] => true
  | e :: es => extOk e m && extsOk (applyExt e m) es

def applyExts (m : ClientHello) (es : List Ext) : ClientHello := es.foldl (fun m e => applyExt e m) m

theorem parseExts_marshalExts (es : List Ext) (m : ClientHello) (h : extsOk m es = true) :
    parseExts (marshalExts es) m = some (applyExts m es) := by
  induction es generalizing m with
  | nil => simp [marshalExts, applyExts, parseExts_nil]
  | cons e t ih =>
    simp only [extsOk, Bool.and_eq_true] at h
    have : marshalExts (e :: t) = marshalExt e ++ marshalExts t := by simp [marshalExts]
    rw [this, parseExts_marshalExt e _ m h.1, ih _ h.2]
    simp [applyExts]


theorem applyExts_cons (e : Ext) (t : List Ext) (m : ClientHello) :
    applyExts m (e :: t) = applyExts (applyExt e m) t := rfl

theorem applyExts_append (a b : List Ext) (m : ClientHello) :
    applyExts m (a ++ b) = applyExts (applyExts m a) b :=
  List.foldl_append ..

theorem applyExts_induction {P : ClientHello → Prop} (es : List Ext) (m : ClientHello) (h0 : P m)
    (hstep : ∀ e ∈ es, ∀ m, P m → P (applyExt e m)) : P (applyExts m es) := by
  induction es generalizing m with
  | nil => exact h0
  | cons e t ih =>
    exact ih _ (hstep e (List.mem_cons_self ..) m h0) fun e' he' => hstep e' (List.mem_cons_of_mem _ he')

theorem applyExts_of_mem {P : ClientHello → Prop} {e : Ext} {es : List Ext} (m : ClientHello) (he : e ∈ es)
    (hset : ∀ m, P (applyExt e m)) (hkeep : ∀ e m, P m → P (applyExt e m)) : P (applyExts m es) := by
  obtain ⟨pre, post, rfl⟩ := List.append_of_mem he
  rw [applyExts_append, applyExts_cons]
  exact applyExts_induction post _ (hset _) fun e' _ => hkeep e'

theorem applyExt_sni (ds : List Bytes) (m : ClientHello) :
    applyExt (.sni ds) m = { m with serverName := (applyExt (.sni ds) m).serverName } :=
  match ds with
  | [] => rfl
  | [_] => rfl
  | _ :: _ :: _ => rfl

theorem applyExt_header (e : Ext) (m : ClientHello) :
    (applyExt e m).vers = m.vers ∧ (applyExt e m).random = m.random ∧ (applyExt e m).sessionId = m.sessionId ∧
    (applyExt e m).cipherSuites = m.cipherSuites ∧ (applyExt e m).compressionMethods = m.compressionMethods ∧
    (applyExt e m).supportedVersions = m.supportedVersions := by
  cases e with
  | sni ds => rw [applyExt_sni]; exact ⟨rfl, rfl, rfl, rfl, rfl, rfl⟩
  | _ => exact ⟨rfl, rfl, rfl, rfl, rfl, rfl⟩

theorem applyExts_header (es : List Ext) (m : ClientHello) :
    (applyExts m es).vers = m.vers ∧ (applyExts m es).random = m.random ∧ (applyExts m es).sessionId = m.sessionId ∧
    (applyExts m es).cipherSuites = m.cipherSuites ∧ (applyExts m es).compressionMethods = m.compressionMethods ∧
    (applyExts m es).supportedVersions = m.supportedVersions := by
  refine applyExts_induction (P := fun m' => m'.vers = m.vers ∧ m'.random = m.random ∧ m'.sessionId = m.sessionId ∧
    m'.cipherSuites = m.cipherSuites ∧ m'.compressionMethods = m.compressionMethods ∧
    m'.supportedVersions = m.supportedVersions) es m ⟨rfl, rfl, rfl, rfl, rfl, rfl⟩ fun e _ m' hp => ?_
  obtain ⟨h1, h2, h3, h4, h5, h6⟩ := applyExt_header e m'
  rw [h1, h2, h3, h4, h5, h6]
  exact hp

def curvesOf : Ext → List Nat
  | .curves l => l.map (·.toNat)
  | _ => []
def sigalgsOf : Ext → List Nat
  | .sigalgs l => l.map (·.toNat)
  | _ => []
def alpnOf : Ext → List Bytes
  | .alpn ps => ps
  | _ => []

theorem applyExt_lists (e : Ext) (m : ClientHello) :
    (applyExt e m).supportedCurves = m.supportedCurves ++ curvesOf e ∧
    (applyExt e m).sigAlgs = m.sigAlgs ++ sigalgsOf e ∧
    (applyExt e m).alpnProtocols = m.alpnProtocols ++ alpnOf e := by
  have nil {α} (l : List α) : l = l ++ [] := (List.append_nil l).symm
  cases e with
  | sni ds => rw [applyExt_sni]; exact ⟨nil _, nil _, nil _⟩
  | curves l => exact ⟨rfl, nil _, nil _⟩
  | sigalgs l => exact ⟨nil _, rfl, nil _⟩
  | alpn ps => exact ⟨nil _, nil _, rfl⟩
  | _ => exact ⟨nil _, nil _, nil _⟩

theorem applyExts_lists (es : List Ext) (m : ClientHello) :
    (applyExts m es).supportedCurves = m.supportedCurves ++ es.flatMap curvesOf ∧
    (applyExts m es).sigAlgs = m.sigAlgs ++ es.flatMap sigalgsOf ∧
    (applyExts m es).alpnProtocols = m.alpnProtocols ++ es.flatMap alpnOf := by
  induction es generalizing m with
  | nil => simp [applyExts]
  | cons e t ih =>
    obtain ⟨h1, h2, h3⟩ := applyExt_lists e m
    obtain ⟨i1, i2, i3⟩ := ih (applyExt e m)
    rw [applyExts_cons, i1, i2, i3, h1, h2, h3]
    simp only [List.flatMap_cons, List.append_assoc, and_self]

theorem applyExt_flags (e : Ext) (m : ClientHello) :
    (m.extendedMasterSecret = true → (applyExt e m).extendedMasterSecret = true) ∧
    (m.ocspStapling = true → (applyExt e m).ocspStapling = true) ∧
    (m.scts = true → (applyExt e m).scts = true) ∧
    (m.secureRenegotiationSupported = true → (applyExt e m).secureRenegotiationSupported = true) ∧
    (m.ticketSupported = true → (applyExt e m).ticketSupported = true) := by
  cases e with
  | sni ds => rw [applyExt_sni]; exact ⟨id, id, id, id, id⟩
  | _ => simp [applyExt]

theorem applyExts_flags (es : List Ext) (m : ClientHello) :
    (.ems ∈ es → (applyExts m es).extendedMasterSecret = true) ∧
    (.status ∈ es → (applyExts m es).ocspStapling = true) ∧
    (.sct ∈ es → (applyExts m es).scts = true) ∧
    (.reneg ∈ es → (applyExts m es).secureRenegotiationSupported = true) ∧
    (∀ t, .ticket t ∈ es → (applyExts m es).ticketSupported = true) :=
  ⟨fun h => applyExts_of_mem m h (fun _ => rfl) fun e m => (applyExt_flags e m).1,
   fun h => applyExts_of_mem m h (fun _ => rfl) fun e m => (applyExt_flags e m).2.1,
   fun h => applyExts_of_mem m h (fun _ => rfl) fun e m => (applyExt_flags e m).2.2.1,
   fun h => applyExts_of_mem m h (fun _ => rfl) fun e m => (applyExt_flags e m).2.2.2.1,
   fun _ h => applyExts_of_mem m h (fun _ => rfl) fun e m => (applyExt_flags e m).2.2.2.2⟩

/-- the first conjunct is what the induction needs: once a host name is stored, an in-domain list contains no further SNI
    extension (`extOk` wants the field empty) and nothing else touches the field -/
theorem applyExts_serverName (es : List Ext) (m : ClientHello) (hok : extsOk m es = true) :
    (m.serverName ≠ [] → (∀ ds, .sni ds ∉ es) ∧ (applyExts m es).serverName = m.serverName) ∧
    (∀ name, .sni [name] ∈ es → (applyExts m es).serverName = name) := by
  induction es generalizing m with
  | nil => exact ⟨fun _ => ⟨fun _ h => (nomatch h), rfl⟩, fun _ h => nomatch h⟩
  | cons e t ih =>
    simp only [extsOk, Bool.and_eq_true] at hok
    obtain ⟨ih1, ih2⟩ := ih (applyExt e m) hok.2
    rw [applyExts_cons]
    cases e with
    | sni ds =>
      obtain ⟨n, rfl, hn, _, _, h0⟩ := extOk_sni hok.1
      obtain ⟨hno, hsame⟩ := ih1 hn
      refine ⟨fun hne => absurd h0 hne, fun name hmem => ?_⟩
      rcases List.mem_cons.mp hmem with h | h
      · cases h; exact hsame
      · exact absurd h (hno _)
    | _ =>
      refine ⟨fun hne => ?_, fun name hmem => ih2 name ((List.mem_cons.mp hmem).resolve_left nofun)⟩
      obtain ⟨hno, hsame⟩ := ih1 hne
      exact ⟨fun ds hmem => (List.mem_cons.mp hmem).elim nofun (hno ds), hsame⟩

theorem applyExts_points_last (pre post : List Ext) (l : Bytes) (m : ClientHello) (h : ∀ l', .points l' ∉ post) :
    (applyExts m (pre ++ .points l :: post)).supportedPoints = l := by
  rw [applyExts_append, applyExts_cons]
  refine applyExts_induction (P := fun m => m.supportedPoints = l) post _ rfl fun e he m hp => ?_
  cases e with
  | points l' => exact absurd he (h l')
  | sni ds => rw [applyExt_sni]; exact hp
  | _ => exact hp

theorem applyExts_ticket_last (pre post : List Ext) (t : Bytes) (m : ClientHello) (h : ∀ t', .ticket t' ∉ post) :
    (applyExts m (pre ++ .ticket t :: post)).sessionTicket = t := by
  rw [applyExts_append, applyExts_cons]
  refine applyExts_induction (P := fun m => m.sessionTicket = t) post _ rfl fun e he m hp => ?_
  cases e with
  | ticket t' => exact absurd he (h t')
  | sni ds => rw [applyExt_sni]; exact hp
  | _ => exact hp

/-- the message body (after the 4-byte handshake header) that `marshal` assembles -/
def helloBody (cfg : Cfg) (random : Bytes) : Bytes :=
  w16 cfg.vers ++ (random ++ (u8 cfg.sessionId.length ++ (cfg.sessionId ++ (suiteBlock cfg.suites ++
    (u8 cfg.comp.length ++ (cfg.comp ++ extBlock cfg.exts))))))

theorem randomField_length {cfg : Cfg} {rand : Bytes} {time : Nat} {random : Bytes}
    (h : randomField cfg rand time = some random) : random.length = 32 := by
  by_cases h32 : cfg.random.length = 32
  · rw [randomField, if_pos h32] at h
    cases h
    exact h32
  · rw [randomField, if_neg h32] at h
    by_cases ht : cfg.insertTimestamp = true
    · rw [if_pos ht] at h
      obtain ⟨_, h⟩ := guard_some h
      cases h
      rw [List.length_append, u32_length, List.length_take]
      omega
    · rw [if_neg ht] at h
      obtain ⟨_, h⟩ := guard_some h
      cases h
      rw [List.length_take]
      omega

theorem hello_eq (cfg : Cfg) (random : Bytes) :
    [1, 0, 0, 0] ++ w16 cfg.vers ++ random ++ (u8 cfg.sessionId.length ++ cfg.sessionId) ++
      suiteBlock cfg.suites ++ (u8 cfg.comp.length ++ cfg.comp) ++ extBlock cfg.exts =
      1 :: 0 :: 0 :: 0 :: helloBody cfg random := by
  simp only [helloBody, List.append_assoc, List.cons_append, List.nil_append]

theorem marshal_some {cfg : Cfg} {force : Bool} {rand : Bytes} {time : Nat} {out : Bytes}
    (h : marshal cfg force rand time = some out) :
    ∃ random, randomField cfg rand time = some random ∧
      cfg.exts.all checkExt = true ∧
      (force = true ∨ cfg.suites.all (fun s => Gen.implementedSuites.contains s.toNat) = true) ∧
      cfg.sessionId.length < 256 ∧ cfg.comp = [0] ∧
      (helloBody cfg random).length < 16777216 ∧
      out = 1 :: (u24 (helloBody cfg random).length ++ helloBody cfg random) := by
  unfold marshal at h
  obtain ⟨hchk, h⟩ := guard_some h
  cases hr : randomField cfg rand time with
  | none => rw [hr] at h; cases h
  | some random =>
    rw [hr] at h
    obtain ⟨hsid, h⟩ := guard_some h
    obtain ⟨hsu, h⟩ := guard_some h
    obtain ⟨_, h⟩ := guard_some h
    rcases hc : cfg.comp with _ | ⟨c0, rest⟩
    · rw [hc] at h; cases h
    rw [hc] at h
    obtain ⟨hc0, h⟩ := guard_some h
    obtain ⟨hrest, h⟩ := guard_some h
    obtain ⟨hlen, h⟩ := guard_some h
    rw [← hc, hello_eq] at h hlen
    cases h
    have h0 : c0 = 0 := Classical.not_not.mp fun hne => hc0 (bne_iff_ne.mpr hne)
    have hnil : rest = [] := List.eq_nil_of_length_eq_zero (Nat.eq_zero_of_not_pos hrest)
    subst h0 hnil
    refine ⟨random, rfl, eq_true_of_ne_false fun hb => hchk (by rw [hb]; rfl), ?_, Nat.lt_of_not_le hsid, rfl,
      Nat.lt_of_not_le hlen, rfl⟩
    cases force
    · exact Or.inr (eq_true_of_ne_false fun hb => hsu (by rw [hb]; rfl))
    · exact Or.inl rfl

theorem marshal_of_guards (cfg : Cfg) (force : Bool) (rand : Bytes) (time : Nat) (random : Bytes)
    (hr : randomField cfg rand time = some random)
    (hchk : cfg.exts.all checkExt = true)
    (hsu : force = true ∨ cfg.suites.all (fun s => Gen.implementedSuites.contains s.toNat) = true)
    (hsid : cfg.sessionId.length < 256) (hcomp : cfg.comp = [0])
    (hlen : (helloBody cfg random).length < 16777216) :
    marshal cfg force rand time = some (1 :: (u24 (helloBody cfg random).length ++ helloBody cfg random)) := by
  have hbody := hello_eq cfg random
  have hsu' : (!force && !cfg.suites.all (fun s => Gen.implementedSuites.contains s.toNat)) = false := by
    rcases hsu with h | h
    · rw [h]; rfl
    · rw [h, Bool.not_true, Bool.and_false]
  rw [marshal, hchk, hr, hsu', hcomp]
  rw [hcomp] at hbody
  simp only [Bool.not_true, Bool.false_eq_true, if_false, Nat.not_le_of_lt hsid, hbody]
  -- the three guards on `[0]` are closed facts; `length - 4` and `drop 4` of `1 :: 0 :: 0 :: 0 :: body` compute
  rw [if_neg (by decide), if_neg (by decide), if_neg (by decide)]
  exact if_neg (Nat.not_le_of_lt hlen)

theorem ticketLoop_plain (session : Option Bytes) (force : Bool) (rsid : Nat) (exts : List WExt) (sid rand : Bytes)
    (h : ∀ w ∈ exts, w.auto = false) : ticketLoop session force rsid exts sid rand = some (exts, sid, rand) := by
  induction exts with
  | nil => simp [ticketLoop]
  | cons w rest ih =>
    have hw : w.auto = false := h w (by simp)
    have hr : ∀ w ∈ rest, w.auto = false := fun x hx => h x (by simp [hx])
    simp [ticketLoop, hw, ih hr]

/-- no built-in `WriteToConfig` touches what the fingerprint itself sets or clears -/
theorem wtcExt_fixed (e : Ext) (c : WCfg) :
    (wtcExt e c).cipherSuites = c.cipherSuites ∧ (wtcExt e c).maxVersion = c.maxVersion ∧
      (wtcExt e c).clientRandom = c.clientRandom ∧ (wtcExt e c).heartbeat = c.heartbeat ∧
      (wtcExt e c).extendedRandom = c.extendedRandom := by
  cases e <;> exact ⟨rfl, rfl, rfl, rfl, rfl⟩

end ZV.C29
