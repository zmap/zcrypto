import ZV.Proofs.C18Dom
/-! C18: the main induction over the schema (`roundtrip_both`): field level (`RT`) and field-list level (`RTF`). -/
namespace ZV.C18

/-- fields part of the induction: what is established for a field list -/
def RTF (s : Schema) (v : Val) (enc : Bytes) : Prop :=
  ∃ v', parseFields false s enc = .ok (v', []) ∧ VEq s {} v v' ∧ makeFields s v' = .ok enc ∧
    (Exact s {} v = true → v' = v) ∧ (v' = zeroVal s → v = zeroVal s)

theorem omitted_struct_of (fs : Schema) (p : Params) (v v' : Val) (h : omitted (.struct fs) p v = false)
    (hz : v' = zeroVal fs → v = zeroVal fs) : omitted (.struct fs) p v' = false :=
  omitted_mono _ p v v' h nofun nofun fun _ => hz

theorem All2_eq {α : Type} {R : α → α → Prop} : ∀ {l ys : List α}, All2 R l ys → (∀ x ∈ l, ∀ y, R x y → y = x) → ys = l
  | [], [], _, _ => rfl
  | x :: l, y :: ys, h, hr => by
    rw [hr x (by simp) y h.1, All2_eq h.2 (fun a ha b hab => hr a (by simp [ha]) b hab)]
  | [], _ :: _, h, _ => h.elim
  | _ :: _, [], h, _ => h.elim

/-- the two statements of the induction over the type: a field of type `s`, and a field list `s` -/
def FieldRT (s : Schema) : Prop :=
  ∀ p v enc rest, InDomain s p v = true → makeField s p v = .ok enc → enc.length < 2147483648 →
    (omitted s p v = true → Skips s p rest) → RT s p v enc rest

def FieldsRT (s : Schema) : Prop :=
  ∀ v enc, InDomain s {} v = true → makeFields s v = .ok enc → enc.length < 2147483648 → RTF s v enc

theorem leaf_rt (s : Schema) (hleaf : isLeaf s = true) : FieldRT s := by
  intro p v enc rest hd hm hl hsk
  rw [InDomain_leaf _ p v hleaf] at hd
  simp only [Bool.and_eq_true] at hd
  cases homit : omitted s p v with
  | true =>
    rw [homit] at hd
    exact absent_rt _ p v enc rest hm homit hd.2 (hsk homit)
  | false =>
    rw [homit] at hd
    exact leaf_present _ p v enc rest hleaf (goodB_good p hd.1) hd.2 homit hm hl

theorem struct_rt (fs : Schema) (ih : FieldsRT fs) : FieldRT (.struct fs) := by
  intro p v enc rest hd hm hl hsk
  simp only [InDomain, Bool.and_eq_true] at hd
  have hg := goodB_good p hd.1
  cases homit : omitted (.struct fs) p v with
  | true =>
    rw [homit] at hd
    exact absent_rt _ p v enc rest hm homit hd.2 (hsk homit)
  | false =>
    rw [homit] at hd
    obtain ⟨h1, h2, body, hb, henc⟩ := makeField_struct_ok fs p v enc homit hm
    subst henc
    have hbl : body.length < 2147483648 := by
      have := wrap_length_ge p (if p.set = true then 17 else 16) true body; omega
    obtain ⟨vs', hp, hveq, hmk, hex, hz⟩ := ih v body hd.2 hb hbl
    refine ⟨vs', ?_, by simpa only [VEq] using hveq, ?_, ?_, by simpa only [zeroVal] using hz⟩
    · rw [parseField_struct, fieldWith_go (parsePre_wrap false (.struct fs) p 16 _ true body rest rfl hg hl
        (by split_ifs <;> omega) (by intro _; cases hs : p.set <;> simp [substTag, hs]))]
      simp only [hp]
    · exact makeField_struct_mk fs p vs' body (omitted_struct_of fs p v vs' homit hz) h1 h2 hmk
    · intro he
      simp only [Exact, homit, Bool.false_or] at he
      exact hex he

theorem sorted_elems (f : Val → Res Bytes) (set : Bool) (xs : List Val) (encs : List Bytes)
    (h : All2 (fun x b => f x = .ok b) xs encs) :
    ∃ xs' encs', (if set = true then (sortEnc encs).flatten else encs.flatten) = encs'.flatten ∧
      (if set = true then (sortEnc encs').flatten else encs'.flatten) = encs'.flatten ∧
      xs'.Perm xs ∧ All2 (fun x b => f x = .ok b) xs' encs' ∧ (set = false → xs' = xs) := by
  cases set with
  | false => exact ⟨xs, encs, rfl, rfl, List.Perm.refl _, h, fun _ => rfl⟩
  | true =>
    obtain ⟨xs', hpx, hax⟩ := All2_perm (perm_sortEnc encs) xs h
    exact ⟨xs', _, rfl, congrArg List.flatten (sortEnc_sortEnc encs), hpx, hax, fun h => by cases h⟩

theorem seqOf_rt (sn : Bool) (e : Schema) (ih : FieldRT e) : FieldRT (.seqOf sn e) := by
  intro p v enc rest hd hm hl hsk
  simp only [InDomain, Bool.and_eq_true] at hd
  have hg := goodB_good p hd.1.1
  cases homit : omitted (.seqOf sn e) p v with
  | true =>
    rw [homit] at hd
    exact absent_rt _ p v enc rest hm homit hd.2 (hsk homit)
  | false =>
    rw [homit] at hd
    obtain ⟨⟨_, hue⟩, hall⟩ := hd
    obtain ⟨h1, h2, h3, encs, hb, henc⟩ := makeField_seqOf_ok sn e p v enc homit hm
    obtain ⟨xs', encs', hflat, hsort, hpx, hax, hid⟩ :=
      sorted_elems _ (p.set || sn) (elems v) encs (mapElems_ok _ v encs hb)
    rw [hflat] at henc
    subst henc
    have hbl : encs'.flatten.length < 2147483648 := by
      have := wrap_length_ge p (if (p.set || sn) = true then 17 else 16) true encs'.flatten; omega
    have hdom : ∀ x ∈ xs', InDomain e {} x = true := fun x hx =>
      allChain_mem _ v hall x (hpx.mem_iff.mp hx)
    have hshort : ∀ b ∈ encs', b.length < 2147483648 := by
      intro b hb'
      have : b.length ≤ encs'.flatten.length := by
        obtain ⟨l1, l2, rfl⟩ := List.append_of_mem hb'
        simp only [List.flatten_append, List.flatten_cons, List.length_append]; omega
      omega
    obtain ⟨⟨ma, etag, ecomp⟩, hu⟩ := Option.isSome_iff_exists.mp hue
    have hcount := countElems_flatten ma etag ecomp encs' encs'.flatten.length
      (fun b hb' =>
        let ⟨x, hx, hxb⟩ := All2_right hax b hb'
        elem_shape e x b ma etag ecomp (hdom x hx) hxb (hshort b hb') hu)
      (Nat.le_refl _) hbl
    -- an element is never left out, so the induction hypothesis decodes its encoding in front of anything
    obtain ⟨ys, hpe, hR1, hR2⟩ := parseElems_flatten (fun b => parseField false e {} b)
      (fun x b y => VEq e {} x y ∧ makeField e {} y = .ok b ∧ (Exact e {} x = true → y = x)) xs' encs'
      (All2_imp (fun x hx b hb' hxb rest' =>
        let ⟨y, hy1, hy2, hy3, hy4, _⟩ := ih {} x b rest' (hdom x hx) hxb (hshort b hb')
          (fun ho => by rw [omitted_false e {} x rfl rfl] at ho; cases ho)
        ⟨y, hy1, hy2, hy3, hy4⟩) hax)
    have hveq : All2 (fun a b => VEq e {} a b) xs' ys := All2_mono (fun a _ b ⟨_, h, _⟩ => h) hR1
    have hmk : All2 (fun y b => makeField e {} y = .ok b) ys encs' := All2_mono (fun a _ b ⟨_, _, h, _⟩ => h) hR2
    refine ⟨ofList ys, ?_, ?_, ?_, ?_, ?_⟩
    · rw [parseField_seqOf, fieldWith_go (parsePre_wrap false (.seqOf sn e) p (if sn = true then 17 else 16) _ true
        encs'.flatten rest rfl hg hl (by split_ifs <;> omega)
        (by intro _; cases hs : p.set <;> cases sn <;> simp [substTag, hs]))]
      simp only [hu, hcount, hpe]
    · simp only [VEq, elems_ofList]
      split_ifs with hset
      · exact ⟨xs', hpx, hveq⟩
      · rw [← hid (by simpa using hset)]; exact hveq
    · have hlen : (elems v).length = ys.length := by rw [← All2_length hR1]; exact hpx.length_eq.symm
      rw [makeField_seqOf_mk sn e p _ encs' (omitted_seq_ofList sn e p v ys _ encs homit hb hlen) h1 h2 h3
        (mapElems_ofList _ ys encs' hmk), hsort]
    · intro he
      simp only [Exact, homit, Bool.false_or, Bool.and_eq_true, Bool.not_eq_true'] at he
      obtain ⟨⟨hns, hproper⟩, hallex⟩ := he
      have hxs := hid hns
      subst hxs
      have hys : ys = elems v := All2_eq hR1 (fun x hx y ⟨_, _, _, h⟩ => h (allChain_mem _ v hallex x hx))
      rw [hys]; exact ofList_elems v hproper
    · intro hz; cases ys <;> simp [ofList, zeroVal] at hz

theorem fnil_rt : FieldsRT .fnil := by
  intro v enc hd hm hl
  simp only [InDomain, beq_iff_eq] at hd
  subst hd
  simp only [makeFields, Res.ok.injEq] at hm
  subst hm
  exact ⟨.vnil, rfl, rfl, rfl, fun _ => rfl, fun h => h⟩

theorem fcons_rt (p : Params) (s r : Schema) (ihs : FieldRT s) (ihr : FieldsRT r) : FieldsRT (.fcons p s r) := by
  intro v enc hd hm hl
  cases v <;> simp only [InDomain, Bool.false_eq_true, Bool.and_eq_true] at hd
  rename_i x xs
  obtain ⟨⟨hdx, hdxs⟩, hskip⟩ := hd
  obtain ⟨b, bs, h1, h2, rfl⟩ := makeFields_cons_ok p s r x xs enc hm
  simp only [List.length_append] at hl
  have hsk : omitted s p x = true → Skips s p bs := by
    intro ho
    rw [ho] at hskip
    simp only [Bool.not_true, Bool.false_or] at hskip
    have hf := fields_hdr r xs bs hdxs h2 (by omega)
    cases hfh : firstHdr r xs with
    | none => rw [hfh] at hf; exact Or.inl hf
    | some h =>
      rw [hfh] at hf hskip
      obtain ⟨t, r', hp, hh⟩ := hf
      refine Or.inr ⟨t, r', hp, ?_⟩
      rw [← hh] at hskip
      exact hskip
  obtain ⟨y, hy1, hy2, hy3, hy4, hy5⟩ := ihs p x b bs hdx h1 (by omega) hsk
  obtain ⟨ys, hys1, hys2, hys3, hys4, hys5⟩ := ihr xs bs hdxs h2 (by omega)
  refine ⟨.vcons y ys, ?_, ⟨hy2, hys2⟩, ?_, ?_, ?_⟩
  · simp only [parseFields, hy1, hys1]
  · simp only [makeFields, hy3, hys3]
  · intro he
    simp only [Exact, Bool.and_eq_true] at he
    rw [hy4 he.1, hys4 he.2]
  · intro hz
    simp only [zeroVal, Val.vcons.injEq] at hz ⊢
    exact ⟨hy5 hz.1, hys5 hz.2⟩

/-- a type that is not a field list is not marshalled as one, and conversely -/
theorem fieldsRT_of_type (s : Schema) (h : univ s ≠ none) : FieldsRT s := by
  intro v enc _ hm
  cases s <;> first | exact absurd rfl h | simp [makeFields] at hm

theorem fieldRT_of_list (s : Schema) (h : univ s = none) : FieldRT s := by
  intro p v enc _ _ hm
  exact absurd h (makeField_univ s p v enc hm)

theorem roundtrip_both (s : Schema) :
    (∀ p v enc rest, InDomain s p v = true → makeField s p v = .ok enc → enc.length < 2147483648 →
        (omitted s p v = true → Skips s p rest) → RT s p v enc rest) ∧
    (∀ v enc, InDomain s {} v = true → makeFields s v = .ok enc → enc.length < 2147483648 → RTF s v enc) := by
  induction s with
  | struct fs ih => exact ⟨struct_rt fs ih.2, fieldsRT_of_type _ (by simp [univ])⟩
  | seqOf sn e ih => exact ⟨seqOf_rt sn e ih.1, fieldsRT_of_type _ (by simp [univ])⟩
  | fnil => exact ⟨fieldRT_of_list _ rfl, fnil_rt⟩
  | fcons p s r ihs ihr => exact ⟨fieldRT_of_list _ rfl, fcons_rt p s r ihs.1 ihr.2⟩
  | _ => exact ⟨leaf_rt _ rfl, fieldsRT_of_type _ (by simp [univ])⟩

end ZV.C18
