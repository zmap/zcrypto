import ZV.Model.C11
import ZV.Proofs.C10
/-!
  The chain walk: `walk` enumerates the continuations `ValidExt` permits (`mem_walk_iff`), each once
  (`walk_nodup_gen`).  Every induction follows the cases of the program (`fun_induction walk`: root edge, no issuer,
  length limit, issuer not a node, one `layer` of parent groups).
-/
namespace ZV.C11
open ZV.C10

theorem skInChain_false {k : NodeKey} {l : List Cert} (h : skInChain k l = false) {c : Cert}
    (hc : c ∈ l) : c.sk ≠ k := fun he =>
  Bool.eq_false_iff.mp h (List.any_eq_true.mpr ⟨c, hc, beq_iff_eq.mpr he⟩)

/-- the chains `walk` finds through the parent edge with fingerprint `fp` -/
def via (g : Graph) (fuel : Nat) (soFar : List Cert) (fp : Nat) : List (List Cert) :=
  match findEdge g.edges fp with
  | none => []
  | some e => if canAddToChain e.cert e.root soFar then walk g fuel (soFar ++ [e.cert]) e else []

theorem mem_via {g : Graph} {fuel : Nat} {soFar : List Cert} {fp : Nat} {ch : List Cert} :
    ch ∈ via g fuel soFar fp ↔ ∃ e, findEdge g.edges fp = some e ∧ canAddToChain e.cert e.root soFar = true ∧
      ch ∈ walk g fuel (soFar ++ [e.cert]) e := by
  unfold via
  split
  · next h => exact iff_of_false List.not_mem_nil fun ⟨e, he, _⟩ => nomatch h.symm.trans he
  · next e h =>
    split
    · next hc =>
      exact ⟨fun hch => ⟨e, h, hc, hch⟩, fun ⟨e', he', _, hch⟩ => Option.some.inj (he'.symm.trans h) ▸ hch⟩
    · next hc =>
      exact iff_of_false List.not_mem_nil fun ⟨e', he', hc', _⟩ => hc (Option.some.inj (he'.symm.trans h) ▸ hc')

/-- one layer of the walk, as the program has it: the parent groups of the issuer node `n`, without those whose node
    is in the chain already.  It is what `fun_induction walk` leaves in the case of a step. -/
def layer (g : Graph) (fuel : Nat) (soFar : List Cert) (n : Node) : List (List Cert) :=
  n.parents.flatMap fun grp =>
    if hasNode g.nodes grp.1 && skInChain grp.1 soFar then [] else grp.2.flatMap (via g fuel soFar)

theorem mem_layer {g : Graph} {fuel : Nat} {soFar : List Cert} {n : Node} {ch : List Cert} :
    ch ∈ layer g fuel soFar n ↔ ∃ grp ∈ n.parents, (hasNode g.nodes grp.1 && skInChain grp.1 soFar) = false ∧
      ∃ fp ∈ grp.2, ch ∈ via g fuel soFar fp := by
  unfold layer
  rw [List.mem_flatMap]
  refine exists_congr fun grp => and_congr_right fun _ => ?_
  by_cases hc : (hasNode g.nodes grp.1 && skInChain grp.1 soFar) = true
  · rw [if_pos hc]
    exact iff_of_false List.not_mem_nil fun h => Bool.false_ne_true (h.1.symm.trans hc)
  · rw [if_neg hc, List.mem_flatMap]
    exact (and_iff_right (Bool.eq_false_iff.mpr hc)).symm

/-- `rest` is a permitted continuation of the chain `soFar` whose last edge is `last` -/
def ValidExt (g : Graph) : List Cert → Edge → List Edge → Prop
  | _, last, [] => last.root = true                                 -- ends at a root edge
  | soFar, last, e :: rest =>
      last.root = false ∧                                           -- stops at the FIRST root edge
      soFar.length < maxIntermediateCount ∧                         -- at most 9 certificates
      e ∈ g.edges ∧
      (∃ k, last.issuer = some k ∧ e.child = k) ∧                   -- follows the issuer edge
      (∃ k', e.issuer = some k' ∧ skInChain k' soFar = false) ∧     -- issuer (subject,key) not yet in the chain
      canAddToChain e.cert e.root soFar = true ∧                    -- CA / path-length rule
      ValidExt g (soFar ++ [e.cert]) e rest

theorem validExt_nil {g : Graph} {soFar : List Cert} {last : Edge} :
    ValidExt g soFar last [] ↔ last.root = true := by rw [ValidExt]

/-- In the step the adjacency maps are replaced by `g.edges` through `WF.parents` (this is where the iteration order
    disappears). -/
theorem mem_walk_iff {V : Ver} {g : Graph} (wf : WF V g) (fuel : Nat) (soFar : List Cert) (last : Edge) :
    ∀ (ch : List Cert), fuel + soFar.length = maxIntermediateCount →
      (ch ∈ walk g fuel soFar last ↔ ∃ rest, ValidExt g soFar last rest ∧ ch = soFar ++ rest.map (·.cert)) := by
  -- where the program stops without a root edge, no edge may follow `last`
  have hstop : ∀ {soFar last ch}, ¬ last.root = true →
      (∀ e rest, ValidExt g soFar last (e :: rest) → False) →
      (ch ∈ ([] : List (List Cert)) ↔ ∃ rest, ValidExt g soFar last rest ∧ ch = soFar ++ rest.map (·.cert)) := by
    intro soFar last ch hr hno
    refine iff_of_false List.not_mem_nil fun ⟨rest, hv, _⟩ => ?_
    cases rest with
    | nil => exact hr (validExt_nil.mp hv)
    | cons e rest => exact hno e rest hv
  fun_induction walk g fuel soFar last with
  | case1 fuel soFar last hr =>
    intro ch _
    rw [List.mem_singleton]
    constructor
    · exact fun h => ⟨[], validExt_nil.mpr hr, h.trans (List.append_nil _).symm⟩
    · rintro ⟨rest, hv, rfl⟩
      cases rest with
      | nil => exact List.append_nil _
      | cons e rest => rw [ValidExt, hr] at hv; cases hv.1
  | case2 fuel soFar last hr hi =>
    exact fun ch _ => hstop hr fun e rest hv => by
      obtain ⟨k, hk, _⟩ := hv.2.2.2.1
      cases hi.symm.trans hk
  | case3 soFar last hr cur hi =>
    exact fun ch hlen => hstop hr fun e rest hv => Nat.ne_of_lt hv.2.1 ((Nat.zero_add _).symm.trans hlen)
  | case4 soFar last hr cur hi fuel hn =>
    -- the head of an edge that follows `last` is a node, with key `cur`
    exact fun ch _ => hstop hr fun e rest hv => by
      obtain ⟨_, _, hemem, ⟨k, hk, hchild⟩, _⟩ := hv
      obtain ⟨_, n, hnmem, hnkey⟩ := wf.child e hemem
      cases hi.symm.trans hk
      rw [← hchild, ← hnkey, findNode_of_mem wf.nodesNodup hnmem] at hn
      cases hn
  | case5 soFar last hr cur hi fuel n hn ih =>
    intro ch hlen
    have hlen' : ∀ e : Edge, fuel + (soFar ++ [e.cert]).length = maxIntermediateCount := fun e => by
      rw [List.length_append, List.length_singleton, ← hlen]
      exact (Nat.succ_add_eq_add_succ fuel _).symm
    obtain ⟨hnmem, hnkey⟩ := findNode_some hn
    refine (mem_layer (fuel := fuel)).trans ⟨?_, ?_⟩
    · rintro ⟨grp, hgrp, hc, fp, hfp, h⟩
      obtain ⟨e, hfe, hcan, h⟩ := mem_via.mp h
      obtain ⟨hemem, hefp⟩ := findEdge_some hfe
      -- the fingerprint in the parent group is that of `e`, so `e` is the edge `WF.parents` speaks of
      obtain ⟨e', he'mem, he'fp, hchild, hiss⟩ := (wf.parents n hnmem grp.1 fp).mp ⟨grp.2, hgrp, hfp⟩
      cases edge_eq_of_fp wf.edgesNodup hemem he'mem (hefp.trans he'fp.symm)
      rw [hasNode_iff.mpr (wf.issuerSome e hemem grp.1 hiss).2.2, Bool.true_and] at hc
      obtain ⟨rest, hv, hch⟩ := (ih e ch (hlen' e)).mp h
      refine ⟨e :: rest, ?_, by rw [hch, List.append_assoc]; rfl⟩
      rw [ValidExt]
      exact ⟨Bool.eq_false_iff.mpr hr, hlen ▸ Nat.lt_add_of_pos_left (Nat.succ_pos fuel), hemem,
        ⟨cur, hi, hchild.trans hnkey⟩, ⟨grp.1, hiss, hc⟩, hcan, hv⟩
    · rintro ⟨rest, hv, rfl⟩
      cases rest with
      | nil => exact absurd (validExt_nil.mp hv) hr
      | cons e rest =>
        obtain ⟨_, _, hemem, ⟨k, hk, hchild⟩, ⟨k', hiss, hsk⟩, hcan, hv'⟩ := hv
        cases hi.symm.trans hk
        -- the head of `e` is the node `n`, the one `last` was issued by
        obtain ⟨l, hl, hfp⟩ := (wf.parents n hnmem k' e.cert.fp).mpr ⟨e, hemem, rfl, hchild.trans hnkey.symm, hiss⟩
        refine ⟨(k', l), hl, by rw [hsk, Bool.and_false], e.cert.fp, hfp,
          mem_via.mpr ⟨e, findEdge_of_mem wf.edgesNodup hemem, hcan, (ih e _ (hlen' e)).mpr ⟨rest, hv', ?_⟩⟩⟩
        rw [List.append_assoc]; rfl

theorem walk_prefix_len {g : Graph} (fuel : Nat) (soFar : List Cert) (last : Edge) : ∀ ch,
    ch ∈ walk g fuel soFar last → (∃ t, ch = soFar ++ t) ∧ ch.length ≤ soFar.length + fuel := by
  fun_induction walk g fuel soFar last with
  | case1 fuel soFar =>
    exact fun ch h => List.mem_singleton.mp h ▸ ⟨⟨[], (List.append_nil _).symm⟩, Nat.le_add_right _ _⟩
  | case2 => exact nofun
  | case3 => exact nofun
  | case4 => exact nofun
  | case5 soFar last _ cur _ fuel n _ ih =>
    intro ch h
    obtain ⟨_, _, _, fp, _, h⟩ := (mem_layer (fuel := fuel)).mp h
    obtain ⟨e, _, _, he⟩ := mem_via.mp h
    obtain ⟨⟨t, ht⟩, hlen⟩ := ih e ch he
    refine ⟨⟨e.cert :: t, by rw [ht, List.append_assoc]; rfl⟩, ?_⟩
    rw [List.length_append, List.length_singleton, Nat.add_assoc, Nat.add_comm 1] at hlen
    exact hlen

theorem walkChains_prefix {V : Ver} {g : Graph} {c : Cert} {ch : List Cert} (h : ch ∈ walkChains V g c) :
    (∃ t, ch = (startEdge V g c).cert :: t) ∧ ch.length ≤ maxIntermediateCount :=
  walk_prefix_len (maxIntermediateCount - 1) [(startEdge V g c).cert] _ ch h

theorem via_fp {g : Graph} {fuel : Nat} {soFar : List Cert} {fp : Nat} {ch : List Cert}
    (h : ch ∈ via g fuel soFar fp) : ∃ c t, c.fp = fp ∧ ch = soFar ++ c :: t := by
  obtain ⟨e, hfe, _, h⟩ := mem_via.mp h
  obtain ⟨⟨t, ht⟩, _⟩ := walk_prefix_len _ _ _ _ h
  exact ⟨e.cert, t, (findEdge_some hfe).2, by rw [ht, List.append_assoc]; rfl⟩

theorem via_disjoint {g : Graph} {fuel : Nat} {soFar : List Cert} {fp fp' : Nat} {ch : List Cert}
    (h : ch ∈ via g fuel soFar fp) (h' : ch ∈ via g fuel soFar fp') : fp = fp' := by
  obtain ⟨c, t, rfl, h1⟩ := via_fp h
  obtain ⟨c', t', rfl, h2⟩ := via_fp h'
  rw [(List.cons.inj (List.append_cancel_left (h1.symm.trans h2))).1]

theorem nodup_flatMap {α β κ : Type} {l : List α} {f : α → List β} {k : α → κ} (hl : (l.map k).Nodup)
    (hf : ∀ a ∈ l, (f a).Nodup) (hd : ∀ a ∈ l, ∀ b ∈ l, ∀ x ∈ f a, x ∈ f b → k a = k b) :
    (l.flatMap f).Nodup := by
  unfold List.Nodup at hl ⊢
  rw [List.pairwise_map] at hl
  exact List.pairwise_flatMap.mpr
    ⟨hf, hl.imp_of_mem fun ha hb hne x hx y hy hxy => hne (hd _ ha _ hb x hx (hxy ▸ hy))⟩

/-- the parent groups of a node have different keys, a group holds a fingerprint once (`AdjNodup`), and chains found
    through different parent edges differ (`via_disjoint`) -/
theorem walk_nodup_gen {V : Ver} {g : Graph} (wf : WF V g) (adj : AdjNodup g) (fuel : Nat) (soFar : List Cert)
    (last : Edge) : (walk g fuel soFar last).Nodup := by
  fun_induction walk g fuel soFar last with
  | case1 => exact List.nodup_cons.mpr ⟨List.not_mem_nil, .nil⟩
  | case2 => exact .nil
  | case3 => exact .nil
  | case4 => exact .nil
  | case5 soFar last _ cur _ fuel n hn ih =>
    show (layer g fuel soFar n).Nodup
    unfold layer
    have hnmem := (findNode_some hn).1
    have hvia : ∀ fp, (via g fuel soFar fp).Nodup := fun fp => by
      unfold via
      split
      · exact .nil
      · split
        · exact ih _
        · exact .nil
    refine nodup_flatMap (k := (·.1)) (adj.keys n hnmem) (fun grp hgrp => ?_) fun grp hgrp grp' hgrp' x hx hx' => ?_
    · split
      · exact .nil
      · exact nodup_flatMap (k := id) ((List.map_id _).symm ▸ adj.sets n hnmem grp hgrp)
          (fun fp _ => hvia fp) fun fp _ fp' _ x hx hx' => via_disjoint hx hx'
    · -- a chain found in two parent groups comes through one edge, whose issuer names its group
      split at hx
      · cases hx
      · split at hx'
        · cases hx'
        · obtain ⟨fp, hfp, hx⟩ := List.mem_flatMap.mp hx
          obtain ⟨fp', hfp', hx'⟩ := List.mem_flatMap.mp hx'
          cases via_disjoint hx hx'
          obtain ⟨e, hem, hefp, _, heiss⟩ := (wf.parents n hnmem grp.1 fp).mp ⟨grp.2, hgrp, hfp⟩
          obtain ⟨e', hem', hefp', _, heiss'⟩ := (wf.parents n hnmem grp'.1 fp).mp ⟨grp'.2, hgrp', hfp'⟩
          cases edge_eq_of_fp wf.edgesNodup hem hem' (hefp.trans hefp'.symm)
          exact Option.some.inj (heiss.symm.trans heiss')

/-! ### a concrete well-formed graph (for the `example`s of `ZV.Props.C11`)

  root `exR` (self-signed, added with `AddRoot`), intermediate `exI` issued by the root,
  leaf `exL` issued by the intermediate and NOT added to the graph. -/

def exR : Cert := { fp := 1, subj := 1, key := 1, iss := 1, isCA := true, bcValid := true }
def exI : Cert := { fp := 2, subj := 2, key := 2, iss := 1, isCA := true, bcValid := true }
def exL : Cert := { fp := 3, subj := 3, key := 3, iss := 2 }
def exV : Ver := fun k fp => (k == (1, 1) && (fp == 1 || fp == 2)) || (k == (2, 2) && fp == 3)
def exER : Edge := { cert := exR, issuer := some (1, 1), child := (1, 1), root := true }
def exEI : Edge := { cert := exI, issuer := some (1, 1), child := (2, 2), root := false }
def exN1 : Node :=
  { key := (1, 1), children := [((1, 1), [1]), ((2, 2), [2])], parents := [((1, 1), [1])] }
def exN2 : Node := { key := (2, 2), children := [], parents := [((1, 1), [2])] }
def exG : Graph := { nodes := [exN1, exN2], edges := [exER, exEI], missing := [] }
/-- the same graph with the node list in the other order -/
def exG' : Graph := { nodes := [exN2, exN1], edges := [exER, exEI], missing := [] }

theorem exG_reachable : run exV Graph.empty [.root exR, .add exI] = .ok exG := by decide

theorem exG_wf : WF exV exG := (inv_of_run exG_reachable).wf

theorem exG'_wf : WF exV exG' := exG_wf.perm_nodes (.swap _ _ _) rfl rfl

theorem exG_adj : AdjNodup exG := (inv_of_run exG_reachable).adjNodup

/-! a graph in which one (subject, key) pair carries a self-issued non-root certificate `exA1`
    and a cross-certificate `exA2` issued by the root; `exM` is a leaf issued by that key -/
def exA1 : Cert := { fp := 4, subj := 5, key := 5, iss := 5, isCA := true, bcValid := true }
def exA2 : Cert := { fp := 5, subj := 5, key := 5, iss := 1, isCA := true, bcValid := true }
def exM : Cert := { fp := 6, subj := 6, key := 6, iss := 5 }
def exV2 : Ver := fun k fp =>
  (k == (1, 1) && (fp == 1 || fp == 5)) || (k == (5, 5) && (fp == 4 || fp == 6))
def exG2 : Graph :=
  { nodes := [{ key := (1, 1), children := [((1, 1), [1]), ((5, 5), [5])], parents := [((1, 1), [1])] },
              { key := (5, 5), children := [((5, 5), [4])], parents := [((5, 5), [4]), ((1, 1), [5])] }],
    edges := [exER,
              { cert := exA1, issuer := some (5, 5), child := (5, 5), root := false },
              { cert := exA2, issuer := some (1, 1), child := (5, 5), root := false }],
    missing := [] }
theorem exG2_reachable : run exV2 Graph.empty [.root exR, .add exA1, .add exA2] = .ok exG2 := by
  decide

end ZV.C11
