import ZV.Proofs.C06Enc
/-! C06: inversion of the structural parser — every accepted certificate of canonical shape (`Cert.shapeOK`) is
    in the image of the canonical encoder, with well-formed arguments. -/
namespace ZV.C06
open ZV ZV.Der

theorem readElemsFuel_trunc : ∀ (f : Nat) (bs : Bytes) (es : List Elem), readElemsFuel f bs = .ok es →
    ∀ e ∈ es, readElem e.full = .ok (e, []) := by
  intro f
  induction f with
  | zero =>
    intro bs es h
    simp only [readElemsFuel] at h
    split at h
    · injection h with h; subst h; intro e he; cases he
    · cases h
  | succ f ih =>
    intro bs es h
    simp only [readElemsFuel] at h
    split at h
    · injection h with h; subst h; intro e he; cases he
    · split at h
      · rename_i e0 rest heq
        split at h
        · rename_i es' heq2
          injection h with h; subst h
          intro e he
          rcases List.mem_cons.mp he with he | he
          · subst he; exact readElem_trunc _ _ _ heq
          · exact ih _ _ heq2 e he
        · cases h
        · cases h
      · cases h
      · cases h

theorem parseExt_full {e : Elem} {x : Ext} (h : parseExt e = .ok x) : x.full = e.full := by
  unfold parseExt at h
  repeat' split at h
  all_goals (cases h <;> rfl)

theorem parseExtList_inv : ∀ (es : List Elem) (xs : List Ext), parseExtList es = .ok xs →
    ∀ x ∈ xs, ∃ e ∈ es, parseExt e = .ok x := by
  intro es
  induction es with
  | nil =>
    intro xs h
    simp only [parseExtList, Res.ok.injEq] at h
    subst h; intro x hx; cases hx
  | cons e es ih =>
    intro xs h
    simp only [parseExtList] at h
    split at h
    · rename_i x0 heq
      split at h
      · rename_i xs' heq2
        injection h with h; subst h
        intro x hx
        rcases List.mem_cons.mp hx with hx | hx
        · subst hx; exact ⟨e, List.mem_cons_self, heq⟩
        · obtain ⟨e', he', hp⟩ := ih _ heq2 x hx
          exact ⟨e', List.mem_cons_of_mem _ he', hp⟩
      · cases h
      · cases h
    · cases h
    · cases h

theorem parseExts_wf {bs : Bytes} {xs : List Ext} (h : parseExts bs = .ok xs) : ∀ x ∈ xs, wfExt x = true := by
  unfold parseExts at h
  split at h
  · rename_i es heq
    split at h
    · rename_i hall
      intro x hx
      obtain ⟨e, he, hp⟩ := parseExtList_inv _ _ h x hx
      have ht := readElemsFuel_trunc _ _ _ heq e he
      rw [List.all_eq_true] at hall
      have hf := parseExt_full hp
      exact wfExt_intro (e := e) (by rw [hf]; exact ht) (hall e he) hp
    · cases h
  · cases h
  · cases h

theorem ident_univ16 (t : UInt8) (n : Nat) (h : (Want.univ 16 true).ok (hdrOf t n) = true) : t = 0x30 := by
  simp only [Want.ok, hdrOf, Bool.and_eq_true, beq_iff_eq, decide_eq_true_eq] at h
  have := t.toNat_lt
  exact UInt8.toNat_inj.mp (show t.toNat = 48 by omega)

theorem ident_ctx0 (t : UInt8) (n : Nat) (h : (Want.ctx 0 true).ok (hdrOf t n) = true) : t = 0xA0 := by
  simp only [Want.ok, hdrOf, Bool.and_eq_true, beq_iff_eq, decide_eq_true_eq] at h
  have := t.toNat_lt
  exact UInt8.toNat_inj.mp (show t.toNat = 160 by omega)

theorem canon_of_isElem {w : Want} {bs : Bytes} (h : isElem w bs = true) (hlow : ∀ hd, w.ok hd = true → hd.tag < 31) :
    ∃ t : UInt8, t.toNat % 32 ≠ 31 ∧ w.ok (hdrOf t (elemAt bs).body.length) = true ∧
      bs = writeTLV t (elemAt bs).body ∧ (elemAt bs).body.length < 2147483648 := by
  obtain ⟨hr, hw⟩ := isElem_spec h
  obtain ⟨t, ht, hh, hf, hl⟩ := readElem_canonical _ _ _ hr (hlow _ hw)
  refine ⟨t, ht, by rw [← hh]; exact hw, ?_, hl⟩
  rw [← hf]; exact (isElem_full h).symm

theorem univ16_low (hd : Hdr) (h : (Want.univ 16 true).ok hd = true) : hd.tag < 31 := by
  simp only [Want.ok, Bool.and_eq_true, beq_iff_eq] at h; omega

theorem ctx0_low (hd : Hdr) (h : (Want.ctx 0 true).ok hd = true) : hd.tag < 31 := by
  simp only [Want.ok, Bool.and_eq_true, beq_iff_eq] at h; omega

theorem seq_canonical {bs : Bytes} (h : isElem (.univ 16 true) bs = true) :
    bs = writeTLV 0x30 (elemAt bs).body ∧ (elemAt bs).body.length < 2147483648 := by
  obtain ⟨t, _, hw, hb, hl⟩ := canon_of_isElem h univ16_low
  rw [ident_univ16 t _ hw] at hb
  exact ⟨hb, hl⟩

/-- the version wrapper: consistent length ⇒ it is `A0 len inner` -/
theorem version_canonical {verRaw pre v : Bytes} {hd : Hdr} (hv : verRaw = pre ++ v)
    (hp : readHdr pre = .ok (hd, [])) (hs : isElem (.ctx 0 true) verRaw = true) :
    verRaw = writeTLV 0xA0 v ∧ v.length < 2147483648 := by
  obtain ⟨t, ht, hw, hb, hl⟩ := canon_of_isElem hs ctx0_low
  rw [ident_ctx0 t _ hw] at hb
  obtain ⟨B, hB⟩ : ∃ B, B = (elemAt verRaw).body := ⟨_, rfl⟩
  rw [← hB] at hb hl
  have h1 := readHdr_writeTLV 0xA0 B [] (by decide) hl
  rw [List.append_nil, ← hb] at h1
  have h2 := readHdr_append _ _ _ v hp
  rw [List.nil_append, ← hv, h1] at h2
  simp only [Res.ok.injEq, Prod.mk.injEq, List.append_nil] at h2
  rw [← h2.2]
  exact ⟨hb, hl⟩

theorem accepted_is_encoded {bs : Bytes} {c : Cert} (h : parseCert bs = .ok c) (hs : c.shapeOK = true) :
    ∃ f : TbsFields, wfCert f c.tbs.exts c.sigalg.full c.sigval.full = true ∧
      bs = encCert (encTbs f c.tbs.exts) c.sigalg.full c.sigval.full ∧
      c.tbs.pre = encTbsPre f ∧
      f.serial = c.tbs.serial.full ∧ f.sigalg = c.tbs.sigalg.full ∧ f.issuer = c.tbs.issuer.full ∧
      f.validity = c.tbs.validity.full ∧ f.subject = c.tbs.subject.full ∧ f.spki = c.tbs.spki.full := by
  obtain ⟨hc, r1, r2, r3, bv, htbsE, htbs, hsa, hsv, hbv⟩ := parseCert_inv h
  obtain ⟨ce, tbsE, tbs, sa, sv⟩ := c
  simp only at hc htbsE htbs hsa hsv hbv
  obtain ⟨c1, ci, ca⟩ := someElem_inv hc
  obtain ⟨t1, ti, ta⟩ := someElem_inv htbsE
  obtain ⟨_, sai, saa⟩ := someElem_inv hsa
  obtain ⟨_, svi, sva⟩ := someElem_inv hsv
  simp only [Cert.shapeOK, Bool.and_eq_true, Bool.or_eq_true] at hs
  -- the fields go into `f` as the bytes that were read (`parseTbsPre_fields`) and the two SEQUENCE headers are canonical
  -- because the reader is strict (`seq_canonical`); `shapeOK` supplies what the reader does not enforce: nothing after the
  -- signature (`S1`), the `[3]` field as `encExtsField` writes it (`S2`), a `[0]` wrapper that is one element (`S3`)
  obtain ⟨⟨S1, S2⟩, S3⟩ := hs
  have S1 := eq_of_beq S1
  obtain ⟨w, S2⟩ : ∃ w, tbsE.body = tbs.pre ++ encExtsField w tbs.exts :=
    S2.elim (fun h => ⟨false, eq_of_beq h⟩) (fun h => ⟨true, eq_of_beq h⟩)
  obtain ⟨p, r8, x, _, xs, hp, _, hxs, rfl⟩ := parseTbs_inv htbs
  simp only at S2 S3 ⊢
  obtain ⟨vo, iu, su, wv, hvr, i1, hck, i2, i3, i4, i5, i6, wiu, wsu, hbody⟩ := parseTbsPre_fields hp
  have hxwf : ∀ y ∈ xs, wfExt y = true := by
    cases x with
    | none => cases hxs; exact fun _ hy => nomatch hy
    | some xe => exact parseExts_wf hxs
  let f : TbsFields := ⟨vo, p.serial.full, p.sigalg.full, p.issuer.full, p.validity.full, p.subject.full,
    p.spki.full, iu, su, w⟩
  have hwf : wfFields f = true :=
    (wfFields_iff f).mpr ⟨wv, i1, hck, i2, i3, i4, i5, i6, wiu, wsu⟩
  have hver : encVersion vo = p.verRaw := by
    cases vo with
    | none => simp only at hvr; rw [hvr]; rfl
    | some v =>
      simp only at hvr
      obtain ⟨pre, hd, hv1, hv2⟩ := hvr
      have hne : p.verRaw.isEmpty = false := by
        have := readHdr_ne_nil hv2
        rw [hv1]; cases pre with
        | nil => cases this
        | cons _ _ => rfl
      rcases S3 with S3 | S3
      · rw [hne] at S3; cases S3
      · exact (version_canonical hv1 hv2 S3).1.symm
  have hpre : tbsE.body.take (tbsE.body.length - r8.length) = encTbsPre f := by
    have : tbsE.body = encTbsPre f ++ r8 := by
      rw [hbody]; simp only [encTbsPre, f, hver]
    conv => lhs; rw [this]
    exact take_sub_suffix _ _
  rw [hpre] at S2
  have hbodyE : tbsE.body = encTbsBody f xs := S2
  obtain ⟨tc, _⟩ := seq_canonical ti
  rw [ta, hbodyE] at tc
  obtain ⟨cc, cl⟩ := seq_canonical ci
  rw [ca] at cc cl
  have hbs : bs = ce.full := by rw [c1]; simp
  have hraw : ce.body = encTbs f xs ++ sa.full ++ sv.full := by rw [S1, tc]; rfl
  refine ⟨f, ?_, ?_, hpre, rfl, rfl, rfl, rfl, rfl, rfl⟩
  · refine (wfCert_iff _ _ _ _).mpr ⟨hwf, hxwf, ?_, by rw [← hraw]; exact cl⟩
    simp only [wfSig, sai, svi, sva, hbv, Res.isOk, Bool.and_self]
  · rw [hbs, cc, hraw]; rfl

theorem shapeOK_encCert (f : TbsFields) (xs : List Ext) (sa sv : Bytes) (h : wfCert f xs sa sv = true) :
    ∃ c, parseCert (encCert (encTbs f xs) sa sv) = .ok c ∧ c.shapeOK = true := by
  obtain ⟨hf, hx, hs, hl⟩ := (wfCert_iff f xs sa sv).mp h
  refine ⟨_, parseCert_encCert f xs sa sv hf hx hs hl, ?_⟩
  simp only [wfSig, Bool.and_eq_true] at hs
  obtain ⟨hver, _⟩ := (wfFields_iff f).mp hf
  have hb := encCert_bounds (encTbsBody f xs) sa sv hl
  obtain ⟨hvl, _⟩ := encTbsBody_bounds f xs hb
  simp only [Cert.shapeOK, tbsOf, elemOf, isElem_full hs.1.1, isElem_full hs.1.2, Bool.and_eq_true, Bool.or_eq_true]
  refine ⟨⟨by simp [encTbs], by simp only [encTbsBody, List.append_cancel_left_eq, beq_iff_eq]; cases f.wrapEmpty <;> simp⟩, ?_⟩
  cases hv : f.version with
  | none => left; rfl
  | some v =>
    right
    simp only [encVersion]
    exact (isElem_writeTLV (.ctx 0 true) 0xA0 v (by decide) (hvl v hv) (by simp [Want.ok, hdrOf])).1

end ZV.C06
