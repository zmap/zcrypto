import ZV.Model.C02
import Mathlib.Data.List.Sort
import Mathlib.Data.List.Perm.Basic
/-! What the policies JSON needs of the parser (`WellFormed`), and `purgeNameDuplicates` as insertion into a strictly
    sorted list. -/
namespace ZV.C02

theorem ne_panic_of_ok {α : Type} {r : Res α} (h : ∃ a, r = .ok a) : r ≠ .panic := by
  obtain ⟨a, rfl⟩ := h
  nofun

theorem at?_of_lt {α} {l : List α} {i : Nat} (h : i < l.length) : ∃ a, at? l i = .ok a := by
  unfold at?
  rw [List.getElem?_eq_getElem h]
  exact ⟨_, rfl⟩

/-- what `policiesJSON` needs of the parser: the two arrays it indexes by policy position (`CPSUri`, `UserNotices`)
    have one entry per policy -/
def WellFormed (d : PolData) : Prop :=
  d.cpsUri.length = d.policyIds.length ∧ d.userNotices.length = d.policyIds.length

theorem parsePolicies_wellFormed (ps : List PolicyIn) : WellFormed (parsePolicies ps) := by
  simp [WellFormed, parsePolicies]

/-! ### purgeNameDuplicates over any strict total order given by explicit facts
    (so that it applies to core's `<` on `List UInt8` without any instance juggling) -/

structure StrictTotal (α : Type) [LT α] : Prop where
  irrefl : ∀ a : α, ¬ a < a
  trans : ∀ a b c : α, a < b → b < c → a < c
  tri : ∀ a b : α, a < b ∨ a = b ∨ b < a

theorem StrictTotal.ofLinearOrder {α : Type} [LinearOrder α] : StrictTotal α :=
  ⟨lt_irrefl, fun _ _ _ => lt_trans, lt_trichotomy⟩

section purge
variable {α : Type} [LT α] [DecidableRel (α := α) (· < ·)] [DecidableEq α]

theorem mem_insertSet (a b : α) (l : List α) : b ∈ insertSet a l ↔ b = a ∨ b ∈ l := by
  induction l with
  | nil => simp only [insertSet, List.mem_singleton, List.not_mem_nil, or_false]
  | cons c l ih =>
    simp only [insertSet]
    split
    · exact List.mem_cons
    · split
      · rename_i h2
        subst h2
        exact ⟨Or.inr, fun h => h.elim (fun e => e ▸ List.mem_cons_self) id⟩
      · rw [List.mem_cons, ih, List.mem_cons]
        exact or_left_comm

theorem sorted_insertSet (o : StrictTotal α) (a : α) (l : List α) (h : l.Pairwise (· < ·)) :
    (insertSet a l).Pairwise (· < ·) := by
  induction l with
  | nil => exact List.pairwise_singleton _ _
  | cons c l ih =>
    simp only [insertSet]
    have hc := List.pairwise_cons.mp h
    split
    · rename_i hac
      refine List.pairwise_cons.mpr ⟨?_, h⟩
      intro x hx
      rcases List.mem_cons.mp hx with hx | hx
      · rw [hx]; exact hac
      · exact o.trans _ _ _ hac (hc.1 x hx)
    · split
      · exact h
      · rename_i h1 h2
        refine List.pairwise_cons.mpr ⟨?_, ih hc.2⟩
        intro x hx
        rcases (mem_insertSet a x l).mp hx with hx | hx
        · rw [hx]
          rcases o.tri a c with h3 | h3 | h3
          · exact absurd h3 h1
          · exact absurd h3 h2
          · exact h3
        · exact hc.1 x hx

theorem purge_cons (a : α) (l : List α) : purge (a :: l) = insertSet a (purge l) := rfl

theorem mem_purge (b : α) (l : List α) : b ∈ purge l ↔ b ∈ l := by
  induction l with
  | nil => exact Iff.rfl
  | cons a l ih => rw [purge_cons, mem_insertSet, ih, List.mem_cons]

theorem sorted_purge (o : StrictTotal α) (l : List α) : (purge l).Pairwise (· < ·) := by
  induction l with
  | nil => exact List.Pairwise.nil
  | cons a l ih => exact sorted_insertSet o a _ ih

end purge

theorem StrictTotal.nodup {α : Type} [LT α] (o : StrictTotal α) {l : List α} (h : l.Pairwise (· < ·)) : l.Nodup := by
  refine h.imp ?_
  intro a b hlt e
  rw [e] at hlt
  exact o.irrefl b hlt

theorem eq_of_sorted_of_mem_iff {α : Type} [LT α] (o : StrictTotal α) (l₁ l₂ : List α) (h₁ : l₁.Pairwise (· < ·))
    (h₂ : l₂.Pairwise (· < ·)) (h : ∀ x, x ∈ l₁ ↔ x ∈ l₂) : l₁ = l₂ :=
  List.Perm.eq_of_pairwise (fun a _ _ _ hab hba => absurd (o.trans _ _ _ hab hba) (o.irrefl a)) h₁ h₂
    ((List.perm_ext_iff_of_nodup (o.nodup h₁) (o.nodup h₂)).mpr h)

end ZV.C02
