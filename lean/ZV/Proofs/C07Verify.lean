import ZV.Proofs.C07Fuel
import ZV.Proofs.C09
/-!
  `Verify` in closed form.  The three result lists are the candidate chains that pass the key-usage
  filter, split by date class; the error is that of the first stage that leaves nothing: chain
  building, key-usage filter, validity dates, host name (`verifySpec`, `verify_spec`).
  `ValidateWithStupidDetail` is a function of that result and the host-name verdict (`vsdSpec`).
-/
namespace ZV.C07

/-- position of `now` w.r.t. the chain's common window (max NotBefore, min NotAfter), with the
    code's strict comparisons: 0 = strictly inside, 1 = window non-empty but `now` not strictly
    inside (expired OR not yet valid), 2 = window empty; empty chains have no class. -/
def classOf (now : Int) : Chain → Option Nat
  | [] => none
  | leaf :: rest =>
    let lo := lowerBound leaf rest
    let hi := upperBound leaf rest
    if lo < now ∧ now < hi then some 0 else if lo < hi then some 1 else some 2

/-- the chains of each date class, in input order -/
def dated (now : Int) (chains : List Chain) : Dated :=
  { current := chains.filter (fun ch => classOf now ch = some 0)
    expired := chains.filter (fun ch => classOf now ch = some 1)
    never := chains.filter (fun ch => classOf now ch = some 2) }

theorem filterByDate_eq (now : Int) (chains : List Chain) (acc : Dated) :
    filterByDate now chains acc = .ok
      { current := acc.current ++ (dated now chains).current
        expired := acc.expired ++ (dated now chains).expired
        never := acc.never ++ (dated now chains).never } := by
  induction chains generalizing acc with
  | nil => simp [filterByDate, dated]
  | cons c chains ih =>
    cases c with
    | nil =>
      simp only [filterByDate]
      rw [ih]
      simp [dated, classOf]
    | cons leaf rest =>
      rw [filterByDate_cons, ih]
      by_cases h1 : lowerBound leaf rest < now ∧ now < upperBound leaf rest
      · simp [dated, classOf, h1]
      · by_cases hw : lowerBound leaf rest < upperBound leaf rest
        · simp [dated, classOf, h1, hw]
        · simp [dated, classOf, h1, hw]

/-- a non-empty chain is in one of the three classes -/
theorem dated_ne_nil (now : Int) {chains : List Chain} (hne : chains ≠ []) (hch : ∀ ch ∈ chains, ch ≠ [])
    (hc : (dated now chains).current = []) (hx : (dated now chains).expired = []) :
    (dated now chains).never ≠ [] := by
  obtain ⟨ch, hm⟩ := List.exists_mem_of_ne_nil _ hne
  have hcl : ∀ n, classOf now ch = some n → chains.filter (fun ch => classOf now ch = some n) ≠ [] :=
    fun n h0 => List.ne_nil_of_mem (List.mem_filter.mpr ⟨hm, decide_eq_true h0⟩)
  cases ch with
  | nil => exact absurd rfl (hch _ hm)
  | cons leaf rest =>
    by_cases h1 : lowerBound leaf rest < now ∧ now < upperBound leaf rest
    · exact absurd hc (hcl 0 (if_pos h1))
    · by_cases hw : lowerBound leaf rest < upperBound leaf rest
      · exact absurd hx (hcl 1 ((if_neg h1).trans (if_pos hw)))
      · exact hcl 2 ((if_neg h1).trans (if_neg hw))

/-- What `Verify` returns for the builder's result `cands`. -/
def verifySpec (cands : List Chain × Option Err) (hostCert : C09.Cert) (opts : Opts) : Out :=
  let usable := filterUsage cands.1 (usagesOf opts)
  let d := dated opts.now usable
  { current := d.current, expired := d.expired, never := d.never
    err :=
      if cands.1 = [] then cands.2
      else if usable = [] then some .incompatibleUsage
      else if d.current = [] then (if d.expired = [] then some .neverValid else some .expired)
      else if opts.dnsName = [] ∨ C09.verifyHostname hostCert opts.dnsName = .ok .accept then none
      else some .hostname }

theorem candidateChains_spec (env : Env) (c : Cert) :
    AllValid env c (candidateChains env c).1 ∧ BuilderErr (candidateChains env c).2 ∧
    ((candidateChains env c).2 = none ↔ (candidateChains env c).1 ≠ []) := by
  by_cases h : containsFp env.roots c = true
  · rw [candidateChains_of_root h]
    refine ⟨fun ch hch => ?_, Or.inl rfl, by simp⟩
    rw [List.mem_singleton.mp hch]
    exact ValidChain.trusted h
  · rw [(candidateChains_of_not_root h).1, (candidateChains_of_not_root h).2]
    exact ⟨(buildChains_sound env c fuel0 (fun _ => none) c [c] (fun k chs h => nomatch h) Prefix.leaf).1,
      buildChains_err fuel0 env _ c [c] (fuelOK0 c), buildChains_err_none_iff 12 env _ c [c]⟩  -- `fuel0` is `12 + 1`

theorem filterUsage_mem (cands : List Chain) (kus : List Int) (ch : Chain) (h : ch ∈ filterUsage cands kus) :
    ch ∈ cands ∧ (kus.any (fun u => u = ekuAny) = true ∨ checkChainForKeyUsage ch kus = true) := by
  unfold filterUsage at h
  split at h
  · rename_i hany
    exact ⟨h, Or.inl hany⟩
  · obtain ⟨r1, r2⟩ := List.mem_filter.mp h
    exact ⟨r1, Or.inr r2⟩

theorem finish_eq (d : Dated) (hostCert : C09.Cert) (opts : Opts)
    (hn : d.current = [] → d.expired = [] → d.never ≠ []) :
    finish d hostCert opts = .ok
      { current := d.current, expired := d.expired, never := d.never
        err :=
          if d.current = [] then (if d.expired = [] then some .neverValid else some .expired)
          else if opts.dnsName = [] ∨ C09.verifyHostname hostCert opts.dnsName = .ok .accept then none
          else some .hostname } := by
  unfold finish
  simp only [List.length_eq_zero_iff, gt_iff_lt, List.length_pos_iff]
  by_cases hc : d.current = []
  · rw [if_pos hc, if_pos hc]
    by_cases hx : d.expired = []
    · rw [if_neg (not_not_intro hx), if_pos (hn hc hx), if_pos hx]
    · rw [if_pos hx, if_neg hx]
  · rw [if_neg hc, if_neg hc]
    by_cases hd : opts.dnsName = []
    · rw [if_neg (not_not_intro hd), if_pos (Or.inl hd)]
    · rw [if_pos hd]
      rcases C09.verifyHostname_cases hostCert opts.dnsName with ⟨hv, _⟩ | ⟨hv, _⟩
      · rw [hv, if_pos (Or.inr rfl)]
      · rw [hv, if_neg (not_or_intro hd nofun)]

theorem verify_spec (env : Env) (c : Cert) (hostCert : C09.Cert) (opts : Opts) :
    verify env c hostCert opts = .ok (verifySpec (candidateChains env c) hostCert opts) := by
  obtain ⟨hval, _, hiff⟩ := candidateChains_spec env c
  have hch : ∀ ch ∈ filterUsage (candidateChains env c).1 (usagesOf opts), ch ≠ [] :=
    fun ch h => validChain_ne_nil (hval ch (filterUsage_mem _ _ ch h).1)
  unfold verify verifySpec
  rw [isValid_eq, if_neg (fun h => nomatch h.1), if_pos (pathOK_nil c)]
  dsimp only
  cases he : (candidateChains env c).2 with
  | some e =>
    have hnil : (candidateChains env c).1 = [] := Decidable.not_not.mp fun hne => nomatch he.symm.trans (hiff.mpr hne)
    rw [hnil, filterUsage_nil, if_pos rfl]
    rfl
  | none =>
    dsimp only
    rw [if_neg (hiff.mp he), filterByDate_eq]
    simp only [List.nil_append, List.length_eq_zero_iff]
    generalize filterUsage (candidateChains env c).1 (usagesOf opts) = usable at hch
    by_cases hu : usable = []
    · rw [if_pos hu, if_pos hu, hu]
      rfl
    · rw [if_neg hu, if_neg hu]
      exact finish_eq _ hostCert opts (dated_ne_nil opts.now hu hch)

theorem ite_ne {α : Type} {p : Prop} [Decidable p] {a b x : α} (ha : a ≠ x) (hb : b ≠ x) : ite p a b ≠ x := by
  split
  · exact ha
  · exact hb

theorem verify_err_none_iff {env : Env} {c : Cert} {hostCert : C09.Cert} {opts : Opts} {o : Out}
    (h : verify env c hostCert opts = .ok o) :
    o.err = none ↔
      o.current ≠ [] ∧ (opts.dnsName = [] ∨ C09.verifyHostname hostCert opts.dnsName = .ok .accept) := by
  cases (verify_spec env c hostCert opts).symm.trans h
  have hb : (candidateChains env c).1 = [] → (candidateChains env c).2 ≠ none :=
    fun e => mt (candidateChains_spec env c).2.2.mp (not_not_intro e)
  generalize candidateChains env c = cands at hb
  unfold verifySpec
  dsimp only
  by_cases h1 : cands.1 = []
  · rw [if_pos h1, h1, filterUsage_nil]
    exact iff_of_false (hb h1) (fun h => h.1 rfl)
  · rw [if_neg h1]
    by_cases h2 : filterUsage cands.1 (usagesOf opts) = []
    · rw [if_pos h2, h2]
      exact iff_of_false nofun (fun h => h.1 rfl)
    · rw [if_neg h2]
      by_cases h3 : (dated opts.now (filterUsage cands.1 (usagesOf opts))).current = []
      · rw [if_pos h3]
        refine iff_of_false ?_ (fun h => h.1 h3)
        split <;> nofun
      · rw [if_neg h3]
        by_cases h4 : opts.dnsName = [] ∨ C09.verifyHostname hostCert opts.dnsName = .ok .accept
        · rw [if_pos h4]
          exact iff_of_true rfl ⟨h3, h4⟩
        · rw [if_neg h4]
          exact iff_of_false nofun (fun h => h4 h.2)

/-- the options `ValidateWithStupidDetail` hands to `Verify`: no key usages, no DNS name -/
def vsdOpts (opts : Opts) : Opts := { now := opts.now, keyUsages := [], dnsName := [] }

/-- What `ValidateWithStupidDetail` makes of the result `v` of its inner `Verify`. -/
def vsdSpec (v : Out) (hostCert : C09.Cert) (opts : Opts) : VsdOut :=
  { chains := v.current
    err := match v.err with
      | some e => some e
      | none => if opts.dnsName = [] ∨ C09.verifyHostname hostCert opts.dnsName = .ok .accept then none else some .hostname
    validation :=
      { browserTrusted := v.err.isNone, browserError := v.err, domain := opts.dnsName
        matchesDomain := decide (opts.dnsName ≠ [] ∧ C09.verifyHostname hostCert opts.dnsName = .ok .accept) } }

theorem vsd_eq {env : Env} {c : Cert} {hostCert : C09.Cert} {opts : Opts} {v : Out}
    (hv : verify env c hostCert (vsdOpts opts) = .ok v) :
    validateWithStupidDetail env c hostCert opts = .ok (vsdSpec v hostCert opts) := by
  unfold validateWithStupidDetail vsdSpec
  rw [show verify env c hostCert { now := opts.now, keyUsages := [], dnsName := [] } = .ok v from hv]
  dsimp only
  by_cases hd : opts.dnsName = []
  · rw [if_pos (by rw [hd]; rfl)]
    cases v.err <;> simp [hd]
  · rw [if_neg (mt List.length_eq_zero_iff.mp hd)]
    rcases C09.verifyHostname_cases hostCert opts.dnsName with ⟨hw, _⟩ | ⟨hw, _⟩
    · rw [hw]
      cases v.err <;> simp [hd]
    · rw [hw]
      cases v.err <;> simp [hd]

end ZV.C07
