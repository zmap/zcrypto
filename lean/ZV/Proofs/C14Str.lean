import ZV.Model.C14
import ZV.Proofs.Dec
/-! C14: the digits of the decimal rendering `decChars` (model of `(*big.Int).String()`) and the reader `parseDec` that is its
    left inverse (`decChars_roundtrip`).  The digits are those of core's `Nat.toDigits 10` (`natDigits_eq`, see ZV.Proofs.Dec),
    so what is needed about them (not empty, digit characters, value) is taken from core. -/
namespace ZV.C14

def digitVal (c : Char) : Nat := c.toNat - 48

/-- base-10 value of a digit string -/
def valOf (cs : List Char) : Nat := cs.foldl (fun a c => a * 10 + digitVal c) 0

/-- `SetString(s, 10)` restricted to what `String()` produces: optional '-', digits -/
def parseDec (cs : List Char) : Int :=
  match cs with
  | '-' :: r => - (valOf r : Int)
  | r => (valOf r : Int)

theorem natDigits_eq (n : Nat) : natDigits n = Nat.toDigits 10 n := by
  induction n using natDigits.induct with
  | case1 n h =>
    rw [natDigits, if_pos h, Nat.toDigits_of_lt_base h]
    exact congrArg (· :: _) (Dec.digitChar_eq ⟨n, h⟩)
  | case2 n h ih =>
    rw [natDigits, if_neg h, Nat.toDigits_of_base_le (by decide) (by omega), ih]
    exact congrArg (_ ++ [·]) (Dec.digitChar_eq ⟨n % 10, Nat.mod_lt _ (by decide)⟩)

theorem valOf_eq (cs : List Char) : valOf cs = Nat.ofDigitChars 10 cs 0 := by
  simp [valOf, digitVal, Nat.ofDigitChars, Nat.mul_comm]

theorem valOf_natDigits (n : Nat) : valOf (natDigits n) = n := by
  rw [natDigits_eq, valOf_eq, Nat.ofDigitChars_ten_toDigits]

theorem natDigits_ne_nil (n : Nat) : natDigits n ≠ [] := natDigits_eq n ▸ Nat.toDigits_ne_nil

theorem natDigits_all_digits (n : Nat) : ∀ c ∈ natDigits n, c.isDigit = true :=
  fun _ h => Dec.isDigit_mem (natDigits_eq n ▸ h)

theorem natDigits_injective {a b : Nat} (h : natDigits a = natDigits b) : a = b := by
  rw [← valOf_natDigits a, h, valOf_natDigits]

theorem natDigits_ne_minus (n : Nat) (r : List Char) : natDigits n ≠ '-' :: r := fun h =>
  absurd (natDigits_all_digits n '-' (h ▸ List.mem_cons_self)) (by decide)

end ZV.C14
