import ZV.Model.C06Multi
import ZV.Proofs.C06Canon
/-! Lemmas for the bundle entry point (`parseCerts`). -/
namespace ZV.C06
open ZV ZV.Der

theorem parseCertHead_rest_lt {bs : Bytes} {c : Cert} {rest : Bytes} (h : parseCertHead bs = .ok (c, rest)) :
    rest.length + 2 ≤ bs.length :=
  readElem_rest_lt _ _ _ (someElem_field_iff.mp (parseCertHead_iff.mp h).1).1

theorem parseCertsFuel_nil (n : Nat) : parseCertsFuel n [] = .ok [] := by
  cases n <;> rfl

theorem parseCertsFuel_fuel : ∀ (n m : Nat) (bs : Bytes), bs.length ≤ n → bs.length ≤ m →
    parseCertsFuel n bs = parseCertsFuel m bs := by
  refine fuel_irrelevant parseCertsFuel (fun _ _ => ?_) (fun n m b r ih => ?_)
  · rw [parseCertsFuel_nil, parseCertsFuel_nil]
  · simp only [parseCertsFuel]
    split
    · rfl
    · cases hh : parseCertHead (b :: r) with
      | ok x =>
        have hlt : x.2.length + 2 ≤ r.length + 1 := parseCertHead_rest_lt (c := x.1) hh
        simp only [Res.bind]
        rw [ih x.2 (by omega)]
      | err => rfl
      | panic => rfl

end ZV.C06
