import ZV.Model.C06Multi
import ZV.Proofs.DerLiteCanon
import ZV.Proofs.Res
import ZV.Proofs.ListFacts
/-! Lemmas for C06: what an accepted read of the field parsers says about the input, the field reader on an element
    of the wanted kind (`isElem`) followed by anything, and the inversions of `parseTbsPre`, `parseTbs` and `parseCert`. -/
namespace ZV.C06
open ZV ZV.Der

theorem field_some_iff {w : Want} {o : Bool} {bs : Bytes} {e : Elem} {rest : Bytes} :
    field w o bs = .ok (some e, rest) ↔ readElem bs = .ok (e, rest) ∧ w.ok e.hdr = true := by
  constructor
  · intro h
    unfold field at h
    split at h
    · split at h <;> cases h
    split at h
    · rename_i hd after hh
      split at h
      · split at h <;> cases h
      rename_i hw
      split at h
      · rename_i e' r' hr
        obtain ⟨_, hh', _⟩ := readElem_hdr _ _ _ hr
        cases h
        rw [hh] at hh'
        cases hh'
        exact ⟨hr, by simpa using hw⟩
      · cases h
      · cases h
    · cases h
    · cases h
  · rintro ⟨hr, hw⟩
    obtain ⟨after, hh, _⟩ := readElem_hdr _ _ _ hr
    unfold field
    rw [readElem_ne_nil _ _ _ hr, hh]
    simp only [Bool.false_eq_true, if_false, hw, Bool.not_true, hr]

theorem field_none {w : Want} {o : Bool} {bs rest : Bytes}
    (h : field w o bs = .ok (none, rest)) : rest = bs := by
  unfold field at h
  split at h
  · split at h <;> cases h; rfl
  · split at h
    · split at h
      · split at h <;> cases h; rfl
      · split at h <;> cases h
    · cases h
    · cases h

theorem readHdr_ne_nil {bs : Bytes} {h : Hdr} {after : Bytes} (hh : readHdr bs = .ok (h, after)) :
    bs.isEmpty = false := by
  cases bs with
  | nil => simp [readHdr] at hh
  | cons _ _ => rfl

theorem field_absent {w : Want} {bs : Bytes} {hd : Hdr} {after : Bytes} (hh : readHdr bs = .ok (hd, after))
    (hw : w.ok hd = false) : field w true bs = .ok (none, bs) := by
  unfold field
  rw [readHdr_ne_nil hh, hh]
  simp [hw]

theorem someElem_ok {r : Res (Option Elem × Bytes)} {e : Elem} {rest : Bytes} :
    someElem r = .ok (e, rest) ↔ r = .ok (some e, rest) := by
  unfold someElem
  split <;> simp

theorem someElem_field_iff {w : Want} {o : Bool} {bs : Bytes} {e : Elem} {rest : Bytes} :
    someElem (field w o bs) = .ok (e, rest) ↔ readElem bs = .ok (e, rest) ∧ w.ok e.hdr = true :=
  someElem_ok.trans field_some_iff

theorem isElem_spec {w : Want} {bs : Bytes} (h : isElem w bs = true) :
    readElem bs = .ok (elemAt bs, []) ∧ w.ok (elemAt bs).hdr = true := by
  unfold isElem at h
  unfold elemAt
  split at h
  · rename_i e rest heq
    simp only [Bool.and_eq_true, List.isEmpty_iff] at h
    rw [heq, h.1]
    exact ⟨rfl, h.2⟩
  · cases h

theorem isElem_of_read {w : Want} {bs : Bytes} {e : Elem} {rest : Bytes} (hr : readElem bs = .ok (e, rest))
    (hw : w.ok e.hdr = true) : isElem w e.full = true ∧ elemAt e.full = e := by
  unfold isElem elemAt
  rw [readElem_trunc _ _ _ hr]
  exact ⟨by simpa using hw, rfl⟩

theorem someElem_inv {w : Want} {o : Bool} {bs : Bytes} {e : Elem} {rest : Bytes}
    (h : someElem (field w o bs) = .ok (e, rest)) :
    bs = e.full ++ rest ∧ isElem w e.full = true ∧ elemAt e.full = e :=
  have ⟨hr, hw⟩ := someElem_field_iff.mp h
  ⟨(readElem_split _ _ _ hr).1, isElem_of_read hr hw⟩

theorem someElem_field_full {w : Want} {o : Bool} {bs : Bytes} {e : Elem} {rest : Bytes} (o' : Bool)
    (h : someElem (field w o bs) = .ok (e, rest)) : someElem (field w o' e.full) = .ok (e, []) :=
  have ⟨hr, hw⟩ := someElem_field_iff.mp h
  someElem_field_iff.mpr ⟨readElem_trunc _ _ _ hr, hw⟩

theorem someElem_field_append {w : Want} {o : Bool} {bs : Bytes} {e : Elem}
    (h : someElem (field w o bs) = .ok (e, [])) (t : Bytes) : someElem (field w o (bs ++ t)) = .ok (e, t) :=
  have ⟨hr, hw⟩ := someElem_field_iff.mp h
  someElem_field_iff.mpr ⟨readElem_append _ _ _ t hr, hw⟩

theorem isElem_ne_nil {w : Want} {bs : Bytes} (h : isElem w bs = true) (t : Bytes) : (bs ++ t).isEmpty = false :=
  append_isEmpty_false (readElem_ne_nil _ _ _ (isElem_spec h).1)

theorem isElem_full {w : Want} {bs : Bytes} (h : isElem w bs = true) : (elemAt bs).full = bs := by
  have := (readElem_split _ _ _ (isElem_spec h).1).1
  simpa using this.symm

theorem isElem_hdr {w : Want} {bs : Bytes} (h : isElem w bs = true) (t : Bytes) :
    ∃ after, readHdr (bs ++ t) = .ok ((elemAt bs).hdr, after) := by
  obtain ⟨after, hh, _, _⟩ := readElem_hdr _ _ _ (isElem_spec h).1
  exact ⟨after ++ t, readHdr_append _ _ _ t hh⟩

theorem readElem_isElem {w : Want} {bs : Bytes} (h : isElem w bs = true) (t : Bytes) :
    readElem (bs ++ t) = .ok (elemAt bs, t) := by
  have := readElem_append _ _ _ t (isElem_spec h).1
  simpa using this

theorem field_isElem {w : Want} (o : Bool) {bs : Bytes} (t : Bytes) (h : isElem w bs = true) :
    field w o (bs ++ t) = .ok (some (elemAt bs), t) :=
  field_some_iff.mpr ⟨readElem_isElem h t, (isElem_spec h).2⟩

theorem someElem_field_isElem {w : Want} (o : Bool) {bs : Bytes} (t : Bytes) (h : isElem w bs = true) :
    someElem (field w o (bs ++ t)) = .ok (elemAt bs, t) := by
  rw [field_isElem o t h]; rfl

theorem isElem_writeTLV (w : Want) (t : UInt8) (body : Bytes) (ht : t.toNat % 32 ≠ 31)
    (hl : body.length < 2147483648) (hw : w.ok (hdrOf t body.length) = true) :
    isElem w (writeTLV t body) = true ∧ elemAt (writeTLV t body) = elemOf t body := by
  have h := readElem_writeTLV t body [] ht hl
  rw [List.append_nil] at h
  unfold isElem elemAt
  rw [h]
  exact ⟨by simpa using hw, rfl⟩

/-- an absent `critical` is skipped because the OCTET STRING header that follows is not a BOOLEAN header -/
theorem extBody_tail (critical : Bool) (value : Bytes) (hlv : value.length < 2147483648) :
    field (.univ 1 false) true ((if critical then writeTLV 0x01 [0xff] else []) ++ writeTLV 0x04 value) =
        .ok (if critical then some (elemOf 0x01 [0xff]) else none, writeTLV 0x04 value) ∧
      field (.univ 4 false) false (writeTLV 0x04 value) = .ok (some (elemOf 0x04 value), []) := by
  obtain ⟨v1, v2⟩ := isElem_writeTLV (.univ 4 false) 0x04 value (by decide) hlv rfl
  have fv := field_isElem false [] v1
  rw [List.append_nil, v2] at fv
  refine ⟨?_, fv⟩
  cases critical with
  | true =>
    obtain ⟨c1, c2⟩ := isElem_writeTLV (.univ 1 false) 0x01 [0xff] (by decide) (by decide) rfl
    exact c2 ▸ field_isElem true _ c1
  | false =>
    have hh := readHdr_writeTLV 0x04 value [] (by decide) hlv
    rw [List.append_nil] at hh
    exact field_absent hh rfl

/-- `pre` is the wrapper's header alone: its length is not compared with the element's -/
theorem explicitField_inv {k : Nat} {w : Want} {bs : Bytes} {r : Option (Elem × Bytes)} {rest : Bytes}
    (h : explicitField k w bs = .ok (r, rest)) :
    (r = none ∧ rest = bs) ∨
    ∃ e pre hd, r = some (e, pre ++ e.full) ∧ bs = pre ++ e.full ++ rest ∧ readHdr pre = .ok (hd, []) ∧
      hd.cls = 2 ∧ hd.tag = k ∧ hd.compound = true ∧ hd.len ≠ 0 ∧ isElem w e.full = true ∧ elemAt e.full = e := by
  unfold explicitField at h
  by_cases hb : bs.isEmpty = true
  · rw [if_pos hb] at h
    cases h
    exact .inl ⟨rfl, rfl⟩
  rw [if_neg hb] at h
  cases hh : readHdr bs with
  | err => rw [hh] at h; cases h
  | panic => rw [hh] at h; cases h
  | ok x =>
    obtain ⟨hd, after⟩ := x
    rw [hh] at h
    dsimp only at h
    by_cases hc : (hd.cls == 2 && hd.tag == k && (hd.len == 0 || hd.compound)) = true
    · rw [if_pos hc] at h
      obtain ⟨hl0, h⟩ := guard_ok h
      obtain ⟨_, h⟩ := guard_ok h
      cases hh2 : readHdr after with
      | err => rw [hh2] at h; cases h
      | panic => rw [hh2] at h; cases h
      | ok y =>
        rw [hh2] at h
        dsimp only at h
        by_cases hw : w.ok y.1 = true
        · rw [hw] at h
          cases hr : readElem after with
          | err => rw [hr] at h; cases h
          | panic => rw [hr] at h; cases h
          | ok z =>
            obtain ⟨e, rest'⟩ := z
            rw [hr] at h
            cases h
            obtain ⟨pre, hp, hpr⟩ := readHdr_trunc _ _ _ hh
            obtain ⟨_, hh3, _⟩ := readElem_hdr _ _ _ hr
            rw [hh2] at hh3
            cases hh3
            have hbs : bs = pre ++ e.full ++ rest := by
              rw [hp, (readElem_split _ _ _ hr).1, List.append_assoc]
            simp only [Bool.and_eq_true, beq_iff_eq, Bool.or_eq_true] at hc hl0
            refine .inr ⟨e, pre, hd, ?_, hbs, hpr, hc.1.1, hc.1.2, hc.2.resolve_left hl0, hl0,
              isElem_of_read hr hw⟩
            congr 2
            conv => lhs; rw [hbs]
            exact take_sub_suffix _ _
        · rw [Bool.not_eq_true] at hw
          rw [hw] at h
          cases h
          exact .inl ⟨rfl, rfl⟩
    · rw [if_neg hc] at h
      cases h
      exact .inl ⟨rfl, rfl⟩

theorem explicitField_split {k : Nat} {w : Want} {bs : Bytes} {r : Option (Elem × Bytes)} {rest : Bytes}
    (h : explicitField k w bs = .ok (r, rest)) :
    bs = consumed r ++ rest := by
  rcases explicitField_inv h with ⟨rfl, rfl⟩ | ⟨_, _, _, rfl, hbs, _⟩
  · rfl
  · exact hbs

theorem optBitString_inv {k : Nat} {bs rest : Bytes} (h : optBitString k bs = .ok rest) :
    ∃ u : Option Bytes, wfUID k u = true ∧ bs = optBytes u ++ rest := by
  obtain ⟨⟨oe, r⟩, h1, h2⟩ := Res.bind_ok.mp h
  cases oe with
  | none =>
    cases h2
    exact ⟨none, rfl, (field_none h1).symm⟩
  | some e =>
    obtain ⟨v, hv, h2⟩ := Res.bind_ok.mp h2
    cases h2
    obtain ⟨hr, hw⟩ := field_some_iff.mp h1
    obtain ⟨b, c⟩ := isElem_of_read hr hw
    refine ⟨some e.full, ?_, (readElem_split _ _ _ hr).1⟩
    simp only [wfUID, b, c, hv, Res.isOk, Bool.and_self]

theorem parseTbsPre_fields {body : Bytes} {p : TbsPre} {r8 : Bytes} (h : parseTbsPre body = .ok (p, r8)) :
    ∃ (vo iu su : Option Bytes),
      wfVersion vo = true ∧
      (match vo with
       | none => p.verRaw = []
       | some v => ∃ pre hd, p.verRaw = pre ++ v ∧ readHdr pre = .ok (hd, [])) ∧
      isElem (.univ 2 false) p.serial.full = true ∧ checkInteger (elemAt p.serial.full).body = true ∧
      isElem (.univ 16 true) p.sigalg.full = true ∧ isElem .any p.issuer.full = true ∧
      isElem (.univ 16 true) p.validity.full = true ∧ isElem .any p.subject.full = true ∧
      isElem (.univ 16 true) p.spki.full = true ∧ wfUID 1 iu = true ∧ wfUID 2 su = true ∧
      body = p.verRaw ++ p.serial.full ++ p.sigalg.full ++ p.issuer.full ++ p.validity.full ++ p.subject.full
               ++ p.spki.full ++ optBytes iu ++ optBytes su ++ r8 := by
  unfold parseTbsPre at h
  obtain ⟨⟨ver, r0⟩, hver, h⟩ := Res.bind_ok.mp h
  obtain ⟨v, hv, h⟩ := Res.bind_ok.mp h
  obtain ⟨⟨serial, r1⟩, hserial, h⟩ := Res.bind_ok.mp h
  obtain ⟨hchk, h⟩ := guard_ok h
  obtain ⟨⟨sigalg, r2⟩, hsigalg, h⟩ := Res.bind_ok.mp h
  obtain ⟨⟨issuer, r3⟩, hissuer, h⟩ := Res.bind_ok.mp h
  obtain ⟨⟨validity, r4⟩, hvalidity, h⟩ := Res.bind_ok.mp h
  obtain ⟨⟨subject, r5⟩, hsubject, h⟩ := Res.bind_ok.mp h
  obtain ⟨⟨spki, r6⟩, hspki, h⟩ := Res.bind_ok.mp h
  obtain ⟨r7, hu1, h⟩ := Res.bind_ok.mp h
  obtain ⟨r, hu2, h⟩ := Res.bind_ok.mp h
  cases h
  dsimp only at hver hv hserial hchk hsigalg hissuer hvalidity hsubject hspki hu1 hu2
  obtain ⟨s1, i1, a1⟩ := someElem_inv hserial
  obtain ⟨s2, i2, _⟩ := someElem_inv hsigalg
  obtain ⟨s3, i3, _⟩ := someElem_inv hissuer
  obtain ⟨s4, i4, _⟩ := someElem_inv hvalidity
  obtain ⟨s5, i5, _⟩ := someElem_inv hsubject
  obtain ⟨s6, i6, _⟩ := someElem_inv hspki
  obtain ⟨iu, wiu, s7⟩ := optBitString_inv hu1
  obtain ⟨su, wsu, s8⟩ := optBitString_inv hu2
  have hck : checkInteger (elemAt serial.full).body = true := by
    rw [a1]; simpa using hchk
  have hbody : body = consumed ver ++ serial.full ++ sigalg.full ++ issuer.full ++ validity.full ++ subject.full
             ++ spki.full ++ optBytes iu ++ optBytes su ++ r8 := by
    rw [explicitField_split hver, s1, s2, s3, s4, s5, s6, s7, s8]; simp
  rcases explicitField_inv hver with ⟨rfl, _⟩ | ⟨e, pre, hd, rfl, _, hpre, _, _, _, _, ie, ae⟩
  · exact ⟨none, iu, su, rfl, rfl, i1, hck, i2, i3, i4, i5, i6, wiu, wsu, hbody⟩
  · refine ⟨some e.full, iu, su, ?_, ⟨pre, hd, rfl, hpre⟩, i1, hck, i2, i3, i4, i5, i6, wiu, wsu, hbody⟩
    simp only [wfVersion, ie, ae, hv, Res.isOk, Bool.and_self]

theorem parseTbs_inv {body : Bytes} {t : Tbs} (h : parseTbs body = .ok t) :
    ∃ p r8 x r xs, parseTbsPre body = .ok (p, r8) ∧ explicitField 3 (.univ 16 true) r8 = .ok (x, r) ∧
      (match x with
       | none => Res.ok []
       | some xe => parseExts xe.1.body) = .ok xs ∧
      t = ⟨p.version, p.verRaw, p.serial, p.sigalg, p.issuer, p.validity, p.subject, p.spki,
           body.take (body.length - r8.length), xs⟩ := by
  simp only [parseTbs, Res.bind_ok] at h
  obtain ⟨⟨p, r8⟩, hp, ⟨x, r⟩, hx, xs, hxs, h⟩ := h
  cases h
  exact ⟨p, r8, x, r, xs, hp, hx, hxs, rfl⟩

theorem parseCert_eq_elem (bs : Bytes) :
    parseCert bs = (someElem (field (.univ 16 true) false bs)).bind fun c =>
      if !c.2.isEmpty then .err else parseCertElem c.1 := rfl

theorem parseCertElem_inv {e : Elem} {c : Cert} (h : parseCertElem e = .ok c) :
    c.raw = e ∧
    ∃ r1 r2 r3 bv, someElem (field (.univ 16 true) false e.body) = .ok (c.tbsE, r1) ∧
      parseTbs c.tbsE.body = .ok c.tbs ∧
      someElem (field (.univ 16 true) false r1) = .ok (c.sigalg, r2) ∧
      someElem (field (.univ 3 false) false r2) = .ok (c.sigval, r3) ∧
      parseBitString c.sigval.body = .ok bv := by
  simp only [parseCertElem, Res.bind_ok] at h
  obtain ⟨⟨tbsE, r1⟩, htbsE, tbs, htbs, ⟨sa, r2⟩, hsa, ⟨sv, r3⟩, hsv, bv, hbv, h⟩ := h
  cases h
  exact ⟨rfl, r1, r2, r3, _, htbsE, htbs, hsa, hsv, hbv⟩

theorem parseCertHead_iff {bs : Bytes} {c : Cert} {rest : Bytes} :
    parseCertHead bs = .ok (c, rest) ↔
      someElem (field (.univ 16 true) false bs) = .ok (c.raw, rest) ∧ parseCertElem c.raw = .ok c := by
  simp only [parseCertHead, Res.bind_ok, Prod.exists, Res.ok.injEq, Prod.mk.injEq]
  constructor
  · rintro ⟨e, r, he, x, hx, rfl, rfl⟩
    rw [(parseCertElem_inv hx).1]
    exact ⟨he, hx⟩
  · rintro ⟨he, hx⟩
    exact ⟨_, _, he, _, hx, rfl, rfl⟩

theorem parseCert_iff_elem {bs : Bytes} {c : Cert} :
    parseCert bs = .ok c ↔
      someElem (field (.univ 16 true) false bs) = .ok (c.raw, []) ∧ parseCertElem c.raw = .ok c := by
  simp only [parseCert_eq_elem, Res.bind_ok, guard_ok_iff, Prod.exists, Bool.not_eq_true', Bool.not_eq_false,
    List.isEmpty_iff]
  constructor
  · rintro ⟨e, r, he, rfl, hx⟩
    rw [(parseCertElem_inv hx).1]
    exact ⟨he, hx⟩
  · rintro ⟨he, hx⟩
    exact ⟨_, _, he, rfl, hx⟩

theorem parseCert_inv {bs : Bytes} {c : Cert} (h : parseCert bs = .ok c) :
    someElem (field (.univ 16 true) false bs) = .ok (c.raw, []) ∧
    ∃ r1 r2 r3 bv, someElem (field (.univ 16 true) false c.raw.body) = .ok (c.tbsE, r1) ∧
      parseTbs c.tbsE.body = .ok c.tbs ∧
      someElem (field (.univ 16 true) false r1) = .ok (c.sigalg, r2) ∧
      someElem (field (.univ 3 false) false r2) = .ok (c.sigval, r3) ∧
      parseBitString c.sigval.body = .ok bv :=
  have ⟨hc, hx⟩ := parseCert_iff_elem.mp h
  ⟨hc, (parseCertElem_inv hx).2⟩

theorem hlen_of_split {e : Elem} {hb : Bytes} (h : e.full = hb ++ e.body) : hlen e = hb.length := by
  simp [hlen, h]

theorem parseCert_layout {bs : Bytes} {c : Cert} (h : parseCert bs = .ok c) :
    c.raw.full = bs ∧
    ∃ hb hb2 tail after,
      hb.length = hlen c.raw ∧ hb2.length = hlen c.tbsE ∧
      c.tbsE.full = hb2 ++ c.tbsE.body ∧
      c.tbsE.body = c.tbs.verRaw ++ c.tbs.serial.full ++ c.tbs.sigalg.full ++ c.tbs.issuer.full
        ++ c.tbs.validity.full ++ c.tbs.subject.full ++ c.tbs.spki.full ++ tail ∧
      bs = hb ++ c.tbsE.full ++ after := by
  obtain ⟨hc, r1, _, _, _, htbsE, htbs, _⟩ := parseCert_inv h
  obtain ⟨c1, ⟨hb, _, c2⟩, _⟩ := readElem_split _ _ _ (someElem_field_iff.mp hc).1
  obtain ⟨t1, ⟨hb2, _, t2⟩, _⟩ := readElem_split _ _ _ (someElem_field_iff.mp htbsE).1
  obtain ⟨p, r8, _, _, _, hp, _, _, ht⟩ := parseTbs_inv htbs
  obtain ⟨_, iu, su, _, _, _, _, _, _, _, _, _, _, _, hl⟩ := parseTbsPre_fields hp
  rw [ht]
  refine ⟨by rw [c1]; simp, hb, hb2, optBytes iu ++ optBytes su ++ r8, r1, (hlen_of_split c2).symm,
    (hlen_of_split t2).symm, t2, by rw [hl]; simp, ?_⟩
  rw [c1, c2, t1]; simp

theorem extract_of_split {bs A X B : Bytes} {i : Nat} (e : bs = A ++ X ++ B) (hi : A.length = i) :
    X = bs.extract i (i + X.length) := by
  subst e hi
  simp [List.extract_eq_take_drop]

end ZV.C06
