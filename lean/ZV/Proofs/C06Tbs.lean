import ZV.Model.C06Tbs
import ZV.Proofs.C06
/-! `ParseTBSCertificate` inverted; `Time.Sub` and `ValidityPeriod` on whole-second times (what strict DER times
    are), as case tables in the difference of the Unix seconds. -/
namespace ZV.C06
open ZV ZV.Der

theorem parseTbsCert_inv {t : Bytes} {e : Elem} {tbs : Tbs} (h : parseTbsCert t = .ok (e, tbs)) :
    someElem (field (.univ 16 true) false t) = .ok (e, []) ∧ parseTbs e.body = .ok tbs := by
  simp only [parseTbsCert, Res.bind_ok, guard_ok_iff] at h
  obtain ⟨⟨_, rest⟩, hc, hrest, _, htb, h⟩ := h
  cases h
  have : rest = [] := by simpa using hrest
  subst this
  exact ⟨hc, htb⟩

/-- the saturation thresholds of `Duration` (±(2^63 − 1) ns, −2^63 ns) fall strictly between 9223372036 and
    9223372037 seconds, so on whole seconds the comparison can be made in seconds -/
theorem timeSub_sec (t u : Time.GoTime) (h0 : u.nsec = 0) (h1 : t.nsec = 0) :
    timeSub t u =
      if t.unix - u.unix > 9223372036 then maxDuration
      else if t.unix - u.unix < -9223372036 then minDuration else (t.unix - u.unix) * 1000000000 := by
  simp only [timeSub, maxDuration, minDuration, h0, h1]
  exact ite_congr (propext (by omega)) (fun _ => rfl)
    (fun _ => ite_congr (propext (by omega)) (fun _ => rfl) (fun _ => by omega))

theorem validityPeriod_sec (nb na : Time.GoTime) (h0 : nb.nsec = 0) (h1 : na.nsec = 0) :
    validityPeriod nb na =
      if na.unix - nb.unix > 9223372036 then 9223372036
      else if na.unix - nb.unix < -9223372036 then -9223372036 else na.unix - nb.unix := by
  simp only [validityPeriod, timeSub_sec na nb h0 h1]
  generalize na.unix - nb.unix = s
  split
  · decide
  · split
    · decide
    · split <;> omega

end ZV.C06
