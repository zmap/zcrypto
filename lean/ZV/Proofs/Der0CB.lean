import ZV.Proofs.Der0Hdr
/-! cryptobyte `readASN1` against the DER length chosen by `Builder.flushChild`: read → write (`CB.readASN1_table`, the `_canon`
  lemmas), write → read (`CB.readASN1_back`) at the end of the file. -/
open ZV ZV.Der0
namespace ZV.Der0

theorem beBytes_eq (k n : Nat) : beBytes k n = fixBE k n := by
  induction k generalizing n with
  | zero => rfl
  | succ k ih => rw [beBytes, fixBE_succ_snoc, ih, UInt8.ofNat_mod_size']

theorem beBytes_length (k n : Nat) : (beBytes k n).length = k := by
  rw [beBytes_eq, fixBE_length]

/-- a k-byte big-endian field read back (`readUnsigned`, `readLengthPrefixed`) -/
theorem beBytes_natOfBytes (bs : Bytes) : beBytes bs.length (natOfBytes bs) = bs := by
  rw [beBytes_eq, natOfBytes_eq, fixBE_be256]

theorem natOfBytes_beBytes (k n : Nat) (h : n < 256 ^ k) : natOfBytes (beBytes k n) = n := by
  rw [beBytes_eq, natOfBytes_eq, be256_fixBE_of_lt h]

/-- `flushChild`'s choice for an ASN.1 child of `n` bytes: the number of length octets, the first of them, and the
    value it patches into the others -/
def CB.lenChoice (n : Nat) : Nat × UInt8 × Nat :=
  if n > 0xffffff then (5, 0x84, n) else if n > 0xffff then (4, 0x83, n) else if n > 0xff then (3, 0x82, n)
  else if n > 0x7f then (2, 0x81, n) else (1, UInt8.ofNat n, 0)

/-- `derLength` and `lenChoice` make the same choice -/
theorem CB.derLength_cases (n : Nat) :
    (n ≤ 0x7f ∧ CB.derLength n = .ok [UInt8.ofNat n] ∧ CB.lenChoice n = (1, UInt8.ofNat n, 0)) ∨
    (∃ k lb, 1 ≤ k ∧ k ≤ 4 ∧ (lb : UInt8).toNat = 128 + k ∧ 128 ≤ n ∧ n / 256 ^ (k - 1) ≠ 0 ∧ n < 256 ^ k ∧
        CB.derLength n = .ok (lb :: beBytes k n) ∧ CB.lenChoice n = (k + 1, lb, n)) ∨
    (n > 0xfffffffe ∧ CB.derLength n = .err) := by
  unfold CB.derLength CB.lenChoice
  by_cases h5 : n > 0xfffffffe
  · exact Or.inr (Or.inr ⟨h5, if_pos h5⟩)
  rw [if_neg h5]
  by_cases h4 : n > 0xffffff
  · exact Or.inr (Or.inl ⟨4, 0x84, by decide, by decide, by decide, by omega, by omega, by omega, if_pos h4, if_pos h4⟩)
  rw [if_neg h4, if_neg h4]
  by_cases h3 : n > 0xffff
  · exact Or.inr (Or.inl ⟨3, 0x83, by decide, by decide, by decide, by omega, by omega, by omega, if_pos h3, if_pos h3⟩)
  rw [if_neg h3, if_neg h3]
  by_cases h2 : n > 0xff
  · exact Or.inr (Or.inl ⟨2, 0x82, by decide, by decide, by decide, by omega, by omega, by omega, if_pos h2, if_pos h2⟩)
  rw [if_neg h2, if_neg h2]
  by_cases h1 : n > 0x7f
  · exact Or.inr (Or.inl ⟨1, 0x81, by decide, by decide, by decide, by omega, by omega, by omega, if_pos h1, if_pos h1⟩)
  · exact Or.inl ⟨by omega, if_neg h1, if_neg h1⟩

theorem CB.derLength_long {k n : Nat} (hk1 : 1 ≤ k) (h128 : 128 ≤ n)
    (hlo : n / 256 ^ (k - 1) ≠ 0) (hhi : n < 256 ^ k) (hmax : n ≤ 0xfffffffe) :
    CB.derLength n = .ok (UInt8.ofNat (128 + k) :: beBytes k n) := by
  rcases CB.derLength_cases n with ⟨hs, _⟩ | ⟨k', lb, hk1', _, hlb, _, hlo', hhi', hd, _⟩ | ⟨hb, _⟩
  · omega
  · -- 256^(k-1) ≤ n < 256^k' and 256^(k'-1) ≤ n < 256^k
    have h1 := (Nat.pow_lt_pow_iff_right (a := 256) (by decide)).mp
      (Nat.lt_of_le_of_lt (Nat.div_ne_zero_iff.mp hlo).2 hhi')
    have h2 := (Nat.pow_lt_pow_iff_right (a := 256) (by decide)).mp
      (Nat.lt_of_le_of_lt (Nat.div_ne_zero_iff.mp hlo').2 hhi)
    obtain rfl : k' = k := by omega
    rw [hd, ofNat_eq_of hlb.symm]
  · omega

theorem CB.readASN1_table (s : Bytes) :
    CB.readASN1 s = .err ∨ ∃ e l, CB.readASN1 s = .ok e ∧ CB.derLength e.body.length = .ok l ∧
      s = e.tag :: l ++ e.body ++ e.rest ∧ e.tag.toNat % 32 ≠ 31 := by
  match s with
  | [] => exact .inl rfl
  | [_] => exact .inl rfl
  | tag :: lenByte :: after =>
    simp only [CB.readASN1]
    by_cases htag : tag.toNat % 32 = 31
    · exact .inl (if_pos htag)
    rw [if_neg htag]
    -- `hdr`: the model's pair (length with header, header length) computed from the length octets
    generalize hh : (ite (lenByte.toNat < 128) _ _ : Res (Nat × Nat)) = hdr
    -- the length octets `l` follow the tag and are the DER length of the announced content length `n`
    have key : hdr = .err ∨ ∃ n l t, hdr = .ok ((tag :: l).length + n, (tag :: l).length) ∧ CB.derLength n = .ok l ∧
        tag :: lenByte :: after = tag :: l ++ t := by
      subst hh
      have hlb := lenByte.toNat_lt
      by_cases hshort : lenByte.toNat < 128
      · rw [if_pos hshort]
        refine .inr ⟨lenByte.toNat, [lenByte], after, by rw [Nat.add_comm]; rfl, ?_, rfl⟩
        unfold CB.derLength
        rw [if_neg (by omega), if_neg (by omega), if_neg (by omega), if_neg (by omega), if_neg (by omega),
          UInt8.ofNat_toNat]
      · rw [if_neg hshort]
        generalize hk : lenByte.toNat % 128 = k
        have hlen : 128 + k = lenByte.toNat := by omega
        by_cases hc : k = 0 ∨ k > 4 ∨ (tag :: lenByte :: after).length < 2 + k
        · exact .inl (if_pos hc)
        rw [if_neg hc]
        generalize hn : natOfBytes (after.take k) = n
        by_cases h128 : n < 128
        · exact .inl (if_pos h128)
        rw [if_neg h128]
        by_cases htop : n / 256 ^ (k - 1) = 0
        · exact .inl (if_pos htop)
        rw [if_neg htop]
        by_cases hwrap : (2 + k + n) % 4294967296 < n
        · exact .inl (if_pos hwrap)
        rw [if_neg hwrap]
        simp only [List.length_cons, not_or] at hc
        have htl : (after.take k).length = k := by rw [List.length_take]; omega
        have hnlt := natOfBytes_lt (after.take k)
        have hbe := beBytes_natOfBytes (after.take k)
        rw [htl, hn] at hnlt hbe
        have hpow : 256 ^ k ≤ 256 ^ 4 := Nat.pow_le_pow_right (by decide) (by omega)
        -- no wrap-around in `uint32`
        have hmod : (2 + k + n) % 4294967296 = 2 + k + n := by omega
        refine .inr ⟨n, lenByte :: after.take k, after.drop k, ?_, ?_, ?_⟩
        · simp only [hmod, List.length_cons, htl, Res.ok.injEq, Prod.mk.injEq]; omega
        · rw [CB.derLength_long (Nat.pos_of_ne_zero hc.1) (Nat.le_of_not_lt h128) htop hnlt (by omega), hbe,
            ofNat_eq_of hlen]
        · rw [List.cons_append, List.cons_append, List.take_append_drop]
    rcases key with rfl | ⟨n, l, t, rfl, hd, hs⟩
    · exact .inl rfl
    simp only []
    rw [hs]
    by_cases hlen : (tag :: l ++ t).length < (tag :: l).length + n
    · exact .inl (if_pos hlen)
    rw [if_neg hlen, List.take_length_add_append, List.drop_left, List.drop_length_add_append,
      if_neg (by rw [List.length_append]; omega)]
    rw [List.length_append] at hlen
    refine .inr ⟨_, l, rfl, ?_, ?_, htag⟩
    · rw [List.length_take, Nat.min_eq_left (by omega)]
      exact hd
    · rw [List.append_assoc, List.take_append_drop]

theorem CB.readASN1_canon {s : Bytes} {e : CB.Elem} (h : CB.readASN1 s = .ok e) :
    ∃ pre, CB.element e.tag e.body = .ok pre ∧ s = pre ++ e.rest := by
  rcases CB.readASN1_table s with h' | ⟨e', l, h', hd, hs, ht⟩
  · rw [h'] at h
    cases h
  · rw [h'] at h
    cases h
    exact ⟨e.tag :: l ++ e.body, by rw [CB.element, if_neg ht, hd], hs⟩

theorem CB.readASN1Tag_canon {s : Bytes} {tag : UInt8} {body rest : Bytes}
    (h : CB.readASN1Tag s tag = .ok (body, rest)) : ∃ pre, CB.element tag body = .ok pre ∧ s = pre ++ rest := by
  unfold CB.readASN1Tag at h
  cases he : CB.readASN1 s with
  | err => rw [he] at h; cases h
  | panic => rw [he] at h; cases h
  | ok e =>
    simp only [he] at h
    by_cases ht : e.tag ≠ tag
    · rw [if_pos ht] at h
      cases h
    · rw [if_neg ht] at h
      cases h
      exact Decidable.of_not_not ht ▸ CB.readASN1_canon he

/-- every typed reader begins with `ReadASN1(&bytes, tag)` and hands the contents and the rest to `k` -/
theorem CB.ofTag {α : Type} {s : Bytes} {tag : UInt8} {k : Bytes → Bytes → Res α} {y : α}
    (h : (match CB.readASN1Tag s tag with | .ok (body, rest) => k body rest | .err => .err | .panic => .panic) = .ok y) :
    ∃ body rest, CB.readASN1Tag s tag = .ok (body, rest) ∧ k body rest = .ok y := by
  cases hr : CB.readASN1Tag s tag with
  | ok x => rw [hr] at h; exact ⟨x.1, x.2, rfl, h⟩
  | err => rw [hr] at h; cases h
  | panic => rw [hr] at h; cases h

/-- the second half of `readASN1` (`ReadBytes`, then `Skip`) on a header `p` of `H` bytes in front of `body ++ t` -/
theorem CB.readASN1_split (tag : UInt8) (p body t : Bytes) (L H : Nat) (hH : H = p.length) (hL : L = H + body.length) :
    (if (p ++ (body ++ t)).length < L then Res.err
      else if ((p ++ (body ++ t)).take L).length < H then .panic
      else .ok { tag := tag, headerLen := H, body := ((p ++ (body ++ t)).take L).drop H,
                 rest := (p ++ (body ++ t)).drop L : CB.Elem }) =
      .ok { tag := tag, headerLen := H, body := body, rest := t } := by
  subst hH hL
  rw [← List.append_assoc, ← List.length_append, List.take_left, List.drop_left, List.drop_left,
    if_neg (by rw [List.length_append]; omega), if_neg (by rw [List.length_append]; omega)]

/-- `hsz`: the reader's uint32 overflow guard rejects bodies within 6 bytes of 4 GiB, which the Builder still accepts -/
theorem CB.readASN1_back (tag : UInt8) (body pre t : Bytes) (h : CB.element tag body = .ok pre)
    (hsz : body.length < 4294967290) :
    ∃ H, CB.readASN1 (pre ++ t) = .ok { tag := tag, headerLen := H, body := body, rest := t } := by
  unfold CB.element at h
  split at h
  · cases h
  rename_i htag
  rcases CB.derLength_cases body.length with ⟨hsmall, hd, _⟩ | ⟨k, lb, hk1, hk4, hlb, h128, htop, hlt, hd, _⟩ | ⟨hbig, _⟩
  · rw [hd] at h
    obtain rfl := Res.ok.inj h
    have hlb : (UInt8.ofNat body.length).toNat = body.length := toNat_ofNat_lt (by omega)
    have := CB.readASN1_split tag [tag, UInt8.ofNat body.length] body t (body.length + 2) 2 rfl (Nat.add_comm _ _)
    simp only [List.cons_append, List.nil_append] at this
    refine ⟨2, ?_⟩
    simp only [CB.readASN1, List.cons_append, List.nil_append, htag, if_false, hlb,
      show body.length < 128 by omega, if_true, this]
  · rw [hd] at h
    obtain rfl := Res.ok.inj h
    have hbl := beBytes_length k body.length
    have hpow : 256 ^ k ≤ 256 ^ 4 := Nat.pow_le_pow_right (by decide) hk4
    have := CB.readASN1_split tag (tag :: lb :: beBytes k body.length) body t (2 + k + body.length) (2 + k)
      (by rw [List.length_cons, List.length_cons, hbl]; omega) rfl
    simp only [List.cons_append] at this
    refine ⟨2 + k, ?_⟩
    simp only [CB.readASN1, List.cons_append, List.append_assoc, htag, if_false,
      show ¬ lb.toNat < 128 by omega, show lb.toNat % 128 = k by omega,
      show ¬ (k = 0 ∨ k > 4 ∨ (tag :: lb :: (beBytes k body.length ++ (body ++ t))).length < 2 + k) by
        simp only [List.length_cons, List.length_append, hbl]; omega,
      List.take_left' hbl, natOfBytes_beBytes k _ hlt, show ¬ body.length < 128 by omega, htop,
      Nat.mod_eq_of_lt (show 2 + k + body.length < 4294967296 by omega), show ¬ 2 + k + body.length < body.length by omega,
      this]
  · omega

theorem CB.readASN1Tag_back (tag : UInt8) (body pre t : Bytes) (h : CB.element tag body = .ok pre)
    (hsz : body.length < 4294967290) :
    CB.readASN1Tag (pre ++ t) tag = .ok (body, t) := by
  obtain ⟨H, he⟩ := CB.readASN1_back tag body pre t h hsz
  rw [CB.readASN1Tag, he]
  exact if_neg (not_not_intro rfl)

end ZV.Der0
