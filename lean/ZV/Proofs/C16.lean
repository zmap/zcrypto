import ZV.Proofs.Wire
import ZV.Proofs.C16Rd
/-!
  C16: every format is `Lawful` by stacking the combinator lemmas of `ZV.Proofs.Wire`; only `chainFmt`, whose element
  loop (`parseEntries`, readASN1CertList) runs to the end of its region instead of counting, has a proof of its own.
  The Go-shaped serialisers (`marshalDSHere`, `serializeSCTHere`: check, then write field by field) compute the
  formats' `ser`, so the round trips of Props/C16 are `Lawful.rt` of the format.
-/
namespace ZV.C16
open ZV.Wire

theorem lawful_u8 : Lawful u8 :=
  lawful_iso _ _ (fun b => by simp) (lawful_uintBE 1)
theorem lawful_u16 : Lawful u16 :=
  lawful_iso _ _ (fun b => by simp) (lawful_uintBE 2)
theorem lawful_u64 : Lawful u64 :=
  lawful_iso _ _ (fun b => by simp) (lawful_uintBE 8)

theorem lawful_ds : Lawful dsFmt :=
  lawful_iso _ _ (fun _ => rfl) (lawful_pair lawful_u8 (lawful_pair lawful_u8 (lawful_opaqueBE 2)))

theorem lawful_sct : Lawful sctFmt :=
  lawful_iso _ _ (fun _ => rfl)
    (lawful_pair (lawful_guard _ lawful_u8) (lawful_pair (lawful_bytesN 32) (lawful_pair lawful_u64
      (lawful_pair (lawful_opaqueBE 2) lawful_ds))))

theorem lawful_entryBody (t : UInt16) : Lawful (entryBody t) := by
  unfold entryBody
  split
  · refine lawful_piso _ _ ?_ (lawful_opaqueBE 3)
    intro b a h
    cases b with
    | x509 c => simp at h; rw [h]
    | precert _ _ => simp at h
  · split
    · refine lawful_piso _ _ ?_ (lawful_pair (lawful_bytesN 32) (lawful_opaqueBE 3))
      intro b a h
      cases b with
      | x509 c => simp at h
      | precert x y => simp at h; rw [← h]
    · exact lawful_fail

theorem lawful_leaf : Lawful leafFmt :=
  lawful_iso _ _ (fun _ => rfl)
    (lawful_pair (lawful_guard _ lawful_u8) (lawful_pair (lawful_guard _ lawful_u8) (lawful_pair lawful_u64
      (lawful_pair (lawful_dep _ _ lawful_u16 lawful_entryBody) (lawful_opaqueBE 2)))))

theorem serEntries_eq (k : Nat) (cs : List Bytes) : serEntries k cs = serAll (opaqueBE k) cs := by
  induction cs with
  | nil => rfl
  | cons c cs ih =>
    have h1 := (lawful_opaqueBE k).serNoPanic c
    have h2 := serAll_noPanic (lawful_opaqueBE k) cs
    rw [serEntries, serAll, ih]
    cases hs : (opaqueBE k).ser c <;> cases ht : serAll (opaqueBE k) cs <;> first | rfl | exact absurd hs h1 | exact absurd ht h2

theorem parseEntries_step (k : Nat) (hk : 0 < k) (bs : Bytes) (hl : k ≤ bs.length) :
    parseEntries k bs =
      match (opaqueBE k).par bs with
      | .ok (c, rest) =>
        (match parseEntries k rest with
         | .ok es => .ok (c :: es)
         | .err => .err
         | .panic => .panic)
      | .err => .err
      | .panic => .panic := by
  rw [parseEntries, if_neg (by omega), if_neg (by omega)]
  simp only [opaqueBE, varBytes, uintBE, if_neg (Nat.not_lt.mpr hl)]
  split <;> rfl

theorem parseEntries_noPanic (k : Nat) (bs : Bytes) (hk : 0 < k) (hk8 : k ≤ 8) : parseEntries k bs ≠ .panic :=
  certLoopB_erase k bs hk hk8 ▸ erase_ne_panic _

theorem parseEntries_serEntries (k : Nat) (hk : 0 < k) (cs : List Bytes) (bs : Bytes)
    (h : serEntries k cs = .ok bs) : parseEntries k bs = .ok cs := by
  rw [serEntries_eq] at h
  induction cs generalizing bs with
  | nil =>
    cases h
    rw [parseEntries, if_neg (by omega)]
    exact if_pos hk
  | cons c cs ih =>
    obtain ⟨x, h1, h⟩ := ser_ok h
    obtain ⟨y, h2, h⟩ := ser_ok h
    cases h
    have hx := opaqueBE_ser_length h1
    rw [parseEntries_step k hk _ (by rw [List.length_append]; omega), (lawful_opaqueBE k).rt c x y h1]
    simp only [ih y h2]

theorem lawful_chain : Lawful chainFmt := by
  refine .of_parOk (fun cs bs tail h => ?_) (fun bs => ?_)
    fun cs => ser_noPanic (serEntries_eq 3 cs ▸ serAll_noPanic (lawful_opaqueBE 3) cs) fun body => (lawful_opaqueBE 3).serNoPanic body
  · obtain ⟨body, h1, h⟩ := ser_ok h
    simp only [chainFmt]
    rw [(lawful_opaqueBE 3).rt body bs tail h]
    simp only [parseEntries_serEntries 3 (by omega) cs body h1]
  · dsimp only [chainFmt]
    refine ((lawful_opaqueBE 3).parOk bs).elim (fun ⟨body, rest⟩ hp => ?_) trivial
    dsimp only
    cases h : parseEntries 3 body with
    | ok es => exact hp
    | err => trivial
    | panic => exact absurd h (parseEntries_noPanic 3 body (by decide) (by decide))

theorem lawful_precertChain : Lawful precertChainFmt := by
  refine lawful_piso _ _ ?_ (lawful_pair (lawful_opaqueBE 3) lawful_chain)
  intro b a h
  cases b with
  | nil => simp at h
  | cons c cs => simp at h; rw [← h]

theorem u8_ser (b : UInt8) : u8.ser b = .ok [b] := by
  have hb := b.toNat_lt
  have : (256 : Nat) ^ 1 = 256 := by decide
  simp only [u8, iso, uintBE, this]
  have hlt : b.toNat < 256 := hb
  simp only [hlt, if_true, beBytes, leBytes]
  have : UInt8.ofNat (b.toNat % 256) = b := by
    rw [Nat.mod_eq_of_lt hlt]; simp
  simp

theorem u64_ser (v : UInt64) : u64.ser v = .ok (beBytes 8 v.toNat) := by
  have hb := v.toNat_lt
  have : (256 : Nat) ^ 8 = 2 ^ 64 := by decide
  simp only [u64, iso, uintBE, this]
  simp [hb]

/-- `opaque<0..2^16-1>` with the bound written as the code checks it -/
theorem opaque2_ser (v : Bytes) :
    (opaqueBE 2).ser v = if v.length > 65535 then .err else .ok (beBytes 2 v.length ++ v) := by
  rw [opaqueBE_ser]
  by_cases h : v.length > 65535
  · rw [if_pos h, if_neg (by omega)]
  · rw [if_neg h, if_pos (by omega)]

theorem marshalDS_eq (ds : DS) : marshalDS ds = dsFmt.ser ds := by
  simp only [marshalDS, marshalDSHere, dsFmt, iso, pair, u8_ser, opaque2_ser]
  by_cases h : ds.sig.length > 65535 <;> simp [h]

theorem marshalDSHere_exact (ds : DS) : marshalDSHere ds (some (4 + ds.sig.length)) = dsFmt.ser ds := by
  rw [← marshalDS_eq]
  simp only [marshalDS, marshalDSHere]

/-- `hid` holds of Go values: LogID is a [32]byte -/
theorem serializeSCT_eq (s : SCT) (hid : s.logID.length = 32) : serializeSCT s = sctFmt.ser s := by
  simp only [serializeSCT, serializeSCTHere, serializedLength, marshalDSHere_exact, sctFmt, iso, pair, Wire.guard,
    u8_ser, u64_ser, opaque2_ser, bytesN, hid]
  by_cases hv : s.version = 0
  · simp only [hv]
    by_cases he : s.ext.length > 65535
    · simp [he]
    · cases hd : dsFmt.ser s.sig <;> simp [he]
  · have : (s.version != 0) = true := by simpa using hv
    have h2 : (s.version == 0) = false := by simpa using hv
    simp [this, h2]

/-- the bytes of a V1 SCT (RFC 6962 §3.2), with the engine's big-endian fields -/
def sctBytes (s : SCT) : Bytes :=
  [0] ++ s.logID ++ beBytes 8 s.timestamp.toNat ++ beBytes 2 s.ext.length ++ s.ext ++
    ([s.sig.hash, s.sig.alg] ++ beBytes 2 s.sig.sig.length ++ s.sig.sig)

/-- the checks in the order the code makes them, then the bytes -/
theorem serializeSCTHere_eq (s : SCT) (here : Option Nat) :
    serializeSCTHere s here =
      if s.version ≠ 0 then .err
      else if here.getD (47 + s.ext.length + s.sig.sig.length) < 47 + s.ext.length + s.sig.sig.length then .err
      else if s.ext.length > 65535 then .err
      else if s.sig.sig.length > 65535 then .err
      else .ok (sctBytes s) := by
  have hL : 1 + 32 + 8 + 2 + s.ext.length + 2 + 2 + s.sig.sig.length = 47 + s.ext.length + s.sig.sig.length := by omega
  unfold serializeSCTHere serializedLength marshalDSHere sctBytes
  by_cases hv : s.version = 0
  · simp only [hv, bne_self_eq_false, Bool.false_eq_true, if_false, beq_self_eq_true, if_true, ne_eq, not_true_eq_false, hL]
    by_cases hs : s.sig.sig.length > 65535
    · cases here <;> simp [hs]
    · cases here <;> simp [hs]
  · have hb : (s.version != 0) = true := by simpa using hv
    rw [if_pos hb, if_pos hv]

theorem serializeSCT_cases (s : SCT) :
    (serializeSCT s = .err ∧ (s.version ≠ 0 ∨ s.ext.length > 65535 ∨ s.sig.sig.length > 65535)) ∨
    (serializeSCT s = .ok (sctBytes s) ∧ ¬ (s.version ≠ 0 ∨ s.ext.length > 65535 ∨ s.sig.sig.length > 65535)) := by
  rw [serializeSCT, serializeSCTHere_eq, Option.getD_none, if_neg (Nat.lt_irrefl _)]
  by_cases hv : s.version ≠ 0
  · rw [if_pos hv]
    exact .inl ⟨rfl, .inl hv⟩
  rw [if_neg hv]
  by_cases he : s.ext.length > 65535
  · rw [if_pos he]
    exact .inl ⟨rfl, .inr (.inl he)⟩
  rw [if_neg he]
  by_cases hs : s.sig.sig.length > 65535
  · rw [if_pos hs]
    exact .inl ⟨rfl, .inr (.inr hs)⟩
  rw [if_neg hs]
  exact .inr ⟨rfl, fun h => h.elim hv (·.elim he hs)⟩

theorem serializeSCT_ok (s : SCT) (bs : Bytes) (h : serializeSCT s = .ok bs) : bs = sctBytes s ∧ s.version = 0 := by
  rcases serializeSCT_cases s with ⟨he, _⟩ | ⟨ho, hc⟩
  · rw [he] at h
    cases h
  · rw [ho] at h
    exact ⟨(Res.ok.inj h).symm, Classical.not_not.mp fun hv => hc (.inl hv)⟩

/-! ### explicit big-endian bytes, written without the engine -/

def be2 (n : Nat) : Bytes := [UInt8.ofNat (n / 256 % 256), UInt8.ofNat (n % 256)]
def be3 (n : Nat) : Bytes := [UInt8.ofNat (n / 65536 % 256), UInt8.ofNat (n / 256 % 256), UInt8.ofNat (n % 256)]
def be8 (n : Nat) : Bytes :=
  [UInt8.ofNat (n / 72057594037927936 % 256), UInt8.ofNat (n / 281474976710656 % 256), UInt8.ofNat (n / 1099511627776 % 256),
   UInt8.ofNat (n / 4294967296 % 256), UInt8.ofNat (n / 16777216 % 256), UInt8.ofNat (n / 65536 % 256),
   UInt8.ofNat (n / 256 % 256), UInt8.ofNat (n % 256)]

theorem beBytes2 (n : Nat) : beBytes 2 n = be2 n := by
  simp [beBytes, leBytes, be2]
theorem beBytes3 (n : Nat) : beBytes 3 n = be3 n := by
  simp [beBytes, leBytes, be3, Nat.div_div_eq_div_mul]
theorem beBytes8 (n : Nat) : beBytes 8 n = be8 n := by
  simp [beBytes, leBytes, be8, Nat.div_div_eq_div_mul]

theorem leaf_ser (ts : UInt64) (e : Entry) (ext tb eb xb : Bytes) (ht : u16.ser e.tag = .ok tb)
    (he : (entryBody e.tag).ser e = .ok eb) (hx : (opaqueBE 2).ser ext = .ok xb) :
    leafFmt.ser ⟨0, 0, ts, e, ext⟩ = .ok ([0] ++ ([0] ++ (be8 ts.toNat ++ ((tb ++ eb) ++ xb)))) := by
  have h0 : (Wire.guard (fun v => v == 0) u8).ser 0 = .ok [0] := u8_ser 0
  have h64 : u64.ser ts = .ok (be8 ts.toNat) := by rw [u64_ser, beBytes8]
  have hd : (dep u16 Entry.tag entryBody).ser e = .ok (tb ++ eb) := by simp only [dep, ht, he]
  exact pair_ser (v := (0, 0, ts, e, ext)) h0 (pair_ser (v := (0, ts, e, ext)) h0
    (pair_ser (v := (ts, e, ext)) h64 (pair_ser (v := (e, ext)) hd hx)))

end ZV.C16
