import ZV.Model.C01
import ZV.Proofs.Res
import Mathlib.Tactic.SplitIfs
/-!
  The byte-level parsers of `ZV.Model.C01`, in the order of the model: for each, one statement `Sat P (f …)` (no
  out-of-range index or slice is reached, and what is accepted stays inside the input / within the allocation bound).
  `onecrlLoop` has a closed form instead, `verify` only its no-panic statement; the wrappers `unmarshalRawSeq`,
  `onecrlParse`, `edKeyFlow` and `encryptPKCS1v15` are taken apart in `ZV.Props.C01`.
  The DER header reader and the element loop built on it are in `ZV.Proofs.C01Bridge`.
-/
namespace ZV.C01
open ZV.Res (Sat)

theorem idx_of_lt {bs : Bytes} {i : Nat} (h : i < bs.length) : ∃ b, idx bs i = .ok b := by
  unfold idx
  rw [List.getElem?_eq_getElem h]
  exact ⟨_, rfl⟩

theorem invalidLength_false {o l s : Nat} (h : invalidLength o l s = false) : o + l ≤ s := by
  unfold invalidLength at h
  simp at h
  omega

theorem slice_ok {bs : Bytes} {lo hi : Nat} (h1 : lo ≤ hi) (h2 : hi ≤ bs.length) :
    slice bs lo hi = .ok ((bs.drop lo).take (hi - lo)) := by
  unfold slice; simp [h1, h2]

theorem invalidLength_eq_int (o l s : Nat) (ho : o < 9223372036854775808) (hl : l < 9223372036854775808) :
    invalidLengthInt o l s = invalidLength o l s := by
  unfold invalidLengthInt invalidLength wrap64
  rw [Bool.eq_iff_iff]
  simp only [Bool.or_eq_true, decide_eq_true_eq]
  -- `o + l < 2^64`: the sum wraps at most once, and is negative exactly when it does
  omega

theorem cbRead_some {s : Bytes} {n : Int} {v r : Bytes} (h : cbRead s n = some (v, r)) :
    s = v ++ r ∧ (v.length : Int) = n := by
  unfold cbRead at h
  split at h
  · cases h
  · cases h
    refine ⟨(List.take_append_drop _ _).symm, ?_⟩
    rw [List.length_take]
    omega

theorem cbRead_len {s : Bytes} {n : Int} {v r : Bytes} (h : cbRead s n = some (v, r)) :
    (v.length : Int) = n ∧ v.length + r.length = s.length := by
  obtain ⟨e, hn⟩ := cbRead_some h
  exact ⟨hn, by rw [e, List.length_append]⟩

theorem cbHeader_sat (s : Bytes) (lb : UInt8) : Sat (fun x => x.2 ≤ x.1 ∧ 2 ≤ x.1) (cbHeader s lb) := by
  unfold cbHeader
  refine .ite ⟨Nat.le_add_left _ _, Nat.le_add_left _ _⟩ (.guard fun h => ?_)
  rw [slice_ok (by omega) (by omega)]
  dsimp only
  split
  · trivial
  · exact .guard fun _ => .guard fun _ => .guard fun _ => ⟨Nat.le_add_right _ _, by dsimp only; omega⟩

/-- `readASN1` never reaches its `panic("cryptobyte: internal error")`: the header it skips lies inside the
    element it has just read (`cbHeader_sat`) -/
theorem cbReadASN1_sat (s : Bytes) (skip : Bool) :
    Sat (fun x => x.2.1.length + x.2.2.length ≤ s.length ∧ x.2.2.length + 2 ≤ s.length) (cbReadASN1 s skip) := by
  unfold cbReadASN1
  refine .guard fun hlen => ?_
  obtain ⟨t, ht⟩ := idx_of_lt (bs := s) (i := 0) (by omega)
  obtain ⟨lb, hlb⟩ := idx_of_lt (bs := s) (i := 1) (by omega)
  rw [ht, hlb]
  refine .guard fun _ => (cbHeader_sat s lb).elim (fun x hx => ?_) trivial
  obtain ⟨length, hl⟩ := x
  dsimp only at hx ⊢
  cases hr : cbRead s length with
  | none => trivial
  | some w =>
    obtain ⟨out, rest⟩ := w
    have h2 := cbRead_len hr
    dsimp only
    cases skip with
    | false => exact ⟨by dsimp only; omega, by dsimp only; omega⟩
    | true =>
      rw [if_pos rfl]
      cases hn : cbRead out hl with
      | none =>
        unfold cbRead at hn
        simp at hn
        omega
      | some w2 =>
        have h3 := cbRead_len hn
        exact ⟨by dsimp only; omega, by dsimp only; omega⟩

/-- every certificate entry allocates 2·len for a length that is present in the reader -/
theorem sstLoop_sat (rd : Bytes) (acc : SstOut) :
    Sat (fun o => o.alloc ≤ acc.alloc + 2 * rd.length) (sstLoop rd acc) := by
  have hlen : ∀ rd : Bytes, (rdU32 (rdU32 (rdU32 rd).2).2).2.length ≤ rd.length := fun rd =>
    Nat.le_trans (rdU32_snd_len _) (Nat.le_trans (rdU32_snd_len _) (rdU32_snd_len _))
  fun_induction sstLoop rd acc
  case case1 => exact Nat.le_add_right _ _
  case case2 => trivial
  case case3 => trivial
  case case4 rd acc _ r2 r3 _ _ _ ih | case5 rd acc _ r2 r3 _ ih =>
    refine ih.mono fun o ho => ?_
    have h3 : r3.2.length ≤ rd.length := hlen rd
    simp only [List.length_drop] at ho
    omega

theorem sstPost_sat (f : Bytes → Bool) : ∀ (cs : List Bytes) (n : Nat), Sat (fun _ => True) (sstPost f cs n)
  | [], _ => trivial
  | c :: cs, n => by
    rw [sstPost]
    exact .ite (sstPost_sat f cs (n + 1)) trivial

theorem sstParse_sat (f : Bytes → Bool) (bs : Bytes) : Sat (fun x => x.2 ≤ 2 * bs.length) (sstParse f bs) := by
  unfold sstParse
  dsimp only
  refine .guard fun _ => (sstLoop_sat _ _).elim (fun o ho => ?_) trivial
  dsimp only
  refine (sstPost_sat f o.certs 0).elim (fun n _ => ?_) trivial
  have h2 := rdU32_snd_len bs
  simp only [List.length_drop] at ho
  show o.alloc ≤ _
  omega

theorem serialLoop_sat : ∀ (k : Nat) (rest : Bytes) (n a : Nat),
    Sat (fun x => x.2.2 + 64 * x.2.1.length ≤ a + 64 * rest.length) (serialLoop k rest n a)
  | 0, _, _, _ => Nat.le_refl _
  | _ + 1, [], _, _ => by rw [serialLoop]; trivial
  | k + 1, l :: r, n, a => by
    rw [serialLoop]
    refine .guard fun _ => (serialLoop_sat k _ _ _).mono fun x hx => ?_
    simp only [List.length_drop, List.length_cons] at hx ⊢
    omega

theorem crlLoop_sat (rest : Bytes) (acc : CrlOut) :
    Sat (fun o => o.alloc ≤ acc.alloc + 64 * rest.length) (crlLoop rest acc) := by
  fun_induction crlLoop rest acc
  case case1 => exact Nat.le_add_right _ _
  case case2 => trivial
  case case3 rest acc _ _ _ _ _ _ _ r2 hr _ _ _ hs ih =>
    refine ih.mono fun o ho => ?_
    have h1 := (serialLoop_sat _ _ _ _).of_ok hs
    have h2 : (rest.drop 32).length = r2.length + 4 := by rw [hr]; rfl
    rw [List.length_drop] at h2
    dsimp only at ho h1
    omega
  case case4 => trivial
  case case5 hs => exact (serialLoop_sat _ _ _ _).ne_panic hs
  case case6 => trivial

theorem crlsetParse_sat (hok : Bool) (bs : Bytes) : Sat (fun x => x.2.2 ≤ 64 * bs.length) (crlsetParse hok bs) := by
  unfold crlsetParse
  refine .guard fun hlen => ?_
  obtain ⟨l0, h0⟩ := idx_of_lt (bs := bs) (i := 0) (by omega)
  obtain ⟨l1, h1⟩ := idx_of_lt (bs := bs) (i := 1) (by omega)
  rw [h0, h1, slice_ok (by omega) (Nat.le_refl _)]
  refine .guard fun hc => ?_
  rw [slice_ok (Nat.zero_le _) (by omega), slice_ok (by omega) (Nat.le_refl _)]
  refine .guard fun _ => (crlLoop_sat _ _).elim (fun o ho => ?_) trivial
  simp only [List.length_take, List.length_drop] at ho
  show o.alloc ≤ _
  omega

/-- the issuer that `mozilla.Parse` later dereferences is there -/
theorem entryUnmarshal_sat (r : Rec) : Sat (fun e => e = .blocked ∨ e = .serial true) (entryUnmarshal r) := by
  cases r with
  | null => trivial
  | obj s p i sn => exact .ite (.ite trivial (.ite trivial (Or.inl rfl))) (.ite trivial (Or.inr rfl))

theorem onecrlLoop_eq (es : List Entry) (n : Nat) :
    onecrlLoop es n = if Entry.serial false ∈ es then .panic else .ok (n + es.length) := by
  fun_induction onecrlLoop es n with
  | case1 n => rfl
  | case2 es n ih => simp only [ih, List.mem_cons, reduceCtorEq, false_or, List.length_cons, Nat.add_assoc, Nat.add_comm 1]
  | case3 es n ih =>
    simp only [ih, List.mem_cons, Entry.serial.injEq, reduceCtorEq, false_or, List.length_cons, Nat.add_assoc, Nat.add_comm 1]
  | case4 => exact (if_pos List.mem_cons_self).symm

/-- a key `parsePublicKey` accepts as Ed25519 has the 32 bytes `ed25519.Verify` insists on -/
theorem parseEdKey_sat (isEd : Bool) (keyLen : Nat) :
    Sat (fun k => (∃ l, k = .x25519 l) ∨ k = .ed 32) (parseEdKey isEd keyLen) := by
  unfold parseEdKey
  refine .ite (.guard fun _ => .guard fun h => Or.inr ?_) (.guard fun _ => Or.inl ⟨_, rfl⟩)
  rw [Decidable.not_not.mp h]

theorem parseEdKey_ok_len (isEd : Bool) (keyLen : Nat) (k : PubKey) (h : parseEdKey isEd keyLen = .ok k) :
    (∃ l, k = .x25519 l) ∨ k = .ed 32 :=
  (parseEdKey_sat isEd keyLen).of_ok h

theorem checkPub_inv {p : RsaPub} (h : checkPub p = true) : ∃ n e, p = ⟨some n, some e⟩ ∧ 0 < n ∧ 2 ≤ e := by
  obtain ⟨n, e⟩ := p
  cases n with
  | none => cases h
  | some n =>
    cases e with
    | none => cases h
    | some e => exact ⟨n, e, rfl, by simpa [checkPub] using h⟩

theorem verify_no_panic (p : RsaPub) (sigLen sig : Nat) : verify p sigLen sig ≠ .panic := by
  unfold verify
  cases hc : checkPub p with
  | false => exact nofun
  | true =>
    obtain ⟨n, e, rfl, _, he⟩ := checkPub_inv hc
    -- `Exp` with a non-negative exponent never returns nil, and `N` is there for `Size` and `Cmp`
    simp only [size, encrypt, show ¬e < 0 by omega, false_and, if_false]
    refine Sat.ne_panic (P := fun _ => True) (.ite trivial (.ite trivial ?_))
    split_ifs
    · trivial
    · trivial

end ZV.C01
