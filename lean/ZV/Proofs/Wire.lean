import ZV.Model.Wire
import ZV.Proofs.Base256
import ZV.Proofs.Res
/-!
  Laws of the wire-format combinators (engine E1).  `Lawful c` bundles
  * `rt`        — what `ser` produced, followed by any tail, parses back to the value and leaves the tail;
  * `consumes`  — a successful parse never returns more input than it was given;
  * `parNoPanic` / `serNoPanic` — neither direction panics.
  The two laws of the parser are shown together, by one walk through it (`ParOk`, `Lawful.of_parOk`).
  Every combinator has a `Lawful` lemma, so a grammar built from combinators needs no proof of its own: `Lawful` of a
  whole message comes by stacking these lemmas.
-/
namespace ZV.Wire

theorem leVal_eq (bs : Bytes) : leVal bs = be256 bs.reverse := by
  induction bs with
  | nil => rfl
  | cons b r ih => rw [leVal, List.reverse_cons, be256_snoc, ih, Nat.add_comm, Nat.mul_comm]

theorem leBytes_eq (k v : Nat) : leBytes k v = (fixBE k v).reverse := by
  induction k generalizing v with
  | zero => rfl
  | succ k ih =>
    rw [leBytes, fixBE_succ_snoc, List.reverse_append, ih, UInt8.ofNat_mod_size']
    rfl

theorem leBytes_length (k v : Nat) : (leBytes k v).length = k := by
  rw [leBytes_eq, List.length_reverse, fixBE_length]

theorem leVal_leBytes (k v : Nat) : leVal (leBytes k v) = v % 256 ^ k := by
  rw [leVal_eq, leBytes_eq, List.reverse_reverse, be256_fixBE]

theorem leVal_lt (bs : Bytes) : leVal bs < 256 ^ bs.length := by
  rw [leVal_eq, ← List.length_reverse]
  exact be256_lt _

theorem leBytes_leVal (bs : Bytes) : leBytes bs.length (leVal bs) = bs := by
  rw [leVal_eq, leBytes_eq, ← List.length_reverse, fixBE_be256, List.reverse_reverse]

theorem beBytes_length (k v : Nat) : (beBytes k v).length = k := by
  rw [beBytes, List.length_reverse, leBytes_length]

theorem beVal_beBytes (k v : Nat) : beVal (beBytes k v) = v % 256 ^ k := by
  rw [beVal, beBytes, List.reverse_reverse, leVal_leBytes]

theorem beVal_lt (bs : Bytes) : beVal bs < 256 ^ bs.length := by
  rw [← List.length_reverse]
  exact leVal_lt bs.reverse

theorem beBytes_beVal (bs : Bytes) : beBytes bs.length (beVal bs) = bs := by
  rw [beBytes, beVal, ← List.length_reverse, leBytes_leVal, List.reverse_reverse]

structure Lawful {α : Type} (c : Fmt α) : Prop where
  rt : ∀ (a : α) (bs tail : Bytes), c.ser a = .ok bs → c.par (bs ++ tail) = .ok (a, tail)
  consumes : ∀ (bs : Bytes) (a : α) (rest : Bytes), c.par bs = .ok (a, rest) → rest.length ≤ bs.length
  parNoPanic : ∀ bs, c.par bs ≠ .panic
  serNoPanic : ∀ a, c.ser a ≠ .panic

structure Codec (α : Type) where
  fmt : Fmt α
  laws : Lawful fmt

theorem Lawful.roundtrip {α} {c : Fmt α} (h : Lawful c) (a : α) (bs : Bytes) (hs : c.ser a = .ok bs) :
    c.par bs = .ok (a, []) := by
  exact List.append_nil bs ▸ h.rt a bs [] hs

theorem Lawful.err_or_roundtrip {α} {c : Fmt α} (h : Lawful c) (a : α) :
    c.ser a = .err ∨ ∃ bs, c.ser a = .ok bs ∧ c.par bs = .ok (a, []) := by
  cases hs : c.ser a with
  | ok bs => exact Or.inr ⟨bs, rfl, h.roundtrip a bs hs⟩
  | err => exact Or.inl rfl
  | panic => exact absurd hs (h.serNoPanic a)

/-- `consumes` and `parNoPanic` in one: the parser does not panic, and what it leaves is no longer than what it was given -/
def ParOk {α : Type} (c : Fmt α) : Prop := ∀ bs, Res.Sat (fun p => p.2.length ≤ bs.length) (c.par bs)

theorem Lawful.parOk {α} {c : Fmt α} (h : Lawful c) : ParOk c := fun bs =>
  .intro (h.parNoPanic bs) fun p hp => h.consumes bs p.1 p.2 hp

theorem Lawful.of_parOk {α} {c : Fmt α} (rt : ∀ (a : α) (bs tail : Bytes), c.ser a = .ok bs → c.par (bs ++ tail) = .ok (a, tail))
    (par : ParOk c) (ser : ∀ a, c.ser a ≠ .panic) : Lawful c :=
  ⟨rt, fun bs _ _ h => (par bs).of_ok h, fun bs => (par bs).ne_panic, ser⟩

/-!
  Every combinator goes on after a part that succeeds and hands `err` and `panic` on.  What holds of such a step is
  said here once, for the two shapes the model is written in (a writer's bytes, a reader's value and rest); a reader's
  step inside a `ParOk` walk is `Res.Sat.elim`. -/

theorem ser_ok {β : Type} {r : Res Bytes} {F : Bytes → Res β} {b : β}
    (h : (match r with | .ok x => F x | .err => .err | .panic => .panic) = .ok b) : ∃ x, r = .ok x ∧ F x = .ok b := by
  cases r with
  | ok x => exact ⟨x, rfl, h⟩
  | err => cases h
  | panic => cases h

theorem ser_noPanic {β : Type} {r : Res Bytes} {F : Bytes → Res β} (hr : r ≠ .panic) (hF : ∀ x, F x ≠ .panic) :
    (match r with | .ok x => F x | .err => .err | .panic => .panic) ≠ .panic := by
  cases r with
  | ok x => exact hF x
  | err => nofun
  | panic => exact absurd rfl hr

theorem par_ok {α β : Type} {r : Res (α × Bytes)} {F : α → Bytes → Res β} {b : β}
    (h : (match r with | .ok (x, rest) => F x rest | .err => .err | .panic => .panic) = .ok b) :
    ∃ x rest, r = .ok (x, rest) ∧ F x rest = .ok b := by
  cases r with
  | ok p => exact ⟨p.1, p.2, rfl, h⟩
  | err => cases h
  | panic => cases h

theorem lawful_fixed {α} (k : Nat) (p : α → Prop) [DecidablePred p] (enc : α → Bytes) (dec : Bytes → α)
    (hl : ∀ a, p a → (enc a).length = k) (hd : ∀ a, p a → dec (enc a) = a) :
    Lawful ⟨fun a => if p a then .ok (enc a) else .err,
      fun bs => if bs.length < k then .err else .ok (dec (bs.take k), bs.drop k)⟩ := by
  refine .of_parOk (fun a bs tail h => ?_) (fun bs => .ite trivial (List.length_drop ▸ Nat.sub_le _ k : (bs.drop k).length ≤ _)) fun a => ?_
  · dsimp only at h ⊢
    split at h
    · rename_i hp
      cases h
      obtain rfl := hl a hp
      rw [if_neg (Nat.not_lt.mpr (List.length_append ▸ Nat.le_add_right ..)), List.take_left, List.drop_left, hd a hp]
    · cases h
  · dsimp only
    split <;> nofun

theorem lawful_uintBE (k : Nat) : Lawful (uintBE k) :=
  lawful_fixed k (· < 256 ^ k) (beBytes k) beVal (fun a _ => beBytes_length k a)
    fun a h => (beVal_beBytes k a).trans (Nat.mod_eq_of_lt h)

theorem lawful_uintLE (k : Nat) : Lawful (uintLE k) :=
  lawful_fixed k (· < 256 ^ k) (leBytes k) leVal (fun a _ => leBytes_length k a)
    fun a h => (leVal_leBytes k a).trans (Nat.mod_eq_of_lt h)

theorem lawful_bytesN (n : Nat) : Lawful (bytesN n) :=
  lawful_fixed n (fun a : Bytes => a.length = n) id id (fun _ h => h) fun _ _ => rfl

theorem lawful_pair {α β} {a : Fmt α} {b : Fmt β} (ha : Lawful a) (hb : Lawful b) : Lawful (pair a b) := by
  refine .of_parOk (fun v bs tail h => ?_) (fun bs => ?_)
    fun v => ser_noPanic (ha.serNoPanic _) fun _ => ser_noPanic (hb.serNoPanic _) fun _ => nofun
  · obtain ⟨x, h1, h⟩ := ser_ok h
    obtain ⟨y, h2, h⟩ := ser_ok h
    cases h
    dsimp only [pair]
    rw [List.append_assoc, ha.rt v.1 x (y ++ tail) h1]
    dsimp only
    rw [hb.rt v.2 y tail h2]
  · dsimp only [pair]
    refine (ha.parOk bs).elim (fun ⟨x, r⟩ hp => ?_) trivial
    dsimp only
    exact (hb.parOk r).elim (fun _ hq => Nat.le_trans hq hp) trivial

theorem lawful_piso {α β} {c : Fmt α} (f : α → β) (g : β → Option α) (hfg : ∀ b a, g b = some a → f a = b)
    (hc : Lawful c) : Lawful (piso f g c) := by
  refine .of_parOk (fun v bs tail h => ?_) (fun bs => ?_) fun v => ?_
  · dsimp only [piso] at h ⊢
    cases hg : g v with
    | none => rw [hg] at h; cases h
    | some a =>
      rw [hg] at h
      rw [hc.rt a bs tail h, ← hfg v a hg]
  · dsimp only [piso]
    exact (hc.parOk bs).elim (fun _ hp => hp) trivial
  · dsimp only [piso]
    cases g v with
    | none => nofun
    | some a => exact hc.serNoPanic a

theorem lawful_iso {α β} {c : Fmt α} (f : α → β) (g : β → α) (hfg : ∀ b, f (g b) = b) (hc : Lawful c) :
    Lawful (iso f g c) :=
  lawful_piso f (fun b => some (g b)) (fun b _ h => Option.some.inj h ▸ hfg b) hc

theorem lawful_guard {α} {c : Fmt α} (p : α → Bool) (hc : Lawful c) : Lawful (guard p c) := by
  refine .of_parOk (fun v bs tail h => ?_) (fun bs => ?_) fun v => ?_
  · dsimp only [guard] at h ⊢
    split at h
    · rename_i hp
      rw [hc.rt v bs tail h]
      exact if_pos hp
    · cases h
  · dsimp only [guard]
    exact (hc.parOk bs).elim (fun _ hp => .ite hp trivial) trivial
  · dsimp only [guard]
    split
    · exact hc.serNoPanic v
    · nofun

theorem lawful_dep {τ β} {t : Fmt τ} (tag : β → τ) (body : τ → Fmt β) (ht : Lawful t) (hb : ∀ x, Lawful (body x)) :
    Lawful (dep t tag body) := by
  refine .of_parOk (fun v bs tail h => ?_) (fun bs => ?_)
    fun v => ser_noPanic (ht.serNoPanic _) fun _ => ser_noPanic ((hb _).serNoPanic _) fun _ => nofun
  · obtain ⟨x, h1, h⟩ := ser_ok h
    obtain ⟨y, h2, h⟩ := ser_ok h
    cases h
    dsimp only [dep]
    rw [List.append_assoc, ht.rt (tag v) x (y ++ tail) h1]
    exact (hb (tag v)).rt v y tail h2
  · dsimp only [dep]
    exact (ht.parOk bs).elim (fun p hp => ((hb p.1).parOk p.2).mono fun _ hq => Nat.le_trans hq hp) trivial

theorem varBytes_eq_dep (len : Fmt Nat) : varBytes len = dep len List.length bytesN := by
  simp only [varBytes, dep, bytesN, ↓reduceIte]
  congr 1
  funext bs
  cases len.par bs <;> rfl

theorem lawful_varBytes {len : Fmt Nat} (hl : Lawful len) : Lawful (varBytes len) :=
  varBytes_eq_dep len ▸ lawful_dep _ _ hl lawful_bytesN

theorem lawful_opaqueBE (k : Nat) : Lawful (opaqueBE k) := lawful_varBytes (lawful_uintBE k)

theorem parN_serAll {α} {c : Fmt α} (hc : Lawful c) (l : List α) (bs tail : Bytes) (h : serAll c l = .ok bs) :
    parN c l.length (bs ++ tail) = .ok (l, tail) := by
  induction l generalizing bs with
  | nil => cases h; rfl
  | cons x xs ih =>
    obtain ⟨a, h1, h⟩ := ser_ok h
    obtain ⟨b, h2, h⟩ := ser_ok h
    cases h
    dsimp only [List.length_cons, parN]
    rw [List.append_assoc, hc.rt x a (b ++ tail) h1]
    dsimp only
    rw [ih b h2]

theorem parN_ok {α} {c : Fmt α} (hc : Lawful c) (n : Nat) (bs : Bytes) :
    Res.Sat (fun p => p.2.length ≤ bs.length) (parN c n bs) := by
  induction n generalizing bs with
  | zero => exact Nat.le_refl _
  | succ n ih =>
    rw [parN]
    refine (hc.parOk bs).elim (fun ⟨x, r⟩ hp => ?_) trivial
    dsimp only
    exact (ih r).elim (fun _ hq => Nat.le_trans hq hp) trivial

theorem serAll_noPanic {α} {c : Fmt α} (hc : Lawful c) (l : List α) : serAll c l ≠ .panic := by
  induction l with
  | nil => nofun
  | cons x xs ih => exact ser_noPanic (hc.serNoPanic x) fun _ => ser_noPanic ih fun _ => nofun

theorem lawful_countList {α} {cnt : Fmt Nat} {c : Fmt α} (hn : Lawful cnt) (hc : Lawful c) : Lawful (countList cnt c) := by
  refine .of_parOk (fun l bs tail h => ?_) (fun bs => ?_)
    fun l => ser_noPanic (hn.serNoPanic _) fun _ => ser_noPanic (serAll_noPanic hc l) fun _ => nofun
  · obtain ⟨a, h1, h⟩ := ser_ok h
    obtain ⟨b, h2, h⟩ := ser_ok h
    cases h
    dsimp only [countList]
    rw [List.append_assoc, hn.rt l.length a (b ++ tail) h1]
    exact parN_serAll hc l b tail h2
  · dsimp only [countList]
    exact (hn.parOk bs).elim (fun p hp => (parN_ok hc p.1 p.2).mono fun _ hq => Nat.le_trans hq hp) trivial

theorem lawful_fail {α} : Lawful (fail : Fmt α) :=
  .of_parOk (fun _ _ _ h => nomatch h) (fun _ => trivial) fun _ => nofun

theorem pair_ser {α β} {a : Fmt α} {b : Fmt β} {v : α × β} {x y : Bytes} (h1 : a.ser v.1 = .ok x) (h2 : b.ser v.2 = .ok y) :
    (pair a b).ser v = .ok (x ++ y) := by
  simp only [pair, h1, h2]

theorem opaqueBE_ser (k : Nat) (v : Bytes) :
    (opaqueBE k).ser v = if v.length < 256 ^ k then .ok (beBytes k v.length ++ v) else .err := by
  dsimp only [opaqueBE, varBytes, uintBE]
  by_cases h : v.length < 256 ^ k
  · simp only [if_pos h]
  · simp only [if_neg h]

theorem opaqueBE_ser_length {k : Nat} {v bs : Bytes} (h : (opaqueBE k).ser v = .ok bs) : bs.length = k + v.length := by
  rw [opaqueBE_ser] at h
  split at h
  · cases h
    rw [List.length_append, beBytes_length]
  · cases h

theorem opaqueBE_ser_ok_iff (k : Nat) (v : Bytes) :
    (∃ bs, (opaqueBE k).ser v = .ok bs) ↔ v.length < 256 ^ k := by
  rw [opaqueBE_ser]
  split <;> simp [*]

end ZV.Wire
