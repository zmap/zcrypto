import ZV.Model.C02Names
import ZV.Proofs.C02
namespace ZV.C02

/-- `<` on `Str` is Go's string order (bytewise lexicographic) -/
theorem strTotal : StrictTotal Str where
  irrefl a := List.lt_irrefl a
  trans _ _ _ h1 h2 := List.lt_trans h1 h2
  tri a b := by
    by_cases h1 : a < b
    · exact Or.inl h1
    · by_cases h2 : b < a
      · exact Or.inr (Or.inr h2)
      · exact Or.inr (Or.inl (List.le_antisymm (List.not_lt.mp h2) (List.not_lt.mp h1)))

/-- the name with every leading `?.` / `*.` label removed -/
def stripMarks : Str → Str
  | x :: y :: rest => if (x = 63 ∨ x = 42) ∧ y = 46 then stripMarks rest else x :: y :: rest
  | s => s

theorem hasPrefix2_short (a b : UInt8) (s : Str) (h : s.length < 2) : hasPrefix2 a b s = false := by
  match s, h with
  | [], _ => rfl
  | [_], _ => rfl

theorem isValidName_eq (isURL : Str → Bool) (name : Str) :
    isValidName isURL name = .ok (isURL (stripMarks name)) := by
  fun_induction isValidName isURL name with
  | case1 x y rest hc ih =>
    rw [ih]
    have : (x = 63 ∨ x = 42) ∧ y = 46 := by
      simp [hasPrefix2] at hc
      rcases hc with ⟨h1, h2⟩ | ⟨h1, h2⟩ <;> simp [h1, h2]
    simp [stripMarks, this]
  | case2 name hc hne =>
    exfalso
    match name, hc, hne with
    | [], hc, _ => simp [hasPrefix2] at hc
    | [_], hc, _ => simp [hasPrefix2] at hc
    | x :: y :: rest, _, hne => exact hne x y rest rfl
  | case3 name hc =>
    congr 2
    match name, hc with
    | [], _ => rfl
    | [_], _ => rfl
    | x :: y :: rest, hc =>
      simp [hasPrefix2] at hc
      have : ¬ ((x = 63 ∨ x = 42) ∧ y = 46) := by
        rintro ⟨h1 | h1, h2⟩
        · exact hc.1 h1 h2
        · exact hc.2 h1 h2
      simp [stripMarks, this]

/-- a DNS SAN is listed iff it is valid after stripping the marks, or has no dot at all -/
def dnsKept (isURL : Str → Bool) (n : Str) : Bool := isURL (stripMarks n) || !containsDot n

theorem dnsLoop_eq (isURL : Str → Bool) (names dns : List Str) :
    dnsLoop isURL names dns = .ok (names ++ dns.filter (dnsKept isURL)) := by
  induction dns generalizing names with
  | nil => simp [dnsLoop]
  | cons n rest ih =>
    simp only [dnsLoop, isValidName_eq]
    cases hv : isURL (stripMarks n) with
    | true => simp [ih, dnsKept, hv]
    | false =>
      cases hd : containsDot n with
      | true => simp [ih, dnsKept, hv, hd]
      | false => simp [ih, dnsKept, hv, hd]

/-- the list handed to `purgeNameDuplicates`, in closed form -/
def candidates (isURL : Str → Bool) (c : NameCert) : List Str :=
  (if isURL (stripMarks c.commonName) then [c.commonName] else []) ++ c.dnsNames.filter (dnsKept isURL) ++
    c.uris.filter isURL ++ c.ipTexts.filter isURL

theorem collectCandidates_eq (isURL : Str → Bool) (c : NameCert) :
    collectCandidates isURL c = .ok (candidates isURL c) := by
  simp [collectCandidates, isValidName_eq, dnsLoop_eq, candidates]

theorem collectAllNames_eq (isURL : Str → Bool) (c : NameCert) :
    collectAllNames isURL c = .ok (purge (candidates isURL c)) := by
  simp [collectAllNames, collectCandidates_eq]

theorem mem_candidates (isURL : Str → Bool) (c : NameCert) (x : Str) :
    x ∈ candidates isURL c ↔
      (x = c.commonName ∧ isURL (stripMarks x) = true) ∨ (x ∈ c.dnsNames ∧ dnsKept isURL x = true) ∨
      (x ∈ c.uris ∧ isURL x = true) ∨ (x ∈ c.ipTexts ∧ isURL x = true) := by
  have hcn : x ∈ (if isURL (stripMarks c.commonName) = true then [c.commonName] else []) ↔
      x = c.commonName ∧ isURL (stripMarks x) = true := by
    split
    · rename_i h
      rw [List.mem_singleton]
      exact ⟨fun e => ⟨e, e ▸ h⟩, fun e => e.1⟩
    · rename_i h
      exact iff_of_false List.not_mem_nil (fun e => h (e.1 ▸ e.2))
  simp only [candidates, List.mem_append, List.mem_filter, hcn, or_assoc]

end ZV.C02
