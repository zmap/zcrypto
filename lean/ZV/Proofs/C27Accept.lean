import ZV.Model.C27
/-!
  The acceptance decisions of `ZV.Model.C27` in closed form: each decision function is a chain of early
  `return false`s, i.e. a conjunction; the hooks add two conjuncts.
-/
namespace ZV.C27

theorem possession_sound {skip : Bool} {kex : Kex} {c : ServerCred} (h : possession skip kex c = true)
    (hk : skip = false ∨ kex ≠ .dhe) : c.keyMatches = true ∧ (kex ≠ .rsa → c.sigIntact = true) := by
  cases kex <;> cases skip <;> simp_all [possession]

theorem clientAccepts_iff (skip : Bool) (kex : Kex) (c : ServerCred) :
    clientAccepts skip kex c = true ↔
      (skip = true ∨ c.chainOK = true) ∧ possession skip kex c = true ∧ c.sigIntact = true := by
  unfold clientAccepts
  cases skip <;> cases c.chainOK <;> cases possession _ kex c <;> simp

theorem clientAcceptsH_eq (vpc vc : Hook) (skip : Bool) (kex : Kex) (c : ServerCred) :
    clientAcceptsH vpc vc skip kex c = (vpc.allows && vc.allows && clientAccepts skip kex c) := by
  unfold clientAcceptsH clientAccepts
  cases vpc.allows <;> cases vc.allows <;> simp

theorem Mode.toNat_lt_one (m : Mode) : m.toNat < 1 ↔ m = .noClientCert := by
  cases m <;> simp [Mode.toNat]

theorem serverAccepts_iff (m : Mode) (o : ClientOffer) :
    serverAccepts m o = true ↔
      m = .noClientCert ∨
      ((o.hasCert = false → requiresClientCert m = false) ∧
       (o.hasCert = true → (m.toNat ≥ 3 → o.chainOK = true) ∧ o.cvValid = true)) := by
  unfold serverAccepts
  by_cases hm : m = .noClientCert
  · simp [hm, Mode.toNat]
  · have h1 : ¬ m.toNat < 1 := fun h => hm ((Mode.toNat_lt_one m).mp h)
    simp only [h1, if_false, hm, false_or]
    cases o.hasCert <;> simp [Decidable.or_iff_not_imp_left]

theorem serverAcceptsH_eq (vpc vc : Hook) (m : Mode) (o : ClientOffer) :
    serverAcceptsH vpc vc m o = (vc.allows && (vpc.allows || m == .noClientCert) && serverAccepts m o) := by
  unfold serverAcceptsH serverAccepts
  by_cases hm : m = .noClientCert
  · simp [hm, Mode.toNat]
  · have h1 : ¬ m.toNat < 1 := fun h => hm ((Mode.toNat_lt_one m).mp h)
    simp only [h1, if_false, beq_eq_false_iff_ne.mpr hm, Bool.or_false]
    cases vpc.allows <;> cases vc.allows <;> simp

end ZV.C27
