import ZV.Proofs.C28Ext
/-!
  C28 — ServerHello: inversion of every arm of the extension switch `shExt` (shape of the extension data, the field it
  changes, all others unchanged).
-/
namespace ZV.C28

/-- the first two bytes as a big-endian number (0 if there are fewer than two) -/
def be16 : Bytes → Nat
  | a :: b :: _ => u16 a b
  | _ => 0

/-- signed_certificate_timestamp: `d` = len(2) ‖ list,  list non-empty = len(2)‖sct …, every sct non-empty -/
def SctExt (d : Bytes) (scts : List Bytes) : Prop :=
  ∃ a b sl, d = a :: b :: sl ∧ u16 a b = sl.length ∧ sl ≠ [] ∧ Framed16s sl scts ∧ ∀ s ∈ scts, s ≠ []

/-- ServerHello ALPN: `d` = len(2) ‖ len(1) ‖ proto  with exactly one, non-empty, protocol -/
def Alpn1Ext (d : Bytes) : Prop :=
  ∃ a b c p, d = a :: b :: c :: p ∧ u16 a b = p.length + 1 ∧ c.toNat = p.length ∧ p ≠ []

/-- key_share of a ServerHello (not the 2-byte HelloRetryRequest form): group(2) ‖ len(2) ‖ key_exchange -/
def KeyShareExt (d : Bytes) : Prop :=
  ∃ g1 g2 a b ke, d = g1 :: g2 :: a :: b :: ke ∧ u16 a b = ke.length

variable {m m' : SHMsg} {d : Bytes}

theorem shExt_ocsp (h : shExt m 5 d = some m') : d = [] ∧ m' = { m with ocsp := true } := by
  obtain ⟨hd, rfl⟩ := ite_isEmpty_some h
  exact ⟨hd, rfl⟩

theorem shExt_tick (h : shExt m 35 d = some m') : d = [] ∧ m' = { m with tick := true } := by
  obtain ⟨hd, rfl⟩ := ite_isEmpty_some h
  exact ⟨hd, rfl⟩

theorem shExt_ems (h : shExt m 23 d = some m') : d = [] ∧ m' = { m with ems := true } := by
  obtain ⟨hd, rfl⟩ := ite_isEmpty_some h
  exact ⟨hd, rfl⟩

theorem shExt_reneg (h : shExt m 0xff01 d = some m') :
    Vec8Ext d ∧ m' = { m with reneg := d.drop 1, renegSup := true } := by
  obtain ⟨a, v, rfl, hl, h⟩ := bindW8 h
  cases h
  exact ⟨⟨a, v, rfl, hl⟩, rfl⟩

theorem shExt_alpn (h : shExt m 16 d = some m') : Alpn1Ext d ∧ m' = { m with alpn := d.drop 3 } := by
  obtain ⟨a, b, pl, rfl, hl, _, h⟩ := bindW16 h
  obtain ⟨c, p, rfl, hc, h⟩ := bindW8 h
  obtain ⟨hp, h⟩ := ite_isEmpty h
  cases h
  exact ⟨⟨a, b, c, p, rfl, hl, hc, hp⟩, rfl⟩

theorem shExt_scts (h : shExt m 18 d = some m') : ∃ l, SctExt d l ∧ m' = { m with scts := m.scts ++ l } := by
  obtain ⟨a, b, sl, rfl, hl, hne, h⟩ := bindW16 h
  match h2 : splitVec16s sl, h with
  | some lst, h =>
    simp only at h
    obtain ⟨ha, h⟩ := guard_some h
    cases h
    exact ⟨lst, ⟨a, b, sl, rfl, hl, hne, splitVec16s_framed sl lst h2,
      fun s hs hnil => ha (List.any_eq_true.mpr ⟨s, hs, by rw [hnil]; rfl⟩)⟩, rfl⟩

theorem shExt_sv (h : shExt m 43 d = some m') : (∃ a b, d = [a, b]) ∧ m' = { m with sv := be16 d } := by
  conv at h => lhs; whnf
  match h1 : readU16 d, h with
  | some (v, []), h =>
    cases h
    obtain ⟨a, b, rfl, rfl⟩ := readU16_spec h1
    exact ⟨⟨a, b, rfl⟩, rfl⟩

theorem shExt_keyShare (h : shExt m 51 d = some m') :
    (d.length = 2 ∧ m' = { m with selGroup := be16 d }) ∨
    (d.length ≠ 2 ∧ KeyShareExt d ∧ m' = { m with shareGroup := be16 d }) := by
  change (if d.length = 2 then _ else _) = _ at h
  by_cases hl : d.length = 2
  · rw [if_pos hl] at h
    match h1 : readU16 d, h with
    | some (g, r), h =>
      cases h
      obtain ⟨a, b, rfl, rfl⟩ := readU16_spec h1
      exact .inl ⟨hl, rfl⟩
  · rw [if_neg hl] at h
    match h1 : readU16 d, h with
    | some (g, r), h =>
      simp only at h
      match h2 : wholeVec16 r, h with
      | some ke, h =>
        cases h
        obtain ⟨g1, g2, rfl, rfl⟩ := readU16_spec h1
        obtain ⟨a, b, rfl, hk⟩ := wholeVec16_spec h2
        exact .inr ⟨hl, ⟨g1, g2, a, b, ke, rfl, hk⟩, rfl⟩

/-- cookie (44), pre_shared_key (41), ec_point_formats (11): checked, nothing recorded -/
theorem shExt_nolog {m m' : SHMsg} {id : Nat} {d : Bytes} (hid : id = 44 ∨ id = 41 ∨ id = 11)
    (h : shExt m id d = some m') : m' = m := by
  rcases hid with rfl | rfl | rfl
  · obtain ⟨_, _, _, _, _, _, h⟩ := bindW16 h
    exact (Option.some.inj h).symm
  · conv at h => lhs; whnf
    match readU16 d, h with
    | some (_, []), h => exact (Option.some.inj h).symm
  · obtain ⟨_, _, _, _, h⟩ := bindW8 h
    exact (Option.some.inj (ite_isEmpty h).2).symm

/-- the identifiers with an arm of their own in `serverHelloMsg.unmarshal` -/
def shKnown : List Nat := [5, 35, 0xff01, 16, 18, 43, 44, 51, 41, 11, 23]

theorem shExt_unknown {m m' : SHMsg} {id : Nat} {d : Bytes} (hid : id ∉ shKnown) (h : shExt m id d = some m') :
    m' = { m with unknown := m.unknown ++ [extBytes id d] } := by
  simp only [shKnown, List.mem_cons, List.not_mem_nil, or_false, not_or] at hid
  obtain ⟨h5, h35, hff, h16, h18, h43, h44, h51, h41, h11, h23⟩ := hid
  rw [shExt, if_neg h5, if_neg h35, if_neg hff, if_neg h16, if_neg h18, if_neg h43, if_neg h44, if_neg h51, if_neg h41,
    if_neg h11, if_neg h23] at h
  exact (Option.some.inj h).symm

/-- key_share in its ServerHello form (group + key) -/
def isShare (e : Nat × Bytes) : Bool := e.1 == 51 && e.2.length != 2
/-- key_share in its 2-byte HelloRetryRequest form (group only) -/
def isSel (e : Nat × Bytes) : Bool := e.1 == 51 && e.2.length == 2

/-- the group named by the last extension satisfying `p` (0 if none) -/
def lastGroup (p : Nat × Bytes → Bool) (es : List (Nat × Bytes)) : Nat :=
  match lastExt p es with
  | some d => be16 d
  | none => 0

/-- extensions that fall into the default arm -/
def isUnknown (e : Nat × Bytes) : Bool := !(shKnown.contains e.1)

/-- what an accepted extension `(id, d)` does to the fields of the message (for `scts` the appended list is given by
    `shExt_scts`) -/
structure SHEffect (m : SHMsg) (id : Nat) (d : Bytes) (m' : SHMsg) : Prop where
  ocsp : m'.ocsp = if isId 5 (id, d) then true else m.ocsp
  tick : m'.tick = if isId 35 (id, d) then true else m.tick
  reneg : m'.reneg = if isId 0xff01 (id, d) then d.drop 1 else m.reneg
  renegSup : m'.renegSup = if isId 0xff01 (id, d) then true else m.renegSup
  alpn : m'.alpn = if isId 16 (id, d) then d.drop 3 else m.alpn
  scts : isId 18 (id, d) = false → m'.scts = m.scts
  sv : m'.sv = if isId 43 (id, d) then be16 d else m.sv
  shareGroup : m'.shareGroup = if isShare (id, d) then be16 d else m.shareGroup
  selGroup : m'.selGroup = if isSel (id, d) then be16 d else m.selGroup
  ems : m'.ems = if isId 23 (id, d) then true else m.ems
  unknown : m'.unknown = if isUnknown (id, d) then m.unknown ++ [extBytes id d] else m.unknown

theorem shExt_effect {m m' : SHMsg} {id : Nat} {d : Bytes} (h : shExt m id d = some m') : SHEffect m id d m' := by
  by_cases hid : id ∈ shKnown
  · simp only [shKnown, List.mem_cons, List.not_mem_nil, or_false] at hid
    rcases hid with rfl | rfl | rfl | rfl | rfl | rfl | rfl | rfl | rfl | rfl | rfl
    · obtain ⟨_, e⟩ := shExt_ocsp h; rw [e]; constructor <;> intros <;> rfl
    · obtain ⟨_, e⟩ := shExt_tick h; rw [e]; constructor <;> intros <;> rfl
    · obtain ⟨_, e⟩ := shExt_reneg h; rw [e]; constructor <;> intros <;> rfl
    · obtain ⟨_, e⟩ := shExt_alpn h; rw [e]; constructor <;> intros <;> rfl
    · obtain ⟨_, _, e⟩ := shExt_scts h; rw [e]; exact ⟨rfl, rfl, rfl, rfl, rfl, nofun, rfl, rfl, rfl, rfl, rfl⟩
    · obtain ⟨_, e⟩ := shExt_sv h; rw [e]; constructor <;> intros <;> rfl
    · rw [shExt_nolog (.inl rfl) h]; constructor <;> intros <;> rfl
    · rcases shExt_keyShare h with ⟨hl, e⟩ | ⟨hl, _, e⟩ <;> rw [e] <;> constructor <;>
        simp [isId, isShare, isSel, isUnknown, shKnown, hl]
    · rw [shExt_nolog (.inr (.inl rfl)) h]; constructor <;> intros <;> rfl
    · rw [shExt_nolog (.inr (.inr rfl)) h]; constructor <;> intros <;> rfl
    · obtain ⟨_, e⟩ := shExt_ems h; rw [e]; constructor <;> intros <;> rfl
  · rw [shExt_unknown hid h]
    have hu : isUnknown (id, d) = true := by simpa [isUnknown] using hid
    simp only [shKnown, List.mem_cons, List.not_mem_nil, or_false, not_or] at hid
    constructor <;> simp [isId, isShare, isSel, hu, hid]

theorem sctExt_unique {d : Bytes} {l l' : List Bytes} (h : SctExt d l) (h' : SctExt d l') : l = l' := by
  obtain ⟨a, b, sl, rfl, _, _, hf, _⟩ := h
  obtain ⟨a', b', sl', he, _, _, hf', _⟩ := h'
  simp only [List.cons.injEq] at he
  obtain ⟨_, _, rfl⟩ := he
  exact Option.some.inj ((framed16s_split hf).symm.trans (framed16s_split hf'))

/-- the wire shape of every ServerHello extension that reaches the log -/
def SHExtShape (e : Nat × Bytes) : Prop :=
  (e.1 = 5 → e.2 = []) ∧ (e.1 = 35 → e.2 = []) ∧ (e.1 = 23 → e.2 = []) ∧ (e.1 = 0xff01 → Vec8Ext e.2) ∧
  (e.1 = 16 → Alpn1Ext e.2) ∧ (e.1 = 18 → ∃ l, SctExt e.2 l) ∧ (e.1 = 43 → ∃ a b, e.2 = [a, b]) ∧
  (e.1 = 51 → e.2.length = 2 ∨ KeyShareExt e.2)

theorem shExt_shape {m m' : SHMsg} {id : Nat} {d : Bytes} (h : shExt m id d = some m') : SHExtShape (id, d) := by
  refine ⟨?_, ?_, ?_, ?_, ?_, ?_, ?_, ?_⟩ <;> intro hid <;> simp only at hid <;> subst hid
  · exact (shExt_ocsp h).1
  · exact (shExt_tick h).1
  · exact (shExt_ems h).1
  · exact (shExt_reneg h).1
  · exact (shExt_alpn h).1
  · obtain ⟨l, hs, _⟩ := shExt_scts h; exact ⟨l, hs⟩
  · exact (shExt_sv h).1
  · rcases shExt_keyShare h with ⟨hl, _⟩ | ⟨_, hk, _⟩
    · exact Or.inl hl
    · exact Or.inr hk

end ZV.C28
