import ZV.Model.Time
/-!
  The calendar of `ZV.Model.Time`: days ↔ civil date, Unix seconds ↔ broken-down time.

  Both conversions work on years that start on 1 March (`marchYear`, `marchMonth`), in two independent steps.  Year ↔ day number:
  linear in the digits `era, C, Q, A` of the year `100 * C + 4 * Q + A + era * 400` (`daysFromCivil_era`, `civilFromDays_era`; every
  year and every day number has such digits, `exists_eraYear`, `exists_eraDay`).  Day of the year ↔ month and day: month `mp` starts
  on day `monthStart mp`, and `civilFromDays` finds the month of a day again (`monthStart_inv`, `ofMarch_eq`).  The two meet in
  `le_daysIn_iff`: the days of a month of the civil calendar are those of its month bracket that the year has.
-/
namespace ZV.Time

/-- century `C`, four-year cycle `Q` and year `A` of year `100 * C + 4 * Q + A` of a 400-year era -/
def EraYear (C Q A : Int) : Prop := 0 ≤ C ∧ C ≤ 3 ∧ 0 ≤ Q ∧ Q ≤ 24 ∧ 0 ≤ A ∧ A ≤ 3

/-- `doy` is a day of that year, when years start on 1 March: day 365 is 29 February, the last day of the last year
    of a four-year cycle, which the last cycle of a century has only in century 3. -/
def EraDay (C Q A doy : Int) : Prop := 0 ≤ doy ∧ doy ≤ 365 ∧ (doy ≤ 364 ∨ (A = 3 ∧ (Q ≠ 24 ∨ C = 3)))

/-- four periods of `n` days, the last one a day longer: a quotient of 4 is that day -/
theorem div_cap {n K r : Int} (hn : 0 < n) (hK : K ≤ 3) (hr0 : 0 ≤ r) (hr : r < n ∨ r = n ∧ K = 3) :
    (if (n * K + r) / n = 4 then 3 else (n * K + r) / n) = K := by
  rcases hr with hr | ⟨rfl, rfl⟩
  · rw [Int.mul_add_ediv_left _ _ (Int.ne_of_gt hn), Int.ediv_eq_zero_of_lt hr0 hr, Int.add_zero, if_neg (by omega)]
  · rw [show r * 3 + r = r * 4 by omega, Int.mul_ediv_cancel_left _ (Int.ne_of_gt hn), if_pos rfl]

theorem yoeDoy_spec {C Q A doy : Int} (hy : EraYear C Q A) (hd : EraDay C Q A doy) :
    yoeDoy (36524 * C + 1461 * Q + 365 * A + doy) = (100 * C + 4 * Q + A, doy) := by
  obtain ⟨hC0, hC, hQ0, hQ, hA0, hA⟩ := hy
  obtain ⟨hd0, hd1, hl⟩ := hd
  have hr2 : doy < 365 ∨ doy = 365 ∧ A = 3 := by omega
  have hr1 : 0 ≤ 365 * A + doy ∧ 365 * A + doy < 1461 := by omega
  have hr0 : 1461 * Q + (365 * A + doy) < 36524 ∨ 1461 * Q + (365 * A + doy) = 36524 ∧ C = 3 := by omega
  simp only [yoeDoy, Int.add_assoc]
  -- peel the three cycles off `36524 * C + (1461 * Q + (365 * A + doy))`, quotient and remainder in turn
  rw [div_cap (by decide) hC (by omega) hr0, Int.add_comm (36524 * C), Int.add_sub_cancel,
    Int.mul_add_ediv_left _ _ (by decide), Int.ediv_eq_zero_of_lt hr1.1 hr1.2, Int.add_zero,
    Int.add_comm (1461 * Q), Int.add_sub_cancel, div_cap (by decide) hA hd0 hr2, Int.add_comm (365 * A),
    Int.add_sub_cancel]

theorem cap_decomp {n x : Int} (hn : 0 < n) (h0 : 0 ≤ x) (h1 : x ≤ 4 * n) :
    ∃ K r, x = n * K + r ∧ 0 ≤ K ∧ K ≤ 3 ∧ 0 ≤ r ∧ (r < n ∨ r = n ∧ K = 3) := by
  by_cases h : x < 4 * n
  · exact ⟨x / n, x % n, (Int.mul_ediv_add_emod x n).symm, Int.ediv_nonneg h0 (Int.le_of_lt hn),
      Int.le_of_lt_add_one (Int.ediv_lt_of_lt_mul hn h), Int.emod_nonneg _ (Int.ne_of_gt hn),
      Or.inl (Int.emod_lt_of_pos _ hn)⟩
  · exact ⟨3, n, by omega, by decide, by decide, Int.le_of_lt hn, Or.inr ⟨rfl, rfl⟩⟩

theorem exists_eraDay (z : Int) : ∃ era C Q A doy : Int, EraYear C Q A ∧ EraDay C Q A doy ∧
    z = era * 146097 + (36524 * C + 1461 * Q + 365 * A + doy) := by
  have h1 : z % 146097 ≤ 4 * 36524 := Int.le_of_lt_add_one (Int.emod_lt_of_pos z (by decide))
  obtain ⟨C, d1, hz, hC0, hC, hd0, hd1⟩ := cap_decomp (n := 36524) (by decide) (Int.emod_nonneg z (by decide)) h1
  have hQ : 0 ≤ d1 / 1461 ∧ d1 / 1461 ≤ 24 ∧ 0 ≤ d1 % 1461 ∧ d1 % 1461 ≤ 4 * 365 ∧
      (d1 / 1461 = 24 → d1 % 1461 = 1460 → C = 3) := by omega
  obtain ⟨A, doy, hd2, hA0, hA, hdoy0, hdoy⟩ := cap_decomp (n := 365) (by decide) hQ.2.2.1 hQ.2.2.2.1
  exact ⟨z / 146097, C, d1 / 1461, A, doy, ⟨hC0, hC, hQ.1, hQ.2.1, hA0, hA⟩, ⟨hdoy0, by omega, by omega⟩, by omega⟩

theorem daysIn_feb (y : Int) : daysIn 2 y = if y % 4 = 0 ∧ (y % 100 ≠ 0 ∨ y % 400 = 0) then 29 else 28 := by
  simp only [daysIn, isLeap, decide_eq_true_eq]

theorem daysIn_cases (m : Nat) (y : Int) (hm1 : 1 ≤ m) (hm2 : m ≤ 12) :
    (m = 2 ∧ daysIn m y = (if y % 4 = 0 ∧ (y % 100 ≠ 0 ∨ y % 400 = 0) then 29 else 28)) ∨
    ((m = 4 ∨ m = 6 ∨ m = 9 ∨ m = 11) ∧ daysIn m y = 30) ∨
    ((m = 1 ∨ m = 3 ∨ m = 5 ∨ m = 7 ∨ m = 8 ∨ m = 10 ∨ m = 12) ∧ daysIn m y = 31) :=
  match m, hm1, hm2 with
  | 2, _, _ => .inl ⟨rfl, daysIn_feb y⟩
  | 4, _, _ | 6, _, _ | 9, _, _ | 11, _, _ => .inr (.inl ⟨by decide, rfl⟩)
  | 1, _, _ | 3, _, _ | 5, _, _ | 7, _, _ | 8, _, _ | 10, _, _ | 12, _, _ => .inr (.inr ⟨by decide, rfl⟩)
  | n + 13, _, h => by omega

/-- Euclidean division, with the remainder in both forms the model writes: the era of a year (400 years) and of a day number
    (146097 days), the day of a second (86400 seconds) -/
theorem era_split {n x k r : Int} (hn : 0 < n) (h0 : 0 ≤ r) (h1 : r < n) (hx : x = r + k * n) :
    x / n = k ∧ x - k * n = r ∧ x % n = r := by
  rw [hx, Int.add_mul_ediv_right _ _ (Int.ne_of_gt hn), Int.ediv_eq_zero_of_lt h0 h1, Int.zero_add, Int.add_sub_cancel,
    Int.add_mul_emod_self_right, Int.emod_eq_of_lt h0 h1]
  exact ⟨rfl, rfl, rfl⟩

/-- the days of the era before 1 March of the year, as `daysFromCivil` counts them -/
theorem EraYear.days {C Q A : Int} (hy : EraYear C Q A) :
    0 ≤ 100 * C + 4 * Q + A ∧ 100 * C + 4 * Q + A < 400 ∧
    (100 * C + 4 * Q + A) * 365 + (100 * C + 4 * Q + A) / 4 - (100 * C + 4 * Q + A) / 100 =
      36524 * C + 1461 * Q + 365 * A := by
  unfold EraYear at hy
  omega

theorem exists_eraYear (y : Int) : ∃ era C Q A : Int, EraYear C Q A ∧ y = 100 * C + 4 * Q + A + era * 400 :=
  ⟨y / 4 / 25 / 4, y / 4 / 25 % 4, y / 4 % 25, y % 4, by unfold EraYear; omega, by omega⟩

/-- year and month (0 = March) of month `m` of civil year `y` when years start on 1 March, so that January and February belong to
    the year before: the first lines of `daysFromCivil` -/
def marchYear (y : Int) (m : Nat) : Int := if m ≤ 2 then y - 1 else y

def marchMonth (m : Nat) : Int := if m ≤ 2 then (m : Int) + 9 else (m : Int) - 3

/-- days from 1 March to the first of month `mp` -/
def monthStart (mp : Int) : Int := (153 * mp + 2) / 5

theorem daysFromCivil_era (era : Int) {C Q A : Int} (hy : EraYear C Q A) {y : Int} {m : Nat}
    (hY : marchYear y m = 100 * C + 4 * Q + A + era * 400) (d : Nat) :
    daysFromCivil y m d =
      era * 146097 + (36524 * C + 1461 * Q + 365 * A + (monthStart (marchMonth m) + d - 1)) - 719468 := by
  obtain ⟨h0, h1, hyoe⟩ := hy.days
  obtain ⟨he, hr, -⟩ := era_split (by decide) h0 h1 hY
  unfold marchYear at he hr
  unfold daysFromCivil
  simp only [he, hr, hyoe]
  rfl

/-- the last lines of `civilFromDays`: the civil date of day `doy` of the year `Y` that starts on 1 March -/
def ofMarch (Y doy : Int) : Int × Nat × Nat :=
  let mp := (5 * doy + 2) / 153
  let d := doy - monthStart mp + 1
  let m := if mp < 10 then mp + 3 else mp - 9
  (Y + (if m ≤ 2 then 1 else 0), m.toNat, d.toNat)

theorem civilFromDays_era (era : Int) {C Q A doy : Int} (hy : EraYear C Q A) (hd : EraDay C Q A doy) :
    civilFromDays (era * 146097 + (36524 * C + 1461 * Q + 365 * A + doy) - 719468) =
      ofMarch (100 * C + 4 * Q + A + era * 400) doy := by
  have hyd := yoeDoy_spec hy hd
  unfold EraYear at hy
  unfold EraDay at hd
  obtain ⟨he, hdoe, -⟩ := era_split (n := 146097) (k := era) (r := 36524 * C + 1461 * Q + 365 * A + doy) (by decide)
    (by omega) (by omega) (Int.add_comm _ _)
  unfold civilFromDays
  simp only [Int.sub_add_cancel, he, hdoe, hyd]
  rfl

theorem monthStart_inv {mp doy : Int} (h0 : monthStart mp ≤ doy) (h1 : doy < monthStart (mp + 1)) :
    (5 * doy + 2) / 153 = mp := by
  unfold monthStart at h0 h1
  omega

theorem monthStart_find {doy : Int} (h0 : 0 ≤ doy) (h1 : doy ≤ 365) :
    ∃ mp, 0 ≤ mp ∧ mp ≤ 11 ∧ monthStart mp ≤ doy ∧ doy < monthStart (mp + 1) := by
  unfold monthStart
  exact ⟨(5 * doy + 2) / 153, by omega⟩

theorem exists_marchMonth (Y : Int) {mp : Int} (h0 : 0 ≤ mp) (h1 : mp ≤ 11) :
    ∃ y m, 1 ≤ m ∧ m ≤ 12 ∧ marchYear y m = Y ∧ marchMonth m = mp := by
  unfold marchYear marchMonth
  by_cases h : mp < 10
  · exact ⟨Y, (mp + 3).toNat, by omega⟩
  · exact ⟨Y + 1, (mp - 9).toNat, by omega⟩

theorem ofMarch_eq (y : Int) {m d : Nat} (hm1 : 1 ≤ m) (hm2 : m ≤ 12) (hd : 1 ≤ d)
    (hlen : monthStart (marchMonth m) + d - 1 < monthStart (marchMonth m + 1)) :
    ofMarch (marchYear y m) (monthStart (marchMonth m) + d - 1) = (y, m, d) := by
  have hmp := monthStart_inv (doy := monthStart (marchMonth m) + d - 1) (by omega) hlen
  have hm : (if marchMonth m < 10 then marchMonth m + 3 else marchMonth m - 9) = (m : Int) ∧
      marchYear y m + (if (m : Int) ≤ 2 then 1 else 0) = y := by
    unfold marchMonth marchYear
    omega
  unfold ofMarch
  simp only [hmp, hm.1, hm.2, Int.toNat_natCast]
  rw [show monthStart (marchMonth m) + d - 1 - monthStart (marchMonth m) + 1 = (d : Int) by omega, Int.toNat_natCast]

theorem daysIn_monthStart (y : Int) {m : Nat} (hm1 : 1 ≤ m) (hm2 : m ≤ 12) (h : m ≠ 2) :
    (daysIn m y : Int) = monthStart (marchMonth m + 1) - monthStart (marchMonth m) :=
  match m, hm1, hm2, h with
  | 1, _, _, _ | 3, _, _, _ | 4, _, _, _ | 5, _, _, _ | 6, _, _, _ | 7, _, _, _ | 8, _, _, _ | 9, _, _, _ | 10, _, _, _
  | 11, _, _, _ | 12, _, _, _ => rfl
  | 2, _, _, h => absurd rfl h
  | n + 13, _, h, _ => by omega

theorem daysIn_feb_era (era : Int) {C Q A : Int} (hy : EraYear C Q A) {y : Int}
    (hY : y - 1 = 100 * C + 4 * Q + A + era * 400) : daysIn 2 y = if A = 3 ∧ (Q ≠ 24 ∨ C = 3) then 29 else 28 := by
  rw [daysIn_feb]
  refine ite_congr (propext ?_) (fun _ => rfl) (fun _ => rfl)
  unfold EraYear at hy
  omega

/-- the bracket of February has 30 days; `EraDay` cuts it to those the year has -/
theorem le_daysIn_iff (era : Int) {C Q A : Int} (hy : EraYear C Q A) {y : Int} {m : Nat} (hm1 : 1 ≤ m) (hm2 : m ≤ 12)
    (hY : marchYear y m = 100 * C + 4 * Q + A + era * 400) {d : Nat} (hd : 1 ≤ d) :
    d ≤ daysIn m y ↔ monthStart (marchMonth m) + d - 1 < monthStart (marchMonth m + 1) ∧
      EraDay C Q A (monthStart (marchMonth m) + d - 1) := by
  unfold EraDay
  by_cases h : m = 2
  · subst h
    rw [daysIn_feb_era era hy hY, show monthStart (marchMonth 2) = 337 from rfl,
      show monthStart (marchMonth 2 + 1) = 367 from rfl]
    clear hY
    split <;> omega
  · have hlen := daysIn_monthStart y hm1 hm2 h
    have h0 : 0 ≤ monthStart (marchMonth m) ∧ monthStart (marchMonth m + 1) ≤ 337 := by
      unfold monthStart marchMonth
      clear hlen hY
      omega
    clear hY
    omega

theorem civilFromDays_daysFromCivil (y : Int) (m d : Nat) (hm1 : 1 ≤ m) (hm2 : m ≤ 12) (hd1 : 1 ≤ d)
    (hd2 : d ≤ daysIn m y) : civilFromDays (daysFromCivil y m d) = (y, m, d) := by
  obtain ⟨era, C, Q, A, hy, hY⟩ := exists_eraYear (marchYear y m)
  obtain ⟨hlen, hday⟩ := (le_daysIn_iff era hy hm1 hm2 hY hd1).1 hd2
  rw [daysFromCivil_era era hy hY, civilFromDays_era era hy hday, ← hY, ofMarch_eq y hm1 hm2 hd1 hlen]

theorem daysFromCivil_civilFromDays (z : Int) :
    daysFromCivil (civilFromDays z).1 (civilFromDays z).2.1 (civilFromDays z).2.2 = z ∧
    1 ≤ (civilFromDays z).2.1 ∧ (civilFromDays z).2.1 ≤ 12 ∧ 1 ≤ (civilFromDays z).2.2 ∧
    (civilFromDays z).2.2 ≤ daysIn (civilFromDays z).2.1 (civilFromDays z).1 := by
  obtain ⟨era, C, Q, A, doy, hy, hday, hz⟩ := exists_eraDay (z + 719468)
  obtain rfl : z = era * 146097 + (36524 * C + 1461 * Q + 365 * A + doy) - 719468 := by omega
  obtain ⟨mp, hp0, hp1, hs0, hs1⟩ := monthStart_find hday.1 hday.2.1
  obtain ⟨y, m, hm1, hm2, hY, rfl⟩ := exists_marchMonth (100 * C + 4 * Q + A + era * 400) hp0 hp1
  obtain ⟨d', hd'⟩ := Int.eq_ofNat_of_zero_le (Int.sub_nonneg_of_le hs0)
  obtain rfl : doy = monthStart (marchMonth m) + (d' + 1 : Nat) - 1 := by omega
  have hd1 := Nat.le_add_left 1 d'
  rw [civilFromDays_era era hy hday, ← hY, ofMarch_eq y hm1 hm2 hd1 hs1]
  exact ⟨daysFromCivil_era era hy hY _, hm1, hm2, hd1, (le_daysIn_iff era hy hm1 hm2 hY hd1).2 ⟨hs1, hday⟩⟩

theorem valid_iff (c : Civil) : c.valid = true ↔
    (1 ≤ c.month ∧ c.month ≤ 12 ∧ 1 ≤ c.day ∧ c.day ≤ daysIn c.month c.year ∧ c.hour < 24 ∧ c.min < 60 ∧ c.sec < 60) := by
  simp [Civil.valid]

theorem clock_split {h mi s : Nat} (hmi : mi < 60) (hs : s < 60) {r : Int} (hr : r = (h * 3600 + mi * 60 + s : Nat)) :
    (r / 3600).toNat = h ∧ (r % 3600 / 60).toNat = mi ∧ (r % 60).toNat = s := by
  have : r / 3600 = h ∧ r % 3600 / 60 = mi ∧ r % 60 = s := by omega
  simp only [this, Int.toNat_natCast, and_self]

theorem clock_join {r : Int} (h0 : 0 ≤ r) :
    ((r / 3600).toNat : Int) * 3600 + ((r % 3600 / 60).toNat : Int) * 60 + ((r % 60).toNat : Int) = r := by
  rw [Int.toNat_of_nonneg (by omega), Int.toNat_of_nonneg (by omega), Int.toNat_of_nonneg (by omega)]
  omega

/-- `Date(y, m, d, h, mi, s, 0, zone).In(zone)` broken down again gives the same fields. -/
theorem ofUnix_toUnix (c : Civil) (hv : c.valid = true) : ofUnix (toUnix c) c.off = c := by
  obtain ⟨hm1, hm2, hd1, hd2, hh, hmi, hs⟩ := (valid_iff c).1 hv
  unfold ofUnix toUnix
  extract_lets l days rem ymd
  obtain ⟨hq, -, hr⟩ := era_split (n := 86400) (x := l) (k := daysFromCivil c.year c.month c.day)
    (r := (c.hour * 3600 + c.min * 60 + c.sec : Nat)) (by decide) (by omega) (by omega) (by simp only [l]; omega)
  obtain ⟨h1, h2, h3⟩ := clock_split (h := c.hour) hmi hs hr
  have hymd : ymd = (c.year, c.month, c.day) := by
    simp only [ymd, days, hq]; exact civilFromDays_daysFromCivil _ _ _ hm1 hm2 hd1 hd2
  rw [h1, h2, h3, hymd]

theorem ofUnix_valid (u o : Int) : (ofUnix u o).valid = true := by
  rw [valid_iff]
  unfold ofUnix
  extract_lets l days rem ymd
  obtain ⟨_, h1, h2, h3, h4⟩ := daysFromCivil_civilFromDays days
  refine ⟨h1, h2, h3, h4, ?_⟩
  simp only [rem]
  omega

theorem toUnix_ofUnix (u o : Int) : toUnix (ofUnix u o) = u := by
  unfold toUnix ofUnix
  extract_lets l days rem ymd
  simp only [ymd, (daysFromCivil_civilFromDays days).1]
  have h := clock_join (r := rem) (Int.emod_nonneg l (by decide))
  have h2 : days * 86400 + rem = l := Int.ediv_mul_add_emod ..
  omega

@[simp] theorem ofUnix_off (u o : Int) : (ofUnix u o).off = o := rfl

theorem ofUnix_shift (u o k : Int) : ofUnix (u + k) (o - k) = { ofUnix u o with off := o - k } := by
  unfold ofUnix
  simp only [show u + k + (o - k) = u + o by omega]

end ZV.Time
