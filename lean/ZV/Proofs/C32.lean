import ZV.Proofs.C32Idx
/-! One predicate per layer says what a call guarantees: `Good` for `readRecord`, `FillGood` for `fill`, `HGood` for
    `readHandshake` — never `panic`, and on success the progress and the bounds; each is proved from the one below it,
    and `ZV.Props.C32` projects its theorems out of them. Second part: the `decrypt` skeleton. -/
namespace ZV.C32

/-- what one call of the record reader guarantees: a whole record was consumed, and the position counts exactly the
    consumed bytes (position + unread bytes is conserved) -/
def Good (st : St) (s : Bytes) : Out → Prop
  | .ok st' rest =>
    rest.length + 5 ≤ s.length ∧ st'.pos + rest.length = st.pos + s.length ∧
    st'.retry ≤ max st.retry maxUselessRecords ∧
    st.hand.length < st'.hand.length ∧ st'.hand.length ≤ st.hand.length + maxPlaintext
  | .err _ => True
  | .panic => False

theorem reset_spec {c : Prop} [Decidable c] (s : St) {s' : St} (h : s' = if _h : c then { s with retry := 0 } else s) :
    s'.hand = s.hand ∧ s'.pos = s.pos ∧ s'.retry ≤ s.retry := by
  subst h
  split
  · exact ⟨rfl, rfl, Nat.zero_le _⟩
  · exact ⟨rfl, rfl, Nat.le_refl _⟩

theorem record_length (t v1 v2 n1 n2 : UInt8) {body : Bytes} {n : Nat} (h : ¬body.length < n) :
    (t :: v1 :: v2 :: n1 :: n2 :: body).length = (body.drop n).length + (5 + n) := by
  rw [List.length_drop, Nat.add_comm 5 n, ← Nat.add_assoc, Nat.sub_add_cancel (Nat.le_of_not_lt h)]
  rfl

theorem good_lift {st st' : St} {s rest : Bytes} {o : Out} {k : Nat}
    (hg : Good st' rest o) (hh : st'.hand = st.hand) (hp : st'.pos = st.pos + k) (hl : s.length = rest.length + k)
    (hr : st'.retry ≤ maxUselessRecords) : Good st s o := by
  -- no `.panic` row here and in the matches below: its guarantee is `False`, which the match eliminates
  match o, hg with
  | .err _, _ => trivial
  | .ok st2 r2, ⟨h1, h2, h3, h4, h5⟩ =>
  rw [hh] at h4 h5
  rw [Nat.max_eq_right hr] at h3
  exact ⟨Nat.le_trans h1 (hl ▸ Nat.le_add_right _ _), by rw [h2, hp, hl, Nat.add_assoc, Nat.add_comm k],
    Nat.le_trans h3 (Nat.le_max_right _ _), h4, h5⟩

theorem good_ok {st st2 : St} {s rest data : Bytes} {k : Nat} (hh : st2.hand = st.hand) (hp : st2.pos = st.pos + k)
    (hr : st2.retry ≤ st.retry) (hl : s.length = rest.length + k) (hk : 5 ≤ k) (h0 : ¬data.length = 0)
    (hmax : ¬data.length > maxPlaintext) : Good st s (.ok { st2 with hand := st2.hand ++ data } rest) := by
  refine ⟨hl ▸ Nat.add_le_add_left hk _, ?_, Nat.le_trans hr (Nat.le_max_left _ _), ?_, ?_⟩
  · show st2.pos + _ = _
    rw [hp, hl, Nat.add_assoc, Nat.add_comm k]
  · simp only [List.length_append, hh]
    exact Nat.lt_add_of_pos_right (Nat.pos_of_ne_zero h0)
  · simp only [List.length_append, hh]
    exact Nat.add_le_add_left (Nat.le_of_not_gt hmax) _

theorem readRecord_good (vers : Nat) (st : St) (s : Bytes) : Good st s (readRecord vers st s) := by
  fun_induction readRecord vers st s
  -- an ignored record (warning alert, TLS 1.3 change_cipher_spec): the retried state has the old buffer and has
  -- advanced by the record
  case case13 hretry ih | case20 hretry ih =>
    exact good_lift ih (reset_spec _ rfl).1 ((reset_spec _ rfl).2.1.trans (Nat.add_assoc _ _ _))
      (record_length _ _ _ _ _ ‹_›) (Nat.le_of_not_gt hretry)
  -- the two `.panic` branches: `idx` into an alert of length 2 (case15) and into a change_cipher_spec of length 1
  -- (case22) cannot miss
  case case15 hlen hx => exact hx _ _ (idx_eq _ 1 (by omega)) (idx_eq _ 0 (by omega))
  case case22 _ hlen hx => exact hx _ (idx_eq _ 0 (by omega))
  case case24 hbody _ _ _ hmax _ _ _ _ _ _ hne =>
    exact good_ok (reset_spec _ rfl).1 ((reset_spec _ rfl).2.1.trans (Nat.add_assoc _ _ _)) (reset_spec _ rfl).2.2
      (record_length _ _ _ _ _ hbody) (Nat.le_add_right 5 _) hne hmax
  all_goals exact trivial

/-- guarantee of the `for c.hand.Len() < want { readRecord }` loop -/
def FillGood (want : Nat) (st : St) (s : Bytes) : Out → Prop
  | .ok st' rest =>
    rest.length ≤ s.length ∧ want ≤ st'.hand.length ∧
    st'.hand.length < max (st.hand.length + 1) (want + maxPlaintext) ∧
    st'.retry ≤ max st.retry maxUselessRecords ∧ st.hand.length ≤ st'.hand.length
  | .err _ => True
  | .panic => False

theorem fill_good (vers want : Nat) (st : St) (s : Bytes) : FillGood want st s (fill vers want st s) := by
  fun_induction fill vers want st s
  case case1 st s h =>
    exact ⟨Nat.le_refl _, h, Nat.lt_of_lt_of_le (Nat.lt_succ_self _) (Nat.le_max_left _ _), Nat.le_max_left _ _,
      Nat.le_refl _⟩
  case case2 st s hlt st' rest hrr hlen ih =>
    obtain ⟨-, -, g4, g5, g6⟩ : Good st s (.ok st' rest) := hrr ▸ readRecord_good vers st s
    match fill vers want st' rest, ih with
    | .err _, _ => trivial
    | .ok st2 r2, ⟨i1, i2, i3, i4, i5⟩ =>
    refine ⟨Nat.le_trans i1 (Nat.le_of_lt hlen), i2, ?_, ?_, Nat.le_trans (Nat.le_of_lt g5) i5⟩
    · rw [Nat.max_eq_right (by omega : st'.hand.length + 1 ≤ want + maxPlaintext)] at i3
      exact Nat.lt_of_lt_of_le i3 (Nat.le_max_right _ _)
    · exact Nat.le_trans i4 (Nat.max_le.mpr ⟨g4, Nat.le_max_right _ _⟩)
  case case3 st s hlt st' rest hrr hlen =>
    have hg : Good st s (.ok st' rest) := hrr ▸ readRecord_good vers st s
    exact absurd (Nat.lt_of_lt_of_le (Nat.lt_add_of_pos_right (by decide)) hg.1) hlen
  case case4 => trivial
  case case5 st s hlt hrr => exact (hrr ▸ readRecord_good vers st s : Good st s .panic)

def bufBound : Nat := 4 + maxHandshake + maxPlaintext

theorem buf_arith {e h n N H P : Nat} (h0 : e < 4 + H + P) (a3 : h < max (e + 1) (4 + P))
    (b3 : n < max (h + 1) (4 + N + P)) : n - (4 + N) < 4 + H + P := by
  omega

def HGood (st : St) (s : Bytes) : HOut → Prop
  | .panic => False
  | .err _ => True
  | .complex st' => st'.hand.length < bufBound ∧ st'.retry ≤ max st.retry maxUselessRecords
  | .msg _ len st' rest =>
    4 ≤ len ∧ len ≤ 4 + maxHandshake ∧ st'.hand.length < bufBound ∧ rest.length ≤ s.length ∧
    st'.retry ≤ max st.retry maxUselessRecords

theorem readHandshake_good (vers : Nat) (st : St) (s : Bytes) (h0 : st.hand.length < bufBound) :
    HGood st s (readHandshake vers st s) := by
  unfold readHandshake
  match fill vers 4 st s, fill_good vers 4 st s with
  | .err _, _ => trivial
  | .ok st1 s1, ⟨a1, a2, a3, a4, a5⟩ =>
    obtain ⟨t, ht⟩ := idx_ok_of_lt st1.hand 0 (by omega)
    obtain ⟨a, ha⟩ := idx_ok_of_lt st1.hand 1 (by omega)
    obtain ⟨b, hb⟩ := idx_ok_of_lt st1.hand 2 (by omega)
    obtain ⟨c, hc⟩ := idx_ok_of_lt st1.hand 3 (by omega)
    simp only [ht, ha, hb, hc]
    generalize a.toNat * 65536 + b.toNat * 256 + c.toNat = n
    by_cases hn : n > maxHandshake
    · rw [if_pos hn]; trivial
    rw [if_neg hn]
    match fill vers (4 + n) st1 s1, fill_good vers (4 + n) st1 s1 with
    | .err _, _ => trivial
    | .ok st2 s2, ⟨b1, b2, b3, b4, b5⟩ =>
      have hr : st2.retry ≤ max st.retry maxUselessRecords :=
        Nat.le_trans b4 (Nat.max_le.mpr ⟨a4, Nat.le_max_right _ _⟩)
      have hbuf : (st2.hand.drop (4 + n)).length < bufBound := by
        rw [List.length_drop]
        exact buf_arith h0 a3 b3
      cases hk : msgKind t.toNat with
      | unknown => trivial
      | complex => exact ⟨hbuf, hr⟩
      | simple =>
        simp only
        by_cases hs : simpleOK t.toNat n = true
        · rw [if_pos hs]
          simp only [HGood]
          exact ⟨by omega, by omega, hbuf, by omega, hr⟩
        · rw [if_neg hs]; trivial

/-! ### halfConn.decrypt: no slice / index expression can fail, whatever the primitives return -/

theorem macPart_ne_panic (hc : HC) (typ pl : Nat) (payload : Bytes) (padLen : Nat) (good auth : Bool) :
    macPart hc typ pl payload padLen good auth ≠ .panic := by
  unfold macPart
  by_cases hm : hc.hasMac = true
  · rw [if_pos hm]
    by_cases hlen : payload.length < hc.macSize
    · rw [if_pos hlen]; nofun
    · rw [if_neg hlen]
      simp only
      rw [show slice payload _ _ = .ok _ from if_pos (by omega), sliceTo_eq _ _ (by omega),
        sliceFrom_eq _ _ (by omega)]
      simp only
      split <;> nofun
  · rw [if_neg hm]; nofun

theorem tls13Part_ne_panic (hc : HC) (typ : Nat) (pt : Bytes) (k : Nat → Nat → DOut)
    (hk : ∀ t n, k t n ≠ .panic) : tls13Part hc typ pt k ≠ .panic := by
  unfold tls13Part
  split
  · split
    · simp
    · split
      · simp
      · split
        · simp
        · exact hk _ _
  · exact hk _ _

theorem padLoop_ok (payload : Bytes) (pl : Nat) : ∀ (k i : Nat) (g : Bool), i + k ≤ payload.length →
    ∃ b, padLoop payload pl k i g = .ok b := by
  intro k
  induction k with
  | zero => intro i g _; exact ⟨g, rfl⟩
  | succ k ih =>
    intro i g h
    unfold padLoop
    rw [if_pos (by omega)]
    rw [idx_eq payload _ (by omega)]
    exact ih (i + 1) _ (by omega)

theorem extractPadding_ok (payload : Bytes) : ∃ r, extractPadding payload = .ok r := by
  unfold extractPadding
  split
  · exact ⟨_, rfl⟩
  · rename_i h
    obtain ⟨b, hb⟩ := idx_ok_of_lt payload (payload.length - 1) (by omega)
    rw [hb]
    simp only
    obtain ⟨g, hg⟩ := padLoop_ok payload b.toNat (if 256 > payload.length then payload.length else 256) 0
      (decide (b.toNat ≤ payload.length - 1)) (by split <;> omega)
    rw [hg]
    exact ⟨_, rfl⟩

/-- well-formed read state: a CBC cipher has a non-zero block size and comes with a MAC (true of every suite in the table) -/
def HC.WF (hc : HC) : Prop := hc.kind = .cbc → (0 < hc.block ∧ hc.hasMac = true)

theorem stripIV_ok (hc : HC) (hk : hc.kind = .cbc) (payload : Bytes) (hmod : payload.length % hc.block = 0)
    (hmin : explicitNonceLen hc ≤ payload.length) :
    ∃ body, stripIV hc.block (explicitNonceLen hc) payload = .ok body ∧ body.length % hc.block = 0 := by
  unfold stripIV
  by_cases he : explicitNonceLen hc > 0
  · have henl : explicitNonceLen hc = hc.block := by
      unfold explicitNonceLen at he ⊢
      rw [hk] at he ⊢
      simp only at he ⊢
      split
      · rfl
      · rename_i hv; rw [if_neg hv] at he; omega
    rw [if_pos he, sliceTo_eq _ _ hmin, sliceFrom_eq _ _ hmin]
    simp only
    rw [if_pos (by rw [List.length_take, henl]; omega)]
    refine ⟨_, rfl, ?_⟩
    rw [List.length_drop, henl]
    exact Nat.sub_mod_eq_zero_of_mod_eq (by rw [hmod, Nat.mod_self])
  · rw [if_neg he]; exact ⟨payload, rfl, hmod⟩

end ZV.C32
