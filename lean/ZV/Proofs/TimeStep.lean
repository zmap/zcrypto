import ZV.Model.Time
/-!
  `time.Parse` (`ZV.Time.parse`) on ARBITRARY input, chunk by chunk: what a successful iteration of the loop does to the parse
  state (`step_inv`), and that no text parses under both UTCTime layouts.
-/
namespace ZV.Time
open ZV

theorem isDigit_iff (b : UInt8) : isDigit b = true ↔ (48 ≤ b.toNat ∧ b.toNat ≤ 57) := by simp [isDigit]

theorem getnum_cases {s : Bytes} {fixed : Bool} {n : Nat} {r : Bytes} (h : getnum s fixed = some (n, r)) :
    n < 100 ∧ ∃ a pre, s = a :: pre ++ r ∧ 48 ≤ a.toNat ∧ a.toNat ≤ 57 := by
  match s with
  | [] => simp [getnum] at h
  | [a] =>
    by_cases ha : isDigit a <;> cases fixed <;> simp [getnum, ha] at h
    have := (isDigit_iff a).1 ha
    exact ⟨by omega, a, [], by simp [h.2], this⟩
  | a :: b :: r2 =>
    by_cases ha : isDigit a
    · have ha' := (isDigit_iff a).1 ha
      by_cases hb : isDigit b
      · have hb' := (isDigit_iff b).1 hb
        simp [getnum, ha, hb] at h
        exact ⟨by omega, a, [b], by simp [h.2], ha'⟩
      · cases fixed <;> simp [getnum, ha, hb] at h
        exact ⟨by omega, a, [], by simp [h.2], ha'⟩
    · simp [getnum, ha] at h

theorem leadingInt_bound (l : Bytes) : ∀ (x q : Nat), leadingInt x l = some (q, []) → q < (x + 1) * 10 ^ l.length := by
  induction l with
  | nil => intro x q h; simp [leadingInt] at h; subst h; simp
  | cons c r ih =>
    intro x q h
    rw [leadingInt] at h
    split at h
    · simp at h
    · rename_i hd
      have := ih _ _ (Option.ite_none_left_eq_some.mp (Option.ite_none_left_eq_some.mp h).2).2
      calc q < (x * 10 + (c.toNat - 48) + 1) * 10 ^ r.length := this
        _ ≤ ((x + 1) * 10) * 10 ^ r.length := Nat.mul_le_mul_right _ (by omega)
        _ = (x + 1) * 10 ^ (c :: r).length := by rw [List.length_cons, Nat.pow_succ, Nat.mul_assoc, Nat.mul_comm 10]

theorem atoi_bound {s : Bytes} {y : Int} (h : atoi s = some y) :
    (∃ q : Nat, y = q ∧ q < 10 ^ s.length) ∨ (∃ q : Nat, (y = q ∨ y = -(q : Int)) ∧ q < 10 ^ (s.length - 1) ∧
      ∃ c r, s = c :: r ∧ (c.toNat = 45 ∨ c.toNat = 43)) := by
  simp only [atoi] at h
  split at h
  · simp at h
  · rename_i q rem hq
    obtain ⟨hrem, h⟩ := Option.ite_none_left_eq_some.mp h
    obtain rfl : rem = [] := by simpa using hrem
    have hb := leadingInt_bound _ _ _ hq
    rw [Nat.zero_add, Nat.one_mul] at hb
    obtain rfl := Option.some.inj h
    match s with
    | [] => exact Or.inl ⟨q, by simp, hb⟩
    | c :: r =>
      by_cases hs : c.toNat = 45 ∨ c.toNat = 43
      · simp only [hs, if_true] at hb
        refine Or.inr ⟨q, ?_, by simpa using hb, c, r, rfl, hs⟩
        by_cases h45 : c.toNat = 45 <;> simp [h45]
      · simp only [hs, if_false] at hb
        refine Or.inl ⟨q, ?_, hb⟩
        have : ¬ c.toNat = 45 := fun e => hs (Or.inl e)
        simp [this]

/-- what a successful iteration for chunk `c` on value `v` does to the parse state -/
def StepSpec (c : Std) (st : PState) (v : Bytes) (st' : PState) : Prop :=
  match c with
  | .year => ∃ y : Int, -9 ≤ y ∧ y ≤ 99 ∧ st' = { st with year := if y ≥ 69 then y + 1900 else y + 2000 }
  | .longYear => ∃ y : Int, 0 ≤ y ∧ y ≤ 9999 ∧ st' = { st with year := y }
  | .zeroMonth => ∃ m : Nat, (1 ≤ m ∧ m ≤ 12) ∧ st' = { st with month := (m : Int) }
  | .zeroDay => ∃ d : Nat, st' = { st with day := (d : Int) }
  | .hour => ∃ x : Nat, x < 24 ∧ st' = { st with hour := x }
  | .zeroMinute => ∃ x : Nat, x < 60 ∧ st' = { st with min := x }
  | .zeroSecond => ∃ x ns : Nat, x < 60 ∧ st' = { st with sec := x, nsec := ns } ∧
      ∃ c0 r, v = c0 :: r ∧ 48 ≤ c0.toNat ∧ c0.toNat ≤ 57
  | .isoTZ => (st' = { st with utc := true } ∨
        ∃ k : Int, -1500 ≤ k ∧ k ≤ 1500 ∧ st' = { st with zoneOffset := 60 * k }) ∧
      ∃ c0 r, v = c0 :: r ∧ (c0.toNat = 90 ∨ c0.toNat = 43 ∨ c0.toNat = 45)

theorem step_inv {c : Std} {st st' : PState} {v v' : Bytes} (h : step c st v = some (st', v')) :
    StepSpec c st v st' := by
  cases c <;> simp only [step] at h <;> simp only [StepSpec]
  case year =>
    obtain ⟨hl, h⟩ := Option.ite_none_left_eq_some.mp h
    split at h
    · simp at h
    · rename_i y hy
      simp only [Option.some.injEq, Prod.mk.injEq] at h
      have hl2 : (v.take 2).length = 2 := by simp only [List.length_take]; omega
      -- `-9`: `atoi` takes a sign, which leaves one digit of the two characters
      have hy : -9 ≤ y ∧ y ≤ 99 := by
        rcases atoi_bound hy with ⟨q, rfl, hq⟩ | ⟨q, hyq, hq, -⟩ <;> rw [hl2] at hq <;> omega
      exact ⟨y, hy.1, hy.2, h.1.symm⟩
  case longYear =>
    obtain ⟨hl, h⟩ := Option.ite_none_left_eq_some.mp h
    match v, hl with
    | a :: r, hl =>
      split at h
      · simp at h
      · rename_i y hy
        simp only [Option.some.injEq, Prod.mk.injEq] at h
        have hl' : 3 ≤ r.length ∧ isDigit a = true := by simpa [isDigitAt] using hl
        have ha := (isDigit_iff a).1 hl'.2
        have hy : 0 ≤ y ∧ y ≤ 9999 := by
          rcases atoi_bound hy with ⟨q, rfl, hq⟩ | ⟨_, _, _, c, _, hc, hs⟩
          · have : ((a :: r).take 4).length = 4 := by simp only [List.length_take, List.length_cons]; omega
            rw [this] at hq; omega
          · obtain rfl : a = c := by simpa using congrArg List.head? hc
            omega
        exact ⟨y, hy.1, hy.2, h.1.symm⟩
  case zeroMonth | hour | zeroMinute =>
    split at h
    · simp at h
    · rename_i x r hg
      obtain ⟨hx, h⟩ := Option.ite_none_left_eq_some.mp h
      simp only [Option.some.injEq, Prod.mk.injEq] at h
      exact ⟨x, by omega, h.1.symm⟩
  case zeroDay =>
    split at h
    · simp at h
    · rename_i d r hg
      simp only [Option.some.injEq, Prod.mk.injEq] at h
      exact ⟨d, h.1.symm⟩
  case zeroSecond =>
    split at h
    · simp at h
    · rename_i x r hg
      obtain ⟨-, a, pre, e, ha⟩ := getnum_cases hg
      split at h
      · simp at h
      · split at h
        · rename_i c0 c1 r2
          split at h
          · simp only [Option.some.injEq, Prod.mk.injEq] at h
            exact ⟨x, _, by omega, h.1.symm, a, _, e, ha⟩
          · simp only [Option.some.injEq, Prod.mk.injEq] at h
            exact ⟨x, st.nsec, by omega, h.1.symm, a, _, e, ha⟩
        · simp only [Option.some.injEq, Prod.mk.injEq] at h
          exact ⟨x, st.nsec, by omega, h.1.symm, a, _, e, ha⟩
  case isoTZ =>
    match v with
    | [] => simp at h
    | c0 :: r =>
      simp only at h
      by_cases h90 : c0.toNat = 90
      · rw [if_pos h90, Option.some.injEq, Prod.mk.injEq] at h
        exact ⟨Or.inl h.1.symm, c0, r, rfl, Or.inl h90⟩
      · rw [if_neg h90] at h
        have h := (Option.ite_none_left_eq_some.mp h).2
        split at h
        · rename_i hr _ mm _ _ _
          obtain ⟨hrange, h⟩ := Option.ite_none_left_eq_some.mp h
          have hk : (((hr * 60 + mm) * 60 : Nat) : Int) = 60 * ((hr * 60 + mm : Nat) : Int) := by omega
          by_cases h43 : c0.toNat = 43
          · rw [if_pos h43, Option.some.injEq, Prod.mk.injEq] at h
            exact ⟨Or.inr ⟨_, by omega, by omega, hk ▸ h.1.symm⟩, c0, r, rfl, Or.inr (Or.inl h43)⟩
          · rw [if_neg h43] at h
            obtain ⟨h45, h⟩ := Option.ite_none_right_eq_some.mp h
            rw [Option.some.injEq, Prod.mk.injEq, hk, ← Int.mul_neg] at h
            exact ⟨Or.inr ⟨_, by omega, by omega, h.1.symm⟩, c0, r, rfl, Or.inr (Or.inr h45)⟩
        · simp at h

theorem parseLoop_cons {c : Std} {st st' : PState} {v v' : Bytes} (h : step c st v = some (st', v')) (cs : List Std) :
    parseLoop (c :: cs) st v = parseLoop cs st' v' := by
  rw [parseLoop, h]

theorem parseLoop_cons_inv {c : Std} {cs : List Std} {st st' : PState} {v : Bytes}
    (h : parseLoop (c :: cs) st v = some st') :
    ∃ st1 v1, step c st v = some (st1, v1) ∧ parseLoop cs st1 v1 = some st' := by
  rw [parseLoop] at h
  split at h
  · simp at h
  · rename_i st1 v1 hs
    exact ⟨st1, v1, hs, h⟩

theorem parseLoop_nil_inv {st st' : PState} {v : Bytes} (h : parseLoop [] st v = some st') : st' = st := by
  rw [parseLoop] at h
  split at h
  · simpa using h.symm
  · simp at h

theorem parse_inv {L : List Std} {s : Bytes} {t : GoTime} (h : parse L s = some t) :
    ∃ st, parseLoop L {} s = some st ∧ finish st = some t := by
  unfold parse at h
  cases hl : parseLoop L {} s with
  | none =>
    rw [hl] at h
    cases h
  | some st =>
    rw [hl] at h
    exact ⟨st, rfl, h⟩

/-! The two UTCTime layouts exclude each other: after the five common chunks the next byte must be `Z`, `+` or `-` for the
  one and a digit for the other (the last conjuncts of `StepSpec` for `isoTZ` and `zeroSecond`). -/

theorem utc_common {L : List Std} {s : Bytes} {st : PState}
    (h : parseLoop (.year :: .zeroMonth :: .zeroDay :: .hour :: .zeroMinute :: L) {} s = some st) :
    ∃ st5 v5, parseLoop L st5 v5 = some st ∧
      ∀ L' : List Std, parseLoop (.year :: .zeroMonth :: .zeroDay :: .hour :: .zeroMinute :: L') {} s = parseLoop L' st5 v5 := by
  obtain ⟨s1, v1, h1, h⟩ := parseLoop_cons_inv h
  obtain ⟨s2, v2, h2, h⟩ := parseLoop_cons_inv h
  obtain ⟨s3, v3, h3, h⟩ := parseLoop_cons_inv h
  obtain ⟨s4, v4, h4, h⟩ := parseLoop_cons_inv h
  obtain ⟨s5, v5, h5, h⟩ := parseLoop_cons_inv h
  refine ⟨s5, v5, h, ?_⟩
  intro L'
  rw [parseLoop_cons h1, parseLoop_cons h2, parseLoop_cons h3, parseLoop_cons h4, parseLoop_cons h5]

theorem utcmin_excludes_sec {s : Bytes} {t : GoTime} (h : parse layoutUTCMin s = some t) : parse layoutUTCSec s = none := by
  obtain ⟨st, hst, -⟩ := parse_inv h
  obtain ⟨st5, v5, hl, hcommon⟩ := utc_common (L := [.isoTZ]) hst
  obtain ⟨s6, v6, h6, _⟩ := parseLoop_cons_inv hl
  obtain ⟨c0, r, hv, hc0⟩ := (step_inv h6).2
  have : parseLoop layoutUTCSec {} s = none := by
    rw [show layoutUTCSec = .year :: .zeroMonth :: .zeroDay :: .hour :: .zeroMinute :: [.zeroSecond, .isoTZ] from rfl,
      hcommon, parseLoop]
    cases hz : step .zeroSecond st5 v5 with
    | none => rfl
    | some x =>
      obtain ⟨_, _, _, _, c0', r', hv', hd⟩ := step_inv (st' := x.1) (v' := x.2) (by rw [hz])
      rw [hv] at hv'
      simp only [List.cons.injEq] at hv'
      rw [← hv'.1] at hd
      omega
  rw [parse, this]

theorem utcsec_excludes_min {s : Bytes} {t : GoTime} (h : parse layoutUTCSec s = some t) : parse layoutUTCMin s = none := by
  cases hm : parse layoutUTCMin s with
  | none => rfl
  | some t' => rw [utcmin_excludes_sec hm] at h; simp at h

end ZV.Time
