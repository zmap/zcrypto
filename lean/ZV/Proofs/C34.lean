import ZV.Model.C34
import ZV.Proofs.ListFacts
import ZV.Proofs.Sched
/-! Invariant `Inv` of the activeCall protocol over all interleavings.  For the invariant `step` is
    looked at through its case table `Effect` (`step_effect`): what one step does to the word, the gate status of the
    stepping thread and the event history.  What a thread does next at a given program counter is one equation per
    program counter (`step_wStart` … `step_cLoaded_win`). -/
namespace ZV.C34

def closeCount : List Ev → Nat
  | [] => 0
  | .closeWon _ _ _ :: es => closeCount es + 1
  | _ :: es => closeCount es

/-- events are most-recent-first: an `enter` may only sit on top of a history without a winning Close -/
def NoEnterAfterClose : List Ev → Prop
  | [] => True
  | .enter _ :: older => closeCount older = 0 ∧ NoEnterAfterClose older
  | _ :: older => NoEnterAfterClose older

def CloseSeesWriters : List Ev → Prop
  | [] => True
  | .closeWon _ x n :: older => x = 2 * (n : Int) ∧ CloseSeesWriters older
  | _ :: older => CloseSeesWriters older

structure Inv (s : Sys) : Prop where
  nonneg : 0 ≤ s.active
  count : s.active = 2 * (inflightOf s.threads : Int) + s.active % 2
  bit : (closeCount s.events : Int) = s.active % 2
  order : NoEnterAfterClose s.events
  sees : CloseSeesWriters s.events

theorem inflight_set (ts : List Thread) (i : Nat) (t t' : Thread) (h : ts[i]? = some t) :
    inflightOf (ts.set i t') + inGate t = inflightOf ts + inGate t' :=
  sum_map_set _ ts i t t' h

theorem init_inv (progs : List (List Op)) : Inv (init progs) := by
  have : inflightOf (init progs).threads = 0 :=
    sum_map_zero _ _ fun t ht => by obtain ⟨p, -, rfl⟩ := List.mem_map.1 ht; rfl
  exact ⟨Int.le_refl 0, by rw [this]; rfl, rfl, trivial, trivial⟩

/-- the sub-operations run under a mutex leave the word, the threads and the history alone -/
def Frame (s s1 : Sys) : Prop := s1.active = s.active ∧ s1.threads = s.threads ∧ s1.events = s.events

theorem doHandshake_same (s : Sys) : Frame s (doHandshake s).1 := by
  unfold doHandshake
  split
  · exact ⟨rfl, rfl, rfl⟩
  · exact ⟨rfl, rfl, rfl⟩
  · split <;> exact ⟨rfl, rfl, rfl⟩

theorem writeBody_same (s : Sys) : Frame s (writeBody s).1 := by
  have h := doHandshake_same s
  unfold writeBody
  split
  · rename_i s1 heq; rw [heq] at h; exact h
  · rename_i s1 heq; rw [heq] at h
    split
    · exact h
    · split <;> exact h

theorem closeNotify_same (s : Sys) : Frame s (closeNotify s).1 := by
  unfold closeNotify
  split
  · exact ⟨rfl, rfl, rfl⟩
  · split <;> exact ⟨rfl, rfl, rfl⟩

/-- What one step of thread `i` does to the word (`a'`) and the history (`ev'`), `g` and `g'` being the stepping
    thread's gate status before and after. -/
inductive Effect (i : Nat) (s : Sys) (g g' : Nat) (a' : Int) (ev' : List Ev) : Prop
  | silent (hg : g' = g) (ha : a' = s.active) (he : ev' = s.events)
  | refused (e : Ev) (hr : e = .refusedW i ∨ e = .refusedC i) (hg : g' = g) (ha : a' = s.active)
      (he : ev' = e :: s.events)
  | enter (hev : s.active % 2 = 0) (h0 : g = 0) (h1 : g' = 1) (ha : a' = s.active + 2)
      (he : ev' = .enter i :: s.events)
  | exit (h1 : g = 1) (h0 : g' = 0) (ha : a' = s.active - 2) (he : ev' = .exit i :: s.events)
  | closeWon (hev : s.active % 2 = 0) (hg : g' = g) (ha : a' = s.active + 1)
      (he : ev' = .closeWon i s.active (inflightOf s.threads) :: s.events)

theorem set_self {α} {l : List α} {i : Nat} {a : α} (h : l[i]? = some a) : l.set i a = l := by
  obtain ⟨hlt, rfl⟩ := List.getElem?_eq_some_iff.1 h
  exact List.set_getElem_self hlt

theorem getElem?_set_self' {α} (l : List α) (i : Nat) (a x : α) (h : l[i]? = some a) : (l.set i x)[i]? = some x := by
  obtain ⟨hlt, _⟩ := List.getElem?_eq_some_iff.1 h
  simp [hlt]

theorem step_none {i : Nat} {s : Sys} (hi : s.threads[i]? = none) : step i s = s := by
  unfold step; simp only [hi]

theorem isOdd_false {x : Int} (h : ¬ isOdd x = true) : x % 2 = 0 := by
  simp only [isOdd, beq_iff_eq] at h; omega

theorem step_effect {i : Nat} {s : Sys} {t : Thread} (hi : s.threads[i]? = some t) :
    ∃ t', (step i s).threads = s.threads.set i t'
      ∧ Effect i s (inGate t) (inGate t') (step i s).active (step i s).events := by
  -- a step that runs a sub-operation `s1` first and then only replaces the thread
  have sub : ∀ {s1 : Sys} (t' : Thread), Frame s s1 → inGate t' = inGate t →
      ∃ t'', ({ s1 with threads := s1.threads.set i t' } : Sys).threads = s.threads.set i t''
        ∧ Effect i s (inGate t) (inGate t'') s1.active s1.events :=
    fun t' ⟨ha, ht, he⟩ hg => ⟨t', by rw [ht], .silent hg ha he⟩
  obtain ⟨prog, pc, outs⟩ := t
  unfold step
  simp only [hi]
  cases pc with
  | idle =>
    cases prog with
    | nil => exact ⟨_, (set_self hi).symm, .silent rfl rfl rfl⟩
    | cons op rest =>
      cases op with
      | handshake => exact sub _ (doHandshake_same s) rfl
      | closeWrite =>
        simp only []
        split
        · exact ⟨_, rfl, .silent rfl rfl rfl⟩
        · exact sub _ (closeNotify_same s) rfl
      | write => exact ⟨_, rfl, .silent rfl rfl rfl⟩
      | close => exact ⟨_, rfl, .silent rfl rfl rfl⟩
  | wStart => exact ⟨_, rfl, .silent rfl rfl rfl⟩
  | wLoaded x =>
    simp only []
    split
    · exact ⟨_, rfl, .refused _ (.inl rfl) rfl rfl rfl⟩
    · rename_i hodd
      split
      · rename_i heq
        subst heq
        exact ⟨_, rfl, .enter (isOdd_false hodd) rfl rfl rfl rfl⟩
      · exact ⟨_, rfl, .silent rfl rfl rfl⟩
  | wIn => exact sub _ (writeBody_same s) rfl
  | wExit r => exact ⟨_, rfl, .exit rfl rfl rfl rfl⟩
  | cStart => exact ⟨_, rfl, .silent rfl rfl rfl⟩
  | cLoaded x =>
    simp only []
    split
    · exact ⟨_, rfl, .refused _ (.inr rfl) rfl rfl rfl⟩
    · rename_i hodd
      split
      · rename_i heq
        subst heq
        exact ⟨_, rfl, .closeWon (isOdd_false hodd) rfl rfl rfl⟩
      · exact ⟨_, rfl, .silent rfl rfl rfl⟩
  | cWon x =>
    simp only []
    split
    · exact ⟨_, rfl, .silent rfl rfl rfl⟩
    · split
      · exact sub _ (closeNotify_same s) rfl
      · exact ⟨_, rfl, .silent rfl rfl rfl⟩

/-- the invariant without `%` -/
theorem inv_iff {s : Sys} : Inv s ↔
    (s.active = 2 * (inflightOf s.threads : Int) + closeCount s.events ∧ closeCount s.events ≤ 1)
      ∧ NoEnterAfterClose s.events ∧ CloseSeesWriters s.events := by
  constructor
  · exact fun ⟨h0, h1, h2, h3, h4⟩ => ⟨⟨h2 ▸ h1, by omega⟩, h3, h4⟩
  · intro ⟨h, h3, h4⟩
    have : 0 ≤ s.active ∧ s.active = 2 * inflightOf s.threads + s.active % 2
        ∧ closeCount s.events = s.active % 2 := by omega
    exact ⟨this.1, this.2.1, this.2.2, h3, h4⟩

theorem step_inv (i : Nat) (s : Sys) (inv : Inv s) : Inv (step i s) := by
  cases hi : s.threads[i]? with
  | none => rw [step_none hi]; exact inv
  | some t =>
    obtain ⟨t', hth, heff⟩ := step_effect hi
    have hfl := hth ▸ inflight_set s.threads i t t' hi
    rw [inv_iff] at inv ⊢
    have ⟨⟨hw, h1⟩, h3, h4⟩ := inv
    have even (h : s.active % 2 = 0) : closeCount s.events = 0 := by omega
    have same (hg : inGate t' = inGate t) : inflightOf (step i s).threads = inflightOf s.threads :=
      Nat.add_right_cancel (hg ▸ hfl)
    rcases heff with ⟨hg, ha, he⟩ | ⟨e, hr, hg, ha, he⟩ | ⟨hev, g0, g1, ha, he⟩ | ⟨g1, g0, ha, he⟩ | ⟨hev, hg, ha, he⟩
    · rw [ha, he, same hg]
      exact inv
    · rw [ha, he, same hg]
      rcases hr with rfl | rfl <;> exact inv
    · rw [ha, he]
      exact ⟨⟨show _ = _ + (closeCount s.events : Int) by omega, h1⟩, ⟨even hev, h3⟩, h4⟩
    · rw [ha, he]
      exact ⟨⟨show _ = _ + (closeCount s.events : Int) by omega, h1⟩, h3, h4⟩
    · rw [ha, he, same hg]
      exact ⟨show _ = _ + ((closeCount s.events + 1 : Nat) : Int) ∧ closeCount s.events + 1 ≤ 1 by omega, h3,
        ⟨by omega, h4⟩⟩

theorem step_bit_sticky (i : Nat) (s : Sys) (h : s.active % 2 = 1) : (step i s).active % 2 = 1 := by
  cases hi : s.threads[i]? with
  | none => rw [step_none hi]; exact h
  | some t =>
    obtain ⟨t', -, heff⟩ := step_effect hi
    rcases heff with ⟨-, ha, -⟩ | ⟨-, -, -, ha, -⟩ | ⟨hev, -, -, -, -⟩ | ⟨-, -, ha, -⟩ | ⟨hev, -, -, -⟩
    · exact ha ▸ h
    · exact ha ▸ h
    · exact absurd (hev ▸ h) (by decide)
    · omega
    · exact absurd (hev ▸ h) (by decide)

theorem runs : Sched.Runs step run := ⟨fun _ => rfl, fun _ _ _ => rfl⟩

theorem run_inv (sched : List Nat) (s : Sys) (h : Inv s) : Inv (run s sched) := runs.inv step_inv sched s h

theorem reach_word (progs : List (List Op)) (sched : List Nat) :
    (run (init progs) sched).active
        = 2 * (inflightOf (run (init progs) sched).threads : Int) + closeCount (run (init progs) sched).events
      ∧ closeCount (run (init progs) sched).events ≤ 1 :=
  (inv_iff.1 (run_inv sched _ (init_inv progs))).1

theorem step_wStart (i : Nat) (s : Sys) (t : Thread) (hi : s.threads[i]? = some t) (hpc : t.pc = .wStart) :
    step i s = { s with threads := s.threads.set i { t with pc := .wLoaded s.active } } := by
  unfold step; simp only [hi, hpc]

theorem step_cStart (i : Nat) (s : Sys) (t : Thread) (hi : s.threads[i]? = some t) (hpc : t.pc = .cStart) :
    step i s = { s with threads := s.threads.set i { t with pc := .cLoaded s.active } } := by
  unfold step; simp only [hi, hpc]

theorem step_wLoaded_odd (i : Nat) (s : Sys) (t : Thread) (x : Int) (hi : s.threads[i]? = some t)
    (hpc : t.pc = .wLoaded x) (hodd : isOdd x = true) :
    step i s = { s with threads := s.threads.set i { t with pc := .idle, outs := .closed :: t.outs },
                        events := .refusedW i :: s.events } := by
  unfold step; simp only [hi, hpc, hodd, if_true]

theorem step_cLoaded_odd (i : Nat) (s : Sys) (t : Thread) (x : Int) (hi : s.threads[i]? = some t)
    (hpc : t.pc = .cLoaded x) (hodd : isOdd x = true) :
    step i s = { s with threads := s.threads.set i { t with pc := .idle, outs := .closed :: t.outs },
                        events := .refusedC i :: s.events } := by
  unfold step; simp only [hi, hpc, hodd, if_true]

theorem step_cLoaded_win (i : Nat) (s : Sys) (t : Thread) (x : Int) (hi : s.threads[i]? = some t)
    (hpc : t.pc = .cLoaded x) (hodd : isOdd x = false) (heq : s.active = x) :
    step i s = { s with threads := s.threads.set i { t with pc := .cWon x }, active := x + 1,
                        events := .closeWon i x (inflightOf s.threads) :: s.events } := by
  unfold step; simp only [hi, hpc, hodd, heq, if_true, Bool.false_eq_true, if_false]

theorem inflight_zero_of_quiescent (ts : List Thread) (h : ts.all (fun t => t.pc == .idle && t.prog.isEmpty) = true) :
    inflightOf ts = 0 :=
  sum_map_zero _ _ fun t ht => by
    rw [inGate, eq_of_beq (Bool.and_eq_true_iff.1 (List.all_eq_true.1 h t ht)).1]

end ZV.C34
