import ZV.Model.C22
/-! A Name is its five coordinates (`get`, `getS`, `names`, `extraNames`, `originalRDNS`; `Name.of` builds the Name from them), and
    every update is given once as what it does to the coordinates.  `FillFromRDNSequence` is a fold over the FLAT attribute list
    (`fillFlat`; RDN boundaries do not matter to it) with a closed form (`fill_eq`); `ToRDNSequence` is a `flatMap` over the
    emission rows (`emitL`) and reads a Name only through `Src.vals`.  What filling gets back from the emitted rows is the values
    of the rows whose OID dispatches to a statement (`feeders`); for `emitRows` these are the rows of the inverse table `feeder`,
    which is one evaluated check (`feedOK`).  The other direction (`canon_roundtrip`) is an induction along the rows that needs
    the two tables to be inverse to each other row by row (`rowsOK`). -/
namespace ZV.C22

theorem Field.mem_all (f : Field) : f ∈ Field.all := by cases f <;> decide
theorem Scalar.mem_all (s : Scalar) : s ∈ Scalar.all := by cases s <;> decide

/-- the Name with the given coordinates: slice fields, scalars, `Names`, `ExtraNames`, `OriginalRDNS` -/
def Name.of (φ : Field → List Bytes) (σ : Scalar → Bytes) (names extra : List ATV) (orig : Option RDNSeq) : Name where
  country := φ .country
  organization := φ .organization
  organizationalUnit := φ .organizationalUnit
  locality := φ .locality
  province := φ .province
  streetAddress := φ .streetAddress
  postalCode := φ .postalCode
  domainComponent := φ .domainComponent
  emailAddress := φ .emailAddress
  serialNumber := σ .serialNumber
  commonName := σ .commonName
  serialNumbers := φ .serialNumbers
  commonNames := φ .commonNames
  givenName := φ .givenName
  surname := φ .surname
  organizationIDs := φ .organizationIDs
  jurisdictionLocality := φ .jurisdictionLocality
  jurisdictionProvince := φ .jurisdictionProvince
  jurisdictionCountry := φ .jurisdictionCountry
  names := names
  extraNames := extra
  originalRDNS := orig

@[simp] theorem of_get (φ σ a x o) (f : Field) : (Name.of φ σ a x o).get f = φ f := by
  cases f <;> rfl
@[simp] theorem of_getS (φ σ a x o) (s : Scalar) : (Name.of φ σ a x o).getS s = σ s := by
  cases s <;> rfl
@[simp] theorem of_names (φ σ a x o) : (Name.of φ σ a x o).names = a := rfl
@[simp] theorem of_extra (φ σ a x o) : (Name.of φ σ a x o).extraNames = x := rfl
@[simp] theorem of_orig (φ σ a x o) : (Name.of φ σ a x o).originalRDNS = o := rfl

theorem of_eta (n : Name) : Name.of n.get n.getS n.names n.extraNames n.originalRDNS = n := rfl

theorem empty_eq : Name.empty = Name.of (fun _ => []) (fun _ => []) [] [] none := rfl

theorem withNames_eq (n : Name) (l : List ATV) :
    ({ n with names := l } : Name) = Name.of n.get n.getS l n.extraNames n.originalRDNS := rfl

theorem withOrig_eq (n : Name) (o : Option RDNSeq) :
    ({ n with originalRDNS := o } : Name) = Name.of n.get n.getS n.names n.extraNames o := rfl

theorem modify_eq (n : Name) (f : Field) (h : List Bytes → List Bytes) :
    n.modify f h = Name.of (fun g => if g = f then h (n.get g) else n.get g) n.getS n.names n.extraNames n.originalRDNS := by
  cases f <;> rfl

theorem setS_eq (n : Name) (s : Scalar) (v : Bytes) :
    n.setS s v = Name.of n.get (fun s' => if s' = s then v else n.getS s') n.names n.extraNames n.originalRDNS := by
  cases s <;> rfl

theorem get_modify (n : Name) (f g : Field) (h : List Bytes → List Bytes) :
    (n.modify f h).get g = if g = f then h (n.get g) else n.get g := by
  rw [modify_eq, of_get]

theorem getS_setS (n : Name) (s s' : Scalar) (v) : (n.setS s v).getS s' = if s' = s then v else n.getS s' := by
  rw [setS_eq, of_getS]

/-- the values an attribute contributes to slice field `f` -/
def valsFor (f : Field) (a : ATV) : List Bytes :=
  match a.value with
  | .str v => List.replicate ((armOf a.type).count (.app f)) v
  | .other _ _ => []

/-- the value of scalar `s` after an attribute ("last one wins") -/
def stepS (s : Scalar) (cur : Bytes) (a : ATV) : Bytes :=
  match a.value with
  | .str v => if Act.set s ∈ armOf a.type then v else cur
  | .other _ _ => cur

theorem acts_eq (v : Bytes) (acts : List Act) (n : Name) :
    acts.foldl (applyAct v) n =
      Name.of (fun f => n.get f ++ List.replicate (acts.count (.app f)) v)
        (fun s => if Act.set s ∈ acts then v else n.getS s) n.names n.extraNames n.originalRDNS := by
  induction acts generalizing n with
  | nil => simp [of_eta]
  | cons a rest ih =>
    rw [List.foldl_cons, ih]
    cases a with
    | set s' =>
      rw [applyAct, setS_eq]
      simp only [of_get, of_getS, of_names, of_extra, of_orig]
      -- the slice coordinates agree by unfolding `count` (the head is a `set`); the scalars remain
      congr 1
      funext s
      by_cases h : Act.set s ∈ rest <;> simp [h]
    | app g =>
      rw [applyAct, modify_eq]
      simp only [of_get, of_getS, of_names, of_extra, of_orig]
      congr 1
      · funext f
        by_cases h : f = g
        · subst h
          simp [List.replicate_succ]
        · have : ¬ g = f := fun e => h e.symm
          simp [h, this]
      · funext s
        simp

theorem fillATV_eq (n : Name) (a : ATV) :
    fillATV n a = Name.of (fun f => n.get f ++ valsFor f a) (fun s => stepS s (n.getS s) a) (n.names ++ [a])
      n.extraNames n.originalRDNS := by
  unfold fillATV valsFor stepS
  cases a.value with
  | str v => simp only [acts_eq, withNames_eq, of_get, of_getS, of_names, of_extra, of_orig]
  | other t r => simp only [withNames_eq, List.append_nil]

/-- `FillFromRDNSequence` restricted to a flat attribute list -/
def fillFlat (n : Name) (atvs : List ATV) : Name := atvs.foldl fillATV n

theorem fillFlat_eq (atvs : List ATV) (n : Name) :
    fillFlat n atvs = Name.of (fun f => n.get f ++ atvs.flatMap (valsFor f)) (fun s => atvs.foldl (stepS s) (n.getS s))
      (n.names ++ atvs) n.extraNames n.originalRDNS := by
  unfold fillFlat
  induction atvs generalizing n with
  | nil => simp [of_eta]
  | cons a rest ih =>
    rw [List.foldl_cons, ih, fillATV_eq]
    simp

theorem fillFlat_get (atvs : List ATV) (n : Name) (f : Field) :
    (fillFlat n atvs).get f = n.get f ++ atvs.flatMap (valsFor f) := by
  rw [fillFlat_eq, of_get]

theorem fillFlat_getS (atvs : List ATV) (n : Name) (s : Scalar) :
    (fillFlat n atvs).getS s = atvs.foldl (stepS s) (n.getS s) := by
  rw [fillFlat_eq, of_getS]

theorem fillFlat_rest (atvs : List ATV) (n : Name) :
    (fillFlat n atvs).names = n.names ++ atvs ∧ (fillFlat n atvs).extraNames = n.extraNames ∧
    (fillFlat n atvs).originalRDNS = n.originalRDNS := by
  rw [fillFlat_eq]
  exact ⟨rfl, rfl, rfl⟩

theorem fillFlat_append (n : Name) (l₁ l₂ : List ATV) : fillFlat n (l₁ ++ l₂) = fillFlat (fillFlat n l₁) l₂ :=
  List.foldl_append

theorem fillRDN_eq (n : Name) (rdn : RDN) : fillRDN n rdn = fillFlat n rdn := by
  unfold fillRDN fillFlat
  split
  · next h => have : rdn = [] := List.eq_nil_of_length_eq_zero h
              subst this; rfl
  · rfl

theorem foldl_fillRDN (s : RDNSeq) (n : Name) : s.foldl fillRDN n = fillFlat n s.flatten := by
  induction s generalizing n with
  | nil => rfl
  | cons r rest ih =>
    rw [List.foldl_cons, ih, fillRDN_eq]
    simp [fillFlat, List.foldl_append]

/-- the attributes of a (possibly nil) sequence in document order -/
def flat : Option RDNSeq → List ATV
  | none => []
  | some s => s.flatten

theorem fillInto_eq (n : Name) (seq : Option RDNSeq) :
    fillInto n seq = fillFlat { n with originalRDNS := seq } (flat seq) := by
  unfold fillInto flat
  cases seq with
  | none => rfl
  | some s => simp [foldl_fillRDN]

theorem fill_eq (seq : Option RDNSeq) :
    fill seq = Name.of (fun f => (flat seq).flatMap (valsFor f)) (fun s => (flat seq).foldl (stepS s) []) (flat seq) [] seq := by
  rw [fill, fillInto_eq, withOrig_eq, fillFlat_eq, empty_eq]
  simp only [of_get, of_getS, of_names, of_extra, of_orig, List.nil_append]

theorem fill_get (seq : Option RDNSeq) (f : Field) : (fill seq).get f = (flat seq).flatMap (valsFor f) := by
  rw [fill_eq, of_get]

theorem fill_getS (seq : Option RDNSeq) (s : Scalar) : (fill seq).getS s = (flat seq).foldl (stepS s) [] := by
  rw [fill_eq, of_getS]

theorem fill_rest (seq : Option RDNSeq) :
    (fill seq).names = flat seq ∧ (fill seq).extraNames = [] ∧ (fill seq).originalRDNS = seq := by
  rw [fill_eq]
  exact ⟨rfl, rfl, rfl⟩


/-- the `values` argument a row passes to `appendRDNs` (a skipped guarded call passes nothing) -/
def Src.vals (n : Name) : Src → List Bytes
  | .slice f => n.get f
  | .guarded s => if (n.getS s).length > 0 then [n.getS s] else []

def mkATV (oid : OID) (v : Bytes) : ATV := { type := oid, value := .str v }

/-- the RDN(s) one `appendRDNs` call adds: none for no values, else one multi-valued RDN -/
def mkRDN (oid : OID) (vals : List Bytes) : RDNSeq :=
  match vals with
  | [] => []
  | _ :: _ => [vals.map (mkATV oid)]

theorem appendRDNs_eq (inp : RDNSeq) (vals : List Bytes) (oid : OID) :
    appendRDNs inp vals oid = inp ++ mkRDN oid vals := by
  unfold appendRDNs mkRDN
  cases vals with
  | nil => simp
  | cons v vs => simp [mkATV]

theorem emitStep_eq (n : Name) (ret : RDNSeq) (row : Src × OID) :
    emitStep n ret row = ret ++ mkRDN row.2 (row.1.vals n) := by
  obtain ⟨src, oid⟩ := row
  cases src with
  | slice f => simp [emitStep, Src.vals, appendRDNs_eq]
  | guarded s =>
    simp only [emitStep, Src.vals]
    split
    · simp [appendRDNs_eq]
    · simp [mkRDN]

/-- the RDNs produced by a list of rows -/
def emitL (rows : List (Src × OID)) (n : Name) : RDNSeq :=
  rows.flatMap (fun row => mkRDN row.2 (row.1.vals n))

theorem emitL_cons (row : Src × OID) (rows : List (Src × OID)) (n : Name) :
    emitL (row :: rows) n = mkRDN row.2 (row.1.vals n) ++ emitL rows n := List.flatMap_cons

theorem foldl_emitStep (n : Name) (rows : List (Src × OID)) (acc : RDNSeq) :
    rows.foldl (emitStep n) acc = acc ++ emitL rows n := by
  induction rows generalizing acc with
  | nil => exact (List.append_nil acc).symm
  | cons r rest ih => rw [List.foldl_cons, ih, emitStep_eq, emitL_cons, List.append_assoc]

theorem foldl_extra (l : List ATV) (acc : RDNSeq) :
    l.foldl (fun ret atv => ret ++ [[atv]]) acc = acc ++ l.map (fun a => [a]) := by
  induction l generalizing acc with
  | nil => simp
  | cons a rest ih => rw [List.foldl_cons, ih]; simp

theorem emit_eq (n : Name) : emit n = emitL emitRows n ++ n.extraNames.map (fun a => [a]) := by
  unfold emit
  rw [foldl_extra, foldl_emitStep]; simp

theorem mkRDN_flatten (oid : OID) (vals : List Bytes) : (mkRDN oid vals).flatten = vals.map (mkATV oid) := by
  cases vals <;> simp [mkRDN]

theorem mem_mkRDN {oid : OID} {vals : List Bytes} {r : RDN} (h : r ∈ mkRDN oid vals) : r = vals.map (mkATV oid) := by
  cases vals with
  | nil => nomatch h
  | cons _ _ => exact List.mem_singleton.mp h

theorem mem_emitL {rows : List (Src × OID)} {n : Name} {rdn : RDN} (h : rdn ∈ emitL rows n) :
    ∃ row ∈ rows, rdn = (row.1.vals n).map (mkATV row.2) := by
  obtain ⟨row, hrow, hm⟩ := List.mem_flatMap.mp h
  exact ⟨row, hrow, mem_mkRDN hm⟩

theorem toRDN_of_none (n : Name) (h : n.originalRDNS = none) : toRDN n = nilIfEmpty (emit n) := by
  rw [toRDN, h]

theorem flat_nilIfEmpty (s : RDNSeq) : flat (nilIfEmpty s) = s.flatten := by
  cases s <;> simp [nilIfEmpty, flat]

theorem contrib (oid : OID) (vals : List Bytes) (f : Field) :
    (vals.map (mkATV oid)).flatMap (valsFor f) = vals.flatMap (fun v => List.replicate ((armOf oid).count (.app f)) v) := by
  rw [List.flatMap_map]
  rfl

theorem stepS_fold (s : Scalar) (oid : OID) (vals : List Bytes) (cur : Bytes) :
    (vals.map (mkATV oid)).foldl (stepS s) cur =
      if Act.set s ∈ armOf oid then vals.getLast?.getD cur else cur := by
  induction vals generalizing cur with
  | nil => simp
  | cons v rest ih =>
    rw [List.map_cons, List.foldl_cons, ih]
    by_cases h : Act.set s ∈ armOf oid
    · cases rest <;> simp [h, stepS, mkATV, List.getLast?_cons]
    · simp [h, stepS, mkATV]

/-- what `ToRDNSequence` emits of slice field `f` (used in the statement of `fill_to`):
    the 13 emitted slice fields as they are; `CommonNames`/`SerialNumbers` receive the scalar when it is
    non-empty; `GivenName`/`Surname` are not emitted. -/
def emittedView (n : Name) : Field → List Bytes
  | .commonNames => if n.commonName.length > 0 then [n.commonName] else []
  | .serialNumbers => if n.serialNumber.length > 0 then [n.serialNumber] else []
  | .givenName => []
  | .surname => []
  | f => n.get f

/-- the sources of the rows whose OID dispatches to statement `a`, in emission order -/
def feeders (rows : List (Src × OID)) (a : Act) : List Src :=
  (rows.filter (fun r => (armOf r.2).contains a)).map (·.1)

theorem feeders_cons (row : Src × OID) (rows : List (Src × OID)) (a : Act) :
    feeders (row :: rows) a = if a ∈ armOf row.2 then row.1 :: feeders rows a else feeders rows a := by
  simp only [feeders, List.filter_cons, List.contains_eq_mem, decide_eq_true_eq]
  split <;> rfl

theorem mem_feeders {rows : List (Src × OID)} {row : Src × OID} {a : Act} (hr : row ∈ rows) (ha : a ∈ armOf row.2) :
    row.1 ∈ feeders rows a :=
  List.mem_map_of_mem (List.mem_filter.mpr ⟨hr, List.contains_iff_mem.mpr ha⟩)

theorem emitL_view (rows : List (Src × OID)) (hnd : ∀ r ∈ rows, (armOf r.2).Nodup) (n : Name) (f : Field) :
    (emitL rows n).flatten.flatMap (valsFor f) = (feeders rows (.app f)).flatMap (Src.vals n) := by
  induction rows with
  | nil => rfl
  | cons row rows ih =>
    rw [emitL_cons, List.flatten_append, List.flatMap_append, mkRDN_flatten, contrib, feeders_cons,
      ih (fun r hr => hnd r (List.mem_cons_of_mem _ hr)), (hnd row List.mem_cons_self).count]
    split <;> simp

theorem emitL_scalar (rows : List (Src × OID)) (n : Name) (s : Scalar) (cur : Bytes) :
    (emitL rows n).flatten.foldl (stepS s) cur =
      (feeders rows (.set s)).foldl (fun c src => (src.vals n).getLast?.getD c) cur := by
  induction rows generalizing cur with
  | nil => rfl
  | cons row rows ih =>
    rw [emitL_cons, List.flatten_append, List.foldl_append, mkRDN_flatten, stepS_fold, feeders_cons, ih]
    split <;> rfl

/-- the two tables of pkix.go read backwards: the `appendRDNs` call whose values reach a statement of `FillFromRDNSequence` -/
def feeder : Act → Option Src
  | .set s => some (.guarded s)
  | .app .commonNames => some (.guarded .commonName)
  | .app .serialNumbers => some (.guarded .serialNumber)
  | .app .givenName => none
  | .app .surname => none
  | .app f => some (.slice f)

/-- every statement is fed by the row `feeder` names and by no other, and no arm repeats a statement -/
def feedOK (rows : List (Src × OID)) : Bool :=
  rows.all (fun r => (armOf r.2).Nodup) &&
  Scalar.all.all (fun s => feeders rows (.set s) == (feeder (.set s)).toList) &&
  Field.all.all (fun f => feeders rows (.app f) == (feeder (.app f)).toList)

theorem feedOK_sound (rows : List (Src × OID)) (h : feedOK rows = true) :
    (∀ r ∈ rows, (armOf r.2).Nodup) ∧ ∀ a, feeders rows a = (feeder a).toList := by
  simp only [feedOK, Bool.and_eq_true, List.all_eq_true, beq_iff_eq, decide_eq_true_eq] at h
  refine ⟨h.1.1, fun a => ?_⟩
  cases a with
  | set s => exact h.1.2 s (Scalar.mem_all s)
  | app f => exact h.2 f (Field.mem_all f)

theorem emitRows_feed : feedOK emitRows = true := by decide +kernel

theorem emitRows_feeders (a : Act) : feeders emitRows a = (feeder a).toList := (feedOK_sound emitRows emitRows_feed).2 a

theorem emittedView_eq (n : Name) (f : Field) : emittedView n f = ((feeder (.app f)).map (Src.vals n)).getD [] := by
  cases f <;> rfl

theorem rows_view (n : Name) (f : Field) : (emitL emitRows n).flatten.flatMap (valsFor f) = emittedView n f := by
  rw [emitL_view _ (feedOK_sound _ emitRows_feed).1, emitRows_feeders, emittedView_eq]
  cases feeder (.app f) <;> simp

theorem rows_scalar (n : Name) (s : Scalar) : (emitL emitRows n).flatten.foldl (stepS s) [] = n.getS s := by
  rw [emitL_scalar, emitRows_feeders]
  show ((Src.guarded s).vals n).getLast?.getD [] = n.getS s
  rw [Src.vals]
  split
  · rfl
  · next h => exact (List.eq_nil_of_length_eq_zero (Nat.eq_zero_of_not_pos h)).symm

theorem emit_flatten (n : Name) : (emit n).flatten = (emitL emitRows n).flatten ++ n.extraNames := by
  have : ∀ l : List ATV, (l.map (fun a => [a])).flatten = l := fun l => by induction l <;> simp_all
  rw [emit_eq, List.flatten_append, this]

theorem emit_view (n : Name) (f : Field) :
    (emit n).flatten.flatMap (valsFor f) = emittedView n f ++ n.extraNames.flatMap (valsFor f) := by
  rw [emit_flatten, List.flatMap_append, rows_view]

theorem emit_scalar (n : Name) (s : Scalar) :
    (emit n).flatten.foldl (stepS s) [] = n.extraNames.foldl (stepS s) (n.getS s) := by
  rw [emit_flatten, List.foldl_append, rows_scalar]

/-- the Go-string values of an RDN -/
def strVals (rdn : RDN) : List Bytes :=
  rdn.filterMap (fun a => match a.value with | .str v => some v | .other _ _ => none)

/-- extra condition on the values of an RDN produced by a row: a guarded scalar yields exactly one non-empty value -/
def guardOK : Src → List Bytes → Bool
  | .slice _, _ => true
  | .guarded _, [v] => decide (v.length > 0)
  | .guarded _, _ => false

/-- `rdn` is an RDN the `appendRDNs` call `row` can produce: non-empty, every member has the row's OID and a
    string value, (guarded scalar rows: exactly one, non-empty, value). -/
def rowMatch (row : Src × OID) (rdn : RDN) : Bool :=
  !rdn.isEmpty && decide (rdn = (strVals rdn).map (mkATV row.2)) && guardOK row.1 (strVals rdn)

/-- walk the rows in emission order; each RDN must be produced by a row later than the previous RDN's row. -/
def canonAux : List (Src × OID) → RDNSeq → Bool
  | _, [] => true
  | [], _ :: _ => false
  | row :: rows, rdn :: rest =>
    if rowMatch row rdn then canonAux rows rest else canonAux rows (rdn :: rest)

/-- the sequences `ToRDNSequence` produces from the fields of a Name (no ExtraNames, OriginalRDNS nil) -/
def Canonical (seq : RDNSeq) : Bool := canonAux emitRows seq

def touches (acts : List Act) : Src → Bool
  | .slice f => acts.contains (.app f)
  | .guarded s => acts.contains (.set s)

def shapeOK (row : Src × OID) : Bool :=
  match row.1 with
  | .slice f => (armOf row.2).count (.app f) == 1
  | .guarded s => (armOf row.2).contains (.set s)

/-- every row's OID dispatches back to the row's own source, and to no other row's source -/
def rowsOK : List (Src × OID) → Bool
  | [] => true
  | row :: rest =>
    shapeOK row && rest.all (fun r => !touches (armOf row.2) r.1 && !touches (armOf r.2) row.1) && rowsOK rest

theorem strVals_map (oid : OID) (vals : List Bytes) : strVals (vals.map (mkATV oid)) = vals := by
  induction vals <;> simp_all [strVals, mkATV]

theorem rowMatch_iff (row : Src × OID) (rdn : RDN) :
    rowMatch row rdn = true ↔ ∃ v vs, rdn = (v :: vs).map (mkATV row.2) ∧ guardOK row.1 (v :: vs) = true := by
  constructor
  · intro h
    simp only [rowMatch, Bool.and_eq_true, Bool.not_eq_true', List.isEmpty_eq_false_iff, decide_eq_true_eq] at h
    obtain ⟨⟨hne, heq⟩, hg⟩ := h
    cases hv : strVals rdn with
    | nil => rw [hv] at heq; exact absurd heq hne
    | cons v vs => exact ⟨v, vs, hv ▸ heq, hv ▸ hg⟩
  · rintro ⟨v, vs, rfl, hg⟩
    rw [rowMatch, strVals_map, hg]
    simp

theorem canonAux_cons (row : Src × OID) (rows : List (Src × OID)) (seq : RDNSeq) (h : canonAux (row :: rows) seq = true) :
    ∃ vals rest, seq = mkRDN row.2 vals ++ rest ∧ (vals = [] ∨ guardOK row.1 vals = true) ∧ canonAux rows rest = true := by
  cases seq with
  | nil => exact ⟨[], [], rfl, .inl rfl, by cases rows <;> rfl⟩
  | cons rdn rest =>
    rw [canonAux] at h
    by_cases hm : rowMatch row rdn = true
    · rw [if_pos hm] at h
      obtain ⟨v, vs, rfl, hg⟩ := (rowMatch_iff row rdn).1 hm
      exact ⟨v :: vs, rest, rfl, .inr hg, h⟩
    · rw [if_neg hm] at h
      exact ⟨[], rdn :: rest, rfl, .inl rfl, h⟩

theorem canonAux_cons_mk (row : Src × OID) (rows : List (Src × OID)) (vals : List Bytes) (rest : RDNSeq)
    (hg : vals = [] ∨ guardOK row.1 vals = true) (ht : ∀ a ∈ rest.flatten, a.type ≠ row.2)
    (h : canonAux rows rest = true) : canonAux (row :: rows) (mkRDN row.2 vals ++ rest) = true := by
  cases vals with
  | nil =>
    cases rest with
    | nil => rfl
    | cons rdn tl =>
      have hm : ¬ rowMatch row rdn = true := by
        intro hm
        obtain ⟨v, vs, rfl, _⟩ := (rowMatch_iff row rdn).1 hm
        exact ht (mkATV row.2 v) (by simp) rfl
      show canonAux (row :: rows) (rdn :: tl) = true
      rw [canonAux, if_neg hm]
      exact h
  | cons v vs =>
    show canonAux (row :: rows) ((v :: vs).map (mkATV row.2) :: rest) = true
    rw [canonAux, if_pos ((rowMatch_iff row _).2 ⟨v, vs, rfl, hg.resolve_left (List.cons_ne_nil v vs)⟩)]
    exact h

theorem foldl_stepS_fixed (sc : Scalar) : ∀ (l : List ATV), (∀ a ∈ l, ∀ y, stepS sc y a = y) → ∀ y, l.foldl (stepS sc) y = y
  | [], _, _ => rfl
  | a :: l, hl, y => by
    rw [List.foldl_cons, hl a List.mem_cons_self, foldl_stepS_fixed sc l (fun b hb => hl b (List.mem_cons_of_mem _ hb))]

theorem frame (src : Src) (atvs : List ATV) (n : Name)
    (h : ∀ a ∈ atvs, touches (armOf a.type) src = false) : src.vals (fillFlat n atvs) = src.vals n := by
  cases src with
  | slice f =>
    simp only [Src.vals, fillFlat_get]
    have : atvs.flatMap (valsFor f) = [] := by
      rw [List.flatMap_eq_nil_iff]
      intro a ha
      have := h a ha
      simp only [touches, List.contains_eq_mem, decide_eq_false_iff_not] at this
      unfold valsFor
      cases a.value <;> simp [List.count_eq_zero_of_not_mem this]
    simp [this]
  | guarded s =>
    have : (fillFlat n atvs).getS s = n.getS s := by
      rw [fillFlat_getS]
      apply foldl_stepS_fixed
      intro a ha y
      have h1 := h a ha
      simp only [touches, List.contains_eq_mem, decide_eq_false_iff_not] at h1
      unfold stepS
      cases a.value <;> simp [h1]
    simp [Src.vals, this]


theorem fill_own_rdn (src : Src) (oid : OID) (vals : List Bytes) (n : Name)
    (hs : shapeOK (src, oid) = true) (h0 : src.vals n = []) (hg : guardOK src vals = true) :
    src.vals (fillFlat n (vals.map (mkATV oid))) = vals := by
  cases src with
  | slice f =>
    simp only [shapeOK, beq_iff_eq] at hs
    simp only [Src.vals] at h0
    simp [Src.vals, fillFlat_get, contrib, hs, h0]
  | guarded s =>
    simp only [shapeOK, List.contains_eq_mem, decide_eq_true_eq] at hs
    match vals, hg with
    | [v], hg =>
      simp only [guardOK, decide_eq_true_eq] at hg
      have : (fillFlat n [mkATV oid v]).getS s = v := by
        simp [fillFlat_getS, stepS, mkATV, hs]
      simp [Src.vals, this, hg]

theorem emitL_types (rows : List (Src × OID)) (n : Name) (a : ATV) (h : a ∈ (emitL rows n).flatten) :
    ∃ r ∈ rows, a.type = r.2 := by
  obtain ⟨rdn, hrdn, ha⟩ := List.mem_flatten.mp h
  obtain ⟨r, hr, rfl⟩ := mem_emitL hrdn
  obtain ⟨v, _, rfl⟩ := List.mem_map.mp ha
  exact ⟨r, hr, rfl⟩

theorem canon_roundtrip (rows : List (Src × OID)) (hok : rowsOK rows = true) (seq : RDNSeq) (n : Name)
    (hc : canonAux rows seq = true) (h0 : ∀ r ∈ rows, r.1.vals n = []) :
    emitL rows (fillFlat n seq.flatten) = seq := by
  induction rows generalizing seq n with
  | nil =>
    cases seq with
    | nil => rfl
    | cons _ _ => simp [canonAux] at hc
  | cons row rows ih =>
    simp only [rowsOK, Bool.and_eq_true, List.all_eq_true, Bool.not_eq_true'] at hok
    obtain ⟨⟨hshape, hpair⟩, hrest⟩ := hok
    obtain ⟨vals, rest, rfl, hg, hc⟩ := canonAux_cons row rows seq hc
    rw [List.flatten_append, mkRDN_flatten, fillFlat_append]
    -- the state after the row's own attributes: its source holds `vals`, the later rows' sources are still empty
    have hrow : row.1.vals (fillFlat n (vals.map (mkATV row.2))) = vals := by
      rcases hg with rfl | hg
      · exact h0 row List.mem_cons_self
      · exact fill_own_rdn row.1 row.2 vals n hshape (h0 row List.mem_cons_self) hg
    have hothers : ∀ r ∈ rows, r.1.vals (fillFlat n (vals.map (mkATV row.2))) = [] := by
      intro r hr
      rw [frame r.1 _ n, h0 r (List.mem_cons_of_mem _ hr)]
      intro a ha
      obtain ⟨v, _, rfl⟩ := List.mem_map.mp ha
      exact (hpair r hr).1
    have hIH := ih hrest rest _ hc hothers
    -- what follows comes from the later rows and leaves the row's source alone
    have hrow' : row.1.vals (fillFlat (fillFlat n (vals.map (mkATV row.2))) rest.flatten) = vals := by
      rw [frame row.1 rest.flatten, hrow]
      intro a ha
      rw [← hIH] at ha
      obtain ⟨r, hr, e⟩ := emitL_types rows _ a ha
      rw [e]
      exact (hpair r hr).2
    rw [emitL_cons, hIH, hrow']

theorem emitRows_ok : rowsOK emitRows = true := by decide +kernel


def oidsDistinct : List (Src × OID) → Bool
  | [] => true
  | row :: rest => rest.all (fun r => decide (r.2 ≠ row.2)) && oidsDistinct rest

theorem guardOK_vals (src : Src) (n : Name) : src.vals n = [] ∨ guardOK src (src.vals n) = true := by
  cases src with
  | slice f => exact .inr rfl
  | guarded s =>
    rw [Src.vals]
    by_cases hl : (n.getS s).length > 0
    · rw [if_pos hl]
      exact .inr (decide_eq_true hl)
    · rw [if_neg hl]
      exact .inl rfl

theorem emitL_canon (rows : List (Src × OID)) (hd : oidsDistinct rows = true) (n : Name) :
    canonAux rows (emitL rows n) = true := by
  induction rows with
  | nil => rfl
  | cons row rest ih =>
    simp only [oidsDistinct, Bool.and_eq_true, List.all_eq_true, decide_eq_true_eq] at hd
    rw [emitL_cons]
    refine canonAux_cons_mk row rest _ _ (guardOK_vals row.1 n) ?_ (ih hd.2)
    intro a ha e
    obtain ⟨r, hr, e'⟩ := emitL_types rest n a ha
    exact hd.1 r hr (e'.symm.trans e)

theorem emitRows_distinct : oidsDistinct emitRows = true := by decide +kernel

/-- the field part of `ToRDNSequence` of the Name filled from `seq`, i.e. with the OriginalRDNS short-cut disabled. -/
def reemit (seq : RDNSeq) : RDNSeq := emit { fill (some seq) with originalRDNS := none }

theorem reemit_eq (seq : RDNSeq) : reemit seq = emitL emitRows (fillFlat Name.empty seq.flatten) := by
  have h : ({ fill (some seq) with originalRDNS := none } : Name) = fillFlat Name.empty seq.flatten := by
    rw [withOrig_eq, fill_eq, fillFlat_eq, empty_eq]
    simp only [of_get, of_getS, of_names, of_extra, of_orig, List.nil_append, flat]
    rfl
  rw [reemit, h, emit_eq, fillFlat_eq, of_extra]
  exact List.append_nil _

theorem reemit_canonical (seq : RDNSeq) (h : Canonical seq = true) : reemit seq = seq := by
  rw [reemit_eq]
  exact canon_roundtrip emitRows emitRows_ok seq Name.empty h (by decide +kernel)

end ZV.C22
