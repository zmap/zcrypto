import ZV.Model.C28
import ZV.Proofs.Res
/-!
  C28: what the cryptobyte-style readers of `ZV.Model.C28` say about the bytes they consumed.  A successful read is
  turned into an equation `input = length field ‖ value ‖ rest` with the length field equal to the value's length
  (`*_spec`); the `bind*` lemmas invert one step of a parser written as a chain of `match reader … with`.  The DHE
  key exchange, the certificate lists and the two hellos with their extensions are read off these; `ecdheLog` takes
  its input apart by pattern matching and calls no reader (Proofs/C28Kx stands beside this module).
-/
namespace ZV.C28

theorem takeN_spec {n : Nat} {bs a b : Bytes} (h : takeN n bs = some (a, b)) :
    bs = a ++ b ∧ a.length = n := by
  unfold takeN at h
  split at h
  · rename_i hle
    cases h
    exact ⟨(List.take_append_drop n bs).symm, List.length_take_of_le hle⟩
  · cases h

theorem readU8_spec {bs r : Bytes} {v : Nat} (h : readU8 bs = some (v, r)) :
    ∃ a, bs = a :: r ∧ v = a.toNat := by
  cases bs with
  | nil => cases h
  | cons a t =>
    cases h
    exact ⟨a, rfl, rfl⟩

theorem readU16_spec {bs r : Bytes} {v : Nat} (h : readU16 bs = some (v, r)) :
    ∃ a b, bs = a :: b :: r ∧ v = u16 a b := by
  match bs, h with
  | a :: b :: t, h =>
    cases h
    exact ⟨a, b, rfl, rfl⟩

theorem readU24_spec {bs r : Bytes} {v : Nat} (h : readU24 bs = some (v, r)) :
    ∃ a b c, bs = a :: b :: c :: r ∧ v = a.toNat * 65536 + b.toNat * 256 + c.toNat := by
  match bs, h with
  | a :: b :: c :: t, h =>
    cases h
    exact ⟨a, b, c, rfl, rfl⟩

theorem bindBB {β : Type} {o : Option (Bytes × Bytes)} {f : Bytes → Bytes → Option β} {y : β}
    (h : (match o with | none => none | some (a, b) => f a b) = some y) : ∃ a b, o = some (a, b) ∧ f a b = some y := by
  match o, h with
  | some (a, b), h => exact ⟨a, b, rfl, h⟩

theorem bindNB {β : Type} {o : Option (Nat × Bytes)} {f : Nat → Bytes → Option β} {y : β}
    (h : (match o with | none => none | some (a, b) => f a b) = some y) : ∃ a b, o = some (a, b) ∧ f a b = some y := by
  match o, h with
  | some (a, b), h => exact ⟨a, b, rfl, h⟩

theorem readVec8_spec {bs v r : Bytes} (h : readVec8 bs = some (v, r)) :
    ∃ a, bs = a :: (v ++ r) ∧ a.toNat = v.length := by
  obtain ⟨n, t, h1, h⟩ := bindNB h
  obtain ⟨a, rfl, rfl⟩ := readU8_spec h1
  obtain ⟨rfl, hl⟩ := takeN_spec h
  exact ⟨a, rfl, hl.symm⟩

theorem readVec16_spec {bs v r : Bytes} (h : readVec16 bs = some (v, r)) :
    ∃ a b, bs = a :: b :: (v ++ r) ∧ u16 a b = v.length := by
  obtain ⟨n, t, h1, h⟩ := bindNB h
  obtain ⟨a, b, rfl, rfl⟩ := readU16_spec h1
  obtain ⟨rfl, hl⟩ := takeN_spec h
  exact ⟨a, b, rfl, hl.symm⟩

theorem readVec24_spec {bs v r : Bytes} (h : readVec24 bs = some (v, r)) :
    ∃ a b c, bs = a :: b :: c :: (v ++ r) ∧ a.toNat * 65536 + b.toNat * 256 + c.toNat = v.length := by
  obtain ⟨n, t, h1, h⟩ := bindNB h
  obtain ⟨a, b, c, rfl, rfl⟩ := readU24_spec h1
  obtain ⟨rfl, hl⟩ := takeN_spec h
  exact ⟨a, b, c, rfl, hl.symm⟩

theorem wholeVec8_spec {d v : Bytes} (h : wholeVec8 d = some v) : ∃ a, d = a :: v ∧ a.toNat = v.length := by
  unfold wholeVec8 at h
  split at h
  · cases h
    obtain ⟨a, e, hl⟩ := readVec8_spec ‹_›
    exact ⟨a, List.append_nil v ▸ e, hl⟩
  · cases h

theorem wholeVec16_spec {d v : Bytes} (h : wholeVec16 d = some v) :
    ∃ a b, d = a :: b :: v ∧ u16 a b = v.length := by
  unfold wholeVec16 at h
  split at h
  · cases h
    obtain ⟨a, b, e, hl⟩ := readVec16_spec ‹_›
    exact ⟨a, b, List.append_nil v ▸ e, hl⟩
  · cases h

theorem ite_isEmpty {α β : Type} {v : List α} {x : Option β} {y : β} (h : (if v.isEmpty then none else x) = some y) :
    v ≠ [] ∧ x = some y :=
  (guard_some h).imp_left (mt List.isEmpty_iff.2)

theorem ite_isEmpty_some {α β : Type} {v : List α} {x y : β} (h : (if v.isEmpty then some x else none) = some y) :
    v = [] ∧ x = y :=
  (accept_eq_some.1 h).imp_left List.isEmpty_iff.1

theorem bindW8 {β : Type} {d : Bytes} {f : Bytes → Option β} {y : β}
    (h : (match wholeVec8 d with | some v => f v | none => none) = some y) :
    ∃ a v, d = a :: v ∧ a.toNat = v.length ∧ f v = some y := by
  split at h
  · obtain ⟨a, rfl, hl⟩ := wholeVec8_spec ‹_›
    exact ⟨a, _, rfl, hl, h⟩
  · cases h

theorem bindW16 {β : Type} {d : Bytes} {f : Bytes → Option β} {y : β}
    (h : (match wholeVec16 d with | some v => if v.isEmpty then none else f v | none => none) = some y) :
    ∃ a b v, d = a :: b :: v ∧ u16 a b = v.length ∧ v ≠ [] ∧ f v = some y := by
  split at h
  · obtain ⟨a, b, rfl, hl⟩ := wholeVec16_spec ‹_›
    obtain ⟨hne, h⟩ := ite_isEmpty h
    exact ⟨a, b, _, rfl, hl, hne, h⟩
  · cases h

end ZV.C28
