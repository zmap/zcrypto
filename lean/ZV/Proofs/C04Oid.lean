import ZV.Drv.C04
import ZV.Proofs.DerLite
import ZV.Proofs.ListFacts
/-! OBJECT IDENTIFIER contents: what `encOID` writes is accepted by `validOID` (`parseObjectIdentifier`) and
    decoded back to the same arcs by the driver's `decOID`; hence `encOID` is injective on its domain. -/
namespace ZV.C04
open ZV ZV.Der ZV.C06

/-- arcs the reader accepts: every encoded sub-identifier (the first two arcs are merged into `40a+b`) is at most
    `MaxInt32`. -/
def oidOk : List Nat → Bool
  | a :: b :: rest => decide (a * 40 + b ≤ 2147483647) && rest.all (fun x => decide (x ≤ 2147483647))
  | _ => false

def arcsBytes (l : List Nat) : Bytes := (l.map encBase128).flatten

theorem arcsBytes_cons (a : Nat) (l : List Nat) : arcsBytes (a :: l) = encBase128 a ++ arcsBytes l := by
  simp [arcsBytes]

theorem encOID_eq {o : List Nat} {c : Bytes} (h : encOID o = some c) :
    ∃ a b rest, o = a :: b :: rest ∧ ¬ (a > 2 ∨ (a < 2 ∧ b ≥ 40)) ∧ c = arcsBytes ((a * 40 + b) :: rest) := by
  match o, h with
  | a :: b :: rest, h =>
    simp only [encOID] at h
    split at h
    · cases h
    · rename_i hc
      simp only [Option.some.injEq] at h
      exact ⟨a, b, rest, rfl, hc, by rw [← h, arcsBytes_cons]; rfl⟩

theorem encBase128_append_ne (n : Nat) (r : Bytes) : (encBase128 n ++ r).isEmpty = false :=
  append_isEmpty_false (List.isEmpty_eq_false_iff.2 (List.ne_nil_of_length_pos (encBase128_length n)))

theorem validOIDFuel_eq_isSome : ∀ (f : Nat) (bs : Bytes), validOIDFuel f bs = (decArcs f bs).isSome := by
  intro f
  induction f with
  | zero => intro bs; unfold validOIDFuel decArcs; cases bs.isEmpty <;> rfl
  | succ f ih =>
    intro bs
    unfold validOIDFuel decArcs
    cases bs.isEmpty
    · cases readBase128 5 0 0 bs with
      | ok p => simp only [Bool.false_eq_true, if_false, ih, Option.isSome_map]
      | err => rfl
      | panic => rfl
    · rfl

theorem decArcs_arcs : ∀ (l : List Nat) (f : Nat), (∀ x ∈ l, x ≤ 2147483647) → (arcsBytes l).length ≤ f →
    decArcs f (arcsBytes l) = some l := by
  intro l
  induction l with
  | nil => intro f _ _; cases f <;> simp [arcsBytes, decArcs]
  | cons a l ih =>
    intro f h hf
    rw [arcsBytes_cons] at hf ⊢
    have h1 := encBase128_length a
    rw [List.length_append] at hf
    cases f with
    | zero => omega
    | succ f =>
      simp only [decArcs, encBase128_append_ne, Bool.false_eq_true, if_false]
      rw [readBase128_encBase128 a _ (h a List.mem_cons_self)]
      simp only
      rw [ih f (fun x hx => h x (List.mem_cons_of_mem _ hx)) (by omega)]
      rfl

theorem oidOk_arcs {a b : Nat} {rest : List Nat} (h : oidOk (a :: b :: rest) = true) :
    ∀ x ∈ (a * 40 + b) :: rest, x ≤ 2147483647 := by
  simp only [oidOk, Bool.and_eq_true, decide_eq_true_eq, List.all_eq_true] at h
  intro x hx
  rcases List.mem_cons.mp hx with hx | hx
  · subst hx; exact h.1
  · exact h.2 x hx

theorem validOID_encOID {o : List Nat} {c : Bytes} (h : encOID o = some c) (hok : oidOk o = true) :
    validOID c = true := by
  obtain ⟨a, b, rest, ho, _, hc⟩ := encOID_eq h
  subst ho; subst hc
  unfold validOID
  rw [validOIDFuel_eq_isSome, decArcs_arcs _ _ (oidOk_arcs hok) (Nat.le_refl _), arcsBytes_cons, encBase128_append_ne]
  rfl

/-- `decOID` is the decoder of the driver (`parseObjectIdentifier`'s arc split). -/
theorem decOID_encOID {o : List Nat} {c : Bytes} (h : encOID o = some c) (hok : oidOk o = true) :
    decOID c = some o := by
  obtain ⟨a, b, rest, ho, hc2, hc⟩ := encOID_eq h
  subst ho; subst hc
  unfold decOID
  rw [decArcs_arcs _ _ (oidOk_arcs hok) (Nat.le_refl _)]
  simp only
  split
  · have h1 : (a * 40 + b) / 40 = a := by omega
    have h2 : (a * 40 + b) % 40 = b := by omega
    rw [h1, h2]
  · have h1 : a = 2 := by omega
    subst h1
    have h2 : 2 * 40 + b - 80 = b := by omega
    rw [h2]

theorem encOID_inj {o1 o2 : List Nat} {c : Bytes} (h1 : encOID o1 = some c) (h2 : encOID o2 = some c)
    (k1 : oidOk o1 = true) (k2 : oidOk o2 = true) : o1 = o2 := by
  have a := decOID_encOID h1 k1
  have b := decOID_encOID h2 k2
  rw [a] at b
  exact Option.some.inj b

end ZV.C04
