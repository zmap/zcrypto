import ZV.Proofs.C09IPv6Loop
/-!
  `net.ParseIP` (model `parseIP`) against the declarative grammar `IPLiteral`: the dispatch on the
  first separator sends a dotted quad to `parseIPv4Fields` (C09IPv4) and an IPv6 form to `parseIPv6`
  (C09IPv6Loop).
-/
namespace ZV.C09

/-- A textual IP address and the 16 bytes it denotes: a dotted quad (as an IPv4-mapped
    address, like `net.ParseIP` returns it) or one of the IPv6 forms. -/
def IPLiteral (s : Str) (ip : List UInt8) : Prop :=
  (∃ a b c d, DottedQuad s a b c d ∧ ip = v4InV6Prefix ++ [a, b, c, d]) ∨ V6Spec s ip

theorem IPLiteral.chars {s : Str} {ip : List UInt8} (h : IPLiteral s ip) : ∀ x ∈ s, IPChar x := by
  rcases h with ⟨a, b, c, d, hd, _⟩ | h
  · intro x hx
    rcases hd.chars x hx with h | h
    · exact Or.inl (isDec_isHex h)
    · exact Or.inr (Or.inr h)
  · exact h.chars

theorem firstSep_mem {s : Str} {c : UInt8} (h : firstSep s = some c) : c ∈ s := by
  induction s with
  | nil => cases h
  | cons x t ih =>
    unfold firstSep at h
    split at h
    · cases h; simp
    · exact List.mem_cons_of_mem _ (ih h)

theorem firstSep_append (g t : Str) (x : UInt8) (hg : ∀ c ∈ g, IsHexCh c) (hx : x = dot ∨ x = 58 ∨ x = 37) :
    firstSep (g ++ x :: t) = some x := by
  induction g with
  | nil => rw [List.nil_append, firstSep, if_pos hx]
  | cons c g ih =>
    have hc := hg c (by simp)
    have : ¬ (c = dot ∨ c = 58 ∨ c = 37) := by
      rintro (h | h | h)
      · exact isHex_ne_dot hc h
      · exact isHex_ne_colon hc h
      · exact isHex_ne_pct hc h
    rw [List.cons_append, firstSep, if_neg this]
    exact ih (fun c hc => hg c (List.mem_cons_of_mem _ hc))

theorem DottedQuad.firstSep_eq {s : Str} {a b c d : UInt8} (h : DottedQuad s a b c d) :
    firstSep s = some dot := by
  obtain ⟨f1, f2, f3, f4, rfl, o1, _⟩ := h
  exact firstSep_append f1 _ 46 (fun x hx => isDec_isHex (o1.digits x hx)) (Or.inl rfl)

theorem V6Seq.firstSep_colon {l : Str} {L : List UInt8} {hq : Bool} (h : V6Seq l L hq) (hf : hq = false)
    (x : Str) : firstSep (l ++ 58 :: x) = some 58 := by
  cases h with
  | one hg => exact firstSep_append _ _ 58 hg.hex (Or.inr (Or.inl rfl))
  | quad _ => cases hf
  | cons hg _ =>
    rw [List.append_assoc]
    exact firstSep_append _ _ 58 hg.hex (Or.inr (Or.inl rfl))

theorem V6Spec.firstSep_eq {s : Str} {ip : List UInt8} (h : V6Spec s ip) : firstSep s = some 58 := by
  rcases h with ⟨hq, hseq, hlen⟩ | ⟨l, r, L, R, rfl, hl, _, _, _⟩
  · cases hseq with
    | one _ => rw [groupBytes_length] at hlen; cases hlen
    | quad _ => cases hlen
    | cons hg _ => exact firstSep_append _ _ 58 hg.hex (Or.inr (Or.inl rfl))
  · rcases hl with ⟨rfl, _⟩ | hl
    · rfl
    · exact hl.firstSep_colon rfl _

theorem parseIP_iff_literal (s : Str) (ip : List UInt8) : parseIP s = some ip ↔ IPLiteral s ip := by
  unfold parseIP
  constructor
  · intro h
    split at h
    · cases h
    · split at h
      · split at h
        · cases h
        · rename_i f hp
          obtain ⟨a, b, c', d, rfl, hq⟩ := parseIPv4Fields_some s f hp
          exact Or.inl ⟨a, b, c', d, hq, (Option.some.inj h).symm⟩
      · split at h
        · exact Or.inr ((parseIPv6_iff s ip).mp h)
        · cases h
  · rintro (⟨a, b, c, d, hq, rfl⟩ | h)
    · rw [hq.firstSep_eq]
      simp only [if_true]
      rw [(parseIPv4Fields_iff s a b c d).mpr hq]
    · rw [h.firstSep_eq]
      have : (58 : UInt8) ≠ dot := by decide
      simp only [this, if_false, if_true]
      exact (parseIPv6_iff s ip).mpr h

theorem IPLiteral.length {s : Str} {ip : List UInt8} (h : IPLiteral s ip) : ip.length = 16 := by
  rcases h with ⟨a, b, c, d, _, rfl⟩ | ⟨hq, _, hlen⟩ | ⟨l, r, L, R, _, _, _, hlt, rfl⟩
  · rfl
  · exact hlen
  · simp only [List.length_append, List.length_replicate]
    omega

theorem parseIP_length (s : Str) (ip : List UInt8) (h : parseIP s = some ip) : ip.length = 16 :=
  ((parseIP_iff_literal s ip).mp h).length

theorem parseIP_none_iff (s : Str) : parseIP s = none ↔ ∀ ip, ¬ IPLiteral s ip := by
  constructor
  · intro h ip hl
    rw [(parseIP_iff_literal s ip).mpr hl] at h; cases h
  · intro h
    cases hp : parseIP s with
    | none => rfl
    | some ip => exact absurd ((parseIP_iff_literal s ip).mp hp) (h ip)

end ZV.C09
