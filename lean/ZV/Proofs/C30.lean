import ZV.Proofs.TlsWire
import ZV.Model.C30
/-!
  C30: the simple messages are combinator formats and their laws are stacks of the lemmas of `ZV.Proofs.TlsWire`
  (assembled in Props/C30).  The work here is the semantic layer of the messages with an extension block: the
  marshaller's entries are `catOpts` of a fixed list of `opt c t d` (entry `(t, d)` present iff `c`), the parser is
  `applyExts` of its `switch`.  `applyExts_catOpts_cons` peels one option off; the `…_sem` theorems (`certReq13_sem`,
  `certLeaf_sem`, `sh_sem_known`, `ch_sem`) apply it once per option, in the marshaller's order, with the chain of
  intermediate states `s_k` = the initial state with the first `k` fields of the target set.  Each step needs only the
  law of that extension's own format and the domain fact that a field is empty when its flag is off.
-/
namespace ZV.C30
open ZV.TlsWire

theorem nothing_lawful {α} (d : α) : Lawful (nothing d) (fun a => a = d) := by
  refine ⟨fun a bs tl hD h => ?_⟩
  simp only [nothing] at h ⊢
  cases h
  simp [hD]

theorem nothing_noPrefix {α} (d : α) : NoPrefix (nothing d) (fun a => a = d) := by
  refine ⟨fun a bs p _ h hp hne => ?_⟩
  simp only [nothing] at h
  cases h
  exact absurd (List.prefix_nil.mp hp) hne

theorem fixed4_lawful (t : Nat) : MLawful (fixed4 t) (fun _ => True) := by
  refine ⟨fun a bs _ h => ?_⟩
  simp only [fixed4] at h ⊢
  cases h
  simp

theorem fixed4_noPrefix (t : Nat) : MNoPrefix (fixed4 t) (fun _ => True) := by
  refine ⟨fun a bs p _ h hp hne => ?_⟩
  have hl := prefix_strict_length hp hne
  simp only [fixed4] at h ⊢
  cases h
  simp at hl
  have : p.length ≠ 4 := by omega
  simp [this]

theorem nonEmpty_iff (b : Bytes) : nonEmpty b = true ↔ b ≠ [] := by
  cases b <;> simp [nonEmpty]

theorem nonEmptyL_iff {α} (l : List α) : nonEmptyL l = true ↔ l ≠ [] := by
  cases l <;> simp [nonEmptyL]


theorem applyExts_append {σ} (f : Ext → Bool → σ → Option σ) (a b : List Ext) (m : σ)
    (hf : ∀ e ∈ a, ∀ b1 b2 s, f e b1 s = f e b2 s) :
    applyExts f (a ++ b) m = (applyExts f a m).bind (applyExts f b) := by
  induction a generalizing m with
  | nil => simp [applyExts]
  | cons e a ih =>
    simp only [List.cons_append, applyExts]
    rw [hf e (by simp) (a ++ b).isEmpty a.isEmpty m]
    cases f e a.isEmpty m with
    | none => rfl
    | some m' => exact ih m' (fun e' he' => hf e' (by simp [he']))

theorem catOpts_cons {o : Option (List Ext)} {os : List (Option (List Ext))} {es : List Ext}
    (h : catOpts (o :: os) = some es) : ∃ a r, o = some a ∧ catOpts os = some r ∧ es = a ++ r := by
  cases o with
  | none => simp [catOpts] at h
  | some a =>
    simp only [catOpts] at h
    cases hr : catOpts os with
    | none => simp [hr] at h
    | some r =>
      simp [hr] at h
      exact ⟨a, r, rfl, rfl, h.symm⟩

theorem of_exts_some {o : Option (List Ext)} {k : List Ext → Option Bytes} {bs : Bytes}
    (h : (match o with | none => none | some es => k es) = some bs) : ∃ es, o = some es ∧ k es = some bs := by
  cases o with
  | none => cases h
  | some es => exact ⟨es, rfl, h⟩

theorem opt_false {t : Nat} {d : Option Bytes} : opt false t d = some [] := rfl

theorem opt_true_inv {t : Nat} {d : Option Bytes} {a : List Ext} (h : opt true t d = some a) :
    ∃ b, d = some b ∧ a = [(t, b)] := by
  cases d with
  | none => simp [opt] at h
  | some b =>
    simp [opt] at h
    exact ⟨b, rfl, h.symm⟩

theorem applyExts_catOpts_cons {σ} (f : Ext → Bool → σ → Option σ) {c : Bool} {t : Nat} {d : Option Bytes}
    {os : List (Option (List Ext))} {s : σ} (s' : σ) {sf : σ}
    (hoff : c = false → s' = s)
    (hon : c = true → ∀ b, d = some b → ∀ r, catOpts os = some r → f (t, b) r.isEmpty s = some s')
    (hr : ∀ r, catOpts os = some r → applyExts f r s' = some sf) :
    ∀ es, catOpts (opt c t d :: os) = some es → applyExts f es s = some sf := by
  intro es h
  obtain ⟨a, r, ha, hr', rfl⟩ := catOpts_cons h
  cases c with
  | false =>
    cases ha
    exact hoff rfl ▸ hr r hr'
  | true =>
    obtain ⟨b, hb, rfl⟩ := opt_true_inv ha
    show (match f (t, b) r.isEmpty s with | none => none | some m' => applyExts f r m') = _
    rw [hon rfl b hb r hr']
    exact hr r hr'

theorem applyExts_catOpts_nil {σ} (f : Ext → Bool → σ → Option σ) (s : σ) :
    ∀ es, catOpts [] = some es → applyExts f es s = some s := by
  intro es h
  cases h
  rfl

theorem nonEmpty_eq_false {b : Bytes} (h : nonEmpty b = false) : b = [] := by
  cases b with
  | nil => rfl
  | cons _ _ => cases h

theorem nonEmptyL_eq_false {α} {l : List α} (h : nonEmptyL l = false) : l = [] := by
  cases l with
  | nil => rfl
  | cons _ _ => cases h

/-- for the messages with a single optional extension (`encryptedExtensions`, `newSessionTicketTLS13`) -/
theorem applyExts_opt {σ} (f : Ext → Bool → σ → Option σ) (c : Bool) (t : Nat) (d : Option Bytes)
    (a : List Ext) (s s' : σ) (h : opt c t d = some a)
    (hoff : c = false → s' = s)
    (hon : c = true → ∀ b, d = some b → ∀ fl, f (t, b) fl s = some s') :
    applyExts f a s = some s' :=
  applyExts_catOpts_cons f s' hoff (fun hc b hb _ _ => hon hc b hb _) (applyExts_catOpts_nil f s') a
    (by rw [h]; exact congrArg some (List.append_nil a))

theorem extBlock_lawful : Lawful extBlock (fun _ => True) :=
  (lp_lawful 2 (many_lawful (pair_lawful (uN_lawful 2) (opq_lawful 2))
    (pair_nonEmpty_left (uN_nonEmpty (by decide))))).mono
    fun _ _ _ _ => ⟨trivial, trivial⟩

theorem extBlock_noPrefix : NoPrefix extBlock (fun _ => True) := lp_noPrefix _ 2

theorem alpnOne_lawful : MLawful alpnOne (fun b => b ≠ []) :=
  (complete_lawful (lp_lawful 2 (complete_lawful (guard_lawful nonEmpty (opq_lawful 1))))).mono
    fun a hD => ⟨trivial, (nonEmpty_iff a).mpr hD⟩


theorem listU16_lawful : MLawful listU16 (fun l => l ≠ []) :=
  (complete_lawful (lp_lawful 2 (mguard_lawful nonEmptyL (many_lawful (uN_lawful 2) (uN_nonEmpty (by decide)))))).mono
    fun a hD => ⟨fun _ _ => trivial, (nonEmptyL_iff a).mpr hD⟩

theorem sctListF_lawful : MLawful sctListF (fun l => l ≠ [] ∧ ∀ x ∈ l, x ≠ []) :=
  (complete_lawful (lp_lawful 2 (mguard_lawful nonEmptyL
    (many_lawful (guard_lawful nonEmpty (opq_lawful 2)) (guard_nonEmpty _ (opq_nonEmpty (by decide))))))).mono
    fun a hD => ⟨fun x hx => ⟨trivial, (nonEmpty_iff x).mpr (hD.2 x hx)⟩, (nonEmptyL_iff a).mpr hD.1⟩

theorem caList_lawful : MLawful caList (fun l => l ≠ [] ∧ ∀ x ∈ l, x ≠ []) := sctListF_lawful

theorem alpnList_lawful : MLawful alpnList (fun l => l ≠ [] ∧ ∀ x ∈ l, x ≠ []) :=
  (complete_lawful (lp_lawful 2 (mguard_lawful nonEmptyL
    (many_lawful (guard_lawful nonEmpty (opq_lawful 1)) (guard_nonEmpty _ (opq_nonEmpty (by decide))))))).mono
    fun a hD => ⟨fun x hx => ⟨trivial, (nonEmpty_iff x).mpr (hD.2 x hx)⟩, (nonEmptyL_iff a).mpr hD.1⟩

/-- `certificateRequestMsgTLS13` -/
theorem certReq13_sem (m : CertReq13) (hv : ∀ ca ∈ m.cas, ca ≠ []) (es : List Ext) (h : certReq13Exts m = some es) :
    applyExts certReq13Apply es ⟨false, false, [], [], []⟩ = some m := by
  revert es
  unfold certReq13Exts
  let s0 : CertReq13 := ⟨false, false, [], [], []⟩
  let s1 := { s0 with ocspStapling := m.ocspStapling }
  refine applyExts_catOpts_cons certReq13Apply s1 (fun hc => ?_) (fun hc b hb _ _ => ?_) ?_
  · simp only [s1, hc]
    rfl
  · cases hb
    simp [s1, s0, certReq13Apply, hc]
  let s2 := { s1 with scts := m.scts }
  refine applyExts_catOpts_cons certReq13Apply s2 (fun hc => ?_) (fun hc b hb _ _ => ?_) ?_
  · simp only [s2, hc]
    rfl
  · cases hb
    simp [s2, certReq13Apply, hc]
  let s3 := { s2 with sigAlgs := m.sigAlgs }
  refine applyExts_catOpts_cons certReq13Apply s3 (fun hc => ?_) (fun hc b hb _ _ => ?_) ?_
  · simp only [s3, nonEmptyL_eq_false hc]
    rfl
  · have := listU16_lawful.rt m.sigAlgs b ((nonEmptyL_iff _).mp hc) hb
    simp [s3, certReq13Apply, this]
    rfl
  let s4 := { s3 with sigAlgsCert := m.sigAlgsCert }
  refine applyExts_catOpts_cons certReq13Apply s4 (fun hc => ?_) (fun hc b hb _ _ => ?_) ?_
  · simp only [s4, nonEmptyL_eq_false hc]
    rfl
  · have := listU16_lawful.rt m.sigAlgsCert b ((nonEmptyL_iff _).mp hc) hb
    simp [s4, certReq13Apply, this]
    rfl
  let s5 := { s4 with cas := m.cas }
  refine applyExts_catOpts_cons certReq13Apply s5 (fun hc => ?_) (fun hc b hb _ _ => ?_) ?_
  · simp only [s5, nonEmptyL_eq_false hc]
    rfl
  · have := caList_lawful.rt m.cas b ⟨(nonEmptyL_iff _).mp hc, hv⟩ hb
    simp [s5, certReq13Apply, this]
    rfl
  exact applyExts_catOpts_nil certReq13Apply s5


/-- domain of `marshalCertificate`/`unmarshalCertificate`: staple and SCT list are nil or non-empty (an empty one is
    written but refused by the parser), and they need a leaf certificate to hang on -/
structure ValidCert (c : Cert) : Prop where
  noLeaf : c.certs = [] → c.ocsp = none ∧ c.scts = none
  ocsp : ∀ o, c.ocsp = some o → o ≠ []
  scts : ∀ l, c.scts = some l → l ≠ [] ∧ ∀ x ∈ l, x ≠ []

theorem ocspExt_lawful : MLawful ocspExt (fun x => x.2 ≠ []) :=
  (complete_lawful (pair_lawful (constC_lawful [1]) (guard_lawful nonEmpty (opq_lawful 3)))).mono
    fun a hD => ⟨trivial, trivial, (nonEmpty_iff a.2).mpr hD⟩

theorem certEntries_lawful : Lawful certEntries (fun _ => True) :=
  (lp_lawful 3 (many_lawful (pair_lawful (opq_lawful 3) extBlock_lawful) (pair_nonEmpty_left (opq_nonEmpty (by decide))))).mono
    fun _ _ _ _ => ⟨trivial, trivial⟩

theorem certLeaf_sem (c : Cert) (hv : ValidCert c) :
    ∀ ex, certLeafExts c = some ex → applyExts certApply ex ⟨[], none, none⟩ = some ⟨[], c.ocsp, c.scts⟩ := by
  unfold certLeafExts
  let s0 : Cert := ⟨[], none, none⟩
  let s1 := { s0 with ocsp := c.ocsp }
  refine applyExts_catOpts_cons certApply s1 (fun hc => ?_) (fun hc b hb _ _ => ?_) ?_
  · simp only [s1, Option.not_isSome_iff_eq_none.mp (Bool.eq_false_iff.mp hc)]
    rfl
  · obtain ⟨o, ho⟩ := Option.isSome_iff_exists.mp hc
    rw [ho] at hb
    have := ocspExt_lawful.rt ((), o) b (hv.ocsp o ho) hb
    simp [s1, s0, certApply, this, ho]
  let s2 := { s1 with scts := c.scts }
  refine applyExts_catOpts_cons certApply s2 (fun hc => ?_) (fun hc b hb _ _ => ?_) ?_
  · simp only [s2, Option.not_isSome_iff_eq_none.mp (Bool.eq_false_iff.mp hc)]
    rfl
  · obtain ⟨l, hl⟩ := Option.isSome_iff_exists.mp hc
    rw [hl] at hb
    have := sctListF_lawful.rt l b (hv.scts l hl) hb
    simp [s2, s1, s0, certApply, this, hl]
  exact applyExts_catOpts_nil certApply s2

theorem cert_sem (c : Cert) (hv : ValidCert c) (es : List (Bytes × List Ext)) (h : certToEntries c = some es) :
    certFromEntries es = some c := by
  obtain ⟨certs, ocsp, scts⟩ := c
  cases certs with
  | nil =>
    have := hv.noLeaf rfl
    simp only at this
    obtain ⟨rfl, rfl⟩ := this
    simp [certToEntries] at h
    subst h
    rfl
  | cons leaf rest =>
    simp only [certToEntries] at h
    cases hex : certLeafExts ⟨leaf :: rest, ocsp, scts⟩ with
    | none => simp [hex] at h
    | some ex =>
      simp [hex] at h
      subst h
      simp only [certFromEntries]
      rw [certLeaf_sem _ hv ex hex]
      simp [List.map_map, Function.comp_def]

theorem certF_lawful : Lawful certF ValidCert := by
  refine ⟨fun c bs tl hv h => ?_⟩
  simp only [certF] at h ⊢
  cases hes : certToEntries c with
  | none => simp [hes] at h
  | some es =>
    simp only [hes] at h
    rw [certEntries_lawful.rt es bs tl trivial h]
    simp [cert_sem c hv es hes]

theorem certF_noPrefix : NoPrefix certF (fun _ => True) := by
  refine ⟨fun c bs p _ h hp hne => ?_⟩
  simp only [certF] at h ⊢
  cases hes : certToEntries c with
  | none => simp [hes] at h
  | some es =>
    simp only [hes] at h
    have : NoPrefix certEntries (fun _ => True) := lp_noPrefix _ 3
    rw [this.np es bs p trivial h hp hne]


theorem sh_sem_known (m : ServerHello)
    (hreneg : m.secureRenegotiationSupported = false → m.secureRenegotiation = [])
    (hscts : ∀ x ∈ m.scts, x ≠ [])
    (hshare : m.serverShareGroup = 0 → m.serverShareData = [])
    (hsel : m.selectedIdentityPresent = false → m.selectedIdentity = 0)
    (es : List Ext) (h : shExts m = some es) :
    applyExts shApply es
      { ServerHello.empty with vers := m.vers, random := m.random, sessionId := m.sessionId,
                               cipherSuite := m.cipherSuite, compressionMethod := m.compressionMethod }
      = some { m with unknownExtensions := [] } := by
  revert es
  unfold shExts
  let s0 : ServerHello :=
    { ServerHello.empty with
      vers := m.vers, random := m.random, sessionId := m.sessionId, cipherSuite := m.cipherSuite
      compressionMethod := m.compressionMethod }
  let s1 := { s0 with ocspStapling := m.ocspStapling }
  refine applyExts_catOpts_cons shApply s1 (fun hc => ?_) (fun hc b hb _ _ => ?_) ?_
  · simp only [s1, hc]
    rfl
  · cases hb
    simp [s1, s0, ServerHello.empty, shApply, hc]
  let s2 := { s1 with ticketSupported := m.ticketSupported }
  refine applyExts_catOpts_cons shApply s2 (fun hc => ?_) (fun hc b hb _ _ => ?_) ?_
  · simp only [s2, hc]
    rfl
  · cases hb
    simp [s2, shApply, hc]
  let s3 := { s2 with secureRenegotiationSupported := m.secureRenegotiationSupported, secureRenegotiation := m.secureRenegotiation }
  refine applyExts_catOpts_cons shApply s3 (fun hc => ?_) (fun hc b hb _ _ => ?_) ?_
  · simp only [s3, hc, hreneg hc]
    rfl
  · have := (complete_lawful (opq_lawful 1)).rt m.secureRenegotiation b trivial hb
    simp [s3, shApply, this, hc]
  let s4 := { s3 with alpnProtocol := m.alpnProtocol }
  refine applyExts_catOpts_cons shApply s4 (fun hc => ?_) (fun hc b hb _ _ => ?_) ?_
  · simp only [s4, nonEmpty_eq_false hc]
    rfl
  · have := alpnOne_lawful.rt m.alpnProtocol b ((nonEmpty_iff _).mp hc) hb
    simp [s4, shApply, this]
  let s5 := { s4 with scts := m.scts }
  refine applyExts_catOpts_cons shApply s5 (fun hc => ?_) (fun hc b hb _ _ => ?_) ?_
  · simp only [s5, nonEmptyL_eq_false hc]
    rfl
  · have := sctListF_lawful.rt m.scts b ⟨(nonEmptyL_iff _).mp hc, hscts⟩ hb
    simp [s5, shApply, this]
    rfl
  let s6 := { s5 with supportedVersion := m.supportedVersion }
  refine applyExts_catOpts_cons shApply s6 (fun hc => ?_) (fun hc b hb _ _ => ?_) ?_
  · simp only [s6, show m.supportedVersion = 0 by simpa using hc]
    rfl
  · have := (complete_lawful (uN_lawful 2)).rt m.supportedVersion b trivial hb
    simp [s6, shApply, this]
  let s7 := { s6 with serverShareGroup := m.serverShareGroup, serverShareData := m.serverShareData }
  refine applyExts_catOpts_cons shApply s7 (fun hc => ?_) (fun hc b hb _ _ => ?_) ?_
  · have h0 : m.serverShareGroup = 0 := by simpa using hc
    simp only [s7, h0, hshare h0]
    rfl
  · have := (complete_lawful (pair_lawful (uN_lawful 2) (opq_lawful 2))).rt (m.serverShareGroup, m.serverShareData) b ⟨trivial, trivial⟩ hb
    -- a key share is longer than the two bytes of a HelloRetryRequest's selected group
    have hl : b.length ≠ 2 := by
      obtain ⟨p, q, hp, hq, rfl⟩ := pair_ser_inv hb
      have h1 := uN_ser_length hp
      have h2 := (opq_ser_length hq).1
      simp only [List.length_append]
      omega
    simp [s7, shApply, this, hl]
  let s8 := { s7 with selectedIdentityPresent := m.selectedIdentityPresent, selectedIdentity := m.selectedIdentity }
  refine applyExts_catOpts_cons shApply s8 (fun hc => ?_) (fun hc b hb _ _ => ?_) ?_
  · simp only [s8, hc, hsel hc]
    rfl
  · have := (complete_lawful (uN_lawful 2)).rt m.selectedIdentity b trivial hb
    simp [s8, shApply, this, hc]
  let s9 := { s8 with cookie := m.cookie }
  refine applyExts_catOpts_cons shApply s9 (fun hc => ?_) (fun hc b hb _ _ => ?_) ?_
  · simp only [s9, nonEmpty_eq_false hc]
    rfl
  · have := (complete_lawful (guard_lawful nonEmpty (opq_lawful 2))).rt m.cookie b ⟨trivial, hc⟩ hb
    simp [s9, shApply, this]
  let s10 := { s9 with selectedGroup := m.selectedGroup }
  refine applyExts_catOpts_cons shApply s10 (fun hc => ?_) (fun hc b hb _ _ => ?_) ?_
  · simp only [s10, show m.selectedGroup = 0 by simpa using hc]
    rfl
  · have := (complete_lawful (uN_lawful 2)).rt m.selectedGroup b trivial hb
    simp [s10, shApply, this, uN_ser_length hb]
  let s11 := { s10 with supportedPoints := m.supportedPoints }
  refine applyExts_catOpts_cons shApply s11 (fun hc => ?_) (fun hc b hb _ _ => ?_) ?_
  · simp only [s11, nonEmpty_eq_false hc]
    rfl
  · have := (complete_lawful (guard_lawful nonEmpty (opq_lawful 1))).rt m.supportedPoints b ⟨trivial, hc⟩ hb
    simp [s11, shApply, this]
  let s12 := { s11 with extendedMasterSecret := m.extendedMasterSecret }
  refine applyExts_catOpts_cons shApply s12 (fun hc => ?_) (fun hc b hb _ _ => ?_) ?_
  · simp only [s12, hc]
    rfl
  · cases hb
    simp [s12, shApply, hc]
  exact applyExts_catOpts_nil shApply s12


/-- an unknown extension as `serverHelloMsg.unmarshal` records it (and as the marshaller writes it back) -/
def encRaw (e : Ext) : Bytes := natBE 2 e.1 ++ natBE 2 e.2.length ++ e.2

def knownSH (t : Nat) : Bool :=
  t == 5 || t == 35 || t == 0xff01 || t == 16 || t == 18 || t == 43 || t == 44 || t == 51 || t == 41 || t == 11 || t == 23

theorem sh_sem_unknown (rs : List Ext) (s : ServerHello) (hu : ∀ e ∈ rs, knownSH e.1 = false) :
    applyExts shApply rs s = some { s with unknownExtensions := s.unknownExtensions ++ rs.map encRaw } := by
  induction rs generalizing s with
  | nil => simp [applyExts]
  | cons e rs ih =>
    obtain ⟨t, d⟩ := e
    have he := hu (t, d) (by simp)
    simp only [knownSH, Bool.or_eq_false_iff, beq_eq_false_iff_ne] at he
    simp only [applyExts]
    have : shApply (t, d) rs.isEmpty s
        = some { s with unknownExtensions := s.unknownExtensions ++ [natBE 2 t ++ natBE 2 d.length ++ d] } := by
      simp [shApply, he]
    rw [this]
    simp only
    rw [ih _ (fun e' he' => hu e' (by simp [he']))]
    simp [encRaw, List.append_assoc]

theorem serMany_append {α} (f : α → Option Bytes) (a b : List α) (p q : Bytes)
    (ha : serMany f a = some p) (hb : serMany f b = some q) : serMany f (a ++ b) = some (p ++ q) := by
  induction a generalizing p with
  | nil =>
    cases ha
    exact hb
  | cons x a ih =>
    obtain ⟨px, pr, hx, hr, rfl⟩ := of_match_append ha
    simp only [List.cons_append, serMany, hx, ih pr hr, List.append_assoc]

theorem serMany_raw (rs : List Ext) (hb : ∀ e ∈ rs, e.1 < 256 ^ 2 ∧ e.2.length < 256 ^ 2) :
    serMany extEntry.ser rs = some (rs.map encRaw).flatten := by
  induction rs with
  | nil => rfl
  | cons e rs ih =>
    have he := hb e (by simp)
    simp only [serMany, ih (fun e' he' => hb e' (by simp [he']))]
    dsimp only [extEntry, pair, uN, opq]
    rw [if_pos he.1, if_pos he.2]
    simp [encRaw]

theorem serMany_nil_of_nonEmpty {α} (f : α → Option Bytes) (l : List α) (hne : ∀ a bs, f a = some bs → bs ≠ [])
    (h : serMany f l = some []) : l = [] := by
  cases l with
  | nil => rfl
  | cons x l =>
    obtain ⟨px, pr, hx, _, hnil⟩ := of_match_append h
    exact absurd (List.append_eq_nil_iff.mp hnil.symm).1 (hne x px hx)

theorem extEntry_nonEmpty : NonEmptyEnc extEntry := pair_nonEmpty_left (uN_nonEmpty (by decide))

theorem shFixed_lawful : Lawful shFixed (fun _ => True) :=
  (pair_lawful (uN_lawful 2) (pair_lawful (bytesN_lawful 32) (pair_lawful (opq_lawful 1)
    (pair_lawful (uN_lawful 2) (uN_lawful 1))))).mono
    fun _ _ => ⟨trivial, trivial, trivial, trivial, trivial⟩

theorem shWire_lawful : MLawful shWire (fun _ => True) :=
  (hdrSkip_lawful 2 (optTail_lawful shFixed_lawful (complete_lawful extBlock_lawful))).mono
    fun _ _ => ⟨trivial, fun y _ => ⟨trivial, (lp_nonEmpty (m := extList) (k := 2) (by decide)).ne y⟩⟩


theorem sniF_lawful : MLawful sniF (fun l => l ≠ [] ∧ ∀ x ∈ l, x.2 ≠ []) :=
  (complete_lawful (lp_lawful 2 (mguard_lawful nonEmptyL
    (many_lawful (pair_lawful (uN_lawful 1) (guard_lawful nonEmpty (opq_lawful 2))) (pair_nonEmpty_left (uN_nonEmpty (by decide))))))).mono
    fun a hD => ⟨fun x hx => ⟨trivial, trivial, (nonEmpty_iff x.2).mpr (hD.2 x hx)⟩, (nonEmptyL_iff a).mpr hD.1⟩

theorem statusReqF_lawful : MLawful statusReqF (fun _ => True) :=
  (complete_lawful (pair_lawful (uN_lawful 1) (pair_lawful (opq_lawful 2) (opq_lawful 2)))).mono
    fun _ _ => ⟨trivial, trivial, trivial⟩

theorem versListF_lawful : MLawful versListF (fun l => l ≠ []) :=
  (complete_lawful (lp_lawful 1 (mguard_lawful nonEmptyL (many_lawful (uN_lawful 2) (uN_nonEmpty (by decide)))))).mono
    fun a hD => ⟨fun _ _ => trivial, (nonEmptyL_iff a).mpr hD⟩

theorem keySharesF_lawful : MLawful keySharesF (fun l => ∀ x ∈ l, x.2 ≠ []) :=
  (complete_lawful (lp_lawful 2 (many_lawful (pair_lawful (uN_lawful 2) (guard_lawful nonEmpty (opq_lawful 2)))
    (pair_nonEmpty_left (uN_nonEmpty (by decide)))))).mono
    fun a hD => (fun x hx => ⟨trivial, trivial, (nonEmpty_iff x.2).mpr (hD x hx)⟩)

theorem pskF_lawful : MLawful pskF
    (fun x => (x.1 ≠ [] ∧ ∀ i ∈ x.1, i.1 ≠ []) ∧ (x.2 ≠ [] ∧ ∀ b ∈ x.2, b ≠ [])) :=
  (complete_lawful (pair_lawful
    (lp_lawful 2 (mguard_lawful nonEmptyL (many_lawful (pair_lawful (guard_lawful nonEmpty (opq_lawful 2)) (uN_lawful 4))
      (pair_nonEmpty_left (guard_nonEmpty _ (opq_nonEmpty (by decide)))))))
    (lp_lawful 2 (mguard_lawful nonEmptyL (many_lawful (guard_lawful nonEmpty (opq_lawful 1))
      (guard_nonEmpty _ (opq_nonEmpty (by decide)))))))).mono
    fun a hD => ⟨⟨fun i hi => ⟨⟨trivial, (nonEmpty_iff i.1).mpr (hD.1.2 i hi)⟩, trivial⟩, (nonEmptyL_iff a.1).mpr hD.1.1⟩, ⟨fun b hb => ⟨trivial, (nonEmpty_iff b).mpr (hD.2.2 b hb)⟩, (nonEmptyL_iff a.2).mpr hD.2.1⟩⟩

theorem ch_sem (m : ClientHello)
    (hscsv : m.cipherSuites.contains 255 = true → m.secureRenegotiationSupported = true)
    (hreneg : m.secureRenegotiationSupported = false → m.secureRenegotiation = [])
    (hdot : m.serverName.getLast? ≠ some 46)
    (htkt : m.ticketSupported = false → m.sessionTicket = [])
    (her0 : m.extendedRandomEnabled = false → m.extendedRandom = [])
    (her1 : m.extendedRandomEnabled = true → m.extendedRandom ≠ [])
    (halpn : ∀ p ∈ m.alpnProtocols, p ≠ [])
    (hks : ∀ k ∈ m.keyShares, k.2 ≠ [])
    (hpsk0 : m.pskIdentities = [] → m.pskBinders = [])
    (hpsk1 : m.pskIdentities ≠ [] → (∀ i ∈ m.pskIdentities, i.1 ≠ []) ∧ m.pskBinders ≠ [] ∧ ∀ b ∈ m.pskBinders, b ≠ [])
    (es : List Ext) (h : chExts m = some es) :
    applyExts chApply es
      { ClientHello.empty with vers := m.vers, random := m.random, sessionId := m.sessionId, cipherSuites := m.cipherSuites,
                               compressionMethods := m.compressionMethods,
                               secureRenegotiationSupported := m.cipherSuites.contains 0x00ff }
      = some m := by
  revert es
  unfold chExts
  let s0 : ClientHello :=
    { ClientHello.empty with
      vers := m.vers, random := m.random, sessionId := m.sessionId, cipherSuites := m.cipherSuites
      compressionMethods := m.compressionMethods, secureRenegotiationSupported := m.cipherSuites.contains 0x00ff }
  let s1 := { s0 with serverName := m.serverName }
  refine applyExts_catOpts_cons chApply s1 (fun hc => ?_) (fun hc b hb _ _ => ?_) ?_
  · simp only [s1, nonEmpty_eq_false hc]
    rfl
  · have := sniF_lawful.rt [(0, m.serverName)] b ⟨by simp, by simpa using (nonEmpty_iff _).mp hc⟩ hb
    simp [s1, s0, ClientHello.empty, chApply, this, sniFold, hdot]
  let s2 := { s1 with ocspStapling := m.ocspStapling }
  refine applyExts_catOpts_cons chApply s2 (fun hc => ?_) (fun hc b hb _ _ => ?_) ?_
  · simp only [s2, hc]
    rfl
  · have := statusReqF_lawful.rt (1, [], []) b trivial hb
    simp [s2, chApply, this, hc]
  let s3 := { s2 with supportedCurves := m.supportedCurves }
  refine applyExts_catOpts_cons chApply s3 (fun hc => ?_) (fun hc b hb _ _ => ?_) ?_
  · simp only [s3, nonEmptyL_eq_false hc]
    rfl
  · have := listU16_lawful.rt m.supportedCurves b ((nonEmptyL_iff _).mp hc) hb
    simp [s3, chApply, this]
    rfl
  let s4 := { s3 with supportedPoints := m.supportedPoints }
  refine applyExts_catOpts_cons chApply s4 (fun hc => ?_) (fun hc b hb _ _ => ?_) ?_
  · simp only [s4, nonEmpty_eq_false hc]
    rfl
  · have := (complete_lawful (guard_lawful nonEmpty (opq_lawful 1))).rt m.supportedPoints b ⟨trivial, hc⟩ hb
    simp [s4, chApply, this]
  let s5 := { s4 with ticketSupported := m.ticketSupported, sessionTicket := m.sessionTicket }
  refine applyExts_catOpts_cons chApply s5 (fun hc => ?_) (fun hc b hb _ _ => ?_) ?_
  · simp only [s5, hc, htkt hc]
    rfl
  · cases hb
    simp [s5, chApply, hc]
  let s6 := { s5 with sigAlgs := m.sigAlgs }
  refine applyExts_catOpts_cons chApply s6 (fun hc => ?_) (fun hc b hb _ _ => ?_) ?_
  · simp only [s6, nonEmptyL_eq_false hc]
    rfl
  · have := listU16_lawful.rt m.sigAlgs b ((nonEmptyL_iff _).mp hc) hb
    simp [s6, chApply, this]
    rfl
  let s7 := { s6 with sigAlgsCert := m.sigAlgsCert }
  refine applyExts_catOpts_cons chApply s7 (fun hc => ?_) (fun hc b hb _ _ => ?_) ?_
  · simp only [s7, nonEmptyL_eq_false hc]
    rfl
  · have := listU16_lawful.rt m.sigAlgsCert b ((nonEmptyL_iff _).mp hc) hb
    simp [s7, chApply, this]
    rfl
  let s8 := { s7 with secureRenegotiationSupported := m.secureRenegotiationSupported, secureRenegotiation := m.secureRenegotiation }
  refine applyExts_catOpts_cons chApply s8 (fun hc => ?_) (fun hc b hb _ _ => ?_) ?_
  · -- the initial state holds `contains 0x00ff`, which is `false` without the flag
    have e1 : m.secureRenegotiation = s7.secureRenegotiation := hreneg hc
    have e2 : m.secureRenegotiationSupported = s7.secureRenegotiationSupported :=
      hc.trans (Bool.eq_false_iff.mpr fun hcc => absurd (hscsv hcc) (hc ▸ Bool.false_ne_true)).symm
    simp only [s8, e1, e2]
  · have := (complete_lawful (opq_lawful 1)).rt m.secureRenegotiation b trivial hb
    simp [s8, chApply, this, hc]
  let s9 := { s8 with alpnProtocols := m.alpnProtocols }
  refine applyExts_catOpts_cons chApply s9 (fun hc => ?_) (fun hc b hb _ _ => ?_) ?_
  · simp only [s9, nonEmptyL_eq_false hc]
    rfl
  · have := alpnList_lawful.rt m.alpnProtocols b ⟨(nonEmptyL_iff _).mp hc, halpn⟩ hb
    simp [s9, chApply, this]
    rfl
  let s10 := { s9 with extendedRandomEnabled := m.extendedRandomEnabled, extendedRandom := m.extendedRandom }
  refine applyExts_catOpts_cons chApply s10 (fun hc => ?_) (fun hc b hb _ _ => ?_) ?_
  · simp only [s10, hc, her0 hc]
    rfl
  · have := (complete_lawful (guard_lawful nonEmpty (opq_lawful 2))).rt m.extendedRandom b ⟨trivial, (nonEmpty_iff _).mpr (her1 hc)⟩ hb
    simp [s10, chApply, this, hc]
  let s11 := { s10 with extendedMasterSecret := m.extendedMasterSecret }
  refine applyExts_catOpts_cons chApply s11 (fun hc => ?_) (fun hc b hb _ _ => ?_) ?_
  · simp only [s11, hc]
    rfl
  · cases hb
    simp [s11, chApply, hc]
  let s12 := { s11 with scts := m.scts }
  refine applyExts_catOpts_cons chApply s12 (fun hc => ?_) (fun hc b hb _ _ => ?_) ?_
  · simp only [s12, hc]
    rfl
  · cases hb
    simp [s12, chApply, hc]
  let s13 := { s12 with supportedVersions := m.supportedVersions }
  refine applyExts_catOpts_cons chApply s13 (fun hc => ?_) (fun hc b hb _ _ => ?_) ?_
  · simp only [s13, nonEmptyL_eq_false hc]
    rfl
  · have := versListF_lawful.rt m.supportedVersions b ((nonEmptyL_iff _).mp hc) hb
    simp [s13, chApply, this]
    rfl
  let s14 := { s13 with cookie := m.cookie }
  refine applyExts_catOpts_cons chApply s14 (fun hc => ?_) (fun hc b hb _ _ => ?_) ?_
  · simp only [s14, nonEmpty_eq_false hc]
    rfl
  · have := (complete_lawful (guard_lawful nonEmpty (opq_lawful 2))).rt m.cookie b ⟨trivial, hc⟩ hb
    simp [s14, chApply, this]
  let s15 := { s14 with keyShares := m.keyShares }
  refine applyExts_catOpts_cons chApply s15 (fun hc => ?_) (fun hc b hb _ _ => ?_) ?_
  · simp only [s15, nonEmptyL_eq_false hc]
    rfl
  · have := keySharesF_lawful.rt m.keyShares b hks hb
    simp [s15, chApply, this]
    rfl
  let s16 := { s15 with earlyData := m.earlyData }
  refine applyExts_catOpts_cons chApply s16 (fun hc => ?_) (fun hc b hb _ _ => ?_) ?_
  · simp only [s16, hc]
    rfl
  · cases hb
    simp [s16, chApply, hc]
  let s17 := { s16 with pskModes := m.pskModes }
  refine applyExts_catOpts_cons chApply s17 (fun hc => ?_) (fun hc b hb _ _ => ?_) ?_
  · simp only [s17, nonEmpty_eq_false hc]
    rfl
  · have := (complete_lawful (opq_lawful 1)).rt m.pskModes b trivial hb
    simp [s17, chApply, this]
  let s18 := { s17 with pskIdentities := m.pskIdentities, pskBinders := m.pskBinders }
  refine applyExts_catOpts_cons chApply s18 (fun hc => ?_) (fun hc b hb r hr => ?_) ?_
  · simp only [s18, nonEmptyL_eq_false hc, hpsk0 (nonEmptyL_eq_false hc)]
    rfl
  · -- the only arm that looks at "last extension": nothing follows it
    cases hr
    have hv := hpsk1 ((nonEmptyL_iff _).mp hc)
    have := pskF_lawful.rt (m.pskIdentities, m.pskBinders) b ⟨⟨(nonEmptyL_iff _).mp hc, hv.1⟩, hv.2⟩ hb
    simp [s18, chApply, this]
    exact ⟨rfl, rfl⟩
  exact applyExts_catOpts_nil chApply s18

theorem extEntry_canon (b : Bytes) (e : Ext) (h : (complete extEntry).par b = some e) :
    b = encRaw e ∧ e.1 < 256 ^ 2 ∧ e.2.length < 256 ^ 2 := by
  obtain ⟨r1, h1, h2⟩ := pair_par_inv (complete_par_inv h)
  obtain ⟨ht, rfl⟩ := uN_par_inv h1
  obtain ⟨hd, rfl⟩ := opq_par_inv h2
  exact ⟨by simp [encRaw], ht, hd⟩

end ZV.C30
