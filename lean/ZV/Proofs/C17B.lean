import ZV.Proofs.C17
/-! The bounded model of C17 (`BSt`, `bstep`): a step of a thread that can move is, on `babs`, a step of the unbounded
    model or invisible there; from this the invariant, refinement, progress and the measure (core Lean only). -/
namespace ZV.C17

def addQ (q : List Job) (st : St) : St := { st with pending := st.pending ++ q }

theorem babs_eq (b : BSt) : babs b = addQ b.queue b.st := rfl

structure BInv (b : BSt) : Prop where
  wf : WF (babs b)
  qe : b.pc ≠ .feed → b.queue = []
  fd : b.pc = .waitM ∨ b.pc = .ret → allDone b.st.fs = true
  md : b.pc = .ret → b.st.ms.all (fun x => x) = true

/-- what progress needs of the parameters that no step changes: room in both channels, a fetcher, a matcher -/
structure Live (b : BSt) : Prop where
  capF : 1 ≤ b.capF
  capJ : 1 ≤ b.capJ
  nf : 0 < b.st.fs.length
  nm : 0 < b.st.ms.length

theorem bstepF_cases (i : Nat) (b : BSt) :
    (benabled (.f i) b = false ∧ bstepF i b = b) ∨
    (benabled (.f i) b = true ∧ enabled (.f i) b.st = true ∧ bstepF i b = { b with st := stepF i b.st }
      ∧ (b.st.fs[i]? = some .idle → b.st.pending = [] → b.pc ≠ .feed)) := by
  dsimp only [benabled, bstepF, enabled]
  cases hi : b.st.fs[i]? with
  | none => exact .inl ⟨rfl, by rw [stepF_idle (.inl hi)]⟩
  | some f =>
    cases f with
    | done => exact .inl ⟨rfl, by rw [stepF_idle (.inr hi)]⟩
    | idle =>
      cases b.st.pending with
      | cons x r => exact .inr ⟨rfl, rfl, rfl, fun _ => nofun⟩
      | nil =>
        cases b.pc with
        | feed => exact .inl ⟨rfl, rfl⟩
        | _ => exact .inr ⟨rfl, rfl, rfl, fun _ _ => nofun⟩
    | req s e sc => exact .inr ⟨rfl, rfl, rfl, nofun⟩
    | send s e k sc =>
      cases k with
      | zero => exact .inr ⟨rfl, rfl, rfl, nofun⟩
      | succ k =>
        by_cases hl : b.st.jobs.length < b.capJ
        · exact .inr ⟨decide_eq_true hl, rfl, if_pos hl, nofun⟩
        · exact .inl ⟨decide_eq_false hl, if_neg hl⟩

theorem bstepM_cases (j : Nat) (b : BSt) (fd : b.pc = .waitM ∨ b.pc = .ret → allDone b.st.fs = true) :
    (benabled (.m j) b = false ∧ bstepM j b = b) ∨
    (benabled (.m j) b = true ∧ enabled (.m j) b.st = true ∧ bstepM j b = { b with st := stepM j b.st }) := by
  dsimp only [benabled, bstepM, enabled, stepM]
  cases b.st.ms[j]? with
  | none => exact .inl ⟨rfl, rfl⟩
  | some v =>
    cases v with
    | true => exact .inl ⟨rfl, rfl⟩
    | false =>
      cases b.st.jobs with
      | cons x rest => exact .inr ⟨rfl, rfl, rfl⟩
      | nil =>
        cases hpc : b.pc with
        | feed => exact .inl ⟨rfl, rfl⟩
        | waitF => exact .inl ⟨rfl, rfl⟩
        | waitM =>
          have hd := fd (.inl hpc)
          exact .inr ⟨rfl, hd, by rw [if_pos hd]⟩
        | ret =>
          have hd := fd (.inr hpc)
          exact .inr ⟨rfl, hd, by rw [if_pos hd]⟩

/-- An enabled step of the bounded model: a worker's step of the unbounded model, which it then also is on `babs`,
    or one of the four statements of the main goroutine, which `babs` does not see. -/
inductive BStep (b : BSt) : BSt → Prop
  | worker (w : Worker) (hen : enabled w (babs b) = true)
      (habs : babs { b with st := step w b.st } = step w (babs b)) : BStep b { b with st := step w b.st }
  | feed (j rest) (hpc : b.pc = .feed) (hq : b.queue = j :: rest) (hl : b.st.pending.length < b.capF) :
      BStep b { b with queue := rest, st := { b.st with pending := b.st.pending ++ [j] } }
  | closeF (hpc : b.pc = .feed) (hq : b.queue = []) : BStep b { b with pc := .waitF }
  | closeJ (hpc : b.pc = .waitF) (hd : allDone b.st.fs = true) : BStep b { b with pc := .waitM }
  | ret (hpc : b.pc = .waitM) (hm : b.st.ms.all (fun x => x) = true) : BStep b { b with pc := .ret }

theorem bstepMain_cases (b : BSt) :
    (benabled .main b = false ∧ bstepMain b = b) ∨ (benabled .main b = true ∧ BStep b (bstepMain b)) := by
  obtain ⟨capF, capJ, queue, pc, st⟩ := b
  cases pc with
  | feed =>
    cases queue with
    | nil => exact .inr ⟨rfl, .closeF rfl rfl⟩
    | cons j rest =>
      dsimp only [benabled, bstepMain]
      by_cases hl : st.pending.length < capF
      · rw [if_pos hl]; exact .inr ⟨decide_eq_true hl, .feed j rest rfl rfl hl⟩
      · rw [if_neg hl]; exact .inl ⟨decide_eq_false hl, rfl⟩
  | waitF =>
    dsimp only [benabled, bstepMain]
    cases hd : allDone st.fs with
    | true => exact .inr ⟨rfl, .closeJ rfl hd⟩
    | false => exact .inl ⟨rfl, rfl⟩
  | waitM =>
    dsimp only [benabled, bstepMain]
    cases hm : st.ms.all (fun x => x) with
    | true => exact .inr ⟨rfl, .ret rfl hm⟩
    | false => exact .inl ⟨rfl, rfl⟩
  | ret => exact .inl ⟨rfl, rfl⟩

theorem bstep_cases (w : BWorker) (b : BSt) (inv : BInv b) :
    (benabled w b = false ∧ bstep w b = b) ∨ (benabled w b = true ∧ BStep b (bstep w b)) := by
  cases w with
  | main => exact bstepMain_cases b
  | f i =>
    rcases bstepF_cases i b with h | ⟨h, hen, e, hc⟩
    · exact .inl h
    · exact .inr ⟨h, (congrArg (BStep b) e).mpr
        (.worker (.f i) hen
          (step_frame b.queue 0 (.f i) b.st fun _ e => Worker.f.inj e ▸ fun h1 h2 => inv.qe (hc h1 h2)).symm)⟩
  | m j =>
    rcases bstepM_cases j b inv.fd with h | ⟨h, hen, e⟩
    · exact .inl h
    · exact .inr ⟨h, (congrArg (BStep b) e).mpr (.worker (.m j) hen (step_frame b.queue 0 (.m j) b.st nofun).symm)⟩

theorem bstep_disabled (w : BWorker) (b : BSt) (inv : BInv b) (h : benabled w b = false) : bstep w b = b := by
  rcases bstep_cases w b inv with ⟨-, e⟩ | ⟨h', -⟩
  · exact e
  · rw [h] at h'; cases h'

theorem babs_feed {b : BSt} {j : Job} {rest : List Job} (hq : b.queue = j :: rest) :
    babs { b with queue := rest, st := { b.st with pending := b.st.pending ++ [j] } } = babs b := by
  simp [babs, hq]

theorem bstep_inv (w : BWorker) (b : BSt) (inv : BInv b) : BInv (bstep w b) := by
  rcases bstep_cases w b inv with ⟨-, e⟩ | ⟨-, hs⟩
  · rw [e]; exact inv
  · generalize bstep w b = b' at hs
    cases hs with
    | worker w hen habs =>
      exact ⟨habs ▸ step_wf w _ inv.wf, inv.qe, fun h => (step_flags w b.st).1 (inv.fd h),
        fun h => (step_flags w b.st).2 (inv.md h)⟩
    | feed j rest hpc hq hl => exact ⟨babs_feed hq ▸ inv.wf, fun h => absurd hpc h, inv.fd, inv.md⟩
    | closeF hpc hq => exact ⟨inv.wf, fun _ => hq, fun h => (by rcases h with h | h <;> cases h), nofun⟩
    | closeJ hpc hd => exact ⟨inv.wf, fun _ => inv.qe (by rw [hpc]; nofun), fun _ => hd, nofun⟩
    | ret hpc hm => exact ⟨inv.wf, fun _ => inv.qe (by rw [hpc]; nofun), fun _ => inv.fd (.inl hpc), fun _ => hm⟩

theorem bruns : Sched.Runs bstep brun := ⟨fun _ => rfl, fun _ _ _ => rfl⟩

theorem brun_inv (ws : List BWorker) (b : BSt) (inv : BInv b) : BInv (brun b ws) := bruns.inv bstep_inv ws b inv

theorem babs_binit (capF capJ start stop batch nf nm : Nat) (scriptOf : Nat → List Tok) :
    babs (binit capF capJ start stop batch nf nm scriptOf) = init start stop batch nf nm scriptOf := by
  simp [babs, binit, binitOn, init, Obj.new]

theorem binit_inv (capF capJ start stop batch nf nm : Nat) (scriptOf : Nat → List Tok) :
    BInv (binit capF capJ start stop batch nf nm scriptOf) := by
  refine ⟨by rw [babs_binit]; exact init_wf start stop batch nf nm scriptOf, fun h => absurd rfl h,
    (fun h => by rcases h with h | h <;> cases h), (fun h => by cases h)⟩

theorem binit_live {capF capJ nf nm : Nat} (start stop batch : Nat) (scriptOf : Nat → List Tok)
    (hF : 1 ≤ capF) (hJ : 1 ≤ capJ) (hnf : 1 ≤ nf) (hnm : 1 ≤ nm) :
    Live (binit capF capJ start stop batch nf nm scriptOf) :=
  ⟨hF, hJ, List.length_replicate.symm ▸ hnf, List.length_replicate.symm ▸ hnm⟩

theorem bstep_refines (w : BWorker) (b : BSt) (inv : BInv b) :
    ∃ s : List Worker, s.length ≤ 1 ∧ babs (bstep w b) = run (babs b) s := by
  rcases bstep_cases w b inv with ⟨-, e⟩ | ⟨-, hs⟩
  · exact ⟨[], Nat.zero_le _, by rw [e]; rfl⟩
  · generalize bstep w b = b' at hs
    cases hs with
    | worker w hen habs => exact ⟨[w], Nat.le_refl _, habs⟩
    | feed j rest hpc hq hl => exact ⟨[], Nat.zero_le _, babs_feed hq⟩
    | _ => exact ⟨[], Nat.zero_le _, rfl⟩

theorem brun_refines (ws : List BWorker) : ∀ (b : BSt), BInv b →
    ∃ s : List Worker, s.length ≤ ws.length ∧ babs (brun b ws) = run (babs b) s := by
  induction ws with
  | nil => intro b _; exact ⟨[], by simp, rfl⟩
  | cons w ws ih =>
    intro b inv
    obtain ⟨s1, hl1, h1⟩ := bstep_refines w b inv
    obtain ⟨s2, hl2, h2⟩ := ih (bstep w b) (bstep_inv w b inv)
    refine ⟨s1 ++ s2, by rw [List.length_append, List.length_cons, Nat.add_comm]; exact Nat.add_le_add hl2 hl1, ?_⟩
    rw [runs.append, ← h1]
    exact h2

theorem mem_bworkers_f {b : BSt} {i : Nat} {f : FSt} (h : b.st.fs[i]? = some f) : BWorker.f i ∈ bworkers b := by
  obtain ⟨hi, -⟩ := List.getElem?_eq_some_iff.1 h
  exact List.mem_cons_of_mem _ (List.mem_append_left _ (List.mem_map_of_mem (List.mem_range.2 hi)))

theorem mem_bworkers_m {b : BSt} {j : Nat} {v : Bool} (h : b.st.ms[j]? = some v) : BWorker.m j ∈ bworkers b := by
  obtain ⟨hj, -⟩ := List.getElem?_eq_some_iff.1 h
  exact List.mem_cons_of_mem _ (List.mem_append_right _ (List.mem_map_of_mem (List.mem_range.2 hj)))

theorem fetcher_progress (b : BSt) (inv : BInv b) (hJ : 1 ≤ b.capJ) (hnm : 0 < b.st.ms.length)
    (i : Nat) (f : FSt) (hi : b.st.fs[i]? = some f) (hne : f ≠ .done)
    (hidle : f = .idle → b.st.pending ≠ [] ∨ b.pc ≠ .feed) :
    ∃ w ∈ bworkers b, benabled w b = true := by
  cases f with
  | done => exact absurd rfl hne
  | idle =>
    refine ⟨.f i, mem_bworkers_f hi, ?_⟩
    simp only [benabled, hi]
    rcases hidle rfl with h | h
    · cases hp : b.st.pending with
      | nil => exact absurd hp h
      | cons x r => rfl
    · rw [bne_iff_ne.2 h, Bool.or_true]
  | req s e sc => exact ⟨.f i, mem_bworkers_f hi, by simp only [benabled, hi]⟩
  | send s e k sc =>
    cases k with
    | zero => exact ⟨.f i, mem_bworkers_f hi, by simp only [benabled, hi]⟩
    | succ k =>
      by_cases hl : b.st.jobs.length < b.capJ
      · exact ⟨.f i, mem_bworkers_f hi, by simp only [benabled, hi]; exact decide_eq_true hl⟩
      · have hv := List.getElem?_eq_getElem hnm
        -- matcher 0 has not returned, since fetcher `i` has not
        cases hv0 : b.st.ms[0] with
        | true => cases allDone_get (inv.wf.closed (List.mem_of_getElem? (hv0 ▸ hv))).1 hi
        | false =>
          rw [hv0] at hv
          refine ⟨.m 0, mem_bworkers_m hv, ?_⟩
          simp only [benabled, hv]
          cases hjb : b.st.jobs with
          | nil => rw [hjb] at hl; exact absurd hJ hl
          | cons x r => rfl

theorem b_exists_enabled (b : BSt) (inv : BInv b) (live : Live b) (h : bfinished b = false) :
    ∃ w ∈ bworkers b, benabled w b = true := by
  obtain ⟨hF, hJ, hnf, hnm⟩ := live
  have hmain : BWorker.main ∈ bworkers b := List.mem_cons_self
  obtain ⟨capF, capJ, queue, pc, st⟩ := b
  -- at each statement main can move, or a fetcher or matcher it is waiting for can
  cases pc with
  | ret => cases h
  | feed =>
    cases queue with
    | nil => exact ⟨.main, hmain, rfl⟩
    | cons j rest =>
      by_cases hl : st.pending.length < capF
      · exact ⟨.main, hmain, decide_eq_true hl⟩
      · have hpne : st.pending ≠ [] := by
          intro hp; rw [hp] at hl; exact hl hF
        have hf := List.getElem?_eq_getElem hnf
        have hne : st.fs[0] ≠ .done := fun hd =>
          hpne (List.append_eq_nil_iff.1 (inv.wf.pend (List.mem_of_getElem? (hd ▸ hf)))).1
        exact fetcher_progress _ inv hJ hnm 0 _ hf hne (fun _ => Or.inl hpne)
  | waitF =>
    by_cases hd : allDone st.fs = true
    · exact ⟨.main, hmain, hd⟩
    · obtain ⟨f, hf, hne⟩ := List.all_eq_false.1 (Bool.eq_false_iff.2 hd)
      obtain ⟨i, hi, rfl⟩ := List.mem_iff_getElem.mp hf
      exact fetcher_progress _ inv hJ hnm i _ (List.getElem?_eq_getElem hi) (fun h => hne (beq_iff_eq.2 h))
        (fun _ => Or.inr nofun)
  | waitM =>
    by_cases hm : st.ms.all (fun x => x) = true
    · exact ⟨.main, hmain, hm⟩
    · obtain ⟨v, hv, hv'⟩ := List.all_eq_false.1 (Bool.eq_false_iff.2 hm)
      obtain ⟨j, hj, rfl⟩ := List.mem_iff_getElem.mp hv
      have h1 : st.ms[j]? = some false := by rw [List.getElem?_eq_getElem hj, Bool.eq_false_iff.2 hv']
      exact ⟨.m j, mem_bworkers_m h1, by simp only [benabled, h1, beq_self_eq_true, Bool.or_true, Bool.true_or]⟩

theorem bstep_mu (w : BWorker) (b : BSt) (inv : BInv b) (h : benabled w b = true) : bmu (bstep w b) < bmu b := by
  rcases bstep_cases w b inv with ⟨h', -⟩ | ⟨-, hs⟩
  · rw [h] at h'; cases h'
  · generalize bstep w b = b' at hs
    cases hs with
    | worker w hen habs =>
      rw [bmu, habs]
      exact Nat.add_lt_add_right (Nat.add_lt_add_right (step_mu w (babs b) inv.wf hen) _) _
    | feed j rest hpc hq hl =>
      rw [bmu, babs_feed hq, bmu, hq]
      exact Nat.add_lt_add_right (Nat.add_lt_add_left (Nat.lt_succ_self _) _) _
    | closeF hpc hq => rw [bmu, bmu, hpc]; exact Nat.add_lt_add_left (Nat.lt_succ_self 2) _
    | closeJ hpc hd => rw [bmu, bmu, hpc]; exact Nat.add_lt_add_left (Nat.lt_succ_self 1) _
    | ret hpc hm => rw [bmu, bmu, hpc]; exact Nat.add_lt_add_left (Nat.lt_succ_self 0) _

def BAllEnabled : BSt → List BWorker → Prop
  | _, [] => True
  | b, w :: ws => benabled w b = true ∧ BAllEnabled (bstep w b) ws

theorem bmeasured : Sched.Measured bstep benabled BInv bmu := ⟨bstep_inv, bstep_mu, bstep_disabled⟩

theorem bstep_params (w : BWorker) (b : BSt) (inv : BInv b) :
    (bstep w b).capF = b.capF ∧ (bstep w b).capJ = b.capJ
      ∧ (bstep w b).st.fs.length = b.st.fs.length ∧ (bstep w b).st.ms.length = b.st.ms.length := by
  rcases bstep_cases w b inv with ⟨-, e⟩ | ⟨-, hs⟩
  · rw [e]; exact ⟨rfl, rfl, rfl, rfl⟩
  · generalize bstep w b = b' at hs
    cases hs with
    | worker w hen habs => exact ⟨rfl, rfl, step_lengths w b.st⟩
    | _ => exact ⟨rfl, rfl, rfl, rfl⟩

theorem bmeasured_live : Sched.Measured bstep benabled (fun b => BInv b ∧ Live b) bmu where
  inv w b h := by
    obtain ⟨h1, h2, h3, h4⟩ := bstep_params w b h.1
    exact ⟨bstep_inv w b h.1, h1 ▸ h.2.capF, h2 ▸ h.2.capJ, h3 ▸ h.2.nf, h4 ▸ h.2.nm⟩
  dec w b h := bstep_mu w b h.1
  idle w b h := bstep_disabled w b h.1

theorem bfinished_finished {b : BSt} (inv : BInv b) (h : bfinished b = true) : finished (babs b) = true :=
  Bool.and_eq_true_iff.2 ⟨inv.fd (.inr (eq_of_beq h)), inv.md (eq_of_beq h)⟩

theorem bfinished_disabled (b : BSt) (inv : BInv b) (h : bfinished b = true) (w : BWorker) : benabled w b = false := by
  rcases bstep_cases w b inv with ⟨h', -⟩ | ⟨-, hs⟩
  · exact h'
  · generalize bstep w b = b' at hs
    cases hs with
    | worker w hen habs => rw [finished_disabled (babs b) (bfinished_finished inv h)] at hen; cases hen
    | feed j rest hpc hq hl | closeF hpc hq | closeJ hpc hd | ret hpc hm => rw [eq_of_beq h] at hpc; cases hpc

theorem broundRobin_finishes (fuel : Nat) (b : BSt) (inv : BInv b) (live : Live b) (hm : bmu b ≤ fuel) :
    bfinished (broundRobin b fuel) = true :=
  bmeasured_live.roundRobin_finishes bruns (fun _ => rfl) (fun _ _ => rfl) (fun b h => b_exists_enabled b h.1 h.2)
    (fun b h => bfinished_disabled b h.1) fuel b ⟨inv, live⟩ fun _ => hm

end ZV.C17
