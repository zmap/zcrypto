import ZV.Model.C04
import ZV.Proofs.C06
/-! The field readers of C04 applied to written TLVs: every round trip of an extension value is a chain of these. -/
namespace ZV.C04
open ZV ZV.Der ZV.C06

@[simp] theorem elemOf_body (t : UInt8) (b : Bytes) : (elemOf t b).body = b := rfl
@[simp] theorem elemOf_hdr (t : UInt8) (b : Bytes) : (elemOf t b).hdr = hdrOf t b.length := rfl
@[simp] theorem elemOf_full (t : UInt8) (b : Bytes) : (elemOf t b).full = writeTLV t b := rfl

theorem field_tlv (w : Want) (o : Bool) (t : UInt8) (body rest : Bytes) (ht : t.toNat % 32 ≠ 31)
    (hl : body.length < 2147483648) (hw : w.ok (hdrOf t body.length) = true) :
    field w o (writeTLV t body ++ rest) = .ok (some (elemOf t body), rest) :=
  field_some_iff.mpr ⟨readElem_writeTLV t body rest ht hl, hw⟩

theorem field_tlv_end (w : Want) (o : Bool) (t : UInt8) (body : Bytes) (ht : t.toNat % 32 ≠ 31)
    (hl : body.length < 2147483648) (hw : w.ok (hdrOf t body.length) = true) :
    field w o (writeTLV t body) = .ok (some (elemOf t body), []) := by
  have := field_tlv w o t body [] ht hl hw
  rwa [List.append_nil] at this

theorem field_skip (w : Want) (t : UInt8) (body rest : Bytes) (ht : t.toNat % 32 ≠ 31)
    (hl : body.length < 2147483648) (hw : w.ok (hdrOf t body.length) = false) :
    field w true (writeTLV t body ++ rest) = .ok (none, writeTLV t body ++ rest) :=
  field_absent (readHdr_writeTLV t body rest ht hl) hw

theorem field_nil_opt (w : Want) : field w true [] = .ok (none, []) := by
  simp [field]

theorem first_tlv (w : Want) (t : UInt8) (body : Bytes) (ht : t.toNat % 32 ≠ 31)
    (hl : body.length < 2147483648) (hw : w.ok (hdrOf t body.length) = true) :
    first w (writeTLV t body) = .ok (elemOf t body) := by
  simp [first, someElem, field_tlv_end w false t body ht hl hw]

theorem mapRes_map {α β γ} (f : β → Res γ) (g : α → β) (h : α → γ) (xs : List α)
    (hx : ∀ x ∈ xs, f (g x) = .ok (h x)) : mapRes f (xs.map g) = .ok (xs.map h) := by
  induction xs with
  | nil => rfl
  | cons x xs ih =>
    simp only [List.map_cons, mapRes]
    rw [hx x List.mem_cons_self, ih (fun y hy => hx y (List.mem_cons_of_mem _ hy))]

theorem tlvs_bounds {α} (t0 : UInt8) (g : α → Bytes) (xs : List α) (N : Nat)
    (h : (writeTLV t0 ((xs.map g).flatten)).length < N) :
    ((xs.map g).flatten).length < N ∧ ∀ x ∈ xs, (g x).length < N := by
  have h1 := writeTLV_length_ge t0 ((xs.map g).flatten)
  refine ⟨by omega, ?_⟩
  intro x hx
  have := (List.sublist_flatten_of_mem (List.mem_map_of_mem (f := g) hx)).length_le
  omega

theorem seqOf_tlvs {α} (tag : Nat) (cmp : Bool) (t : UInt8) (b : α → Bytes) (xs : List α)
    (ht : t.toNat % 32 ≠ 31)
    (htag : (t.toNat / 64 == 0 && t.toNat % 32 == tag && decide (t.toNat / 32 % 2 = 1) == cmp) = true)
    (hlen : (writeTLV 0x30 ((xs.map fun x => writeTLV t (b x)).flatten)).length < 2147483648) :
    seqOf tag cmp (writeTLV 0x30 ((xs.map fun x => writeTLV t (b x)).flatten))
      = .ok (xs.map fun x => elemOf t (b x)) := by
  obtain ⟨hb, he⟩ := tlvs_bounds 0x30 (fun x => writeTLV t (b x)) xs _ hlen
  unfold seqOf
  rw [first_tlv _ _ _ (by decide) hb rfl]
  simp only [elemOf_body]
  rw [readElems_writeTLVs (fun _ => t) b xs (by
    intro x hx
    exact ⟨ht, lt_of_writeTLV (he x hx)⟩)]
  simp only
  rw [if_pos]
  rw [List.all_eq_true]
  intro e he
  obtain ⟨x, _, rfl⟩ := List.mem_map.mp he
  simpa [hdrOf] using htag

theorem readElems_tlv (t : UInt8) (b : Bytes) (ht : t.toNat % 32 ≠ 31) (hl : b.length < 2147483648) :
    readElems (writeTLV t b) = .ok [elemOf t b] := by
  have := readElems_writeTLVs (fun (_ : Unit) => t) (fun _ => b) [()] (by intro x _; exact ⟨ht, hl⟩)
  simpa using this

end ZV.C04
