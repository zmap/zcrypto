import ZV.Model.C13Enc
import ZV.Proofs.TimeRT
/-! The time leg of C13, both ends.  `CreateResponse` (ZV.Model.C13Enc) writes its times as GeneralizedTime of UTC values: on
    those `readBack` is the identity and the tag / content choice of `makeField` is fixed, so `timeRaw` is
    `appendGeneralizedTime` (ZV.Model.Time) under a fixed header.  `parseTime` of ZV.Model.C13Der (the time-content decoder tied to the code
    by T2 `c13 time`) on that image returns the instant, and so agrees there with `EA.parseGeneralizedTime`. -/
namespace ZV.C13
open ZV ZV.C18 ZV.Time

theorem timeTag_gen (t : GoTime) : EA.timeTag 24 t = 24 :=
  (EA.choice 24 t).elim (fun h => absurd rfl h.2.2.1) (·.1)

theorem makeTimeBody_gen (t : GoTime) : EA.makeTimeBody 24 t = EA.appendGeneralizedTime t :=
  (EA.choice 24 t).elim (fun h => absurd rfl h.2.2.1) (·.2.1)

theorem timeRaw_eq (u : Int) :
    timeRaw u =
      (match EA.appendGeneralizedTime (utcTime u) with
       | .ok body => .ok (mkRaw 0 24 false body)
       | .err => .err
       | .panic => .panic) := by
  unfold timeRaw
  rw [makeTimeBody_gen, timeTag_gen]
  rfl

theorem timeRaw_ok (u : Int) (hy0 : 0 ≤ (utcTime u).year) (hy1 : (utcTime u).year ≤ 9999) :
    timeRaw u = .ok (mkRaw 0 24 false (genText (utcTime u))) := by
  rw [timeRaw_eq, appendGeneralizedTime_eq _ hy0 hy1]

/-- `readBack` only moves a zone offset that is not whole minutes -/
theorem parseGeneralizedTime_utc (perm : Bool) (u : Int) (hy0 : 0 ≤ (utcTime u).year) (hy1 : (utcTime u).year ≤ 9999) :
    EA.parseGeneralizedTime perm (genText (utcTime u)) = .ok (utcTime u) :=
  (parseGeneralizedTime_genText perm (utcTime u) hy0 hy1 (by decide : (-90000 : Int) < 0) (by decide : (0 : Int) < 90000)).trans
    (congrArg _ (readBack_whole (utcTime u) rfl))

theorem two?_eq_getnum : ∀ s : Bytes, two? s = getnum s true
  | [] => rfl
  | [a] => by simp [two?, getnum]
  | a :: b :: r => by
    unfold two? getnum digit? isDigit
    by_cases ha : 48 ≤ a.toNat ∧ a.toNat ≤ 57
    · by_cases hb : 48 ≤ b.toNat ∧ b.toNat ≤ 57
      · simp [ha, hb]
      · simp [ha, hb]
    · simp [ha]

theorem two?_twoDigits (v : Nat) (hv : v < 100) (r : Bytes) : two? (EA.twoDigits v ++ r) = some (v, r) := by
  rw [two?_eq_getnum]
  exact getnum_digits v hv r true

theorem isLeap_eq (y : Nat) : C13.isLeap y = Time.isLeap (y : Int) := by
  unfold C13.isLeap Time.isLeap
  congr 1
  apply propext
  omega

theorem daysIn_eq (m y : Nat) (h1 : 1 ≤ m) (h2 : m ≤ 12) : C13.daysIn m y = Time.daysIn m (y : Int) := by
  unfold C13.daysIn
  rcases daysIn_cases m y h1 h2 with ⟨rfl, _⟩ | ⟨hm, e⟩ | ⟨hm, e⟩
  · rw [if_pos rfl, isLeap_eq]
    rfl
  · rw [e, if_neg (by omega), if_pos hm]
  · rw [e, if_neg (by omega), if_neg (by omega)]

theorem daysFromCivil_eq (y m d : Nat) : C13.daysFromCivil y m d = Time.daysFromCivil (y : Int) m d := by
  unfold C13.daysFromCivil Time.daysFromCivil
  by_cases h : m ≤ 2
  · have h' : ¬ m > 2 := by omega
    simp only [h, h', if_true, if_false]
  · have h' : m > 2 := by omega
    simp only [h, h', if_true, if_false]

theorem parseTime_gen_civil (c : Civil) (hv : c.valid = true) (hy0 : 0 ≤ c.year) (hy1 : c.year ≤ 9999) :
    parseTime 24 (EA.fourDigits c.year.toNat ++ (fieldsText c ++ [90])) = .ok (toUnix c + c.off) := by
  obtain ⟨hm1, hm2, hd1, hd2, hh, hmi, hs⟩ := (valid_iff c).1 hv
  have hd31 := daysIn_le c.month c.year
  obtain ⟨y, hy⟩ := Int.eq_ofNat_of_zero_le hy0
  have e1 : EA.fourDigits y = EA.twoDigits (y / 100) ++ EA.twoDigits (y % 100) := by
    have b : y % 100 / 10 % 10 = y / 10 % 10 := by
      rw [Nat.mod_mul_right_div_self y 10 10, Nat.mod_mod]
    simp only [EA.fourDigits, EA.twoDigits, List.cons_append, List.nil_append, digit, Nat.div_div_eq_div_mul, b,
      Nat.mod_mod_of_dvd y (by decide : 10 ∣ 100)]
  have hz : zone? [90] = some 0 := by decide
  have hyy : y / 100 * 100 + y % 100 = y := by omega
  rw [hy] at hd2 hy1 hd31
  rw [parseTime, if_pos rfl, hy, Int.toNat_natCast, e1, fieldsText]
  simp only [List.append_assoc, timeTail, two?_twoDigits, show y / 100 < 100 by omega, show y % 100 < 100 by omega,
    show c.month < 100 by omega, show c.day < 100 by omega, show c.hour < 100 by omega, show c.min < 100 by omega,
    show c.sec < 100 by omega, hz, if_true, hyy, daysIn_eq c.month y hm1 hm2, daysFromCivil_eq]
  rw [if_neg (by omega), toUnix, hy]
  congr 1
  omega

theorem parseTime_genText (u : Int) (hy0 : 0 ≤ (utcTime u).year) (hy1 : (utcTime u).year ≤ 9999) :
    parseTime 24 (genText (utcTime u)) = .ok u := by
  have h := parseTime_gen_civil (ofUnix u 0) (ofUnix_valid u 0) hy0 hy1
  rwa [ofUnix_off, Int.add_zero, toUnix_ofUnix] at h

end ZV.C13
