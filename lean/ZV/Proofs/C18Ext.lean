import ZV.Model.C18Ext
import ZV.Proofs.C18Main
import ZV.Proofs.C18Time
/-!
  C18, extended embedding (`ZV.Model.C18Ext`): round trip and idempotence for structs whose fields are `time.Time`
  values or values of the base embedding (`ZV.C18.Schema`), on top of the round trip of one time field
  (`TimeField.field_roundtrip`) and of one base field (`roundtrip_both`).
-/
namespace ZV.C18.Ext
open ZV.Time

def omittedXF : XField → Params → XV → Bool
  | .base s, p, .base v => omitted s p v
  | .time, p, .time t => TimeField.omittedTime p t
  | _, _, _ => false

def allOmitted : XFields → List XV → Bool
  | [], [] => true
  | (p, f) :: fs, v :: vs => omittedXF f p v && allOmitted fs vs
  | _, _ => false

/-- a PRESENT time field of the domain: `fieldOK` (no string kind, no `set`, IMPLICIT tag only where the decoder's
    parser choice is the encoder's), year 0..9999, zone below 25 h, and what is read back is not `time.Time{}` under
    OPTIONAL (a non-zero time at the zero instant — e.g. with nanoseconds — would be left out on re-marshalling) -/
def timeOK (p : Params) (t : GoTime) : Bool :=
  TimeField.fieldOK p t && decide (0 ≤ t.year) && decide (t.year ≤ 9999) && decide (-90000 < t.off) &&
    decide (t.off < 90000) && !TimeField.omittedTime p (readBack t)

def XDomF : XField → Params → XV → Bool
  | .base s, p, .base v => InDomain s p v
  | .time, p, .time t => goodB p && (TimeField.omittedTime p t || timeOK p t)
  | _, _, _ => false

/-- domain of a field list: every field in its domain; a left-out field is followed by left-out fields only
    (narrower than the base embedding's `skipsNext` rule: conservative) -/
def XDomFs : XFields → List XV → Bool
  | [], [] => true
  | (p, f) :: fs, v :: vs => XDomF f p v && XDomFs fs vs && (!omittedXF f p v || allOmitted fs vs)
  | _, _ => false

/-- **domain of the extended round-trip theorem**: good top-level parameters, the struct itself not OPTIONAL -/
def XDom (fs : XFields) (p : Params) (vs : List XV) : Bool :=
  goodB p && !p.optional && XDomFs fs vs

/-- value equivalence of one field: `VEq` for a field of the base embedding; a present time comes back as `readBack t`
    (whole seconds, zone truncated to whole minutes), a left-out one identically -/
def XEqF : XField → Params → XV → XV → Prop
  | .base s, p, .base v, .base v' => VEq s p v v'
  | .time, p, .time t, .time t' => t' = if TimeField.omittedTime p t then t else readBack t
  | _, _, _, _ => False

def XEq : XFields → List XV → List XV → Prop
  | [], [], [] => True
  | (p, f) :: fs, v :: vs, v' :: vs' => XEqF f p v v' ∧ XEq fs vs vs'
  | _, _, _ => False

/-! ### re-marshalling what was read back: `readBack` keeps the year, hence the tag choice and the text -/

theorem makeTimeField_readBack (p : Params) (t : GoTime) (hy0 : 0 ≤ t.year) (hy1 : t.year ≤ 9999)
    (h1 : TimeField.omittedTime p t = false) (h2 : TimeField.omittedTime p (readBack t) = false) :
    TimeField.makeTimeField p (readBack t) = TimeField.makeTimeField p t := by
  simp only [TimeField.makeTimeField, h1, h2, EA.timeTag_readBack, EA.makeTimeBody_readBack]

theorem makeXFields_cons_ok (p : Params) (f : XField) (fs : XFields) (v : XV) (vs : List XV) (enc : Bytes)
    (hm : makeXFields ((p, f) :: fs) (v :: vs) = .ok enc) :
    ∃ b bs, makeXField f p v = .ok b ∧ makeXFields fs vs = .ok bs ∧ enc = b ++ bs := by
  rw [makeXFields] at hm
  obtain ⟨b, h1, hm⟩ := bindBytes_ok hm
  obtain ⟨bs, h2, hm⟩ := bindBytes_ok hm
  exact ⟨b, bs, h1, h2, (Res.ok.inj hm).symm⟩

theorem makeXField_omitted (f : XField) (p : Params) (v : XV) (b : Bytes) (ho : omittedXF f p v = true)
    (hm : makeXField f p v = .ok b) : b = [] := by
  cases f <;> cases v <;> try cases ho
  · rename_i s x
    rw [makeXField, makeField_omitted s p x (makeField_univ s p x b hm) ho] at hm
    injection hm with hm
    exact hm.symm
  · simp only [makeXField, TimeField.makeTimeField, show TimeField.omittedTime p _ = true from ho, if_true, Res.ok.injEq] at hm
    exact hm.symm

theorem allOmitted_nil : ∀ (fs : XFields) (vs : List XV) (enc : Bytes), allOmitted fs vs = true →
    makeXFields fs vs = .ok enc → enc = []
  | [], [], enc, _, hm => by injection hm with hm; exact hm.symm
  | (p, f) :: fs, v :: vs, enc, ha, hm => by
    simp only [allOmitted, Bool.and_eq_true] at ha
    obtain ⟨b, bs, h1, h2, rfl⟩ := makeXFields_cons_ok p f fs v vs enc hm
    rw [makeXField_omitted f p v b ha.1 h1, allOmitted_nil fs vs bs ha.2 h2]; rfl
  | [], _ :: _, _, ha, _ => by cases ha
  | _ :: _, [], _, ha, _ => by cases ha

theorem field_rt (f : XField) (p : Params) (v : XV) (b rest : Bytes) (hd : XDomF f p v = true)
    (hm : makeXField f p v = .ok b) (hl : b.length < 2147483648) (hr : omittedXF f p v = true → rest = []) :
    ∃ v', parseXField false f p (b ++ rest) = .ok (v', rest) ∧ XEqF f p v v' ∧ makeXField f p v' = .ok b := by
  cases f with
  | base s =>
    cases v with
    | time t => simp [XDomF] at hd
    | base x =>
      simp only [XDomF] at hd
      simp only [makeXField] at hm
      obtain ⟨x', h1, h2, h3, _⟩ := (roundtrip_both s).1 p x b rest hd hm hl
        (fun ho => Or.inl (hr (by simpa [omittedXF] using ho)))
      exact ⟨.base x', by simp only [parseXField, h1], h2, h3⟩
  | time =>
    cases v with
    | base x => simp [XDomF] at hd
    | time t =>
      simp only [XDomF, Bool.and_eq_true, Bool.or_eq_true] at hd
      obtain ⟨hgb, hd⟩ := hd
      have hg := goodB_good p hgb
      simp only [makeXField] at hm
      cases ho : TimeField.omittedTime p t with
      | true =>
        have hrest := hr (by simpa [omittedXF] using ho)
        subst hrest
        have ho' := ho
        simp only [TimeField.omittedTime, Bool.and_eq_true, beq_iff_eq] at ho'
        simp only [TimeField.makeTimeField, ho, if_true, Res.ok.injEq] at hm
        subst hm
        refine ⟨.time t, ?_, by simp [XEqF, ho], by simp [makeXField, TimeField.makeTimeField, ho]⟩
        simp [parseXField, TimeField.parseTimeField, TimeField.dfltTime, ho'.1.1, ho'.2]
      | false =>
        rw [ho] at hd
        simp only [Bool.false_eq_true, false_or, timeOK, Bool.and_eq_true, decide_eq_true_eq, Bool.not_eq_true'] at hd
        obtain ⟨⟨⟨⟨⟨hok, hy0⟩, hy1⟩, ho1⟩, ho2⟩, hrb⟩ := hd
        refine ⟨.time (readBack t), ?_, by simp [XEqF, ho], ?_⟩
        · simp only [parseXField, TimeField.field_roundtrip false p t b rest hg hok hy0 hy1 ho1 ho2 hm hl]
        · simp only [makeXField, makeTimeField_readBack p t hy0 hy1 ho hrb, hm]

theorem fields_rt : ∀ (fs : XFields) (vs : List XV) (enc : Bytes), XDomFs fs vs = true →
    makeXFields fs vs = .ok enc → enc.length < 2147483648 →
    ∃ vs', parseXFields false fs enc = .ok (vs', []) ∧ XEq fs vs vs' ∧ makeXFields fs vs' = .ok enc := by
  intro fs
  induction fs with
  | nil =>
    intro vs enc hd hm _
    cases vs with
    | cons _ _ => simp [XDomFs] at hd
    | nil =>
      simp only [makeXFields, Res.ok.injEq] at hm
      subst hm
      exact ⟨[], by simp [parseXFields], by simp [XEq], by simp [makeXFields]⟩
  | cons pf fs ih =>
    intro vs enc hd hm hl
    obtain ⟨p, f⟩ := pf
    cases vs with
    | nil => simp [XDomFs] at hd
    | cons v vs =>
      simp only [XDomFs, Bool.and_eq_true, Bool.or_eq_true, Bool.not_eq_true'] at hd
      obtain ⟨⟨hdv, hdvs⟩, hsk⟩ := hd
      obtain ⟨b, bs, h1, h2, rfl⟩ := makeXFields_cons_ok p f fs v vs enc hm
      simp only [List.length_append] at hl
      have hr : omittedXF f p v = true → bs = [] := by
        intro ho
        rcases hsk with h | h
        · rw [ho] at h; cases h
        · exact allOmitted_nil fs vs bs h h2
      obtain ⟨y, hy1, hy2, hy3⟩ := field_rt f p v b bs hdv h1 (by omega) hr
      obtain ⟨ys, hys1, hys2, hys3⟩ := ih vs bs hdvs h2 (by omega)
      exact ⟨y :: ys, by simp only [parseXFields, hy1, hys1], ⟨hy2, hys2⟩, by simp only [makeXFields, hy3, hys3]⟩

theorem xstruct_rt (fs : XFields) (p : Params) (vs : List XV) (enc rest : Bytes)
    (hd : XDom fs p vs = true) (hm : makeXStruct fs p vs = .ok enc) (hl : enc.length < 2147483648) :
    ∃ vs', parseXStruct false fs p (enc ++ rest) = .ok (vs', rest) ∧ XEq fs vs vs' ∧
      makeXStruct fs p vs' = .ok enc := by
  simp only [XDom, Bool.and_eq_true, Bool.not_eq_true'] at hd
  obtain ⟨⟨hgb, hopt⟩, hdf⟩ := hd
  have hg := goodB_good p hgb
  have hom : ∀ ws, omittedXS fs p ws = false := by intro ws; simp [omittedXS, hopt]
  simp only [makeXStruct, hom, Bool.false_eq_true, if_false] at hm
  obtain ⟨h1, hm⟩ := guard_ok hm
  obtain ⟨h2, hm⟩ := guard_ok hm
  obtain ⟨body, hb, hm⟩ := bindBytes_ok hm
  obtain rfl := Res.ok.inj hm
  have hbl : body.length < 2147483648 := by
    have := wrap_length_ge p (if p.set = true then 17 else 16) true body; omega
  obtain ⟨vs', hp, hveq, hmk⟩ := fields_rt fs vs body hdf hb hbl
  refine ⟨vs', ?_, hveq, ?_⟩
  · simp only [parseXStruct]
    rw [append_isEmpty_false (wrap_nonempty _ _ _ _)]
    simp only [Bool.false_eq_true, if_false]
    rw [parsePre_wrap false anyStruct p 16 _ true body rest rfl hg hl (by split_ifs <;> omega)
      (by intro _; cases hs : p.set <;> simp [substTag, hs])]
    simp only [hp]
  · simp only [makeXStruct, hom, Bool.false_eq_true, if_false, if_neg h1, if_neg h2, hmk]

end ZV.C18.Ext
