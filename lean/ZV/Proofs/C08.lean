import ZV.Model.C08
import ZV.Proofs.ListFacts
/-!
  The abstract value of a pool is a list of certificates without repeated fingerprint, in insertion
  order; inserting is `specAdd`, and `dedupFp l` is what is left of a list `l` of insertions
  (`foldl_specAdd_nil`).  `Inv` ties the Go-shaped state to it: the three index maps are the index
  lists computed from `certs`.  `addCert_spec` (one `AddCert` = one `specAdd`, `Inv` preserved) carries
  everything else: a sequence of `AddCert` calls appends its arguments to the add history
  (`foldl_addCert_hist`), and the PEM loop and `Sum` are such sequences (`appendPEM_eq_addCerts`, `sum_spec`).
-/
namespace ZV.C08

def fps (l : List Cert) : List Nat := l.map (·.fp)

/-- insertion into the ordered set -/
def specAdd (l : List Cert) (c : Cert) : List Cert := if c.fp ∈ fps l then l else l ++ [c]

/-- distinct-by-fingerprint, FIRST occurrences, original order:
    keep the head, drop every later certificate with the same fingerprint. -/
def dedupFp : List Cert → List Cert
  | [] => []
  | c :: cs => c :: (dedupFp cs).filter (fun x => x.fp ≠ c.fp)

/-- positions (counted from `off`) of the certificates satisfying `p`, ascending. -/
def idxs (p : Cert → Bool) : List Cert → Nat → List Nat
  | [], _ => []
  | c :: cs, off => if p c then off :: idxs p cs (off + 1) else idxs p cs (off + 1)

/-- representation invariant of `CertPool`: the three index maps are exactly the
    indices computed from `certs`, and no fingerprint occurs twice. -/
structure Inv (s : Pool) : Prop where
  nodup : (fps s.certs).Nodup
  sha : ∀ k, s.bySHA256 k = s.certs.findIdx? (fun c => c.fp = k)
  name : ∀ k, s.byName k = idxs (fun c => c.subject = k) s.certs 0
  skid : ∀ k, s.bySubjectKeyId k = if k = 0 then [] else idxs (fun c => c.skid = k) s.certs 0

theorem idxs_eq_zipIdx (p : Cert → Bool) (l : List Cert) (off : Nat) :
    idxs p l off = ((l.zipIdx off).filter (fun y => p y.1)).map (·.2) := by
  induction l generalizing off with
  | nil => rfl
  | cons a l ih =>
    rw [idxs, ih, List.zipIdx_cons, List.filter_cons]
    cases p a <;> rfl

theorem idxs_append (p : Cert → Bool) (l : List Cert) (c : Cert) (off : Nat) :
    idxs p (l ++ [c]) off = idxs p l off ++ (if p c then [off + l.length] else []) := by
  rw [idxs_eq_zipIdx, idxs_eq_zipIdx, List.zipIdx_append, List.filter_append, List.map_append]
  simp only [List.zipIdx_cons, List.zipIdx_nil, List.filter_cons, List.filter_nil]
  split <;> rfl

theorem mem_idxs (p : Cert → Bool) (l : List Cert) (i : Nat) :
    i ∈ idxs p l 0 ↔ ∃ x, l[i]? = some x ∧ p x = true := by
  simp [idxs_eq_zipIdx, List.mk_mem_zipIdx_iff_getElem?]

theorem setKey_snoc (m : Nat → List Nat) (key n k : Nat) :
    setKey m key (m key ++ [n]) k = m k ++ if key = k then [n] else [] := by
  unfold setKey
  by_cases e : k = key
  · rw [e, if_pos rfl, if_pos rfl]
  · rw [if_neg e, if_neg (Ne.symm e), List.append_nil]

theorem mem_fps_specAdd (l : List Cert) (c : Cert) (k : Nat) :
    k ∈ fps (specAdd l c) ↔ k ∈ fps l ∨ k = c.fp := by
  unfold specAdd
  split
  · rename_i hm
    exact ⟨Or.inl, fun h => h.elim id (fun e => e ▸ hm)⟩
  · simp only [fps, List.map_append, List.mem_append, List.map_cons, List.map_nil, List.mem_singleton]

theorem nodup_specAdd (l : List Cert) (c : Cert) (h : (fps l).Nodup) : (fps (specAdd l c)).Nodup := by
  unfold specAdd
  split
  · exact h
  · rename_i hm
    rw [fps, List.map_append]
    exact nodup_concat h hm

theorem inv_new : Inv newPool := ⟨List.nodup_nil, fun _ => rfl, fun _ => rfl, fun _ => (ite_self _).symm⟩

theorem Inv.sha_isSome {s : Pool} (h : Inv s) (k : Nat) : (s.bySHA256 k).isSome = decide (k ∈ fps s.certs) := by
  rw [h.sha, List.findIdx?_isSome, Bool.eq_iff_iff]
  simp only [List.any_eq_true, decide_eq_true_eq, fps, List.mem_map]

theorem addCert_spec (s : Pool) (c : Cert) (h : Inv s) :
    (addCert s c).certs = specAdd s.certs c ∧ Inv (addCert s c) := by
  have hm := h.sha_isSome c.fp
  have hn := nodup_specAdd s.certs c h.nodup
  unfold specAdd at hn ⊢
  unfold addCert
  cases hs : s.bySHA256 c.fp with
  | some n =>
    rw [hs] at hm
    exact ⟨(if_pos (of_decide_eq_true hm.symm)).symm, h⟩
  | none =>
    rw [hs] at hm
    have hm : c.fp ∉ fps s.certs := of_decide_eq_false hm.symm
    rw [if_neg hm] at hn
    refine ⟨(if_neg hm).symm, hn, ?_, ?_, ?_⟩
    · intro k
      simp only [setKey, List.findIdx?_append, ← h.sha k, List.findIdx?_singleton]
      by_cases e : k = c.fp
      · simp [e, hs]
      · simp [e, Ne.symm e]
    · intro k
      dsimp only
      rw [setKey_snoc, idxs_append, h.name, Nat.zero_add]
      simp only [decide_eq_true_eq]
    · intro k
      dsimp only
      rw [idxs_append, Nat.zero_add]
      simp only [decide_eq_true_eq]
      by_cases e0 : c.skid = 0
      · rw [if_neg (not_not_intro e0), h.skid k]
        by_cases k0 : k = 0
        · rw [if_pos k0, if_pos k0]
        · rw [if_neg k0, if_neg k0, if_neg (fun e : c.skid = k => k0 (e ▸ e0)), List.append_nil]
      · rw [if_pos e0, setKey_snoc, h.skid k]
        by_cases k0 : k = 0
        · rw [if_pos k0, if_pos k0, if_neg (fun e : c.skid = k => e0 (e ▸ k0))]; rfl
        · rw [if_neg k0, if_neg k0]

theorem filter_filter_comm (l : List Cert) (p q : Cert → Bool) :
    (l.filter p).filter q = (l.filter q).filter p := by
  simp only [List.filter_filter]
  congr 1; funext x; exact Bool.and_comm _ _

theorem foldl_specAdd (l acc : List Cert) :
    l.foldl specAdd acc = acc ++ (dedupFp l).filter (fun c => decide (c.fp ∉ fps acc)) := by
  induction l generalizing acc with
  | nil => exact (List.append_nil acc).symm
  | cons c cs ih =>
    have hf : (dedupFp cs).filter (fun x => decide (x.fp ∉ fps (specAdd acc c))) =
        ((dedupFp cs).filter (fun x => x.fp ≠ c.fp)).filter (fun x => decide (x.fp ∉ fps acc)) := by
      rw [List.filter_filter]
      apply List.filter_congr
      intro x _
      simp only [mem_fps_specAdd, not_or, Bool.decide_and]
    rw [List.foldl_cons, ih, hf, dedupFp, List.filter_cons]
    unfold specAdd
    by_cases hm : c.fp ∈ fps acc
    · rw [if_pos hm, if_neg (by simpa using hm)]
    · rw [if_neg hm, if_pos (by simpa using hm), List.append_assoc]; rfl

theorem foldl_specAdd_nil (l : List Cert) : l.foldl specAdd [] = dedupFp l := by
  rw [foldl_specAdd]
  exact List.filter_eq_self.mpr (fun _ _ => rfl)

theorem dedupFp_append (l m : List Cert) : dedupFp (l ++ m) = m.foldl specAdd (dedupFp l) := by
  rw [← foldl_specAdd_nil, List.foldl_append, foldl_specAdd_nil]

theorem foldl_addCert_hist (m : List Cert) {s : Pool} {l : List Cert} (h : Inv s) (hc : s.certs = dedupFp l) :
    Inv (m.foldl addCert s) ∧ (m.foldl addCert s).certs = dedupFp (l ++ m) := by
  rw [dedupFp_append, ← hc]
  clear hc
  induction m generalizing s with
  | nil => exact ⟨h, rfl⟩
  | cons c m ih =>
    have a := addCert_spec s c h
    rw [List.foldl_cons, List.foldl_cons, ← a.1]
    exact ih a.2

theorem dedupFp_mem_fps (l : List Cert) (k : Nat) : k ∈ fps (dedupFp l) ↔ k ∈ fps l := by
  have : ∀ acc, k ∈ fps (l.foldl specAdd acc) ↔ k ∈ fps acc ∨ k ∈ fps l := by
    induction l with
    | nil => exact fun acc => ⟨Or.inl, fun h => h.elim id nofun⟩
    | cons c cs ih =>
      intro acc
      rw [List.foldl_cons, ih, mem_fps_specAdd, or_assoc]
      exact or_congr Iff.rfl List.mem_cons.symm
  rw [← foldl_specAdd_nil, this]
  exact ⟨fun h => h.elim nofun id, Or.inr⟩

theorem dedupFp_nodup (l : List Cert) : (fps (dedupFp l)).Nodup := by
  rw [← foldl_specAdd_nil]
  exact List.foldlRecOn (motive := fun acc => (fps acc).Nodup) l specAdd List.nodup_nil fun acc h c _ => nodup_specAdd acc c h

theorem dedupFp_of_nodup (l : List Cert) (h : (fps l).Nodup) : dedupFp l = l := by
  induction l with
  | nil => rfl
  | cons c cs ih =>
    rw [fps, List.map_cons, List.nodup_cons] at h
    rw [dedupFp, ih h.2, List.filter_eq_self.mpr]
    intro x hx
    exact decide_eq_true (fun e => h.1 (List.mem_map.mpr ⟨x, hx, e⟩))

theorem dedupFp_sublist (l : List Cert) : (dedupFp l).Sublist l := by
  induction l with
  | nil => exact List.Sublist.slnil
  | cons c cs ih => exact List.Sublist.cons_cons c ((List.filter_sublist).trans ih)

theorem foldl_specAdd_dedup (acc m : List Cert) : (dedupFp m).foldl specAdd acc = m.foldl specAdd acc := by
  rw [foldl_specAdd, foldl_specAdd, dedupFp_of_nodup _ (dedupFp_nodup m)]

/-- what one block contributes: the parsed certificate of a block that passes both `continue` tests -/
def Block.accepted (b : Block) : Option Cert := if b.skipped then none else b.parsed

/-- the certificates `AppendCertsFromPEM` hands to `AddCert`, in order -/
def pemCerts (bs : List Block) : List Cert := bs.filterMap Block.accepted

theorem appendPEM_eq_addCerts (bs : List Block) (s : Pool) :
    appendCertsFromPEM s bs = ((pemCerts bs).foldl addCert s, !(pemCerts bs).isEmpty) := by
  induction bs generalizing s with
  | nil => rfl
  | cons b bs ih =>
    rw [appendCertsFromPEM, pemCerts, List.filterMap_cons, Block.accepted]
    cases b.skipped with
    | true => exact ih s
    | false =>
      cases b.parsed with
      | none => exact ih s
      | some c => exact congrArg (fun r => (r.1, true)) (ih (addCert s c))

theorem appendPEMOpt_eq (s : Option Pool) (bs : List Block) :
    appendCertsFromPEMOpt s bs = match s with
      | some p => .ok (some ((pemCerts bs).foldl addCert p), !(pemCerts bs).isEmpty)
      | none => if (pemCerts bs).isEmpty then .ok (none, false) else .panic := by
  cases s with
  | some p => rw [appendCertsFromPEMOpt, appendPEM_eq_addCerts]
  | none =>
    have : bs.any (fun b => !b.skipped && b.parsed.isSome) = !(pemCerts bs).isEmpty := by
      induction bs with
      | nil => rfl
      | cons b bs ih =>
        rw [pemCerts, List.filterMap_cons, List.any_cons, ih, Block.accepted]
        cases b.skipped
        · cases b.parsed <;> rfl
        · rfl
    rw [appendCertsFromPEMOpt, this]
    cases (pemCerts bs).isEmpty <;> rfl

def optCerts : Option Pool → List Cert
  | none => []
  | some p => p.certs

theorem sum_spec (a b : Option Pool) :
    Inv (sum a b) ∧ (sum a b).certs = dedupFp (optCerts a ++ optCerts b) := by
  have h1 := foldl_addCert_hist (optCerts a) (l := []) inv_new rfl
  have h2 := foldl_addCert_hist (optCerts b) h1.1 h1.2
  cases a <;> cases b <;> exact h2

theorem parentsLoop_spec (chk : Cert → Cert → Bool) (certs : List Cert) (cert : Cert) (cands : List Nat)
    (acc : Parents) (hc : ∀ i ∈ cands, ∃ x, certs[i]? = some x) :
    ∃ res, parentsLoop chk certs cert acc cands = .ok res ∧
      res.parents = acc.parents ++ cands.filter (fun i => certs[i]?.any (chk cert)) ∧
      res.valid = (acc.valid || !(cands.filter (fun i => certs[i]?.any (chk cert))).isEmpty) := by
  induction cands generalizing acc with
  | nil => exact ⟨acc, rfl, (List.append_nil _).symm, (Bool.or_false _).symm⟩
  | cons c cs ih =>
    obtain ⟨⟨x, hx⟩, hc'⟩ := List.forall_mem_cons.mp hc
    rw [parentsLoop, List.filter_cons, hx]
    dsimp only [Option.any_some]
    by_cases hk : chk cert x = true
    · simp only [hk, if_true]
      exact (ih _ hc').imp fun res ⟨e, hp, hv⟩ => ⟨e, hp.trans (List.append_assoc ..), hv.trans (Bool.or_true _).symm⟩
    · simp only [hk]
      exact ih _ hc'

/-- the variable an operation writes -/
def Op.dst : Op → Nat
  | .add r _ => r
  | .pem r _ => r
  | .sum d _ _ => d

/-- the `ok` results of the AppendCertsFromPEM calls of a history depend on the block lists only -/
def opOut : Op → Option Bool
  | .pem _ bs => some (!(pemCerts bs).isEmpty)
  | _ => none

theorem step_ok {regs regs' : Regs} {op : Op} {o : Option Bool} : step regs op = .ok (regs', o) →
    (∃ v, regs' = setKey regs op.dst v) ∧ o = opOut op := by
  cases op with
  | add r c =>
    rw [step]
    split
    · intro h; cases h; exact ⟨⟨_, rfl⟩, rfl⟩
    · intro h; cases h
    · intro h; cases h
  | pem r bs =>
    rw [step, appendPEMOpt_eq, opOut]
    cases regs r with
    | some p => intro h; cases h; exact ⟨⟨_, rfl⟩, rfl⟩
    | none =>
      cases (pemCerts bs).isEmpty with
      | true => intro h; cases h; exact ⟨⟨_, rfl⟩, rfl⟩
      | false => intro h; cases h
  | sum d a b => intro h; cases h; exact ⟨⟨_, rfl⟩, rfl⟩

theorem run_cons_ok {regs regs' : Regs} {op : Op} {ops : List Op} {outs : List Bool}
    (h : run regs (op :: ops) = .ok (regs', outs)) :
    ∃ r1 o os, step regs op = .ok (r1, o) ∧ run r1 ops = .ok (regs', os) ∧
      outs = (match o with | some b => [b] | none => []) ++ os := by
  rw [run] at h
  split at h
  · rename_i hs
    split at h
    · rename_i hr; cases h; exact ⟨_, _, _, hs, hr, rfl⟩
    · cases h
    · cases h
  · cases h
  · cases h

end ZV.C08
