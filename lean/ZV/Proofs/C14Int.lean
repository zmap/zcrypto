import ZV.Proofs.C18
import ZV.Proofs.Der0Hdr
/-! C14 helper lemmas: `asn1.Unmarshal(bs, &int)` through the shared encoding/asn1 model `ZV.C18.unmarshal`.
    The strict header reader `C18.parseTL false` is the layer-0 reader `Der0.EA.parseTagAndLength` (`ea_header_eq`), so an
    accepted header is in canonical form (`parseTL_canon`). -/
namespace ZV.C14
open ZV.C18

theorem unmarshal_int64 (bs : Bytes) : unmarshal false .int64 {} bs = primField false .int64 {} bs := by
  simp [unmarshal, parseField]

/-- the last arm is that of `parsePre`, whose result type has no panic (and `parseTL` never panics: `C01Asn1.parseTL_sat`) -/
theorem primField_int64 (bs : Bytes) :
    primField false .int64 {} bs =
      match parseTL false bs with
      | .ok (t, r) =>
        if t.cls = 0 ∧ t.tag = 2 ∧ t.compound = false then
          (if t.len > r.length then .err
           else match parseInt64 false (r.take t.len) with
             | .ok i => .ok (.int i, r.drop t.len)
             | .err => .err
             | .panic => .panic)
        else .err
      | .err => .err
      | .panic => .err := by
  cases bs with
  | nil => rfl
  | cons b r =>
    rw [primField, List.isEmpty_cons, if_neg Bool.false_ne_true, parsePre]
    cases parseTL false (b :: r) with
    | err => rfl
    | panic => rfl
    | ok x =>
      -- without parameters the EXPLICIT stage passes the header on; the match stage tests it against UNIVERSAL 2, primitive
      have e1 : explicitStage false .int64 {} x.1 x.2 = .cont x.1 x.2 := if_neg Bool.false_ne_true
      dsimp only
      rw [e1]
      dsimp only
      by_cases hc : x.1.cls = 0 ∧ x.1.tag = 2 ∧ x.1.compound = false
      · have e2 : matchStage .int64 {} x.1 x.2 =
            if x.1.len > x.2.length then .err else .go x.1 2 (x.2.take x.1.len) (x.2.drop x.1.len) :=
          if_neg (show ¬ ((x.1.cls != 0 || x.1.tag != 2) || x.1.compound != false) = true by simp [hc])
        rw [e2, if_pos hc]
        by_cases hl : x.1.len > x.2.length
        · rw [if_pos hl, if_pos hl]
        · rw [if_neg hl, if_neg hl]
          dsimp only [parsePrim, resInt]
          cases parseInt64 false (List.take x.1.len x.2) <;> rfl
      · have e2 : matchStage .int64 {} x.1 x.2 = .dflt := if_pos (show ((x.1.cls != 0 || x.1.tag != 2) || x.1.compound != false) = true by
          by_contra hB; exact hc (by simpa [and_assoc] using hB))
        rw [e2, if_neg hc]
        rfl

theorem lenLoop_eq (n acc : Nat) (bs : Bytes) : Der0.EA.lenLoop bs n acc = parseLenBytes n acc bs :=
  ((parseLenBytes_eq n acc bs).trans (Der.readLenLoop_eq n acc bs)).symm

theorem parseLength_eq (r : Bytes) : Der0.EA.parseLength r = readLen false r := by
  cases r with
  | nil => rfl
  | cons b r' =>
    simp only [Der0.EA.parseLength, readLen, lenLoop_eq]
    cases parseLenBytes (b.toNat % 128) 0 r' <;> simp

theorem ea_header_eq (bs : Bytes) :
    Der0.EA.parseTagAndLength bs = (parseTL false bs).map fun x => (⟨x.1.cls, x.1.compound, x.1.tag, x.1.len⟩, x.2) := by
  cases bs with
  | nil => rfl
  | cons b r1 =>
    rw [parseTL_eq]
    simp only [Der0.EA.parseTagAndLength, parseTagNum, Der0.EA.parseBase128Int, ← base128_eq, parseLength_eq]
    by_cases h31 : b.toNat % 32 = 31
    · rw [if_pos h31, if_pos h31]
      cases base128 0 0 r1 with
      | err => rfl
      | panic => rfl
      | ok x =>
        obtain ⟨tg, r2⟩ := x
        dsimp only
        by_cases ht : tg < 31
        · rw [if_pos ht, if_pos ht]
          rfl
        · rw [if_neg ht, if_neg ht]
          dsimp only
          generalize readLen false r2 = y
          cases y <;> rfl
    · rw [if_neg h31, if_neg h31]
      dsimp only
      generalize readLen false r1 = y
      cases y <;> rfl

theorem parseTL_canon {bs r : Bytes} {t : TL} (h : parseTL false bs = .ok (t, r)) :
    bs = Der0.EA.appendTagAndLength ⟨t.cls, t.compound, t.tag, t.len⟩ ++ r := by
  obtain ⟨pre, e, hp⟩ := Der0.EA.parseTagAndLength_canon ((ea_header_eq bs).trans (congrArg _ h))
  rw [hp]
  exact e

theorem int_header_short (bs r' : Bytes) (t : TL) (h : parseTL false bs = .ok (t, r')) (h1 : t.cls = 0) (h2 : t.tag = 2)
    (h3 : t.compound = false) (hl : t.len < 128) : bs = 2 :: UInt8.ofNat t.len :: r' := by
  rw [parseTL_canon h, h1, h2, h3, Der0.EA.appendTagAndLength]
  dsimp only
  rw [if_neg (by decide), if_neg (Nat.not_le_of_lt hl)]
  rfl

theorem parseInt64_ok (bs : Bytes) (v : Int) (h : parseInt64 false bs = .ok v) :
    checkInteger false bs = true ∧ bs.length ≤ 8 := by
  unfold parseInt64 at h
  cases hc : checkInteger false bs with
  | false => simp [hc] at h
  | true =>
    simp only [hc, Bool.not_true, Bool.false_eq_true, if_false] at h
    by_cases hl : bs.length > 8
    · simp [hl] at h
    · exact ⟨rfl, by omega⟩

theorem parseTL_short (n : Nat) (r : Bytes) (h : n < 128) :
    parseTL false (2 :: UInt8.ofNat n :: r) = .ok ({ cls := 0, tag := 2, len := n, compound := false }, r) := by
  have := parseTL_appendTL false { cls := 0, tag := 2, len := n, compound := false } (Nat.le_of_ble_eq_true rfl)
    (Nat.le_of_ble_eq_true rfl) (Nat.lt_trans h (Nat.le_of_ble_eq_true rfl)) r
  rwa [appendTL_eq, if_neg (Nat.not_le_of_lt (Nat.le_of_ble_eq_true rfl)), lenOctets, if_neg (Nat.not_le_of_lt h)] at this

end ZV.C14
