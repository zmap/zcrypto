import ZV.Proofs.C13Der
import ZV.Proofs.C01Alloc
/-! C13, ASN.1 leg: what the typing of the decoder (`C01Asn1.engine_spec`: what `parseField` returns for a Go type is a present
    value of that type or, for an OPTIONAL field, its default) means for the read-out of ZV.Model.C13Der: `decodeOuter`,
    `decodeSingle`, `decodeBasic` never meet a value of an unexpected shape. -/
namespace ZV.C13
open ZV.C18

theorem decodeOuter_spec (der : Bytes) :
    match decodeOuter der with
    | .ok x => ∃ v, unmarshal false responseASN1S {} der = .ok (v, x.2.2.2)
    | .err => True
    | .shape => False := by
  unfold decodeOuter
  cases hu : unmarshal false responseASN1S {} der with
  | err => trivial
  | panic => exact absurd hu (((C01Asn1.engine_spec _ _).1 _ _).ne_panic)
  | ok x =>
    obtain ⟨v, rest⟩ := x
    have hp := (C01Asn1.required_present false _ {} rfl hu).1
    simp only [responseASN1S, responseBytesS, Pres, Bool.false_eq_true, false_and, or_false, true_and] at hp
    obtain ⟨_, _, rfl, ⟨i, rfl⟩, _, _, rfl, h2, rfl⟩ := hp
    rcases h2 with ⟨_, _, rfl, ⟨l, rfl⟩, _, _, rfl, _, rfl⟩ | rfl
    · exact ⟨_, rfl⟩
    · exact ⟨_, rfl⟩

theorem decodeOuter_no_shape (der : Bytes) : ¬ (decodeOuter der matches .shape) := by
  have h := decodeOuter_spec der
  cases hd : decodeOuter der with
  | shape => rw [hd] at h; exact h.elim
  | _ => nofun

theorem velems_eq (v : Val) : velems v = elems v := by
  induction v with
  | vcons x r _ ih => rw [velems, elems, ih]
  | _ => rfl

theorem algOf_some (v : Val) (h : Pres algIdS v) : ∃ o f, algOf v = some (o, f) := by
  simp only [algIdS, Pres, Bool.false_eq_true, false_and, or_false, true_and] at h
  obtain ⟨_, _, rfl, ⟨l, rfl⟩, _, _, rfl, h2, rfl⟩ := h
  rcases h2 with ⟨c, t, k, b, f, rfl, _⟩ | rfl <;> exact ⟨_, _, rfl⟩

theorem revokedOf_no_shape (v : Val)
    (h : Pres revokedInfoS v ∨ v = dfltVal revokedInfoS { tag := some 1, optional := true }) :
    revokedOf v ≠ .shape := by
  rcases h with h | rfl
  · simp only [revokedInfoS, Pres, Bool.false_eq_true, false_and, or_false, true_and] at h
    obtain ⟨_, _, rfl, ⟨c, t, k, b, f, rfl, _⟩, _, _, rfl, h2, rfl⟩ := h
    obtain ⟨i, rfl⟩ : ∃ i, _ = Val.int i := h2.elim id (fun e => ⟨0, e⟩)
    rw [revokedOf]
    split_ifs
    · nofun
    · cases timeOfRaw (Val.raw c t k b f) <;> nofun
  · nofun

theorem extOf_some (v : Val) (h : Pres extensionS v) : ∃ e, extOf v = some e := by
  simp only [extensionS, Pres, Bool.false_eq_true, false_and, or_false, true_and] at h
  obtain ⟨_, _, rfl, ⟨l, rfl⟩, _, _, rfl, h2, _, _, rfl, _, rfl⟩ := h
  rcases h2 with ⟨b, rfl⟩ | rfl <;> exact ⟨_, rfl⟩

theorem mapM_extOf_some : ∀ (l : List Val), (∀ x ∈ l, Pres extensionS x) → ∃ es, l.mapM extOf = some es
  | [], _ => ⟨[], rfl⟩
  | x :: l, h => by
    obtain ⟨e, he⟩ := extOf_some x (h x (by simp))
    obtain ⟨es, hes⟩ := mapM_extOf_some l (fun y hy => h y (by simp [hy]))
    exact ⟨e :: es, by simp [List.mapM_cons, he, hes]⟩

theorem decodeSingle_no_shape (v : Val) (h : Pres .raw v) : decodeSingle v ≠ .shape := by
  obtain ⟨c, t, k, b, f, rfl, _⟩ := h
  simp only [decodeSingle]
  split_ifs
  · simp
  · cases hp : parseFields false singlePrefixF b with
    | err => simp
    | panic => exact absurd hp (((C01Asn1.engine_spec _ _).2 _).ne_panic)
    | ok x =>
      obtain ⟨pv, r1⟩ := x
      -- the typing of the decoder fixes the constructor of every component the read-out matches on
      have hpres := (((C01Asn1.engine_spec false singlePrefixF).2 b).of_ok hp).1
      simp only [singlePrefixF, certIDS, Pres, Bool.false_eq_true, false_and, or_false, true_and] at hpres
      obtain ⟨_, _, rfl, ⟨a1, _, rfl, ha1, _, _, rfl, _, _, _, rfl, _, _, _, rfl, ⟨sn, rfl⟩, rfl⟩,
        x2, _, rfl, h2, x3, _, rfl, h3, x4, _, rfl, h4, x5, _, rfl, _, rfl⟩ := hpres
      obtain ⟨oid, pf, halg⟩ := algOf_some a1 ha1
      obtain ⟨good, rfl⟩ : ∃ g, x2 = .bool g := h2.elim id (fun e => ⟨false, e⟩)
      obtain ⟨unk, rfl⟩ : ∃ g, x4 = .bool g := h4.elim id (fun e => ⟨false, e⟩)
      have hrev := revokedOf_no_shape x3 h3
      simp only [halg]
      cases hr : revokedOf x3 with
      | shape => exact absurd hr hrev
      | err => simp
      | ok ra =>
        cases timeOfRaw x5 with
        | err => simp
        | panic => simp
        | ok th =>
          cases parseNext r1 with
          | err => simp
          | panic => simp
          | ok nr =>
            cases hs : parseFields false singleSuffixF nr.2 with
            | err => simp [hs]
            | panic => exact absurd hs (((C01Asn1.engine_spec _ _).2 _).ne_panic)
            | ok y =>
              obtain ⟨sv, r3⟩ := y
              have hsp := (((C01Asn1.engine_spec false singleSuffixF).2 nr.2).of_ok hs).1
              simp only [singleSuffixF, Pres, true_and] at hsp
              obtain ⟨e1, _, rfl, he1, rfl⟩ := hsp
              have hall : ∀ x ∈ velems e1, Pres extensionS x := by
                rw [velems_eq]
                rcases he1 with ⟨_, h⟩ | rfl
                · exact h
                · exact fun x hx => nomatch hx
              obtain ⟨es, hes⟩ := mapM_extOf_some (velems e1) hall
              simp [hs, hes]

theorem decodeSingles_no_shape : ∀ (l : List Val), (∀ x ∈ l, Pres .raw x) → decodeSingles l ≠ .shape
  | [], _ => nofun
  | v :: l, h => by
    have h1 := decodeSingle_no_shape v (h v List.mem_cons_self)
    have h2 := decodeSingles_no_shape l (fun y hy => h y (List.mem_cons_of_mem v hy))
    intro hc
    rw [decodeSingles] at hc
    split at hc
    · cases hc
    · exact h1 ‹_›
    · exact h2 ‹_›
    · cases hc

theorem fieldWith_required {perm : Bool} {s : Schema} {p : Params} {bs : Bytes}
    {k : TL → Nat → Bytes → Bytes → Res (Val × Bytes)} {x : Val × Bytes} (ho : p.optional = false) (hf : isFlag s = false)
    (h : fieldWith perm s p bs k = .ok x) :
    ∃ t utag inner rest, parsePre perm s p bs = .go t utag inner rest ∧ k t utag inner rest = .ok x := by
  revert h
  refine fieldWith_elim
    (C := fun res => res = .ok x → ∃ t utag inner rest, parsePre perm s p bs = .go t utag inner rest ∧ k t utag inner rest = .ok x)
    (fun _ h => ?_) nofun (fun r hp _ => ?_) (fun t utag inner rest hp hk => ⟨t, utag, inner, rest, hp, hk⟩)
  · rw [dfltOrErr_eq, if_neg (ne_true_of_eq_false ho)] at h
    cases h
  · rw [(C01Asn1.parsePre_flag hp).2] at hf
    cases hf

theorem struct_then_raw (perm : Bool) (fs : Schema) (bs : Bytes) (v : Val) (r : Bytes)
    (h : parseField perm (.struct fs) {} bs = .ok (v, r)) :
    ∃ c t k b f, parseField perm .raw {} bs = .ok (.raw c t k b f, r) ∧ f ≠ [] := by
  rw [parseField_struct] at h
  obtain ⟨t, utag, inner, rest, hp, hk⟩ := fieldWith_required rfl rfl h
  cases hfs : parseFields perm fs inner <;> rw [hfs] at hk <;> cases hk
  exact ⟨_, _, _, _, _, raw_of_go hp⟩

theorem firstField_raw (perm : Bool) (fs rs : Schema) (body : Bytes) (v : Val) (rest : Bytes)
    (h : parseField perm (.struct (.fcons {} (.struct fs) rs)) {} body = .ok (v, rest)) :
    ∃ c t k b f vs, parseField perm (.struct (.fcons {} .raw rs)) {} body = .ok (.vcons (.raw c t k b f) vs, rest) ∧ f ≠ [] := by
  rw [parseField_struct] at h ⊢
  obtain ⟨t, utag, inner, rest', hp, hk⟩ := fieldWith_required rfl rfl h
  rw [fieldWith_go ((parsePre_congr perm (a := .struct (.fcons {} .raw rs)) {} body rfl rfl rfl).trans hp)]
  cases hfs : parseFields perm (.fcons {} (.struct fs) rs) inner with
  | err => rw [hfs] at hk; cases hk
  | panic => rw [hfs] at hk; cases hk
  | ok x =>
    rw [hfs] at hk
    cases hk
    obtain ⟨v1, r1, ws, h1, h2, hv⟩ := parseFields_cons_ok hfs
    obtain ⟨c, t', k, b, f, hraw, hf⟩ := struct_then_raw perm fs inner v1 r1 h1
    exact ⟨c, t', k, b, f, ws, by simp only [parseFields, hraw, h2], hf⟩

theorem decodeBasic_spec (body : Bytes) :
    match decodeBasic body with
    | .ok x => ∃ v, unmarshal false basicResponseRS {} body = .ok (v, x.2)
    | .err => True
    | .shape => False := by
  unfold decodeBasic
  cases hu : unmarshal false basicResponseRS {} body with
  | err => trivial
  | panic => exact absurd hu (((C01Asn1.engine_spec _ _).1 _ _).ne_panic)
  | ok x =>
    obtain ⟨V, rest⟩ := x
    have hp := (C01Asn1.required_present false _ {} rfl hu).1
    obtain ⟨c, t, k, b, f, vs, hraw, hf⟩ := firstField_raw false _ _ body V rest hu
    simp only [basicResponseRS, basicOver, responseDataRS, responseDataOver, Pres, Bool.false_eq_true, false_and, or_false,
      true_and] at hp
    obtain ⟨_, _, rfl, ⟨a1, _, rfl, ha1, _, _, rfl, ⟨rc, rt, rk, rb, rf, rfl, _⟩, a3, _, rfl, _, a4, _, rfl, ⟨_, ha4⟩, rfl⟩,
      x2, _, rfl, h2, _, _, rfl, ⟨sb, sn, rfl⟩, _, _, rfl, _, rfl⟩ := hp
    obtain ⟨ver, rfl⟩ : ∃ i, a1 = .int i := ha1.elim id (fun e => ⟨0, e⟩)
    obtain ⟨so, sp, halg⟩ := algOf_some x2 h2
    have hss := decodeSingles_no_shape (velems a4) (velems_eq a4 ▸ ha4)
    simp only
    rw [show unmarshal false basicResponseRawS {} body = .ok (.vcons (.raw c t k b f) vs, rest) from hraw]
    simp only [fullOf, hf, if_false, halg]
    cases hd : decodeSingles (velems a4) with
    | shape => exact absurd hd hss
    | err => trivial
    | ok ss =>
      dsimp only
      cases timeOfRaw a3 with
      | ok pa => exact ⟨_, rfl⟩
      | err => trivial
      | panic => trivial

theorem decodeBasic_no_shape (body : Bytes) : ¬ (decodeBasic body matches .shape) := by
  have h := decodeBasic_spec body
  cases hd : decodeBasic body with
  | shape => rw [hd] at h; exact h.elim
  | _ => nofun

section
variable {K B : Type}

/-- the abstract input of a response whose two decoding steps succeeded without trailing data -/
def fullInput (tbsOf : Bytes → B) (sigOf : Bytes → Int → B) (algOf : List Int → Nat)
    (certOf : Bytes → Option (ECert K B)) (st : Int) (ty : List Int) (b : DBasic) : Input K B :=
  { outerOk := true, status := st.natAbs, typeOk := decide (ty = idBasic), basicOk := true, tbs := tbsOf b.tbs,
    sig := sigOf b.sigBytes b.sigBitLen, alg := algOf b.sigOid, responderTag := b.ridTag,
    responderOk := responderOkOf b.ridTag b.ridBytes, singles := b.singles.map singleOfD, certs := b.certs.map certOf }

theorem inputOfBytes_spec (tbsOf : Bytes → B) (sigOf : Bytes → Int → B) (algOf : List Int → Nat)
    (certOf : Bytes → Option (ECert K B)) (der : Bytes) :
    ∃ inp, inputOfBytes tbsOf sigOf algOf certOf der = .ok inp ∧ (inp.basicOk = true →
      ∃ st ty body b, decodeOuter der = .ok (st, ty, body, []) ∧ decodeBasic body = .ok (b, []) ∧
        inp = fullInput tbsOf sigOf algOf certOf st ty b) := by
  have ho := decodeOuter_no_shape der
  unfold inputOfBytes
  cases hd : decodeOuter der with
  | shape => rw [hd] at ho; exact absurd rfl ho
  | err => exact ⟨_, rfl, nofun⟩
  | ok x =>
    obtain ⟨st, ty, body, rest⟩ := x
    dsimp only
    by_cases hr : rest.length > 0
    · rw [if_pos hr]
      exact ⟨_, rfl, nofun⟩
    rw [if_neg hr]
    obtain rfl := List.eq_nil_of_length_eq_zero (Nat.eq_zero_of_not_pos hr)
    have hb := decodeBasic_no_shape body
    cases hdb : decodeBasic body with
    | shape => rw [hdb] at hb; exact absurd rfl hb
    | err => exact ⟨_, rfl, nofun⟩
    | ok y =>
      obtain ⟨b, rest2⟩ := y
      dsimp only
      by_cases hr2 : rest2.length > 0
      · rw [if_pos hr2]
        exact ⟨_, rfl, nofun⟩
      rw [if_neg hr2]
      obtain rfl := List.eq_nil_of_length_eq_zero (Nat.eq_zero_of_not_pos hr2)
      exact ⟨_, rfl, fun _ => ⟨st, ty, body, b, rfl, hdb, rfl⟩⟩

end

end ZV.C13
