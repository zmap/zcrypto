import ZV.Proofs.C09IPv6
/-!
  The group loop `v6Loop` against the sequence grammar `V6Seq` (`v6Loop_iff`, by
  induction on the room left), then ellipsis expansion (`v6Finish`), zone rejection and the "::"
  prefix: `parseIPv6` accepts exactly `V6Spec` (`parseIPv6_iff`).
-/
namespace ZV.C09

theorem groupBytes_length (v : Nat) : (groupBytes v).length = 2 := rfl

theorem IsOctet.head_dec {f : Str} {v : Nat} (h : IsOctet f v) : ∃ c t, f = c :: t ∧ IsDec c := by
  match f, h with
  | [], h => exact absurd rfl h.ne
  | c :: t, h => exact ⟨c, t, rfl, h.digits c (by simp)⟩

theorem IsHexGroup.head_hex {g : Str} {v : Nat} (h : IsHexGroup g v) : ∃ c t, g = c :: t ∧ IsHexCh c := by
  match g, h with
  | [], h => exact absurd rfl h.ne
  | c :: t, h => exact ⟨c, t, rfl, h.hex c (by simp)⟩

theorem V6Seq.head_hex {s : Str} {bs : List UInt8} {hq : Bool} (h : V6Seq s bs hq) :
    ∃ c t, s = c :: t ∧ IsHexCh c := by
  cases h with
  | one hg => exact hg.head_hex
  | quad hd =>
    obtain ⟨f1, f2, f3, f4, rfl, o1, _⟩ := hd
    obtain ⟨c, t, rfl, hc⟩ := o1.head_dec
    exact ⟨c, _, rfl, isDec_isHex hc⟩
  | cons hg _ =>
    obtain ⟨c, t, rfl, hc⟩ := hg.head_hex
    exact ⟨c, _, rfl, hc⟩

theorem V6Seq.length_ge {s : Str} {bs : List UInt8} {hq : Bool} (h : V6Seq s bs hq) : 2 ≤ bs.length := by
  induction h with
  | one _ => simp [groupBytes]
  | quad _ => simp
  | cons _ _ ih => simp [groupBytes]

theorem v6Loop_room {ip out : List UInt8} {ell ell' : Option Nat} {s : Str}
    (h : v6Loop ip ell s = some (out, ell', [])) (hs : s ≠ []) : ip.length < 16 := by
  refine Decidable.by_contra fun hn => hs ?_
  rw [v6Loop_full ip ell s hn] at h
  exact (Prod.mk.inj (Prod.mk.inj (Option.some.inj h)).2).2

/-- `k` groups are missing.  Either no "::" is met, or the state had none and `s` has one after the
    groups `l`. -/
theorem v6Loop_iff : ∀ (k : Nat) (ip : List UInt8) (ell : Option Nat) (s : Str) (out : List UInt8)
    (ell' : Option Nat), ip.length + 2 * k = 16 → ip.length < 16 →
    (v6Loop ip ell s = some (out, ell', []) ↔
      out.length ≤ 16 ∧
      ((ell' = ell ∧ ∃ bs hq, V6Seq s bs hq ∧ out = ip ++ bs ∧ (hq = true → ell ≠ none ∨ out.length = 16)) ∨
      (ell = none ∧ ∃ l r L R, s = l ++ 58 :: 58 :: r ∧ V6Seq l L false ∧ V6Right r R ∧
         ell' = some (ip.length + L.length) ∧ out = ip ++ (L ++ R)))) := by
  intro k
  induction k with
  | zero => intro ip _ _ _ _ hk hlt; omega
  | succ k ih =>
    intro ip ell s out ell' hk hlt
    have hlen' : ∀ v, (ip ++ groupBytes v).length = ip.length + 2 := fun v => by simp [groupBytes]
    have hk' : ∀ v, (ip ++ groupBytes v).length + 2 * k = 16 := fun v => by rw [hlen']; omega
    have room : ∀ v (bs : List UInt8), 2 ≤ bs.length → ((ip ++ groupBytes v) ++ bs).length ≤ 16 →
        (ip ++ groupBytes v).length < 16 := fun v bs h2 hb => by
      rw [List.length_append] at hb
      omega
    rw [v6Loop_step ip ell s _ hlt]
    constructor
    · rintro ⟨g, acc, s', hs, hgrp, halt⟩
      cases halt with
      | last =>
        refine ⟨by rw [hlen']; omega, Or.inl ⟨rfl, groupBytes acc, false, ?_, rfl, nofun⟩⟩
        rw [hs, List.append_nil]
        exact V6Seq.one hgrp
      | quad hcond hroom hf =>
        obtain ⟨a, b, c, d, rfl, hq⟩ := parseIPv4Fields_some s _ hf
        refine ⟨List.length_append ▸ hroom, Or.inl ⟨rfl, [a, b, c, d], true, V6Seq.quad hq, rfl, fun _ => ?_⟩⟩
        exact hcond.imp_right fun hc => by simp [hc]
      | ellEnd hell =>
        refine ⟨by rw [hlen']; omega, Or.inr ⟨hell, g, [], groupBytes acc, [], hs, V6Seq.one hgrp, Or.inl ⟨rfl, rfl⟩, rfl, ?_⟩⟩
        rw [List.append_nil]
      | @ellMid rest2 _ hne hell hrec =>
        obtain ⟨hb, ⟨he, bs, hq, hseq, hout, _⟩ | ⟨he, _⟩⟩ := (ih _ _ _ _ _ (hk' acc) (v6Loop_room hrec hne)).mp hrec
        · refine ⟨hb, Or.inr ⟨hell, g, rest2, groupBytes acc, bs, hs, V6Seq.one hgrp, Or.inr ⟨hq, hseq⟩, he, ?_⟩⟩
          rw [hout, List.append_assoc]
        · cases he
      | colon hc2 hrec =>
        obtain ⟨hb, ⟨he, bs, hq, hseq, hout, hcond⟩ | ⟨he, l, r, L, R, hsplit, hl, hr, hell', hout⟩⟩ :=
          (ih _ _ _ _ _ (hk' acc) (v6Loop_room hrec (List.cons_ne_nil _ _))).mp hrec
        · refine ⟨hb, Or.inl ⟨he, groupBytes acc ++ bs, hq, ?_, by rw [hout, List.append_assoc], hcond⟩⟩
          rw [hs]
          exact V6Seq.cons hgrp hseq
        · refine ⟨hb, Or.inr ⟨he, g ++ 58 :: l, r, groupBytes acc ++ L, R, ?_, V6Seq.cons hgrp hl, hr, ?_, ?_⟩⟩
          · rw [hs, hsplit, List.append_assoc, List.cons_append]
          · rw [hell', hlen', List.length_append, groupBytes_length, Nat.add_assoc]
          · rw [hout, List.append_assoc, List.append_assoc]
    · rintro ⟨hb, ⟨rfl, bs, hq, hseq, rfl, hcond⟩ | ⟨rfl, l, r, L, R, rfl, hl, hr, rfl, rfl⟩⟩
      · cases hseq with
        | one hg => exact ⟨_, _, [], (List.append_nil _).symm, hg, .last⟩
        | @quad _ a b c d hd =>
          have hp := (parseIPv4Fields_iff _ a b c d).mpr hd
          obtain ⟨f1, f2, f3, f4, rfl, o1, _⟩ := hd
          have hg1 : IsHexGroup f1 (hexVal f1) :=
            ⟨o1.ne, Nat.le_succ_of_le o1.length_le, fun x hx => isDec_isHex (o1.digits x hx), rfl⟩
          simp only [List.length_append, List.length_cons, List.length_nil] at hb hcond
          exact ⟨f1, _, _, rfl, hg1, .quad ((hcond trivial).imp_right fun hc => by omega) hb hp⟩
        | @cons g v t bs hq hg ht =>
          obtain ⟨c2, rest2, rfl, hc2⟩ := ht.head_hex
          rw [← List.append_assoc] at hb hcond ⊢
          exact ⟨g, v, _, rfl, hg, .colon (isHex_ne_colon hc2)
            ((ih _ _ _ _ _ (hk' v) (room v bs ht.length_ge hb)).mpr ⟨hb, Or.inl ⟨rfl, bs, hq, ht, rfl, hcond⟩⟩)⟩
      · cases hl with
        | @one _ v hg =>
          rw [← List.append_assoc] at hb ⊢
          rcases hr with ⟨rfl, rfl⟩ | ⟨hq, hseq⟩
          · refine ⟨l, v, _, rfl, hg, ?_⟩
            rw [List.append_nil]
            exact .ellEnd rfl
          · obtain ⟨c2, rest2, rfl, -⟩ := hseq.head_hex
            exact ⟨l, v, _, rfl, hg, .ellMid (List.cons_ne_nil _ _) rfl
              ((ih _ _ _ _ _ (hk' v) (room v R hseq.length_ge hb)).mpr ⟨hb, Or.inl ⟨rfl, R, hq, hseq, rfl, fun _ => Or.inl nofun⟩⟩)⟩
        | @cons g v t bs _ hg ht =>
          obtain ⟨c2, rest2, rfl, hc2⟩ := ht.head_hex
          rw [List.append_assoc (groupBytes v), ← List.append_assoc ip] at hb ⊢
          refine ⟨g, v, _, List.append_assoc _ _ _, hg, .colon (isHex_ne_colon hc2) ((ih _ _ _ _ _ (hk' v)
            (room v _ (List.length_append ▸ Nat.le_add_right_of_le ht.length_ge) hb)).mpr
            ⟨hb, Or.inr ⟨rfl, _, r, bs, R, rfl, ht, hr, ?_, rfl⟩⟩)⟩
          rw [List.length_append, List.length_append, Nat.add_assoc]

theorem v6Finish_iff (ell : Option Nat) (s : Str) (ip : List UInt8) :
    v6Finish ell s = some ip ↔
      ∃ out ell', v6Loop [] ell s = some (out, ell', []) ∧
        ((out.length < 16 ∧ ∃ e, ell' = some e ∧
            ip = out.take e ++ List.replicate (16 - out.length) 0 ++ out.drop e) ∨
         (¬ out.length < 16 ∧ ell' = none ∧ ip = out)) := by
  unfold v6Finish
  generalize v6Loop [] ell s = r
  rcases r with _ | ⟨out, ell', rest⟩
  · simp only [reduceCtorEq, false_and, exists_false]
  simp only [Option.some.injEq, Prod.mk.injEq, and_assoc, exists_and_left, exists_eq_left']
  by_cases hrest : rest = []
  · subst hrest
    simp only [ne_eq, not_true_eq_false, if_false, true_and]
    by_cases hlt : out.length < 16
    · simp only [hlt, if_true, not_true_eq_false, false_and, or_false, true_and]
      cases ell' with
      | none => simp only [reduceCtorEq, false_and, exists_false]
      | some e =>
        simp only [Option.some.injEq, exists_eq_left']
        exact eq_comm
    · simp only [hlt, if_false, false_and, false_or, not_false_eq_true, true_and]
      cases ell' with
      | none =>
        simp only [Option.isSome_none, Bool.false_eq_true, if_false, Option.some.injEq, true_and]
        exact eq_comm
      | some e => simp only [Option.isSome_some, if_true, reduceCtorEq, false_and]
  · simp only [ne_eq, hrest, not_false_eq_true, if_true, reduceCtorEq, false_and]

/-- the only bytes that can occur in an IP literal: hex digits, ':' and '.' -/
def IPChar (c : UInt8) : Prop := IsHexCh c ∨ c = 58 ∨ c = 46

theorem V6Seq.chars {s : Str} {bs : List UInt8} {hq : Bool} (h : V6Seq s bs hq) : ∀ x ∈ s, IPChar x := by
  induction h with
  | one hg => intro x hx; exact Or.inl (hg.hex x hx)
  | quad hd =>
    intro x hx
    rcases hd.chars x hx with h | h
    · exact Or.inl (isDec_isHex h)
    · exact Or.inr (Or.inr h)
  | cons hg _ ih =>
    intro x hx
    simp only [List.mem_append, List.mem_cons] at hx
    rcases hx with hx | hx | hx
    · exact Or.inl (hg.hex x hx)
    · exact Or.inr (Or.inl hx)
    · exact ih x hx

theorem V6Spec.chars {s : Str} {ip : List UInt8} (h : V6Spec s ip) : ∀ x ∈ s, IPChar x := by
  rcases h with ⟨hq, hseq, _⟩ | ⟨l, r, L, R, rfl, hl, hr, _, _⟩
  · exact hseq.chars
  · intro x hx
    simp only [List.mem_append, List.mem_cons] at hx
    rcases hx with hx | hx | hx | hx
    · rcases hl with ⟨rfl, _⟩ | hl
      · cases hx
      · exact hl.chars x hx
    · exact Or.inr (Or.inl hx)
    · exact Or.inr (Or.inl hx)
    · rcases hr with ⟨rfl, _⟩ | ⟨_, hr⟩
      · cases hx
      · exact hr.chars x hx

theorem IPChar.ne_pct {c : UInt8} (h : IPChar c) : c ≠ 37 := by
  rcases h with h | rfl | rfl
  · exact isHex_ne_pct h
  · decide
  · decide

theorem contains_pct_false {s : Str} (h : ∀ x ∈ s, IPChar x) : s.contains 37 = false :=
  Bool.eq_false_iff.mpr fun hc => (h 37 (List.contains_iff_mem.mp hc)).ne_pct rfl

theorem parseIPv6_lead (rest : Str) (h : (58 :: 58 :: rest : Str).contains 37 = false) :
    parseIPv6 (58 :: 58 :: rest) = if rest = [] then some (List.replicate 16 0) else v6Finish (some 0) rest := by
  unfold parseIPv6
  rw [h]
  rfl

theorem parseIPv6_nolead (s : Str) (h : s.contains 37 = false) (hn : ∀ rest, s ≠ 58 :: 58 :: rest) :
    parseIPv6 s = v6Finish none s := by
  unfold parseIPv6
  rw [h]
  simp only [Bool.false_eq_true, if_false]

theorem nolead_of_head_hex {s t : Str} {c : UInt8} (hs : s = c :: t) (hc : IsHexCh c) (rest : Str) :
    s ≠ 58 :: 58 :: rest := by
  rw [hs]
  intro e
  exact isHex_ne_colon hc (List.cons.inj e).1

theorem parseIPv6_sound {s : Str} {ip : List UInt8} (h : parseIPv6 s = some ip) : V6Spec s ip := by
  have hc : s.contains 37 = false := Bool.eq_false_iff.mpr fun hc => by
    unfold parseIPv6 at h
    rw [hc] at h
    cases h
  by_cases hlead : ∃ rest, s = 58 :: 58 :: rest
  · obtain ⟨rest, rfl⟩ := hlead
    rw [parseIPv6_lead rest hc] at h
    by_cases hr : rest = []
    · subst hr
      cases h
      exact Or.inr ⟨[], [], [], [], rfl, Or.inl ⟨rfl, rfl⟩, Or.inl ⟨rfl, rfl⟩, by decide, rfl⟩
    · rw [if_neg hr] at h
      obtain ⟨out, ell', hv, hfin⟩ := (v6Finish_iff _ _ _).mp h
      obtain ⟨-, ⟨rfl, bs, hq, hseq, hout, -⟩ | ⟨he, -⟩⟩ := (v6Loop_iff 8 [] (some 0) rest out ell' rfl (by decide)).mp hv
      · cases hout
        rcases hfin with ⟨hlt, e, he, hip⟩ | ⟨-, he, -⟩
        · cases he
          have h0 : ([] : List UInt8).length + bs.length = bs.length := Nat.zero_add _
          exact Or.inr ⟨[], rest, [], bs, rfl, Or.inl ⟨rfl, rfl⟩, Or.inr ⟨hq, hseq⟩, h0.symm ▸ hlt, h0.symm ▸ hip⟩
        · cases he
      · cases he
  · rw [parseIPv6_nolead s hc (not_exists.mp hlead)] at h
    obtain ⟨out, ell', hv, hfin⟩ := (v6Finish_iff _ _ _).mp h
    obtain ⟨hb, ⟨rfl, bs, hq, hseq, hout, -⟩ | ⟨-, l, r, L, R, hs, hl, hr, rfl, rfl⟩⟩ :=
      (v6Loop_iff 8 [] none s out ell' rfl (by decide)).mp hv
    · cases hout
      rcases hfin with ⟨-, e, he, -⟩ | ⟨hge, -, rfl⟩
      · cases he
      · exact Or.inl ⟨hq, hseq, Nat.le_antisymm hb (Nat.not_lt.mp hge)⟩
    · rcases hfin with ⟨hlt, e, he, hip⟩ | ⟨-, he, -⟩
      · cases he
        refine Or.inr ⟨l, r, L, R, hs, Or.inr hl, hr, List.length_append ▸ hlt, ?_⟩
        rw [hip, List.nil_append, List.length_nil, Nat.zero_add, List.take_left, List.drop_left, List.length_append]
      · cases he

theorem parseIPv6_complete {s : Str} {ip : List UInt8} (h : V6Spec s ip) : parseIPv6 s = some ip := by
  have hc : s.contains 37 = false := contains_pct_false h.chars
  rcases h with ⟨hq, hseq, hlen⟩ | ⟨l, r, L, R, hs, hl, hr, hlt, hip⟩
  · obtain ⟨c, t, hs, hcx⟩ := hseq.head_hex
    rw [parseIPv6_nolead s hc (nolead_of_head_hex hs hcx)]
    exact (v6Finish_iff _ _ _).mpr ⟨ip, none,
      (v6Loop_iff 8 [] none s ip none rfl (by decide)).mpr
        ⟨Nat.le_of_eq hlen, Or.inl ⟨rfl, ip, hq, hseq, rfl, fun _ => Or.inr hlen⟩⟩,
      Or.inr ⟨hlen ▸ Nat.lt_irrefl 16, rfl, rfl⟩⟩
  · rcases hl with ⟨rfl, rfl⟩ | hl
    · subst hs
      simp only [List.length_nil, Nat.zero_add, List.nil_append] at hlt hip
      rw [List.nil_append, parseIPv6_lead r hc]
      rcases hr with ⟨rfl, rfl⟩ | ⟨hq, hseq⟩
      · rw [if_pos rfl, hip]
        rfl
      · obtain ⟨c, t, rfl, -⟩ := hseq.head_hex
        rw [if_neg (List.cons_ne_nil c t)]
        exact (v6Finish_iff _ _ _).mpr ⟨R, some 0,
          (v6Loop_iff 8 [] (some 0) _ R (some 0) rfl (by decide)).mpr
            ⟨Nat.le_of_lt hlt, Or.inl ⟨rfl, R, hq, hseq, rfl, fun _ => Or.inl nofun⟩⟩,
          Or.inl ⟨hlt, 0, rfl, hip⟩⟩
    · obtain ⟨c, t, hl', hcx⟩ := hl.head_hex
      rw [parseIPv6_nolead s hc (nolead_of_head_hex (by rw [hs, hl']; rfl) hcx), hs]
      have hv := (v6Loop_iff 8 [] none _ (L ++ R) (some L.length) rfl (by decide)).mpr
        ⟨List.length_append ▸ Nat.le_of_lt hlt, Or.inr ⟨rfl, l, r, L, R, rfl, hl, hr, (Nat.zero_add _).symm ▸ rfl, rfl⟩⟩
      refine (v6Finish_iff _ _ _).mpr ⟨L ++ R, some L.length, hv, Or.inl ⟨List.length_append ▸ hlt, L.length, rfl, ?_⟩⟩
      rw [hip, List.take_left, List.drop_left, List.length_append]

theorem parseIPv6_iff (s : Str) (ip : List UInt8) : parseIPv6 s = some ip ↔ V6Spec s ip :=
  ⟨parseIPv6_sound, parseIPv6_complete⟩

end ZV.C09
