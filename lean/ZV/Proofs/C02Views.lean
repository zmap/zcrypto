import ZV.Model.C02Views
import ZV.Proofs.C02
namespace ZV.C02

theorem orLoop_eq (mask ip : Bytes) (idx : Nat) :
    orLoop mask idx ip =
      if ip ≠ [] ∧ mask.length < idx + ip.length then .panic
      else .ok (List.zipWith (· ||| ·) ip (mask.drop idx)) := by
  induction ip generalizing idx with
  | nil => rfl
  | cons b rest ih =>
    rw [orLoop, List.length_cons]
    by_cases hlt : idx < mask.length
    · rw [show at? mask idx = .ok mask[idx] by rw [at?, List.getElem?_eq_getElem hlt], ih (idx + 1),
        List.drop_eq_getElem_cons hlt, List.zipWith_cons_cons]
      by_cases hr : rest ≠ [] ∧ mask.length < idx + 1 + rest.length
      · rw [if_pos hr, if_pos ⟨List.cons_ne_nil _ _, by omega⟩]
      · rw [if_neg hr, if_neg]
        intro h
        cases rest with
        | nil =>
          simp only [List.length_nil] at h
          omega
        | cons c r => exact hr ⟨List.cons_ne_nil _ _, by omega⟩
    · rw [show at? mask idx = .panic by rw [at?, List.getElem?_eq_none (by omega)],
        if_pos ⟨List.cons_ne_nil _ _, by omega⟩]

theorem orMask_eq (ip mask : Bytes) :
    orMask ip mask =
      .ok (if (ip.length = 4 ∨ ip.length = 16) ∧ ip.length = mask.length then some (List.zipWith (· ||| ·) ip mask) else none) := by
  unfold orMask
  by_cases h : (ip.length = 4 ∨ ip.length = 16) ∧ ip.length = mask.length
  · rw [if_neg (by omega), if_neg (by omega), if_neg (by omega), orLoop_eq, if_neg (by omega), if_pos h]
    rfl
  · rw [if_neg h]
    by_cases h1 : ip.length = 0 ∨ mask.length = 0
    · rw [if_pos h1]
    · rw [if_neg h1]
      by_cases h2 : ip.length ≠ 4 ∧ ip.length ≠ 16
      · rw [if_pos h2]
      · rw [if_neg h2, if_pos (by omega)]

theorem invertMask_length (m : Bytes) : (invertMask m).length = m.length := by simp [invertMask]

/-- `net.IP.Mask` on an address and a mask of the same length: neither is shortened -/
theorem ipMask_of_length_eq (ip mask : Bytes) (h : ip.length = mask.length) :
    ipMask ip mask = some (List.zipWith (· &&& ·) ip mask) := by
  have h1 : ¬ (mask.length = 16 ∧ ip.length = 4 ∧ (mask.take 12).all (· = 0xff) = true) := by omega
  have h2 : ¬ (mask.length = 4 ∧ ip.length = 16 ∧ ip.take 12 = v4InV6Prefix) := by omega
  simp only [ipMask, h1, h2, if_false]
  exact if_neg (not_not_intro h)

/-- what `PublicKeyAlgorithm.String` needs of its table: the clamp bound does not exceed the table, and entry 0 exists -/
def KeyAlgTableCovers : Prop :=
  Gen.totalKeyAlgorithms ≤ Gen.keyAlgorithmNames.length ∧ 0 < Gen.keyAlgorithmNames.length

theorem keyAlgName_ok (hT : KeyAlgTableCovers) (p : Int) : ∃ s, keyAlgName p = .ok s := by
  unfold keyAlgName
  simp only
  split
  · apply at?_of_lt
    simpa using hT.2
  · rename_i h
    have h1 : 0 ≤ p ∧ p < (Gen.totalKeyAlgorithms : Int) := by omega
    apply at?_of_lt
    have := hT.1
    omega

theorem sigAlgString_ok (a : Int) : ∃ s, sigAlgString a = .ok s := by
  unfold sigAlgString
  split
  · rename_i h
    apply at?_of_lt
    have := h.2
    omega
  · exact ⟨_, rfl⟩

theorem jsonifySplit_fold_unknown (l : List (List Nat × Nat)) (acc : List Nat × List Nat) :
    (l.foldl jsonifyStep acc).2 =
    acc.2 ++ (l.filter (fun e => (knownExtOids.idxOf? e.1).isNone)).map (·.2) := by
  induction l generalizing acc with
  | nil => simp
  | cons e rest ih =>
    simp only [List.foldl_cons]
    rw [ih]
    unfold jsonifyStep
    cases hk : knownExtOids.idxOf? e.1 with
    | some k => simp [hk]
    | none => simp [hk]

theorem mem_jsonifyStep (acc : List Nat × List Nat) (e : List Nat × Nat) (k : Nat) :
    k ∈ (jsonifyStep acc e).1 ↔ k ∈ acc.1 ∨ knownExtOids.idxOf? e.1 = some k := by
  unfold jsonifyStep
  cases knownExtOids.idxOf? e.1 with
  | none => exact (or_iff_left nofun).symm
  | some k' =>
    rw [Option.some.injEq]
    dsimp only
    by_cases hc : acc.1.contains k' = true
    · rw [if_pos hc]
      exact ⟨Or.inl, fun h => h.elim id (fun e => e ▸ List.contains_iff_mem.mp hc)⟩
    · rw [if_neg hc, List.mem_append, List.mem_singleton, eq_comm]

theorem jsonifySplit_fold_known (l : List (List Nat × Nat)) (acc : List Nat × List Nat) (k : Nat) :
    k ∈ (l.foldl jsonifyStep acc).1 ↔ k ∈ acc.1 ∨ ∃ e ∈ l, knownExtOids.idxOf? e.1 = some k := by
  induction l generalizing acc with
  | nil => simp
  | cons e rest ih =>
    rw [List.foldl_cons, ih, mem_jsonifyStep, or_assoc]
    simp only [List.mem_cons, exists_eq_or_imp]

end ZV.C02
