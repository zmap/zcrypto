import ZV.Proofs.TimeFmt
import ZV.Proofs.C19Time
/-!
  Round trips of `ZV.Model.Time`: what the encoders of `encoding/asn1` and `cryptobyte` write is parsed back
  (`time.Parse` + the strict re-serialisation test) as `readBack t`.  `readBack` is idempotent and leaves the written text
  unchanged, which is why the re-serialisation test passes.  UTCTime of the years 1950..1968 takes a detour: `time.Parse` reads
  YY < 69 as 20YY (`plus100`), the text re-serialises from THAT value, and `AddDate(-100, 0, 0)` brings it back; this needs the
  date to exist a century later (`valid_plus100`).  `plus100 t` and `t` have the same text (`utcText_plus100`), so what holds of
  the text of any time (`parse_utcText_zone`, `format_utcsec_eq`) holds of it.
-/
namespace ZV.Time
open ZV

theorem readBack_civil (t : GoTime) :
    (readBack t).civil = { t.civil with off := t.off - Int.tmod t.off 60 } := by
  simp only [readBack, GoTime.civil]
  exact ofUnix_shift t.unix t.off (Int.tmod t.off 60)

theorem readBack_year (t : GoTime) : (readBack t).year = t.year := by
  simp only [GoTime.year, readBack_civil]

theorem fieldsText_off (c : Civil) (o : Int) : fieldsText { c with off := o } = fieldsText c := rfl

theorem readBack_off (t : GoTime) : (readBack t).off = 60 * Int.tdiv t.off 60 := by
  rw [readBack, Int.tmod_def]; exact Int.sub_sub_self _ _

theorem tdiv_mul60 (k : Int) : Int.tdiv (60 * k) 60 = k := Int.mul_tdiv_cancel_left k (by decide)

theorem zoneText_readBack (t : GoTime) : zoneText (readBack t).off = zoneText t.off := by
  rw [readBack_off]
  unfold zoneText
  rw [tdiv_mul60]
  by_cases hk : Int.tdiv t.off 60 = 0
  · simp only [hk, if_true]
  · simp only [hk, if_false]
    have : (60 * Int.tdiv t.off 60 > 0) ↔ (t.off > 0) := by
      have := tdiv60 t.off; omega
    simp only [this]

theorem readBack_zone_ok (t : GoTime) : (readBack t).off = 0 ∨ Int.tdiv (readBack t).off 60 ≠ 0 := by
  rw [readBack_off, tdiv_mul60]
  omega

theorem readBack_bounds (t : GoTime) (h1 : -90000 < t.off) (h2 : t.off < 90000) :
    -90000 < (readBack t).off ∧ (readBack t).off < 90000 := by
  have := tdiv60 t.off
  have := Int.tmod_def t.off 60
  simp only [readBack]
  omega

theorem readBack_whole (t : GoTime) (h : Int.tmod t.off 60 = 0) :
    readBack t = { unix := t.unix, off := t.off, nsec := 0 } := by
  simp only [readBack, h]; simp

theorem readBack_off_tmod (t : GoTime) : Int.tmod (readBack t).off 60 = 0 := by
  rw [readBack_off]
  exact Int.mul_tmod_right _ _

theorem readBack_idem (t : GoTime) : readBack (readBack t) = readBack t := by
  rw [readBack_whole _ (readBack_off_tmod t)]
  simp [readBack]

/-- the text that `appendGeneralizedTime` writes -/
def genText (t : GoTime) : Bytes := EA.fourDigits t.year.toNat ++ (fieldsText t.civil ++ zoneText t.off)

/-- the text that `appendUTCTime` writes -/
def utcText (t : GoTime) : Bytes :=
  EA.twoDigits (t.year.natAbs % 100) ++ (fieldsText t.civil ++ zoneText t.off)

theorem zoneText_length (off : Int) : (zoneText off).length ≤ 5 := by
  unfold zoneText; split <;> simp [EA.twoDigits]

theorem genText_length (t : GoTime) : (genText t).length ≤ 19 := by
  have := zoneText_length t.off
  simp only [genText, fieldsText, EA.fourDigits, EA.twoDigits, List.length_append, List.length_cons, List.length_nil]
  omega

theorem genText_readBack (t : GoTime) : genText (readBack t) = genText t := by
  simp only [genText, readBack_year, readBack_civil, fieldsText_off, zoneText_readBack]

theorem utcText_readBack (t : GoTime) : utcText (readBack t) = utcText t := by
  simp only [utcText, readBack_year, readBack_civil, fieldsText_off, zoneText_readBack]

theorem parse_genText_zone (t : GoTime) (hy0 : 0 ≤ t.year) (hy1 : t.year ≤ 9999) (h1 : -360000 < t.off)
    (h2 : t.off < 360000) :
    parse layoutGen (genText t) = if -90000 < t.off ∧ t.off < 90000 then some (readBack t) else none :=
  parse_year_text t h1 h2 .longYear (EA.fourDigits t.year.toNat) fun r => by
    simp only [EA.fourDigits, List.cons_append, List.nil_append]
    rw [step_longYear _ _ (by omega), Int.toNat_of_nonneg hy0]

theorem parse_genText (t : GoTime) (hy0 : 0 ≤ t.year) (hy1 : t.year ≤ 9999) (h1 : -90000 < t.off) (h2 : t.off < 90000) :
    parse layoutGen (genText t) = some (readBack t) := by
  rw [parse_genText_zone t hy0 hy1 (by omega) (by omega), if_pos ⟨h1, h2⟩]

theorem format_gen_readBack (t : GoTime) (hy0 : 0 ≤ t.year) (hy1 : t.year ≤ 9999) (h1 : -90000 < t.off)
    (h2 : t.off < 90000) : format layoutGen (readBack t) = genText t := by
  have hb := readBack_bounds t h1 h2
  rw [format_gen_eq (readBack t) (by rw [readBack_year]; exact hy0) (by rw [readBack_year]; exact hy1) (by omega) (by omega)
    (readBack_zone_ok t)]
  exact genText_readBack t

theorem appendGeneralizedTime_text (t : GoTime) :
    EA.appendGeneralizedTime t = if t.year < 0 ∨ t.year > 9999 then .err else .ok (genText t) := by
  simp only [EA.appendGeneralizedTime, appendTimeCommon_eq, genText]

theorem appendGeneralizedTime_eq (t : GoTime) (hy0 : 0 ≤ t.year) (hy1 : t.year ≤ 9999) :
    EA.appendGeneralizedTime t = .ok (genText t) := by
  rw [appendGeneralizedTime_text, if_neg (by omega)]

theorem appendGeneralizedTime_err (t : GoTime) (h : t.year < 0 ∨ t.year > 9999) :
    EA.appendGeneralizedTime t = .err := by
  rw [appendGeneralizedTime_text, if_pos h]

theorem reserialises_of_format {perm : Bool} {L : List Std} {t : GoTime} {s : Bytes} (h : format L t = s) :
    EA.reserialises perm L t s = true := by
  rw [EA.reserialises, h, beq_self_eq_true, Bool.or_true]

theorem parseGeneralizedTime_genText (perm : Bool) (t : GoTime) (hy0 : 0 ≤ t.year) (hy1 : t.year ≤ 9999)
    (h1 : -90000 < t.off) (h2 : t.off < 90000) :
    EA.parseGeneralizedTime perm (genText t) = .ok (readBack t) :=
  EA.parseGeneralizedTime_ok.2
    ⟨parse_genText t hy0 hy1 h1 h2, reserialises_of_format (format_gen_readBack t hy0 hy1 h1 h2)⟩

/-- the two centuries of `appendUTCTime` write the same two digits, `year % 100` -/
theorem appendUTCTime_text (t : GoTime) :
    EA.appendUTCTime t = if 1950 ≤ t.year ∧ t.year < 2050 then .ok (utcText t) else .err := by
  simp only [EA.appendUTCTime, appendTimeCommon_eq, utcText]
  by_cases h0 : 1950 ≤ t.year ∧ t.year < 2000
  · rw [if_pos h0, if_pos (by omega), show (t.year - 1900).toNat = t.year.natAbs % 100 by omega]
  · rw [if_neg h0]
    by_cases h1 : 2000 ≤ t.year ∧ t.year < 2050
    · rw [if_pos h1, if_pos (by omega), show (t.year - 2000).toNat = t.year.natAbs % 100 by omega]
    · rw [if_neg h1, if_neg (by omega)]

theorem appendUTCTime_eq (t : GoTime) (hy0 : 1950 ≤ t.year) (hy1 : t.year < 2050) :
    EA.appendUTCTime t = .ok (utcText t) := by
  rw [appendUTCTime_text, if_pos ⟨hy0, hy1⟩]

theorem appendUTCTime_err (t : GoTime) (h : t.year < 1950 ∨ t.year ≥ 2050) : EA.appendUTCTime t = .err := by
  rw [appendUTCTime_text, if_neg (by omega)]

/-- the choice of `makeField` (tag) and `makeBody` (content) as a case table; `tt = 24`: the field is marked `generalized`;
    the year is the one in the zone of the value -/
theorem EA.choice (tt : Nat) (t : GoTime) :
    (EA.timeTag tt t = 23 ∧ EA.makeTimeBody tt t = EA.appendUTCTime t ∧ tt ≠ 24 ∧ 1950 ≤ t.year ∧ t.year < 2050) ∨
    (EA.timeTag tt t = 24 ∧ EA.makeTimeBody tt t = EA.appendGeneralizedTime t ∧ (tt = 24 ∨ t.year < 1950 ∨ 2050 ≤ t.year)) := by
  have hu : EA.useGeneralized tt t = true ↔ tt = 24 ∨ t.year < 1950 ∨ 2050 ≤ t.year := by
    simp [EA.useGeneralized, EA.outsideUTCRange]
  unfold EA.timeTag EA.makeTimeBody
  -- the conditionals are rewritten away before `rfl`: the kernel would unfold the encoders to compare them
  by_cases h : EA.useGeneralized tt t = true
  · rw [if_pos h, if_pos h]
    exact Or.inr ⟨rfl, rfl, hu.mp h⟩
  · have hn := mt hu.mpr h
    rw [if_neg h, if_neg h]
    exact Or.inl ⟨rfl, rfl, by omega, by omega, by omega⟩

theorem EA.timeTag_cases (tt : Nat) (t : GoTime) : EA.timeTag tt t = 23 ∨ EA.timeTag tt t = 24 :=
  (EA.choice tt t).imp And.left And.left

/-! What is written depends on `t` only through `readBack t` (which keeps the year, hence the choice, and the text): marshalling
    what was read back gives the same bytes. -/

theorem EA.useGeneralized_readBack (tt : Nat) (t : GoTime) :
    EA.useGeneralized tt (readBack t) = EA.useGeneralized tt t := by
  simp only [EA.useGeneralized, EA.outsideUTCRange, readBack_year]

theorem EA.timeTag_readBack (tt : Nat) (t : GoTime) : EA.timeTag tt (readBack t) = EA.timeTag tt t := by
  simp only [EA.timeTag, EA.useGeneralized_readBack]

theorem EA.makeTimeBody_readBack (tt : Nat) (t : GoTime) : EA.makeTimeBody tt (readBack t) = EA.makeTimeBody tt t := by
  simp only [EA.makeTimeBody, EA.useGeneralized_readBack, appendGeneralizedTime_text, appendUTCTime_text, readBack_year,
    genText_readBack, utcText_readBack]

theorem utcText_length (t : GoTime) : (utcText t).length ≤ 17 := by
  have := zoneText_length t.off
  simp only [utcText, fieldsText, EA.twoDigits, List.length_append, List.length_cons, List.length_nil]
  omega

theorem valid_of_leap (c : Civil) (hv : c.valid = true) (y : Int) (hl : isLeap c.year = true → isLeap y = true) :
    ({ c with year := y } : Civil).valid = true := by
  obtain ⟨hm1, hm2, hd1, hd2, hh, hmi, hs⟩ := (valid_iff c).1 hv
  refine (valid_iff _).2 ⟨hm1, hm2, hd1, Nat.le_trans hd2 ?_, hh, hmi, hs⟩
  show daysIn c.month c.year ≤ daysIn c.month y
  unfold daysIn
  split <;> try exact Nat.le_refl _
  cases h : isLeap c.year
  · cases isLeap y <;> decide
  · rw [hl h]; exact Nat.le_refl _

theorem valid_plus100 (c : Civil) (hv : c.valid = true) (h0 : 1950 ≤ c.year) (h1 : c.year ≤ 1968) :
    ({ c with year := c.year + 100 } : Civil).valid = true :=
  valid_of_leap c hv _ (by simp only [isLeap, decide_eq_true_eq]; omega)

/-- 1969..2068: the years that `time.Parse` reads back from their two digits -/
theorem parse_utcText_zone (t : GoTime) (hy0 : 1969 ≤ t.year) (hy1 : t.year ≤ 2068) (h1 : -360000 < t.off)
    (h2 : t.off < 360000) :
    parse layoutUTCSec (utcText t) = if -90000 < t.off ∧ t.off < 90000 then some (readBack t) else none := by
  have hy : (if ((t.year.natAbs % 100 : Nat) : Int) ≥ 69 then ((t.year.natAbs % 100 : Nat) : Int) + 1900
      else ((t.year.natAbs % 100 : Nat) : Int) + 2000) = t.year := by
    omega
  exact parse_year_text t h1 h2 .year (EA.twoDigits (t.year.natAbs % 100)) fun r => by
    rw [EA.twoDigits, List.cons_append, List.cons_append, List.nil_append,
      step_year _ _ (Nat.mod_lt _ (by decide)), hy]

theorem format_utc_readBack (t : GoTime) (h1 : -90000 < t.off) (h2 : t.off < 90000) :
    format layoutUTCSec (readBack t) = utcText t := by
  have hb := readBack_bounds t h1 h2
  rw [format_utcsec_eq (readBack t) (by omega) (by omega) (readBack_zone_ok t)]
  exact utcText_readBack t

/-- the time one century later that `time.Parse` produces for the years 50..68 -/
def plus100 (t : GoTime) : GoTime :=
  { unix := toUnix { t.civil with year := t.year + 100 } + Int.tmod t.off 60,
    off := t.off - Int.tmod t.off 60, nsec := 0 }

theorem ofUnix_toUnix_shift (c : Civil) (hv : c.valid = true) (k : Int) :
    ofUnix (toUnix c + k) (c.off - k) = { c with off := c.off - k } := by
  rw [ofUnix_shift, ofUnix_toUnix c hv]

theorem plus100_civil (t : GoTime) (hy0 : 1950 ≤ t.year) (hy1 : t.year ≤ 1968) :
    (plus100 t).civil = { t.civil with year := t.year + 100, off := t.off - Int.tmod t.off 60 } := by
  exact ofUnix_toUnix_shift _ (valid_plus100 t.civil (ofUnix_valid _ _) hy0 hy1) _

theorem plus100_year (t : GoTime) (hy0 : 1950 ≤ t.year) (hy1 : t.year ≤ 1968) : (plus100 t).year = t.year + 100 := by
  simp only [GoTime.year, plus100_civil t hy0 hy1]

theorem utcText_plus100 (t : GoTime) (hy0 : 1950 ≤ t.year) (hy1 : t.year ≤ 1968) : utcText (plus100 t) = utcText t := by
  have hoff : (plus100 t).off = (readBack t).off := rfl
  simp only [utcText]
  rw [plus100_year t hy0 hy1, plus100_civil t hy0 hy1, hoff, zoneText_readBack,
    Int.natAbs_add_of_nonneg (by omega) (by decide)]
  exact congrArg (EA.twoDigits · ++ _) (Nat.add_mod_right _ 100)

theorem readBack_plus100 (t : GoTime) : readBack (plus100 t) = plus100 t :=
  readBack_whole (plus100 t) (readBack_off_tmod t)

/-- `time.Parse` alone, before the `AddDate(-100, 0, 0)` step: up to 1968 the text is that of `plus100 t` (the record in the
    statement), and is read as such -/
theorem parse_utcText (t : GoTime) (hy0 : 1950 ≤ t.year) (hy1 : t.year < 2050) (h1 : -90000 < t.off)
    (h2 : t.off < 90000) :
    parse layoutUTCMin (utcText t) = none ∧
    parse layoutUTCSec (utcText t) =
      some (if t.year ≤ 1968 then
              { unix := toUnix { t.civil with year := t.year + 100 } + Int.tmod t.off 60,
                off := t.off - Int.tmod t.off 60, nsec := 0 }
            else readBack t) := by
  have hsec : parse layoutUTCSec (utcText t) = some (if t.year ≤ 1968 then plus100 t else readBack t) := by
    by_cases hc : t.year ≤ 1968
    · have hy := plus100_year t hy0 hc
      have hb : -90000 < (plus100 t).off ∧ (plus100 t).off < 90000 := readBack_bounds t h1 h2
      have := parse_utcText_zone (plus100 t) (by omega) (by omega) (by omega) (by omega)
      rw [utcText_plus100 t hy0 hc, if_pos hb, readBack_plus100] at this
      rw [if_pos hc]
      exact this
    · rw [if_neg hc, parse_utcText_zone t (by omega) (by omega) (by omega) (by omega), if_pos ⟨h1, h2⟩]
  exact ⟨utcsec_excludes_min hsec, hsec⟩

theorem format_utc_plus100 (t : GoTime) (hy0 : 1950 ≤ t.year) (hy1 : t.year ≤ 1968) (h1 : -90000 < t.off)
    (h2 : t.off < 90000) : format layoutUTCSec (plus100 t) = utcText t := by
  have hb : -90000 < (plus100 t).off ∧ (plus100 t).off < 90000 := readBack_bounds t h1 h2
  rw [format_utcsec_eq (plus100 t) (by omega) (by omega) (readBack_zone_ok t)]
  exact utcText_plus100 t hy0 hy1

theorem addYears_plus100 (t : GoTime) (hy0 : 1950 ≤ t.year) (hy1 : t.year ≤ 1968) :
    addYears (plus100 t) (-100) = readBack t := by
  simp only [addYears, plus100_civil t hy0 hy1, date]
  have hoff : (plus100 t).off = t.off - Int.tmod t.off 60 := rfl
  have hns : (plus100 t).nsec = 0 := rfl
  rw [hoff, hns, Int.add_neg_cancel_right]
  have := toUnix_setOff t.civil (t.off - Int.tmod t.off 60)
  simp only [GoTime.year, GoTime.civil, ofUnix_off, toUnix_ofUnix] at this ⊢
  simp only [readBack, GoTime.mk.injEq, and_true]
  rw [this]
  omega

/-- what both UTCTime decoders, that of `encoding/asn1` and that of cryptobyte, meet on the encoder's text -/
theorem utc_reading (t : GoTime) (hy0 : 1950 ≤ t.year) (hy1 : t.year < 2050) (h1 : -90000 < t.off) (h2 : t.off < 90000) :
    ∃ ret, parse layoutUTCMin (utcText t) = none ∧ parse layoutUTCSec (utcText t) = some ret ∧
      format layoutUTCSec ret = utcText t ∧ EA.utcWindow ret = readBack t := by
  obtain ⟨hmin, hsec⟩ := parse_utcText t hy0 hy1 h1 h2
  refine ⟨_, hmin, hsec, ?_⟩
  by_cases hc : t.year ≤ 1968
  · have hy := plus100_year t hy0 hc
    rw [if_pos hc]
    refine ⟨format_utc_plus100 t hy0 hc h1 h2, ?_⟩
    rw [← addYears_plus100 t hy0 hc]
    exact if_pos (show (plus100 t).year ≥ 2050 by omega)
  · rw [if_neg hc]
    refine ⟨format_utc_readBack t h1 h2, ?_⟩
    have hw : ¬ (readBack t).year ≥ 2050 := by
      rw [readBack_year]
      omega
    exact if_neg hw

theorem parseUTCTime_utcText (perm : Bool) (t : GoTime) (hy0 : 1950 ≤ t.year) (hy1 : t.year < 2050)
    (h1 : -90000 < t.off) (h2 : t.off < 90000) :
    EA.parseUTCTime perm (utcText t) = .ok (readBack t) := by
  obtain ⟨ret, hmin, hsec, hf, hw⟩ := utc_reading t hy0 hy1 h1 h2
  exact EA.parseUTCTime_ok.2 ⟨_, ret, .inr ⟨rfl, hmin, hsec⟩, reserialises_of_format hf, hw.symm⟩

/-- `Unmarshal ∘ Marshal` of a time content, whichever tag `makeField` chose -/
theorem EA.body_roundtrip (perm : Bool) (timeType : Nat) (t : GoTime) (hy0 : 0 ≤ t.year) (hy1 : t.year ≤ 9999)
    (h1 : -90000 < t.off) (h2 : t.off < 90000) :
    ∃ body, EA.makeTimeBody timeType t = .ok body ∧
      EA.parseTimeBody perm (EA.timeTag timeType t) body = .ok (readBack t) := by
  unfold EA.parseTimeBody
  rcases EA.choice timeType t with ⟨ht, hb, _, hr⟩ | ⟨ht, hb, _⟩
  · refine ⟨utcText t, hb ▸ appendUTCTime_eq t hr.1 hr.2, ?_⟩
    rw [ht, if_pos rfl]
    exact parseUTCTime_utcText perm t hr.1 hr.2 h1 h2
  · refine ⟨genText t, hb ▸ appendGeneralizedTime_eq t hy0 hy1, ?_⟩
    rw [ht, if_neg (by decide)]
    exact parseGeneralizedTime_genText perm t hy0 hy1 h1 h2

theorem parse_genText_25h (t : GoTime) (hy0 : 0 ≤ t.year) (hy1 : t.year ≤ 9999)
    (hbig : t.off ≤ -90000 ∨ 90000 ≤ t.off) (h1 : -360000 < t.off) (h2 : t.off < 360000) :
    parse layoutGen (genText t) = none := by
  rw [parse_genText_zone t hy0 hy1 h1 h2, if_neg (by omega)]

theorem parseGeneralizedTime_25h (perm : Bool) (t : GoTime) (hy0 : 0 ≤ t.year) (hy1 : t.year ≤ 9999)
    (hbig : t.off ≤ -90000 ∨ 90000 ≤ t.off) (h1 : -360000 < t.off) (h2 : t.off < 360000) :
    EA.parseGeneralizedTime perm (genText t) = .err := by
  simp only [EA.parseGeneralizedTime, parse_genText_25h t hy0 hy1 hbig h1 h2]

end ZV.Time
