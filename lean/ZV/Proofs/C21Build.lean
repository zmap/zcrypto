import ZV.Model.C21
import ZV.Proofs.Der0CB
/-!
  The low-level Builder model (`build`: shared buffer, `offset`, `pendingLenLen`, `pendingIsASN1`,
  `flushChild` back-patching incl. the DER long-form widening by `copyWithin`) computes the
  specification serializer `ser`.

  `ImplT f T` — the Builder transformer `f` does to the block being written what `T` says; the block mechanism is
  `implT_child`.  `Impl f r` is the case of a call that only appends `r`, which is all a `Prog` does (`impl_build`); the
  builder-only programs with `Unwrite` refine their block specification `bspec` by the same transformers (`bbuild_refines`).
-/
open ZV ZV.Der0
namespace ZV.C21

theorem set_append_cons {α} (P Q : List α) (x v : α) :
    (P ++ x :: Q).set P.length v = P ++ v :: Q := by
  induction P with
  | nil => rfl
  | cons a P ih => simp [ih]

/-- the back-patching loop of `flushChild` -/
theorem writeBE_spec (A : Bytes) : ∀ (i : Nat) (X B : Bytes) (l : Nat), X.length = i →
    writeBE (A ++ X ++ B) A.length i l = (A ++ beBytes i l ++ B, l / 256 ^ i) := by
  intro i X
  induction X using snoc_induction generalizing i with
  | nil =>
    intro B l h
    subst h
    simp [writeBE, beBytes]
  | snoc X' x ih =>
    intro B l h
    subst h
    have e1 : A ++ (X' ++ [x]) ++ B = (A ++ X') ++ x :: B := by simp
    have e2 : A.length + X'.length = (A ++ X').length := by simp
    rw [List.length_append, List.length_singleton, writeBE, e1, e2, set_append_cons]
    have e3 : (A ++ X') ++ UInt8.ofNat (l % 256) :: B = A ++ X' ++ (UInt8.ofNat (l % 256) :: B) := by simp
    rw [e3, ih _ _ (l / 256) rfl]
    simp only [beBytes, List.append_assoc, List.cons_append, List.nil_append, Prod.mk.injEq, true_and]
    rw [Nat.div_div_eq_div_mul, Nat.pow_succ, Nat.mul_comm]

theorem zeros_length (n : Nat) : (zeros n).length = n := List.length_replicate ..

/-- the DER long-form widening of `flushChild` -/
theorem widen_spec (P c : Bytes) (e l : Nat) :
    writeBE (copyWithin (P ++ c ++ zeros e) (P.length + e) P.length) P.length e l
      = (P ++ beBytes e l ++ c, l / 256 ^ e) := by
  have hcw : copyWithin (P ++ c ++ zeros e) (P.length + e) P.length
      = P ++ (c ++ zeros e).take e ++ c := by
    unfold copyWithin
    have h1 : (P ++ c ++ zeros e).take (P.length + e) = P ++ (c ++ zeros e).take e := by
      rw [List.append_assoc, List.take_length_add_append]
    have h2 : (P ++ c ++ zeros e).drop P.length = c ++ zeros e := by
      rw [List.append_assoc, List.drop_left]
    have h3 : (P ++ c ++ zeros e).length - (P.length + e) = c.length := by
      rw [List.length_append, List.length_append, zeros_length, Nat.add_right_comm, Nat.add_sub_cancel_left]
    rw [h1, h2, h3, List.take_left]
  rw [hcw]
  exact writeBE_spec P e _ c l (by rw [List.length_take, List.length_append, zeros_length]; omega)

theorem append_ok {a b : Res Bytes} {bs : Bytes} (h : Res.append a b = .ok bs) :
    ∃ x y, a = .ok x ∧ b = .ok y ∧ bs = x ++ y := by
  unfold Res.append at h
  split at h <;> simp at h
  rename_i x y
  exact ⟨x, y, rfl, rfl, h.symm⟩

theorem flushChild_err (b child : Builder) (he : child.err = true) (hp : child.panicked = false) :
    flushChild b child = { b with err := true } := by
  simp [flushChild, he, hp]

theorem flushChild_lp (b : Builder) (R c : Bytes) (n : Nat) :
    flushChild b { result := R ++ zeros n ++ c, offset := R.length, pendingLenLen := n,
                   pendingIsASN1 := false } =
      if c.length ≥ 256 ^ n then { b with err := true }
      else { b with result := R ++ (beBytes n c.length ++ c) } := by
  have hlen : (R ++ zeros n ++ c).length = c.length + R.length + n := by
    rw [List.length_append, Nat.add_comm _ c.length, List.length_append, ← Nat.add_assoc, zeros_length]
  have hnlt : ¬ (c.length + R.length + n < n + R.length) := by omega
  simp only [flushChild, Bool.false_eq_true, if_false, hlen, hnlt, Nat.add_sub_cancel,
    writeBE_spec R n (zeros n) c c.length (zeros_length n)]
  by_cases h : c.length ≥ 256 ^ n
  · rw [if_pos h, if_pos (Nat.ne_of_gt (Nat.div_pos h (Nat.pow_pos (by decide))))]
  · rw [if_neg h, Nat.div_eq_of_lt (Nat.lt_of_not_ge h), if_neg (fun h0 => h0 rfl), List.append_assoc]

theorem flushChild_asn1 (b : Builder) (R c : Bytes) (tag : UInt8) :
    flushChild b { result := R ++ [tag] ++ zeros 1 ++ c, offset := R.length + 1, pendingLenLen := 1,
                   pendingIsASN1 := true } =
      match CB.derLength c.length with
      | .ok l => { b with result := R ++ (tag :: l ++ c) }
      | _ => { b with err := true } := by
  have hlen : (R ++ [tag] ++ zeros 1 ++ c).length = c.length + (R.length + 1) + 1 := by
    rw [List.length_append, Nat.add_comm _ c.length, List.length_append, ← Nat.add_assoc, List.length_append]; rfl
  have hnlt : ¬ (c.length + (R.length + 1) + 1 < 1 + (R.length + 1)) := by omega
  have hoff : ¬ (R.length + 1 ≥ c.length + (R.length + 1) + 1) := by omega
  have hset : ∀ lb : UInt8, (R ++ [tag] ++ zeros 1 ++ c).set (R.length + 1) lb = (R ++ [tag, lb]) ++ c := by
    intro lb
    have e1 : R ++ [tag] ++ zeros 1 ++ c = (R ++ [tag]) ++ (0 : UInt8) :: c := List.append_assoc _ [0] c
    have e2 : R.length + 1 = (R ++ [tag]).length := by simp
    rw [e1, e2, set_append_cons]; simp
  simp only [flushChild, Bool.false_eq_true, if_false, if_true, hlen, hnlt, Nat.add_sub_cancel, hoff, ne_eq,
    not_true_eq_false, hset]
  by_cases h5 : c.length > 0xfffffffe
  · simp [CB.derLength, h5]
  rw [if_neg h5]
  rcases CB.derLength_cases c.length with ⟨_, hd, ht⟩ | ⟨k, lb, hk1, _, _, _, _, hlt, hd, ht⟩ | ⟨hb, _⟩
  · unfold CB.lenChoice at ht
    rw [ht, hd]
    simp [writeBE]
  · have hP : R.length + 1 + 1 = (R ++ [tag, lb]).length := by simp
    unfold CB.lenChoice at ht
    rw [ht, hd]
    simp only [Nat.add_sub_cancel, Nat.ne_of_gt hk1, not_false_eq_true, if_true, hP, widen_spec, Nat.div_eq_of_lt hlt]
    simp
  · exact absurd hb h5

theorem derLength_ne_panic (n : Nat) : CB.derLength n ≠ .panic := by
  rcases CB.derLength_cases n with ⟨_, h, _⟩ | ⟨_, _, _, _, _, _, _, _, h, _⟩ | ⟨_, h⟩ <;> rw [h] <;> simp

theorem lpBytes_ok {n : Nat} {r : Res Bytes} {c' : Bytes} (h : lpBytes n r = .ok c') :
    ∃ c, r = .ok c ∧ c.length < 256 ^ n ∧ c' = beBytes n c.length ++ c := by
  unfold lpBytes at h
  split at h
  · rename_i c
    split at h
    · simp at h
    · rename_i hl
      simp only [Res.ok.injEq] at h
      exact ⟨c, rfl, by omega, h.symm⟩
  · simp at h
  · simp at h

theorem flushChild_panicked (b child : Builder) (h : child.panicked = true) :
    flushChild b child = { b with err := true, panicked := true } := by
  simp [flushChild, h]

def mkB (res : Bytes) (off pll : Nat) (pia : Bool) : Builder :=
  { err := false, panicked := false, result := res, offset := off, pendingLenLen := pll, pendingIsASN1 := pia }

/-- what a Builder transformer made of `mkB (R ++ acc) …` when the specification says `r` about the block's content -/
def Refines (b' : Builder) (R : Bytes) (off pll : Nat) (pia : Bool) (r : Res Bytes) : Prop :=
  match r with
  | .ok acc' => b' = mkB (R ++ acc') off pll pia
  | .err => b'.err = true ∧ b'.panicked = false
  | .panic => b'.panicked = true ∧ b'.err = true

/-- `Bytes()` of the outermost Builder -/
theorem bytes_of_refines {b : Builder} {r : Res Bytes} (h : Refines b [] 0 0 false r) :
    (if b.panicked then Res.panic else if b.err then .err else .ok b.result) = r := by
  cases r with
  | ok c =>
    rw [show b = _ from h]
    rfl
  | err => simp [h.1, h.2]
  | panic => simp [h.1]

/-- `f` does to the block being written what `T` says: the identity on a Builder that carries an error; otherwise, with `R`
    everything up to and including the block's reserved length prefix and `acc` the block's content so far, `T acc` is the
    content afterwards, an error, or a panic (which leaves `err` set as well) -/
structure ImplT (f : Builder → Builder) (T : Bytes → Res Bytes) : Prop where
  errd : ∀ b : Builder, b.err = true → f b = b
  spec : ∀ (R acc : Bytes) (off pll : Nat) (pia : Bool), R.length = pll + off →
    Refines (f (mkB (R ++ acc) off pll pia)) R off pll pia (T acc)

theorem ImplT.congr {f g : Builder → Builder} {T U : Bytes → Res Bytes} (h : ImplT f T) (ef : ∀ b, g b = f b)
    (eT : ∀ acc, U acc = T acc) : ImplT g U := by
  rw [funext ef, funext eT]
  exact h

theorem implT_id : ImplT (fun b => b) .ok :=
  ⟨fun _ _ => rfl, fun _ _ _ _ _ _ => rfl⟩

theorem implT_add (bs : Bytes) : ImplT (fun b => add b bs) (fun acc => .ok (acc ++ bs)) where
  errd := by
    intro b h
    simp [add, h]
  spec := by
    intro R acc off pll pia _
    simp [Refines, add, mkB]

theorem implT_err : ImplT setError (fun _ => .err) where
  errd := by
    intro b h
    cases b
    simp only [setError]
    simp at h
    simp [h]
  spec := fun _ _ _ _ _ _ => ⟨rfl, rfl⟩

/-- the continuation comes first: in `hg.after hf` the transformer `g` is known before the goal is looked at, so a goal
    about `bbuild (.op … k)` (or `build`, below) is met by unfolding it once; with `g` still open, unification takes the
    whole of it for `g` and the identity for `f` -/
theorem ImplT.after {f g : Builder → Builder} {T U : Bytes → Res Bytes} (hg : ImplT g U) (hf : ImplT f T) :
    ImplT (fun b => g (f b)) (fun acc => match T acc with | .ok a => U a | .err => .err | .panic => .panic) where
  errd := by
    intro b h
    rw [hf.errd b h, hg.errd b h]
  spec := by
    intro R acc off pll pia hl
    have h1 := hf.spec R acc off pll pia hl
    cases hT : T acc with
    | ok a =>
      rw [hT] at h1
      dsimp only
      rw [show f _ = _ from h1]
      exact hg.spec R a off pll pia hl
    | err =>
      rw [hT] at h1
      dsimp only
      rw [hg.errd _ h1.1]
      exact h1
    | panic =>
      rw [hT] at h1
      dsimp only
      rw [hg.errd _ h1.2]
      exact h1

/-- the block transformer of a call that contributes `r` to the block -/
def app (r : Res Bytes) (acc : Bytes) : Res Bytes :=
  match r with
  | .ok c => .ok (acc ++ c)
  | .err => .err
  | .panic => .panic

/-- a block: `hdr` is reserved, the child Builder starts behind it and runs `f`, `flushChild` turns its bytes `c` into
    `enc c` in the parent; `dOff` = the bytes of `hdr` in front of the child's length prefix (the tag of an ASN.1 element) -/
theorem implT_child {f : Builder → Builder} {Tb : Bytes → Res Bytes} (hf : ImplT f Tb) (hdr : Bytes) (dOff pll' : Nat)
    (pia' : Bool) (enc : Bytes → Res Bytes) (henc : ∀ c, enc c ≠ .panic) (hlen : hdr.length = pll' + dOff)
    (hfl : ∀ (b : Builder) (R0 c : Bytes), flushChild b (mkB (R0 ++ hdr ++ c) (R0.length + dOff) pll' pia') =
      match enc c with
      | .ok x => { b with result := R0 ++ x }
      | _ => { b with err := true }) :
    ImplT (fun b => if b.err then b else
        flushChild { b with result := b.result ++ hdr } (f (mkB (b.result ++ hdr) (b.result.length + dOff) pll' pia')))
      (fun acc => match Tb [] with
        | .ok c => app (enc c) acc
        | .err => .err
        | .panic => .panic) where
  errd := by
    intro b h
    simp only [h, if_true]
  spec := by
    intro R acc off pll pia hl
    have hb := hf.spec (R ++ acc ++ hdr) [] ((R ++ acc).length + dOff) pll' pia'
      (by rw [List.length_append, hlen, Nat.add_left_comm])
    rw [List.append_nil] at hb
    show Refines (flushChild _ (f (mkB (R ++ acc ++ hdr) ((R ++ acc).length + dOff) pll' pia'))) R off pll pia _
    cases hT : Tb [] with
    | panic =>
      rw [hT] at hb
      rw [flushChild_panicked _ _ hb.1]
      exact ⟨rfl, rfl⟩
    | err =>
      rw [hT] at hb
      rw [flushChild_err _ _ hb.1 hb.2]
      exact ⟨rfl, rfl⟩
    | ok c =>
      rw [hT] at hb
      rw [show f _ = _ from hb, hfl]
      dsimp only [app]
      cases he : enc c with
      | ok x => exact congrArg (mkB · off pll pia) (List.append_assoc R acc x)
      | err => exact ⟨rfl, rfl⟩
      | panic => exact absurd he (henc c)

theorem lpBytes_ne_panic (n : Nat) {r : Res Bytes} (hr : r ≠ .panic) : lpBytes n r ≠ .panic := by
  cases r with
  | ok c =>
    show (if c.length ≥ 256 ^ n then Res.err else .ok (beBytes n c.length ++ c)) ≠ .panic
    split <;> nofun
  | err => nofun
  | panic => exact absurd rfl hr

theorem element_ne_panic (tag : UInt8) (c : Bytes) : CB.element tag c ≠ .panic := by
  simp only [CB.element]
  have := derLength_ne_panic c.length
  split
  · nofun
  · split <;> simp_all

theorem implT_lp (n : Nat) {f : Builder → Builder} {Tb : Bytes → Res Bytes} (hf : ImplT f Tb) :
    ImplT (fun b => addLengthPrefixed b n false f)
      (fun acc => match Tb [] with
        | .ok c => app (lpBytes n (.ok c)) acc
        | .err => .err
        | .panic => .panic) := by
  refine (implT_child hf (zeros n) 0 n false (fun c => lpBytes n (.ok c)) (fun c => lpBytes_ne_panic n nofun) (zeros_length n)
    fun b R0 c => ?_).congr (fun b => ?_) fun _ => rfl
  · refine (flushChild_lp b R0 c n).trans ?_
    by_cases h : c.length ≥ 256 ^ n
    · simp only [lpBytes, h, if_true]
    · simp only [lpBytes, h, if_false]
  · cases he : b.err <;> simp [addLengthPrefixed, add, he, mkB]

theorem implT_asn1 (tag : UInt8) {f : Builder → Builder} {Tb : Bytes → Res Bytes} (hf : ImplT f Tb) :
    ImplT (fun b => addASN1 b tag f)
      (fun acc => if tag.toNat % 32 = 31 then .err else match Tb [] with
        | .ok c => app (CB.element tag c) acc
        | .err => .err
        | .panic => .panic) := by
  by_cases htag : tag.toNat % 32 = 31
  · refine implT_err.congr (fun b => ?_) fun _ => if_pos htag
    cases he : b.err <;> cases b <;> simp_all [addASN1, setError]
  · refine (implT_child hf ([tag] ++ zeros 1) 1 1 true (CB.element tag) (element_ne_panic tag) rfl fun b R0 c => ?_).congr
      (fun b => ?_) fun _ => if_neg htag
    · rw [← List.append_assoc R0 [tag] (zeros 1)]
      refine (flushChild_asn1 b R0 c tag).trans ?_
      simp only [CB.element, htag, if_false]
      cases CB.derLength c.length <;> rfl
    · cases he : b.err <;> simp [addASN1, addLengthPrefixed, add, he, htag, mkB]

/-- `Impl f r` — the Builder transformer `f` implements the specification result `r` (never a panic): it appends exactly
    `c` to the block when `r = ok c`, and sets `err` when `r = err` -/
structure Impl (f : Builder → Builder) (r : Res Bytes) : Prop where
  np : r ≠ .panic
  impl : ImplT f (app r)

theorem impl_id : Impl (fun b => b) (.ok []) :=
  ⟨nofun, implT_id.congr (fun _ => rfl) fun acc => congrArg Res.ok (List.append_nil acc)⟩

theorem impl_add (bytes : Bytes) : Impl (fun b => add b bytes) (.ok bytes) :=
  ⟨nofun, implT_add bytes⟩

theorem impl_err : Impl (fun c => { c with err := true }) .err :=
  ⟨nofun, implT_err⟩

theorem Impl.after {f g : Builder → Builder} {r s : Res Bytes} (hg : Impl g s) (hf : Impl f r) :
    Impl (fun b => g (f b)) (Res.append r s) := by
  have hr := hf.np
  have hs := hg.np
  refine ⟨?_, (hg.impl.after hf.impl).congr (fun _ => rfl) fun acc => ?_⟩
  · cases r <;> cases s <;> simp_all [Res.append]
  · cases r <;> cases s <;> simp_all [Res.append, app]

theorem impl_lp (n : Nat) {f : Builder → Builder} {r : Res Bytes} (hf : Impl f r) :
    Impl (fun b => addLengthPrefixed b n false f) (lpBytes n r) := by
  have hr := hf.np
  refine ⟨lpBytes_ne_panic n hr, (implT_lp n hf.impl).congr (fun _ => rfl) fun acc => ?_⟩
  cases r <;> rfl

theorem impl_asn1 (tag : UInt8) {f : Builder → Builder} {r : Res Bytes} (hf : Impl f r) :
    Impl (fun b => addASN1 b tag f) (elementR tag r) := by
  have hr := hf.np
  refine ⟨?_, (implT_asn1 tag hf.impl).congr (fun _ => rfl) fun acc => ?_⟩
  · cases r with
    | ok c => exact element_ne_panic tag c
    | err => nofun
    | panic => exact absurd rfl hr
  · by_cases htag : tag.toNat % 32 = 31
    · rw [if_pos htag]
      cases r with
      | ok c => exact congrArg (app · acc) (if_pos htag)
      | err => rfl
      | panic => exact absurd rfl hr
    · rw [if_neg htag]
      cases r <;> rfl

theorem impl_alt (a : Alt) : Impl (altBuild a) (altSer a) := by
  cases a with
  | skip bs | copy bs => exact impl_add bs
  | elem tag bs | any tag bs | anyElem tag bs | skipAsn1 tag bs | skipOpt tag bs => exact impl_asn1 tag (impl_add bs)
  | noSkipOpt tag => exact impl_id
  | bitsBytes bs => exact impl_asn1 3 ((impl_add bs).after (impl_add [0]))

/-- `AddValue`: whatever `Marshal` does to the Builder, then the returned error is latched. -/
theorem impl_value {f : Builder → Builder} {r : Res Bytes} (hf : Impl f r) (fail : Bool) :
    Impl (fun b => addValue b f fail) (Res.append r (if fail then .err else .ok [])) := by
  cases fail with
  | true => exact impl_err.after hf
  | false => exact impl_id.after hf

theorem impl_ite {p : Prop} [Decidable p] {f g : Builder → Builder} {r s : Res Bytes} (hf : Impl f r) (hg : Impl g s) :
    Impl (fun b => if p then f b else g b) (if p then r else s) := by
  by_cases h : p <;> simp only [h, if_true, if_false] <;> assumption

theorem impl_build (p : Prog) : Impl (build p) (ser p) := by
  induction p with
  | done => exact impl_id
  | uN _ _ _ ih | raw _ _ ih | null _ ih => exact ih.after (impl_add _)
  | lp n _ _ ihb ihk => exact ihk.after (impl_lp n ihb)
  | asn1 tag _ _ ihb ihk | optAsn1 tag _ _ ihb ihk => exact ihk.after (impl_asn1 tag ihb)
  | int64 tag _ _ ih => exact ih.after (impl_asn1 tag (impl_add _))
  | uint64 _ _ ih | big _ _ ih => exact ih.after (impl_asn1 2 (impl_add _))
  | bool _ _ ih | optBool _ _ _ ih => exact ih.after (impl_asn1 1 (impl_add _))
  | oid o _ ih =>
    have key : ∀ v : Bool, Impl (fun b => addASN1 b 6 (fun c => if !v then { c with err := true } else add c (oidBody o)))
        (if !v then .err else CB.element 6 (oidBody o)) := by
      intro v
      cases v
      · exact impl_asn1 6 impl_err
      · exact impl_asn1 6 (impl_add _)
    exact ih.after (key _)
  | octets _ _ ih => exact ih.after (impl_asn1 4 (impl_add _))
  | bitstr bs _ ih => exact ih.after (impl_asn1 3 ((impl_add bs).after (impl_add [0])))
  | noAsn1 _ _ ih | noInt _ _ _ ih | noOctets _ _ ih | noBool _ _ ih => exact ih
  | optInt tag _ _ _ ih => exact ih.after (impl_asn1 tag (impl_asn1 2 (impl_add _)))
  | optOctets tag _ _ ih => exact ih.after (impl_asn1 tag (impl_asn1 4 (impl_add _)))
  | gtime _ _ ih => exact ih.after (impl_ite impl_err (impl_asn1 0x18 (impl_add _)))
  | alt a _ ih => exact ih.after (impl_alt a)
  | setErr _ ih => exact ih.after impl_err
  | value _ fail _ ihb ihk => exact ihk.after (impl_value ihb fail)

theorem Res.append_assoc (a b c : Res Bytes) :
    Res.append (Res.append a b) c = Res.append a (Res.append b c) := by
  cases a <;> cases b <;> cases c <;> simp [Res.append]

theorem build_seq (p q : Prog) : ∀ b, build (p.seq q) b = build q (build p b) := by
  induction p with
  | done => intro b; rfl
  | lp _ _ _ _ ihk | asn1 _ _ _ _ ihk | optAsn1 _ _ _ _ ihk | value _ _ _ _ ihk =>
    intro b; simp only [Prog.seq, build, ihk]
  | _ => rename_i ih; intro b; simp only [Prog.seq, build, ih]

theorem ser_seq (p q : Prog) : ser (p.seq q) = Res.append (ser p) (ser q) := by
  induction p with
  | done =>
    simp only [Prog.seq, ser]
    cases ser q <;> simp [Res.append]
  | lp _ _ _ _ ihk | asn1 _ _ _ _ ihk | optAsn1 _ _ _ _ ihk | value _ _ _ _ ihk =>
    simp only [Prog.seq, ser, ihk, Res.append_assoc]
  | _ => rename_i ih; simp only [Prog.seq, ser, ih, Res.append_assoc]

theorem append_err_left (r : Res Bytes) (h : r ≠ .panic) : Res.append .err r = .err := by
  cases r <;> simp_all [Res.append]

theorem append_err_right (r : Res Bytes) (h : r ≠ .panic) : Res.append r .err = .err := by
  cases r <;> simp_all [Res.append]

/-- `Unwrite(n)` can reach neither the block's own length prefix nor the parent's bytes -/
theorem implT_unwrite (n : Nat) :
    ImplT (fun b => unwrite b n) (fun acc => if n > acc.length then .panic else .ok (acc.take (acc.length - n))) where
  errd := by
    intro b h
    simp only [unwrite, h, if_true]
  spec := by
    intro R acc off pll pia hl
    have h1 : ¬ (R.length + acc.length < pll + off) := by omega
    show Refines (if false = true then _ else if (R ++ acc).length < pll + off then _
      else if n > (R ++ acc).length - pll - off then _ else _) R off pll pia _
    rw [if_neg Bool.false_ne_true, List.length_append, if_neg h1]
    by_cases hn : n > acc.length
    · rw [if_pos hn, if_pos (by omega)]
      exact ⟨rfl, rfl⟩
    · rw [if_neg hn, if_neg (by omega)]
      show mkB ((R ++ acc).take ((R ++ acc).length - n)) off pll pia = _
      rw [List.length_append, List.take_append, List.take_of_length_le (by omega),
        show R.length + acc.length - n - R.length = acc.length - n by omega]

theorem bbuild_refines (p : BProg) : ImplT (bbuild p) (bspec p) := by
  induction p with
  | done => exact implT_id
  | add bs k ih => exact ih.after (implT_add bs)
  | unwrite n k ih =>
    refine (ih.after (implT_unwrite n)).congr (fun _ => rfl) fun acc => ?_
    simp only [bspec]
    split <;> rfl
  | setErr k ih => exact ih.after implT_err
  | lp n body k ihb ihk =>
    refine (ihk.after (implT_lp n ihb)).congr (fun _ => rfl) fun acc => ?_
    simp only [bspec]
    cases bspec body [] with
    | ok c =>
      dsimp only
      cases lpBytes n (.ok c) <;> rfl
    | err => rfl
    | panic => rfl
  | asn1 tag body k ihb ihk =>
    refine (ihk.after (implT_asn1 tag ihb)).congr (fun _ => rfl) fun acc => ?_
    simp only [bspec]
    by_cases htag : tag.toNat % 32 = 31
    · rw [if_pos htag, if_pos htag]
    rw [if_neg htag, if_neg htag]
    cases bspec body [] with
    | ok c =>
      dsimp only
      cases CB.element tag c <;> rfl
    | err => rfl
    | panic => rfl

end ZV.C21
