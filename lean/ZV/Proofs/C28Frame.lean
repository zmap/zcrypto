import ZV.Model.C28
/-!
  C28 — the wire shapes of the length-prefixed lists in handshake messages (`pairsBE` and the inductive `Framed*`;
  `certEntries` and `cert13Entries` are the entry loops of `certificateMsg.unmarshal` and `unmarshalCertificate`), and
  what the model's splitters say about the bytes they accepted.  An accepted input is framed (`*_framed`); where the
  converse is needed (the framing determines the list) it is `framed*_split`.

  All inductions along the model's splitters stand in this one module: several of them share a matcher of the model,
  and the auxiliary lemmas `fun_induction` generates for it must not come from two modules that are imported together.
-/
namespace ZV.C28


/-- spec-side reading of a byte string as consecutive big-endian 16-bit numbers -/
def pairsBE : Bytes → List Nat
  | a :: b :: r => u16 a b :: pairsBE r
  | _ => []

theorem u16s_eq : ∀ bs : Bytes, u16s bs = if bs.length % 2 = 0 then some (pairsBE bs) else none
  | [] => rfl
  | [_] => rfl
  | a :: b :: r => by
    have e : (a :: b :: r).length % 2 = r.length % 2 := Nat.add_mod_right r.length 2
    rw [u16s, u16s_eq r, e]
    by_cases h : r.length % 2 = 0
    · rw [if_pos h, if_pos h]
      rfl
    · rw [if_neg h, if_neg h]

theorem u16s_spec (bs : Bytes) (l : List Nat) (h : u16s bs = some l) : l = pairsBE bs ∧ bs.length % 2 = 0 := by
  rw [u16s_eq] at h
  split at h
  · exact ⟨(Option.some.inj h).symm, ‹_›⟩
  · cases h

theorem u16s_of_even : ∀ (bs : Bytes), bs.length % 2 = 0 → u16s bs = some (pairsBE bs) := by
  intro bs h
  rw [u16s_eq, if_pos h]

theorem bindU16s {β : Type} {cs : Bytes} {f : List Nat → Option β} {y : β}
    (h : (match u16s cs with | some l => f l | none => none) = some y) :
    cs.length % 2 = 0 ∧ f (pairsBE cs) = some y := by
  rw [u16s_eq] at h
  by_cases he : cs.length % 2 = 0
  · rw [if_pos he] at h
    exact ⟨he, h⟩
  · rw [if_neg he] at h
    cases h

theorem pairsBE_length_half : ∀ bs : Bytes, (pairsBE bs).length = bs.length / 2
  | [] => rfl
  | [_] => (Nat.div_eq_of_lt (by decide : 1 < 2)).symm
  | a :: b :: r => by
    rw [pairsBE, List.length_cons, pairsBE_length_half r]
    exact (Nat.add_div_right r.length (by decide)).symm

theorem pairsBE_length : ∀ (bs : Bytes), bs.length % 2 = 0 → (pairsBE bs).length * 2 = bs.length := by
  intro bs h
  rw [pairsBE_length_half]
  exact Nat.div_mul_cancel (Nat.dvd_of_mod_eq_zero h)

/-- `blk` is exactly the concatenation of  id(2, BE) ‖ len(2, BE) ‖ data  for the listed (id, data) pairs -/
inductive FramedExts : Bytes → List (Nat × Bytes) → Prop
  | nil : FramedExts [] []
  | cons (a b c d : UInt8) (data rest : Bytes) (es : List (Nat × Bytes)) :
      u16 c d = data.length → FramedExts rest es →
      FramedExts (a :: b :: c :: d :: (data ++ rest)) ((u16 a b, data) :: es)

theorem splitExts_framed : ∀ (blk : Bytes) (es : List (Nat × Bytes)), splitExts blk = some es → FramedExts blk es := by
  intro blk
  fun_induction splitExts blk with
  | case1 => intro es h; cases h; exact .nil
  | case3 a b c d rest hle l hsome ih =>
    intro es h
    cases h
    have := FramedExts.cons a b c d _ _ l (by rw [List.length_take, Nat.min_eq_left hle]) (ih l hsome)
    rwa [List.take_append_drop] at this
  | _ => intro es h; cases h

theorem u16_lt (a b : UInt8) : u16 a b < 65536 := by
  have ha := a.toNat_lt
  have hb := b.toNat_lt
  unfold u16
  omega

theorem ofNat_u16_hi (a b : UInt8) : UInt8.ofNat (u16 a b / 256) = a := by
  rw [u16, Nat.add_comm, Nat.add_mul_div_right _ _ (by decide), Nat.div_eq_of_lt b.toNat_lt, Nat.zero_add]
  exact UInt8.ofNat_toNat

theorem ofNat_u16_lo (a b : UInt8) : UInt8.ofNat (u16 a b) = b := by
  apply UInt8.toNat_inj.mp
  rw [UInt8.toNat_ofNat', u16, Nat.mul_add_mod']
  exact Nat.mod_eq_of_lt b.toNat_lt

theorem extBytes_wire {a b c d : UInt8} {data : Bytes} (h : u16 c d = data.length) :
    extBytes (u16 a b) data = a :: b :: c :: d :: data := by
  unfold extBytes
  rw [← h, ofNat_u16_hi, ofNat_u16_lo, ofNat_u16_hi, ofNat_u16_lo]
  rfl

theorem framedExts_bytes {blk : Bytes} {es : List (Nat × Bytes)} (h : FramedExts blk es) :
    blk = (es.map (fun e => extBytes e.1 e.2)).flatten := by
  induction h with
  | nil => rfl
  | cons a b c d data rest es hl _ ih =>
    simp only [List.map_cons, List.flatten_cons, extBytes_wire hl]
    rw [← ih]
    simp

theorem framedExts_bounds {blk : Bytes} {es : List (Nat × Bytes)} (h : FramedExts blk es) :
    ∀ e ∈ es, e.1 < 65536 ∧ e.2.length < 65536 := by
  induction h with
  | nil => intro e he; cases he
  | cons a b c d data rest es hl _ ih =>
    intro e he
    rcases List.mem_cons.mp he with rfl | he
    · exact ⟨u16_lt a b, hl ▸ u16_lt c d⟩
    · exact ih e he

theorem framedExts_split {blk : Bytes} {es : List (Nat × Bytes)} (h : FramedExts blk es) : splitExts blk = some es := by
  induction h with
  | nil => rw [splitExts]
  | cons a b c d data rest es hl _ ih => simp [splitExts, hl, ih]

/-- `bs` = concatenation of  len(1) ‖ item  -/
inductive Framed8s : Bytes → List Bytes → Prop
  | nil : Framed8s [] []
  | cons (c : UInt8) (item rest : Bytes) (l : List Bytes) :
      c.toNat = item.length → Framed8s rest l → Framed8s (c :: (item ++ rest)) (item :: l)

/-- `bs` = concatenation of  len(2, BE) ‖ item  -/
inductive Framed16s : Bytes → List Bytes → Prop
  | nil : Framed16s [] []
  | cons (c d : UInt8) (item rest : Bytes) (l : List Bytes) :
      u16 c d = item.length → Framed16s rest l → Framed16s (c :: d :: (item ++ rest)) (item :: l)

theorem splitVec8s_framed : ∀ (bs : Bytes) (l : List Bytes), splitVec8s bs = some l → Framed8s bs l := by
  intro bs
  fun_induction splitVec8s bs with
  | case1 => intro l h; cases h; exact .nil
  | case3 c rest hle l' hsome ih =>
    intro l h
    cases h
    have := Framed8s.cons c _ _ l' (by rw [List.length_take, Nat.min_eq_left hle]) (ih l' hsome)
    rwa [List.take_append_drop] at this
  | _ => intro l h; cases h

theorem splitVec16s_framed : ∀ (bs : Bytes) (l : List Bytes), splitVec16s bs = some l → Framed16s bs l := by
  intro bs
  fun_induction splitVec16s bs with
  | case1 => intro l h; cases h; exact .nil
  | case3 c d rest hle l' hsome ih =>
    intro l h
    cases h
    have := Framed16s.cons c d _ _ l' (by rw [List.length_take, Nat.min_eq_left hle]) (ih l' hsome)
    rwa [List.take_append_drop] at this
  | _ => intro l h; cases h

theorem framed8s_split {bs : Bytes} {l : List Bytes} (h : Framed8s bs l) : splitVec8s bs = some l := by
  induction h with
  | nil => rw [splitVec8s]
  | cons c item rest l hl _ ih => simp [splitVec8s, hl, ih]

theorem framed16s_split {bs : Bytes} {l : List Bytes} (h : Framed16s bs l) : splitVec16s bs = some l := by
  induction h with
  | nil => rw [splitVec16s]
  | cons c d item rest l hl _ ih => simp [splitVec16s, hl, ih]

/-- `bs` = concatenation of  name_type(1) ‖ len(2, BE) ‖ name  with every name non-empty -/
inductive FramedSNI : Bytes → List (Nat × Bytes) → Prop
  | nil : FramedSNI [] []
  | cons (t c d : UInt8) (name rest : Bytes) (l : List (Nat × Bytes)) :
      u16 c d = name.length → name ≠ [] → FramedSNI rest l →
      FramedSNI (t :: c :: d :: (name ++ rest)) ((t.toNat, name) :: l)

theorem sniEntries_framed : ∀ (bs : Bytes) (l : List (Nat × Bytes)), sniEntries bs = some l → FramedSNI bs l := by
  intro bs
  fun_induction sniEntries bs with
  | case1 => intro l h; cases h; exact .nil
  | case4 t c d rest hz hle l' hsome ih =>
    intro l h
    cases h
    have hlen : u16 c d = (rest.take (u16 c d)).length := by rw [List.length_take, Nat.min_eq_left hle]
    have := FramedSNI.cons t c d _ _ l' hlen (fun hn => hz (by rw [hlen, hn]; rfl)) (ih l' hsome)
    rwa [List.take_append_drop] at this
  | _ => intro l h; cases h

theorem framedSNI_split {bs : Bytes} {l : List (Nat × Bytes)} (h : FramedSNI bs l) : sniEntries bs = some l := by
  induction h with
  | nil => rw [sniEntries]
  | cons t c d name rest l hl hne _ ih => simp [sniEntries, hl, ih, hne]

theorem framedSNI_names_ne {bs : Bytes} {l : List (Nat × Bytes)} (h : FramedSNI bs l) : ∀ e ∈ l, e.2 ≠ [] := by
  induction h with
  | nil => intro e he; cases he
  | cons t c d name rest l _ hne _ ih =>
    intro e he
    rcases List.mem_cons.mp he with rfl | he
    · exact hne
    · exact ih e he

/-- `d` = concatenation of  len(3, BE) ‖ cert -/
inductive Framed24 : Bytes → List Bytes → Prop
  | nil : Framed24 [] []
  | cons (a b c : UInt8) (cert rest : Bytes) (cs : List Bytes) :
      a.toNat * 65536 + b.toNat * 256 + c.toNat = cert.length → Framed24 rest cs →
      Framed24 (a :: b :: c :: (cert ++ rest)) (cert :: cs)

theorem certEntries_framed : ∀ (d : Bytes) (cs : List Bytes), certEntries d = some cs → Framed24 d cs := by
  intro d
  fun_induction certEntries d with
  | case1 => intro cs h; cases h; exact .nil
  | case4 a b c rest hlt hle l hsome ih =>
    intro cs h
    cases h
    have := Framed24.cons a b c _ _ l (by rw [List.length_take, Nat.min_eq_left hle]) (ih l hsome)
    rwa [List.take_append_drop] at this
  | _ => intro cs h; cases h

theorem certLog_cons {cs : List Bytes} (h : cs ≠ []) : (certLog cs).leaf :: (certLog cs).chain = cs := by
  cases cs with
  | nil => exact absurd rfl h
  | cons c rest => rfl

/-- `d` is exactly the concatenation of `len24 ‖ cert ‖ len16 ‖ extensions` for the listed (cert, extensions) pairs -/
inductive Framed13 : Bytes → List (Bytes × Bytes) → Prop
  | nil : Framed13 [] []
  | cons (a b c : UInt8) (cert : Bytes) (e1 e2 : UInt8) (ex rest : Bytes) (es : List (Bytes × Bytes)) :
      a.toNat * 65536 + b.toNat * 256 + c.toNat = cert.length → u16 e1 e2 = ex.length → Framed13 rest es →
      Framed13 (a :: b :: c :: (cert ++ e1 :: e2 :: (ex ++ rest))) ((cert, ex) :: es)

theorem drop_after_entry {rest r2 : Bytes} {e1 e2 : UInt8} {n k : Nat} (h : rest.drop n = e1 :: e2 :: r2) :
    rest.drop (n + 2 + k) = r2.drop k := by
  have e : n + 2 + k = n + (k + 2) := by omega
  rw [e, ← List.drop_drop, h]
  rfl

theorem cert13Entries_framed : ∀ (d : Bytes) (es : List (Bytes × Bytes)), cert13Entries d = some es → Framed13 d es := by
  intro d
  fun_induction cert13Entries d with
  | case1 => intro es h; cases h; exact .nil
  | case3 a b c rest hle e1 e2 r2 hdrop hle2 l hsome ih =>
    intro es h
    cases h
    have ih' := ih l hsome
    rw [drop_after_entry hdrop] at ih'
    have := Framed13.cons a b c _ e1 e2 _ _ l (by rw [List.length_take, Nat.min_eq_left hle])
      (by rw [List.length_take, Nat.min_eq_left hle2]) ih'
    rwa [List.take_append_drop, ← hdrop, List.take_append_drop] at this
  | _ => intro es h; cases h

end ZV.C28
