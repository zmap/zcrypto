import ZV.Proofs.C18
/-! C18: SEQUENCE OF / SET OF — the DER sort of SET OF (`setEncoder`): `bytesLt` is the lexicographic order of byte lists
    (so a strict total order, by the order lemmas of `List`), hence `sortEnc` is idempotent; the two passes of
    `parseSequenceOf` on a concatenation of element encodings. -/
namespace ZV.C18

theorem bytesLt_iff : ∀ (a b : Bytes), bytesLt a b = true ↔ a < b
  | [], [] => by simp [bytesLt]
  | [], _ :: _ => by simp [bytesLt]
  | _ :: _, [] => by simp [bytesLt]
  | x :: xs, y :: ys => by
    rw [List.cons_lt_cons_iff, UInt8.lt_iff_toNat_lt, ← UInt8.toNat_inj, ← bytesLt_iff xs ys, bytesLt]
    split_ifs with h1 h2
    · exact ⟨fun _ => Or.inl h1, fun _ => rfl⟩
    · exact ⟨fun h => (nomatch h), fun h => by omega⟩
    · exact ⟨fun h => Or.inr ⟨by omega, h⟩, fun h => (h.resolve_left h1).2⟩

theorem bytesLt_irrefl (a : Bytes) : bytesLt a a = false :=
  Bool.eq_false_iff.mpr fun h => List.lt_irrefl a ((bytesLt_iff a a).mp h)

theorem bytesLt_asymm (a b : Bytes) (h : bytesLt a b = true) : bytesLt b a = false :=
  Bool.eq_false_iff.mpr fun h' => List.lt_asymm ((bytesLt_iff a b).mp h) ((bytesLt_iff b a).mp h')

theorem bytesLt_trans (a b c : Bytes) (h1 : bytesLt a b = true) (h2 : bytesLt b c = true) : bytesLt a c = true :=
  (bytesLt_iff a c).mpr (List.lt_trans ((bytesLt_iff a b).mp h1) ((bytesLt_iff b c).mp h2))

theorem bytesLt_total (a b : Bytes) (h1 : bytesLt a b = false) (h2 : bytesLt b a = false) : a = b :=
  List.le_antisymm (List.not_lt.mp fun h => Bool.eq_false_iff.mp h2 ((bytesLt_iff b a).mpr h))
    (List.not_lt.mp fun h => Bool.eq_false_iff.mp h1 ((bytesLt_iff a b).mpr h))

theorem perm_insertSorted (x : Bytes) (l : List Bytes) : (insertSorted x l).Perm (x :: l) := by
  induction l with
  | nil => exact List.Perm.refl _
  | cons y ys ih =>
    simp only [insertSorted]
    split_ifs
    · exact List.Perm.refl _
    · exact ((List.Perm.cons y ih).trans (List.Perm.swap x y ys))

theorem perm_sortEnc (l : List Bytes) : (sortEnc l).Perm l := by
  induction l with
  | nil => exact List.Perm.refl _
  | cons x xs ih => exact (perm_insertSorted x (sortEnc xs)).trans (List.Perm.cons x ih)

/-- ascending w.r.t. `bytes.Compare` -/
def SortedEnc : List Bytes → Prop
  | [] => True
  | x :: xs => (∀ y ∈ xs, bytesLt y x = false) ∧ SortedEnc xs

theorem mem_insertSorted {z x : Bytes} {l : List Bytes} (h : z ∈ insertSorted x l) : z = x ∨ z ∈ l := by
  have := (perm_insertSorted x l).mem_iff.mp h
  simpa using this

theorem sorted_insertSorted (x : Bytes) (l : List Bytes) (h : SortedEnc l) : SortedEnc (insertSorted x l) := by
  induction l with
  | nil => exact ⟨by simp, trivial⟩
  | cons y ys ih =>
    simp only [insertSorted]
    by_cases hlt : bytesLt x y = true
    · rw [if_pos hlt]
      refine ⟨?_, h⟩
      intro z hz
      rcases List.mem_cons.mp hz with rfl | hz'
      · exact bytesLt_asymm _ _ hlt
      · cases hzx : bytesLt z x with
        | false => rfl
        | true =>
          have := bytesLt_trans z x y hzx hlt
          rw [h.1 z hz'] at this; cases this
    · rw [if_neg hlt]
      refine ⟨?_, ih h.2⟩
      intro z hz
      rcases mem_insertSorted hz with rfl | hz'
      · simpa using hlt
      · exact h.1 z hz'

theorem sorted_sortEnc (l : List Bytes) : SortedEnc (sortEnc l) := by
  induction l with
  | nil => trivial
  | cons x xs ih => exact sorted_insertSorted x _ ih

theorem sortedEnc_pairwise : ∀ (l : List Bytes), SortedEnc l ↔ l.Pairwise (fun a b => bytesLt b a = false)
  | [] => iff_of_true trivial List.Pairwise.nil
  | x :: xs => by rw [List.pairwise_cons, ← sortedEnc_pairwise xs, SortedEnc]

theorem sortEnc_of_sorted (l : List Bytes) (h : SortedEnc l) : sortEnc l = l :=
  (perm_sortEnc l).eq_of_pairwise (fun a b _ _ h1 h2 => bytesLt_total a b h2 h1)
    ((sortedEnc_pairwise _).mp (sorted_sortEnc l)) ((sortedEnc_pairwise l).mp h)

theorem sortEnc_sortEnc (l : List Bytes) : sortEnc (sortEnc l) = sortEnc l :=
  sortEnc_of_sorted _ (sorted_sortEnc l)

/-- the elements of a slice value (`nil` and the empty slice both have none) -/
def elems : Val → List Val
  | .vcons x r => x :: elems r
  | _ => []

/-- the non-nil slice with the given elements -/
def ofList : List Val → Val
  | [] => .vnil
  | x :: r => .vcons x (ofList r)

theorem elems_ofList (l : List Val) : elems (ofList l) = l := by
  induction l with
  | nil => rfl
  | cons x r ih => simp [ofList, elems, ih]

theorem ofList_elems (v : Val) (h : properChain v = true) : ofList (elems v) = v := by
  induction v with
  | vnil => rfl
  | vcons x r _ ihr => simp only [properChain] at h; simp [elems, ofList, ihr h]
  | _ => simp [properChain] at h

/-- pointwise relation between two lists of the same length -/
def All2 {α β : Type} (R : α → β → Prop) : List α → List β → Prop
  | [], [] => True
  | a :: as, b :: bs => R a b ∧ All2 R as bs
  | _, _ => False

theorem All2_length {α β : Type} {R : α → β → Prop} : ∀ {l1 : List α} {l2 : List β}, All2 R l1 l2 → l1.length = l2.length
  | [], [], _ => rfl
  | _ :: _, _ :: _, h => by simp [All2_length h.2]
  | [], _ :: _, h => h.elim
  | _ :: _, [], h => h.elim

theorem All2_imp {α β : Type} {R S : α → β → Prop} : ∀ {l1 : List α} {l2 : List β},
    (∀ a ∈ l1, ∀ b ∈ l2, R a b → S a b) → All2 R l1 l2 → All2 S l1 l2
  | [], [], _, _ => trivial
  | a :: as, b :: bs, hi, h =>
    ⟨hi a (by simp) b (by simp) h.1, All2_imp (fun x hx y hy => hi x (by simp [hx]) y (by simp [hy])) h.2⟩
  | [], _ :: _, _, h => h.elim
  | _ :: _, [], _, h => h.elim

theorem All2_mono {α β : Type} {R S : α → β → Prop} : ∀ {l1 : List α} {l2 : List β},
    (∀ a ∈ l1, ∀ b, R a b → S a b) → All2 R l1 l2 → All2 S l1 l2 :=
  fun hi => All2_imp (fun a ha b _ => hi a ha b)

theorem All2_right {α β : Type} {R : α → β → Prop} : ∀ {l1 : List α} {l2 : List β}, All2 R l1 l2 →
    ∀ b ∈ l2, ∃ a ∈ l1, R a b
  | [], [], _, _, hb => nomatch hb
  | a :: as, b :: bs, h, y, hy => by
    rcases List.mem_cons.mp hy with rfl | hy
    · exact ⟨a, by simp, h.1⟩
    · obtain ⟨x, hx, hr⟩ := All2_right h.2 y hy
      exact ⟨x, by simp [hx], hr⟩
  | [], _ :: _, h, _, _ => h.elim
  | _ :: _, [], h, _, _ => h.elim

theorem All2_perm {α β : Type} {R : α → β → Prop} {bs' bs : List β} (hp : bs'.Perm bs) :
    ∀ xs, All2 R xs bs → ∃ xs', xs'.Perm xs ∧ All2 R xs' bs' := by
  induction hp with
  | nil => intro xs h; exact ⟨xs, List.Perm.refl _, h⟩
  | cons b _ ih =>
    intro xs h
    cases xs with
    | nil => exact h.elim
    | cons x xs0 =>
      obtain ⟨xs0', hp', ha⟩ := ih xs0 h.2
      exact ⟨x :: xs0', List.Perm.cons x hp', h.1, ha⟩
  | swap a b l =>
    intro xs h
    match xs, h with
    | x1 :: x2 :: xs0, h => exact ⟨x2 :: x1 :: xs0, List.Perm.swap x1 x2 xs0, h.2.1, h.1, h.2.2⟩
    | [], h => exact h.elim
    | [_], h => exact h.2.elim
  | trans _ _ ih1 ih2 =>
    intro xs h
    obtain ⟨xs1, hp1, ha1⟩ := ih2 xs h
    obtain ⟨xs2, hp2, ha2⟩ := ih1 xs1 ha1
    exact ⟨xs2, hp2.trans hp1, ha2⟩

theorem mapElems_ok (f : Val → Res Bytes) : ∀ (v : Val) (encs : List Bytes), mapElems f v = .ok encs →
    All2 (fun x b => f x = .ok b) (elems v) encs := by
  intro v
  induction v with
  | vnil => intro encs h; simp only [mapElems, Res.ok.injEq] at h; subst h; trivial
  | null => intro encs h; simp only [mapElems, Res.ok.injEq] at h; subst h; trivial
  | vcons x r _ ihr =>
    intro encs h
    simp only [mapElems] at h
    cases hx : f x <;> rw [hx] at h <;> try cases h
    cases hr : mapElems f r <;> rw [hr] at h <;> try cases h
    exact ⟨hx, ihr _ hr⟩
  | _ => intro encs h; simp [mapElems] at h

theorem mapElems_ofList (f : Val → Res Bytes) : ∀ (ys : List Val) (encs : List Bytes),
    All2 (fun y b => f y = .ok b) ys encs → mapElems f (ofList ys) = .ok encs
  | [], [], _ => rfl
  | y :: ys, b :: bs, h => by
    simp only [ofList, mapElems, h.1, mapElems_ofList f ys bs h.2]
  | [], _ :: _, h => h.elim
  | _ :: _, [], h => h.elim

/-- the shape `parseSequenceOf`'s first pass wants of one element encoding -/
def ElemShape (ma : Bool) (etag : Nat) (ecomp : Bool) (enc : Bytes) : Prop :=
  ∃ t body, enc = appendTL t ++ body ∧ t.len = body.length ∧ t.cls < 4 ∧ t.tag ≤ 2147483647 ∧
    (ma = true ∨ (t.cls = 0 ∧ t.compound = ecomp ∧ normSeqTag t.tag = etag))

theorem countElems_flatten (ma : Bool) (etag : Nat) (ecomp : Bool) (encs : List Bytes) : ∀ fuel,
    (∀ e ∈ encs, ElemShape ma etag ecomp e) → encs.flatten.length ≤ fuel → encs.flatten.length < 2147483648 →
    countElems false ma etag ecomp fuel encs.flatten = .ok encs.length := by
  induction encs with
  | nil => intro fuel _ _ _; cases fuel <;> simp [countElems]
  | cons e es ih =>
    intro fuel hs hf hl
    obtain ⟨t, body, he, hlen, hc, ht, hm⟩ := hs e (by simp)
    have hrest : ∀ x ∈ es, ElemShape ma etag ecomp x := fun x hx => hs x (by simp [hx])
    simp only [List.flatten_cons, List.length_append] at hf hl ⊢
    subst he
    simp only [List.length_append] at hf hl
    have hpos := appendTL_length_pos t
    have hdec := parseTL_appendTL false t hc ht (by omega) (body ++ es.flatten)
    cases fuel with
    | zero => omega
    | succ f =>
      cases ha : appendTL t with
      | nil => rw [ha] at hpos; simp at hpos
      | cons c tl =>
        rw [ha] at hdec
        simp only [List.cons_append, List.append_assoc] at hdec ⊢
        simp only [countElems, hdec]
        have hcond : (!ma && (t.cls != 0 || t.compound != ecomp || normSeqTag t.tag != etag)) = false := by
          rcases hm with h | ⟨h1, h2, h3⟩
          · simp [h]
          · simp [h1, h2, h3]
        rw [hcond]
        simp only [Bool.false_eq_true, if_false, List.length_append]
        rw [if_neg (by omega), hlen, List.drop_left]
        rw [ha] at hf
        simp only [List.length_cons] at hf
        rw [ih f hrest (by omega) (by omega)]
        simp

/-- second pass of `parseSequenceOf` -/
theorem parseElems_flatten (pf : Bytes → Res (Val × Bytes)) (Q : Val → Bytes → Val → Prop) :
    ∀ (xs : List Val) (encs : List Bytes),
      All2 (fun x b => ∀ rest, ∃ y, pf (b ++ rest) = .ok (y, rest) ∧ Q x b y) xs encs →
      ∃ ys, parseElems pf encs.length encs.flatten = .ok (ofList ys) ∧
        All2 (fun x y => ∃ b, Q x b y) xs ys ∧ All2 (fun y b => ∃ x, Q x b y) ys encs
  | [], [], _ => ⟨[], rfl, trivial, trivial⟩
  | x :: xs, b :: bs, h => by
    obtain ⟨y, hy, hq⟩ := h.1 bs.flatten
    obtain ⟨ys, hys, h1, h2⟩ := parseElems_flatten pf Q xs bs h.2
    refine ⟨y :: ys, ?_, ⟨⟨b, hq⟩, h1⟩, ⟨⟨x, hq⟩, h2⟩⟩
    simp only [List.length_cons, List.flatten_cons, parseElems, hy, hys, ofList]
  | [], _ :: _, h => h.elim
  | _ :: _, [], h => h.elim

end ZV.C18
