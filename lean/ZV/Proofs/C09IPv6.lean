import ZV.Proofs.C09IPv4
/-!
  Declarative specification of the IPv6 text syntax accepted by `netip.parseIPv6`
  (without zones, as `net.ParseIP` uses it): `V6Spec`, which mentions no model function.

  Of the proof that the model's `parseIPv6` accepts exactly that syntax with exactly that value
  (`parseIPv6_iff`, in C09IPv6Loop) this file has the first part: the inner hex loop reads exactly one
  `IsHexGroup`, and one iteration of the group loop ends in one of the five ways of `V6Step`
  (`v6Loop_step`), which with `v6Loop_full` is all that C09IPv6Loop uses of `v6Loop`.
-/
namespace ZV.C09

/-- an ASCII hexadecimal digit (either case) -/
def IsHexCh (c : UInt8) : Prop :=
  (48 ≤ c.toNat ∧ c.toNat ≤ 57) ∨ (97 ≤ c.toNat ∧ c.toNat ≤ 102) ∨ (65 ≤ c.toNat ∧ c.toNat ≤ 70)

/-- value of a hexadecimal digit -/
def hexNat (c : UInt8) : Nat :=
  if c.toNat ≤ 57 then c.toNat - 48 else if c.toNat ≤ 70 then c.toNat - 55 else c.toNat - 87

/-- value of a hexadecimal digit string (most significant digit first) -/
def hexVal (g : Str) : Nat := g.foldl (fun acc c => acc * 16 + hexNat c) 0

/-- `g` is the text of one 16-bit group with value `v`: one to four hex digits. -/
structure IsHexGroup (g : Str) (v : Nat) : Prop where
  ne : g ≠ []
  len : g.length ≤ 4
  hex : ∀ c ∈ g, IsHexCh c
  val : hexVal g = v

/-- big-endian bytes of a 16-bit group -/
def groupBytes (v : Nat) : List UInt8 := [UInt8.ofNat (v / 256), UInt8.ofNat (v % 256)]

/-- A non-empty sequence of hex groups separated by single colons, optionally ending in an
    embedded dotted quad (flag `true`), with the bytes it denotes. -/
inductive V6Seq : Str → List UInt8 → Bool → Prop
  | one {g : Str} {v : Nat} : IsHexGroup g v → V6Seq g (groupBytes v) false
  | quad {q : Str} {a b c d : UInt8} : DottedQuad q a b c d → V6Seq q [a, b, c, d] true
  | cons {g : Str} {v : Nat} {t : Str} {bs : List UInt8} {hq : Bool} :
      IsHexGroup g v → V6Seq t bs hq → V6Seq (g ++ 58 :: t) (groupBytes v ++ bs) hq

/-- what may stand left of "::" : nothing, or groups only -/
def V6Left (l : Str) (L : List UInt8) : Prop := (l = [] ∧ L = []) ∨ V6Seq l L false

/-- what may stand right of "::" : nothing, or groups optionally ending in a dotted quad -/
def V6Right (r : Str) (R : List UInt8) : Prop := (r = [] ∧ R = []) ∨ ∃ hq, V6Seq r R hq

/-- The IPv6 text forms: either eight groups (the last two possibly written as a dotted
    quad) with no "::", or exactly one "::" standing for at least one zero group. -/
def V6Spec (s : Str) (ip : List UInt8) : Prop :=
  (∃ hq, V6Seq s ip hq ∧ ip.length = 16) ∨
  (∃ l r L R, s = l ++ 58 :: 58 :: r ∧ V6Left l L ∧ V6Right r R ∧ L.length + R.length < 16 ∧
    ip = L ++ List.replicate (16 - (L.length + R.length)) 0 ++ R)

theorem hexDigitVal_of_hex {c : UInt8} (h : IsHexCh c) : hexDigitVal c = some (hexNat c) := by
  simp only [hexDigitVal, hexNat]
  rcases h with ⟨h1, h2⟩ | ⟨h1, h2⟩ | ⟨h1, h2⟩
  · rw [if_pos ⟨h1, h2⟩, if_pos h2]
  · rw [if_neg (by omega), if_pos ⟨h1, h2⟩, if_neg (by omega), if_neg (by omega)]
    exact congrArg some ((Nat.sub_add_comm h1).symm.trans (Nat.add_sub_add_right _ 10 87))
  · rw [if_neg (by omega), if_neg (by omega), if_pos ⟨h1, h2⟩, if_neg (by omega), if_pos h2]
    exact congrArg some ((Nat.sub_add_comm h1).symm.trans (Nat.add_sub_add_right _ 10 55))

theorem hexDigitVal_of_not_hex {c : UInt8} (h : ¬ IsHexCh c) : hexDigitVal c = none := by
  simp only [hexDigitVal]
  simp only [IsHexCh, not_or] at h
  rw [if_neg h.1, if_neg h.2.1, if_neg h.2.2]

theorem hexDigitVal_some {c : UInt8} {d : Nat} (h : hexDigitVal c = some d) : IsHexCh c ∧ d = hexNat c := by
  by_cases hc : IsHexCh c
  · rw [hexDigitVal_of_hex hc] at h
    cases h
    exact ⟨hc, rfl⟩
  · rw [hexDigitVal_of_not_hex hc] at h; cases h

theorem hexNat_lt {c : UInt8} (h : IsHexCh c) : hexNat c < 16 := by
  simp only [hexNat]
  rcases h with ⟨h1, h2⟩ | ⟨h1, h2⟩ | ⟨h1, h2⟩
  · rw [if_pos h2]
    exact Nat.lt_of_le_of_lt (Nat.sub_le_sub_right h2 48) (by decide)
  · rw [if_neg (by omega), if_neg (by omega)]
    exact Nat.lt_of_le_of_lt (Nat.sub_le_sub_right h2 87) (by decide)
  · rw [if_neg (by omega), if_pos h2]
    exact Nat.lt_of_le_of_lt (Nat.sub_le_sub_right h2 55) (by decide)

theorem isDec_isHex {c : UInt8} (h : IsDec c) : IsHexCh c := Or.inl h

theorem isHex_ne_colon {c : UInt8} (h : IsHexCh c) : c ≠ 58 := by
  rintro rfl
  simp [IsHexCh] at h

theorem isHex_ne_dot {c : UInt8} (h : IsHexCh c) : c ≠ dot := by
  rintro rfl
  simp [IsHexCh, dot] at h

theorem isHex_ne_pct {c : UInt8} (h : IsHexCh c) : c ≠ 37 := by
  rintro rfl
  simp [IsHexCh] at h

theorem not_hex_colon : ¬ IsHexCh 58 := fun h => isHex_ne_colon h rfl
theorem not_hex_dot : ¬ IsHexCh dot := fun h => isHex_ne_dot h rfl

theorem pow16_le (off : Nat) (h : off ≤ 4) : 16 ^ off ≤ 65536 :=
  Nat.pow_le_pow_right (n := 16) (by decide) h

theorem hex_shift_lt {c : UInt8} {acc off : Nat} (hc : IsHexCh c) (hacc : acc < 16 ^ off) :
    acc * 16 + hexNat c < 16 ^ (off + 1) := by
  have hd := hexNat_lt hc
  have : (acc + 1) * 16 ≤ 16 ^ off * 16 := Nat.mul_le_mul_right 16 hacc
  rw [Nat.pow_succ]
  omega

theorem foldl_hex_lt (g : Str) : ∀ (acc off : Nat), (∀ c ∈ g, IsHexCh c) → acc < 16 ^ off →
    g.foldl (fun a c => a * 16 + hexNat c) acc < 16 ^ (off + g.length) := by
  induction g with
  | nil => exact fun _ _ _ h => h
  | cons c g ih =>
    intro acc off hg hacc
    obtain ⟨hc, hg'⟩ := List.forall_mem_cons.mp hg
    have := ih (acc * 16 + hexNat c) (off + 1) hg' (hex_shift_lt hc hacc)
    have e : off + 1 + g.length = off + (g.length + 1) := Nat.add_right_comm off 1 g.length
    simpa only [List.foldl_cons, List.length_cons, e] using this

theorem hexRun_exists (s : Str) :
    ∃ g x, s = g ++ x ∧ (∀ c ∈ g, IsHexCh c) ∧ ∀ c, x.head? = some c → ¬ IsHexCh c := by
  induction s with
  | nil => exact ⟨[], [], rfl, nofun, nofun⟩
  | cons c r ih =>
    by_cases hc : IsHexCh c
    · obtain ⟨g, x, rfl, hg, hx⟩ := ih
      exact ⟨c :: g, x, rfl, List.forall_mem_cons.mpr ⟨hc, hg⟩, hx⟩
    · exact ⟨[], c :: r, rfl, nofun, fun y hy => Option.some.inj hy ▸ hc⟩

/-- the loop fails only at a fifth digit: its test for a value above 0xFFFF never fires
    (`acc < 16 ^ off` with `off ≤ 4`) -/
theorem hexGroup_run (g x : Str) (hx : ∀ c, x.head? = some c → ¬ IsHexCh c) : ∀ (acc off : Nat),
    (∀ c ∈ g, IsHexCh c) → off ≤ 4 → acc < 16 ^ off →
    hexGroup acc off (g ++ x) =
      if off + g.length ≤ 4 then some (g.foldl (fun a c => a * 16 + hexNat c) acc, off + g.length, x) else none := by
  induction g with
  | nil =>
    intro acc off _ hoff _
    rw [if_pos (show off + ([] : Str).length ≤ 4 from hoff)]
    cases x with
    | nil => rfl
    | cons c r =>
      rw [List.nil_append, hexGroup, hexDigitVal_of_not_hex (hx c rfl)]
      rfl
  | cons c g ih =>
    intro acc off hg hoff hacc
    obtain ⟨hc, hg'⟩ := List.forall_mem_cons.mp hg
    simp only [List.cons_append, hexGroup, hexDigitVal_of_hex hc, List.length_cons, List.foldl_cons]
    by_cases h3 : off > 3
    · rw [if_pos h3, if_neg (by omega)]
    · have hacc' := hex_shift_lt hc hacc
      have hle := pow16_le (off + 1) (by omega)
      rw [if_neg h3, if_neg (by omega), ih _ _ hg' (by omega) hacc', Nat.add_right_comm off 1 g.length]
      rfl

theorem hexGroup_start (g x : Str) (hg : ∀ c ∈ g, IsHexCh c) (hx : ∀ c, x.head? = some c → ¬ IsHexCh c) :
    hexGroup 0 0 (g ++ x) = if g.length ≤ 4 then some (hexVal g, g.length, x) else none := by
  have h := hexGroup_run g x hx 0 0 hg (by decide) (by decide)
  rwa [Nat.zero_add] at h

theorem v6Loop_full (ip : List UInt8) (ell : Option Nat) (s : Str) (h : ¬ ip.length < 16) :
    v6Loop ip ell s = some (ip, ell, s) := by
  rw [v6Loop, if_neg h]

/-- the five ways one iteration of the `for i < 16` loop can end without an error, once it has read
    a first group of value `v`: `s'` is what follows the group, `s` the whole input of the iteration
    (an embedded IPv4 address is parsed from its start), the last index the result. -/
inductive V6Step (ip : List UInt8) (ell : Option Nat) (s : Str) (v : Nat) :
    Str → List UInt8 × Option Nat × Str → Prop
  | last : V6Step ip ell s v [] (ip ++ groupBytes v, ell, [])
  | quad {rest : Str} {f : List UInt8} : (ell ≠ none ∨ ip.length = 12) → ip.length + 4 ≤ 16 →
      parseIPv4Fields s = some f → V6Step ip ell s v (dot :: rest) (ip ++ f, ell, [])
  | ellEnd : ell = none → V6Step ip ell s v [58, 58] (ip ++ groupBytes v, some (ip.length + 2), [])
  | ellMid {rest2 : Str} {r : List UInt8 × Option Nat × Str} : rest2 ≠ [] → ell = none →
      v6Loop (ip ++ groupBytes v) (some (ip.length + 2)) rest2 = some r → V6Step ip ell s v (58 :: 58 :: rest2) r
  | colon {c2 : UInt8} {rest2 : Str} {r : List UInt8 × Option Nat × Str} : c2 ≠ 58 →
      v6Loop (ip ++ groupBytes v) ell (c2 :: rest2) = some r → V6Step ip ell s v (58 :: c2 :: rest2) r

theorem V6Step.head {ip : List UInt8} {ell : Option Nat} {s s' : Str} {v : Nat} {r : List UInt8 × Option Nat × Str}
    (h : V6Step ip ell s v s' r) : ∀ c, s'.head? = some c → ¬ IsHexCh c := by
  intro c hc
  cases h with
  | last => cases hc
  | quad => exact Option.some.inj hc ▸ not_hex_dot
  | ellEnd => exact Option.some.inj hc ▸ not_hex_colon
  | ellMid => exact Option.some.inj hc ▸ not_hex_colon
  | colon => exact Option.some.inj hc ▸ not_hex_colon

theorem v6Loop_step (ip : List UInt8) (ell : Option Nat) (s : Str)
    (r : List UInt8 × Option Nat × Str) (hlt : ip.length < 16) :
    v6Loop ip ell s = some r ↔ ∃ g v s', s = g ++ s' ∧ IsHexGroup g v ∧ V6Step ip ell s v s' r := by
  rw [v6Loop, if_pos hlt]
  constructor
  · intro h
    obtain ⟨g, s', rfl, hgx, hx⟩ := hexRun_exists s
    rw [hexGroup_start g s' hgx hx] at h
    by_cases hlen : g.length ≤ 4
    · rw [if_pos hlen] at h
      dsimp only at h
      by_cases hoff : g.length = 0
      · rw [if_pos hoff] at h; cases h
      rw [if_neg hoff] at h
      refine ⟨g, _, s', rfl, ⟨fun e => hoff (e ▸ rfl), hlen, hgx, rfl⟩, ?_⟩
      cases s' with
      | nil =>
        cases h
        exact .last
      | cons c rest =>
        dsimp only at h
        by_cases hdot : c = dot
        · subst hdot
          rw [if_pos rfl] at h
          by_cases h1 : ell = none ∧ ip.length ≠ 12
          · rw [if_pos h1] at h; cases h
          rw [if_neg h1] at h
          by_cases h3 : ip.length + 4 > 16
          · rw [if_pos h3] at h; cases h
          rw [if_neg h3] at h
          cases hp : parseIPv4Fields (g ++ dot :: rest) with
          | none => rw [hp] at h; cases h
          | some f =>
            rw [hp] at h
            cases h
            exact .quad ((Decidable.not_and_iff_not_or_not.mp h1).imp id Decidable.not_not.mp)
              (Nat.le_of_not_gt h3) hp
        · rw [if_neg hdot] at h
          by_cases h58 : c = 58
          · subst h58
            rw [if_neg (not_not_intro rfl)] at h
            cases rest with
            | nil => cases h
            | cons c2 rest2 =>
              dsimp only at h
              by_cases h2 : c2 = 58
              · subst h2
                rw [if_pos rfl] at h
                cases ell with
                | some e => cases h
                | none =>
                  rw [if_neg (by simp), List.length_append] at h
                  cases rest2 with
                  | nil =>
                    cases h
                    exact .ellEnd rfl
                  | cons x rest3 => exact .ellMid (List.cons_ne_nil x rest3) rfl h
              · rw [if_neg h2] at h
                exact .colon h2 h
          · rw [if_pos h58] at h; cases h
    · rw [if_neg hlen] at h
      cases h
  · rintro ⟨g, v, s', rfl, hg, halt⟩
    rw [hexGroup_start g s' hg.hex halt.head, if_pos hg.len, hg.val]
    dsimp only
    rw [if_neg (fun e => hg.ne (List.length_eq_zero_iff.mp e))]
    cases halt with
    | last => rfl
    | quad hcond hroom hf =>
      dsimp only
      rw [if_pos rfl, if_neg (fun h => hcond.elim (fun h' => h' h.1) h.2), if_neg (by omega), hf]
    | ellEnd he =>
      subst he
      simp [groupBytes, dot]
    | @ellMid rest2 r hne he hrec =>
      subst he
      cases rest2 with
      | nil => exact absurd rfl hne
      | cons x rest3 => simpa [groupBytes, dot] using hrec
    | colon hc2 hrec => simpa [groupBytes, dot, hc2] using hrec

end ZV.C09
