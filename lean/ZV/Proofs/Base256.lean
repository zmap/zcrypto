import ZV.Base
/-!
  The big-endian value of a byte string (`big.Int.SetBytes`, `binary.BigEndian.Uint16/32/64`, cryptobyte's `readUnsigned`)
  and its two writers: `fixBE k v`, the `k` low-order base-256 digits of `v` (`FillBytes`, `PutUint*`, `AddUint*`), and
  `minBE n`, the digits of `n` without leading zeros (`big.Int.Bytes`).  The models carry their own executable copies under
  their own names; a proof module identifies its copy with the one here (`rfl` for the same fold, a short induction
  otherwise) and takes the arithmetic from this file.
-/
namespace ZV

def be256 (bs : Bytes) : Nat := bs.foldl (fun a b => a * 256 + b.toNat) 0

theorem toNat_ofNat_256 (n : Nat) : (UInt8.ofNat n).toNat = n % 256 := UInt8.toNat_ofNat'

theorem be256_nil : be256 [] = 0 := rfl

theorem be256_foldl (bs : Bytes) (a : Nat) :
    bs.foldl (fun a b => a * 256 + b.toNat) a = a * 256 ^ bs.length + be256 bs := by
  induction bs generalizing a with
  | nil => exact (Nat.mul_one a).symm
  | cons b r ih =>
    rw [be256, List.foldl_cons, List.foldl_cons, ih, ih (0 * 256 + b.toNat), List.length_cons, Nat.pow_succ,
      Nat.zero_mul, Nat.zero_add, Nat.add_mul, Nat.mul_assoc, Nat.mul_comm 256, Nat.add_assoc]

theorem be256_cons (b : UInt8) (bs : Bytes) : be256 (b :: bs) = b.toNat * 256 ^ bs.length + be256 bs := by
  rw [be256, List.foldl_cons, be256_foldl, Nat.zero_mul, Nat.zero_add]

theorem be256_snoc (bs : Bytes) (b : UInt8) : be256 (bs ++ [b]) = be256 bs * 256 + b.toNat := by
  rw [be256, List.foldl_append]
  rfl

theorem be256_lt (bs : Bytes) : be256 bs < 256 ^ bs.length := by
  induction bs with
  | nil => exact Nat.one_pos
  | cons b r ih =>
    rw [be256_cons, List.length_cons, Nat.pow_succ, Nat.mul_comm _ 256]
    calc b.toNat * 256 ^ r.length + be256 r
        < b.toNat * 256 ^ r.length + 256 ^ r.length := Nat.add_lt_add_left ih _
      _ = (b.toNat + 1) * 256 ^ r.length := (Nat.succ_mul _ _).symm
      _ ≤ 256 * 256 ^ r.length := Nat.mul_le_mul_right _ b.toNat_lt

theorem be256_zero_cons (bs : Bytes) : be256 ((0 : UInt8) :: bs) = be256 bs := by
  rw [be256_cons, UInt8.toNat_zero, Nat.zero_mul, Nat.zero_add]

theorem be256_replicate_zero (n : Nat) (bs : Bytes) : be256 (List.replicate n (0 : UInt8) ++ bs) = be256 bs := by
  induction n with
  | zero => rfl
  | succ n ih => rw [List.replicate_succ, List.cons_append, be256_zero_cons, ih]

theorem be256_head_le {b : UInt8} (h : b ≠ 0) (bs : Bytes) : 256 ^ bs.length ≤ be256 (b :: bs) := by
  have hb : 1 ≤ b.toNat := Nat.pos_of_ne_zero fun h0 => h (UInt8.toNat_inj.mp h0)
  rw [be256_cons]
  calc 256 ^ bs.length = 1 * 256 ^ bs.length := (Nat.one_mul _).symm
    _ ≤ b.toNat * 256 ^ bs.length := Nat.mul_le_mul_right _ hb
    _ ≤ _ := Nat.le_add_right _ _

theorem digit_split {P a a' v v' : Nat} (hv : v < P) (hv' : v' < P) (h : a * P + v = a' * P + v') :
    a = a' ∧ v = v' := by
  have hP : 0 < P := Nat.zero_lt_of_lt hv
  have hd := congrArg (· / P) h
  have hm := congrArg (· % P) h
  rw [Nat.add_comm, Nat.add_mul_div_right _ _ hP, Nat.div_eq_of_lt hv, Nat.zero_add,
    Nat.add_comm, Nat.add_mul_div_right _ _ hP, Nat.div_eq_of_lt hv', Nat.zero_add] at hd
  rw [Nat.add_comm, Nat.add_mul_mod_self_right, Nat.mod_eq_of_lt hv,
    Nat.add_comm, Nat.add_mul_mod_self_right, Nat.mod_eq_of_lt hv'] at hm
  exact ⟨hd, hm⟩

theorem be256_inj : ∀ (a b : Bytes), a.length = b.length → be256 a = be256 b → a = b
  | [], [], _, _ => rfl
  | [], _ :: _, hl, _ => absurd hl (Nat.succ_ne_zero _).symm
  | _ :: _, [], hl, _ => absurd hl (Nat.succ_ne_zero _)
  | x :: a, y :: b, hl, h => by
    have hl' : a.length = b.length := Nat.succ.inj hl
    rw [be256_cons, be256_cons, hl'] at h
    obtain ⟨hx, hv⟩ := digit_split (hl' ▸ be256_lt a) (be256_lt b) h
    rw [UInt8.toNat_inj.mp hx, be256_inj a b hl' hv]

def fixBE : Nat → Nat → Bytes
  | 0, _ => []
  | k + 1, v => UInt8.ofNat (v / 256 ^ k) :: fixBE k v

theorem fixBE_length (k v : Nat) : (fixBE k v).length = k := by
  induction k with
  | zero => rfl
  | succ k ih => rw [fixBE, List.length_cons, ih]

theorem be256_fixBE (k v : Nat) : be256 (fixBE k v) = v % 256 ^ k := by
  induction k with
  | zero => exact (Nat.mod_one v).symm
  | succ k ih =>
    rw [fixBE, be256_cons, fixBE_length, ih, toNat_ofNat_256, Nat.mod_pow_succ, Nat.add_comm, Nat.mul_comm]

theorem be256_fixBE_of_lt {k v : Nat} (h : v < 256 ^ k) : be256 (fixBE k v) = v := by
  rw [be256_fixBE, Nat.mod_eq_of_lt h]

theorem fixBE_be256 (bs : Bytes) : fixBE bs.length (be256 bs) = bs :=
  be256_inj _ _ (fixBE_length _ _) (be256_fixBE_of_lt (be256_lt bs))

theorem fixBE_succ_snoc (k v : Nat) : fixBE (k + 1) v = fixBE k (v / 256) ++ [UInt8.ofNat v] := by
  induction k with
  | zero =>
    rw [fixBE, fixBE, Nat.pow_zero, Nat.div_one]
    rfl
  | succ k ih =>
    rw [fixBE, ih, fixBE, Nat.div_div_eq_div_mul, Nat.pow_succ, Nat.mul_comm 256]
    rfl

def minBE (n : Nat) : Bytes :=
  if n = 0 then [] else minBE (n / 256) ++ [UInt8.ofNat (n % 256)]
decreasing_by omega

theorem minBE_zero : minBE 0 = [] := by
  rw [minBE, if_pos rfl]

theorem minBE_pos {n : Nat} (h : n ≠ 0) : minBE n = minBE (n / 256) ++ [UInt8.ofNat (n % 256)] := by
  rw [minBE, if_neg h]

/-- how a model's copy is identified with `minBE` -/
theorem minBE_unique {f : Nat → Bytes} (h0 : f 0 = [])
    (hs : ∀ n, n ≠ 0 → f n = f (n / 256) ++ [UInt8.ofNat (n % 256)]) (n : Nat) : f n = minBE n := by
  induction n using Nat.strongRecOn with
  | _ n ih =>
    by_cases h : n = 0
    · rw [h, h0, minBE_zero]
    · rw [hs n h, minBE_pos h, ih (n / 256) (Nat.div_lt_self (Nat.pos_of_ne_zero h) (by decide))]

theorem be256_minBE (n : Nat) : be256 (minBE n) = n := by
  induction n using Nat.strongRecOn with
  | _ n ih =>
    by_cases h : n = 0
    · rw [h, minBE_zero, be256_nil]
    · rw [minBE_pos h, be256_snoc, ih (n / 256) (Nat.div_lt_self (Nat.pos_of_ne_zero h) (by decide)),
        toNat_ofNat_256, Nat.mod_mod, Nat.div_add_mod']

theorem minBE_length_le : ∀ (k n : Nat), n < 256 ^ k → (minBE n).length ≤ k
  | 0, n, h => by
    rw [Nat.lt_one_iff.mp h, minBE_zero]
    exact Nat.le_refl 0
  | k + 1, n, h => by
    by_cases h0 : n = 0
    · rw [h0, minBE_zero]
      exact Nat.zero_le _
    · rw [minBE_pos h0, List.length_append, List.length_singleton]
      exact Nat.succ_le_succ (minBE_length_le k (n / 256) (Nat.div_lt_of_lt_mul (Nat.mul_comm _ _ ▸ h)))

theorem minBE_ne_nil {n : Nat} (h : n ≠ 0) : minBE n ≠ [] := by
  rw [minBE_pos h]
  exact List.append_ne_nil_of_right_ne_nil _ (List.cons_ne_nil _ _)

theorem minBE_head_ne_zero (n : Nat) : (minBE n).head? ≠ some 0 := by
  induction n using Nat.strongRecOn with
  | _ n ih =>
    by_cases h : n = 0
    · rw [h, minBE_zero]
      exact nofun
    · rw [minBE_pos h, List.head?_append]
      by_cases h1 : n / 256 = 0
      · intro e
        rw [h1, minBE_zero] at e
        have e0 := congrArg UInt8.toNat (Option.some.inj e)
        rw [toNat_ofNat_256, Nat.mod_mod] at e0
        rw [← Nat.div_add_mod n 256, h1, e0] at h
        exact h rfl
      · cases hm : minBE (n / 256) with
        | nil => exact absurd hm (minBE_ne_nil h1)
        | cons x xs =>
          have hx := ih (n / 256) (Nat.div_lt_self (Nat.pos_of_ne_zero h) (by decide))
          rw [hm] at hx
          exact hx

/-- `big.Int.Bytes ∘ SetBytes` is the identity on a string that does not start with a zero byte: the value lies in
    `[256 ^ (len - 1), 256 ^ len)`, so `minBE` of it has the same length, and `be256` is injective at equal length -/
theorem minBE_be256_cons {b : UInt8} (h : b ≠ 0) (t : Bytes) : minBE (be256 (b :: t)) = b :: t := by
  refine be256_inj _ _ (Nat.le_antisymm (minBE_length_le _ _ (be256_lt (b :: t))) ?_) (be256_minBE _)
  refine Nat.le_of_not_lt fun hlt => ?_
  have h1 := be256_lt (minBE (be256 (b :: t)))
  rw [be256_minBE] at h1
  have h2 := Nat.pow_le_pow_right (n := 256) (by decide) (Nat.le_of_lt_succ hlt)
  exact Nat.lt_irrefl _ (Nat.lt_of_lt_of_le h1 (Nat.le_trans h2 (be256_head_le h t)))

theorem be256_map_compl {f : UInt8 → UInt8} (hf : ∀ b, (f b).toNat = 255 - b.toNat) (bs : Bytes) :
    be256 (bs.map f) + be256 bs + 1 = 256 ^ bs.length := by
  induction bs with
  | nil => rfl
  | cons b r ih =>
    have hb := b.toNat_lt
    rw [List.map_cons, be256_cons, be256_cons, hf, List.length_map, List.length_cons, Nat.pow_succ, Nat.sub_mul]
    have : b.toNat * 256 ^ r.length ≤ 255 * 256 ^ r.length := Nat.mul_le_mul_right _ (Nat.le_of_lt_succ hb)
    omega

end ZV
