import ZV.Model.C20X
import ZV.Model.C18Time
import ZV.Proofs.C20
import ZV.Proofs.C19Time
/-! C20, x509 level: the `asn1.Unmarshal` wrappers of `ZV.Model.C20X` (`un`, the ANY check, `unRDN`, `unCDP`, the two
    time parsers) and the combinators the element functions are built from (`chainLoop`, `guardStep`; a `match` on a
    decoded value goes through `perm_elim`, one on a loop step through `pair_elim`), all in the form
    `f false … = y → f true … = y` of `ZV.Proofs.C20`; then `parsePublicKey`, `parseGeneralNames` and the extension loop of
    `parseCertificate`, each proof following its definition arm by arm. -/
namespace ZV.C20.X
open ZV.C18

theorem unm_perm (s : Schema) (p : Params) (bs : Bytes) (r : Val × Bytes) (h : unmarshal false s p bs = .ok r) :
    unmarshal true s p bs = .ok r := (perm_both s).1 p bs r h

/- `perm_elim` finds the two runs in the goal by unification; when it meets the other run, `unmarshal false … =?= unmarshal true …`
   must fail at the flag and not by running the decoder on the closed schema of the call. -/
attribute [local irreducible] unmarshal

theorem un_perm (s : Schema) (p : Params) (bs : Bytes) (v : Val) : un false s p bs = .ok v → un true s p bs = .ok v := by
  unfold un
  exact perm_elim (unm_perm s p bs) (fun _ => id) of_err_eq_ok of_err_eq_ok

theorem un_ne_panic (perm : Bool) (s : Schema) (p : Params) (bs : Bytes) : un perm s p bs ≠ .panic := by
  unfold un; split <;> simp

/-- `perm_elim` as a term, for a step that tries to decode a value and cannot reach `y` by failing to -/
theorem tryVal_perm {β : Type} {r r' : Res Val} {k k' : Val → β} {e e' q q' y : β}
    (h : (match r with | .ok x => k x | .err => e | .panic => q) = y)
    (hr : ∀ x, r = .ok x → r' = .ok x) (hk : ∀ x, k x = y → k' x = y) (he : e ≠ y) (hq : q ≠ y) :
    (match (generalizing := false) r' with | .ok x => k' x | .err => e' | .panic => q') = y := by
  revert h
  exact perm_elim hr hk (absurd · he) (absurd · hq)

/-- an element function of a loop returns `(state, continue?)`; stopping is not the successful outcome -/
theorem stop_ne {σ : Type} {a r : σ} : (a, false) ≠ (r, true) := fun h => Bool.noConfusion (congrArg Prod.snd h)

/-- `perm_elim` for a step that returns `(state, continue?)` -/
@[elab_as_elim]
theorem pair_elim {σ : Type} {x x' : σ × Bool} {C : σ × Bool → σ × Bool → Prop} (h : ∀ a, x = (a, true) → x' = (a, true))
    (go : ∀ a, C (a, true) (a, true)) (stop : ∀ a, C (a, false) x') : C x x' := by
  obtain ⟨a, b⟩ := x
  cases b
  · exact stop a
  · rw [h a rfl]
    exact go a

theorem chainLoop_perm {σ : Type} (f g : Val → σ → σ × Bool) (hfg : ∀ v a r, f v a = (r, true) → g v a = (r, true))
    (c : Val) (acc r : σ) : chainLoop f c acc = (r, true) → chainLoop g c acc = (r, true) := by
  induction c generalizing acc with
  | vcons a rest _ ihr =>
    simp only [chainLoop]
    exact pair_elim (hfg a acc) (fun x => ihr x) (fun _ => (absurd · stop_ne))
  | _ => exact id

theorem guardStep_perm {α : Type} (rs rp : Res α) (us up : α → Res Cert) (out o : Cert)
    (hr : ∀ x, rs = .ok x → rp = .ok x) (hu : ∀ x, us x = .ok o → up x = .ok o) :
    guardStep false rs us out = .ok o → guardStep true rp up out = .ok o :=
  perm_elim hr hu of_err_eq_ok of_panic_eq_ok

theorem utctime_perm (s : Bytes) (t : ZV.Time.GoTime) (h : ZV.Time.EA.parseUTCTime false s = .ok t) :
    ZV.Time.EA.parseUTCTime true s = .ok t := by
  obtain ⟨layout, ret, hl, _, ht⟩ := ZV.Time.EA.parseUTCTime_ok.1 h
  exact ZV.Time.EA.parseUTCTime_ok.2 ⟨layout, ret, hl, rfl, ht⟩

theorem gentime_perm (s : Bytes) (t : ZV.Time.GoTime) (h : ZV.Time.EA.parseGeneralizedTime false s = .ok t) :
    ZV.Time.EA.parseGeneralizedTime true s = .ok t :=
  ZV.Time.EA.parseGeneralizedTime_ok.2 ⟨(ZV.Time.EA.parseGeneralizedTime_ok.1 h).1, rfl⟩

theorem parseTimeBody_perm (u : Nat) (s : Bytes) (t : ZV.Time.GoTime) (h : ZV.Time.EA.parseTimeBody false u s = .ok t) :
    ZV.Time.EA.parseTimeBody true u s = .ok t :=
  ite_perm (utctime_perm s t) (gentime_perm s t) h

theorem isOk_mono {α : Type} {a b : Res α} (h : ∀ v, a = .ok v → b = .ok v) (ha : a.isOk = true) : b.isOk = true :=
  Res.isOk_iff.2 ((Res.isOk_iff.1 ha).imp h)

theorem anyPrim_perm (tag : Nat) (inner : Bytes) (h : anyPrim false tag inner = true) : anyPrim true tag inner = true := by
  unfold anyPrim at h ⊢
  exact (ite_perm (isOk_mono fun _ => parsePrintableString_perm) <|
    ite_perm (isOk_mono fun _ => parseNumericString_perm) <|
    ite_perm (isOk_mono fun _ => parseIA5String_perm) <|
    ite_perm id <|
    ite_perm (isOk_mono fun _ => parseUTF8String_perm) <|
    ite_perm (isOk_mono (parseInt64_perm inner)) <|
    ite_perm id <|
    ite_perm id <|
    ite_perm (isOk_mono (utctime_perm inner)) <|
    ite_perm (isOk_mono (gentime_perm inner)) id) h

theorem anyOk_perm (v : Val) (h : anyOk false v = true) : anyOk true v = true := by
  unfold anyOk at h ⊢
  split
  · exact ite_perm (anyPrim_perm _ _) id h
  · rfl

theorem atvOk_perm (v : Val) (h : atvOk false v = true) : atvOk true v = true := by
  unfold atvOk at h ⊢
  split
  · exact anyOk_perm _ h
  · rfl

theorem allChain_mono (f g : Val → Bool) (hfg : ∀ v, f v = true → g v = true) (v : Val) (h : allChain f v = true) :
    allChain g v = true := by
  induction v with
  | vcons a r _ ihr =>
    simp only [allChain, Bool.and_eq_true] at h ⊢
    exact ⟨hfg a h.1, ihr h.2⟩
  | _ => rfl

theorem rdnAnyOk_perm (v : Val) (h : rdnAnyOk false v = true) : rdnAnyOk true v = true :=
  allChain_mono _ _ (allChain_mono _ _ atvOk_perm) v h

theorem unRDN_perm (bs : Bytes) (v : Val) : unRDN false bs = .ok v → unRDN true bs = .ok v := by
  unfold unRDN
  exact perm_elim (un_perm rdnSchema {} bs) (fun w => ite_cond_perm (rdnAnyOk_perm w) nofun) of_err_eq_ok of_err_eq_ok

theorem unRDN_ne_panic (perm : Bool) (bs : Bytes) : unRDN perm bs ≠ .panic := by
  unfold unRDN; split <;> (try split) <;> simp

theorem dpAnyOk_perm (v : Val) (h : dpAnyOk false v = true) : dpAnyOk true v = true := by
  unfold dpAnyOk at h ⊢
  split
  · exact rdnAnyOk_perm _ h
  · rfl

theorem unCDP_perm (bs : Bytes) (v : Val) : unCDP false bs = .ok v → unCDP true bs = .ok v := by
  unfold unCDP
  exact perm_elim (un_perm cdpSchema {} bs) (fun w => ite_cond_perm (allChain_mono _ _ dpAnyOk_perm w) nofun)
    of_err_eq_ok of_err_eq_ok

/- `parseTL`, `explicitStage` and the time content parser occur in both runs of `parseTimeField`: they are told apart at the flag -/
attribute [local irreducible] parseTL explicitStage ZV.Time.EA.parseTimeBody

theorem parseTimeField_perm (p : Params) (bs : Bytes) (r : ZV.Time.GoTime × Bytes) :
    TimeField.parseTimeField false p bs = .ok r → TimeField.parseTimeField true p bs = .ok r := by
  unfold TimeField.parseTimeField
  refine ite_perm id ?_
  refine perm_elim (parseTL_perm bs) (fun x => ?_) of_err_eq_ok of_err_eq_ok
  obtain ⟨t0, r0⟩ := x
  dsimp only
  refine ex_elim (fun _ h hy => explicitStage_perm h hy) (fun y => ?_) of_err_eq_ok
  cases y with
  | cont t r' =>
    dsimp only
    refine ite_perm id (ite_perm id ?_)
    exact perm_elim (parseTimeBody_perm _ _) (fun _ => id) of_err_eq_ok of_panic_eq_ok
  | _ => exact id

/- as for `unmarshal`: the two runs of a loop that `pair_elim` tells apart differ in the flag, not by evaluation -/
attribute [local irreducible] chainLoop

theorem parsePublicKeyRSA_perm (bs : Bytes) (k : Key) : parsePublicKeyRSA false bs = .ok k → parsePublicKeyRSA true bs = .ok k := by
  unfold parsePublicKeyRSA
  refine perm_elim (unm_perm pkcs1Schema {} bs) (fun x => ?_) of_err_eq_ok of_err_eq_ok
  obtain ⟨v, rest⟩ := x
  refine ite_perm id fun h => ?_
  split at h
  · split at h
    · cases h
    · split at h
      · cases h
      · exact h
  · cases h

theorem parsePublicKeyDSA_perm (bs ps : Bytes) (k : Key) :
    parsePublicKeyDSA false bs ps = .ok k → parsePublicKeyDSA true bs ps = .ok k := by
  unfold parsePublicKeyDSA
  refine perm_elim (unm_perm .bigint {} bs) (fun x => ?_) of_err_eq_ok of_err_eq_ok
  obtain ⟨yv, rest⟩ := x
  refine ite_perm id ?_
  exact perm_elim (unm_perm dsaParamsSchema {} ps) (fun _ => id) of_err_eq_ok of_err_eq_ok

theorem parsePublicKeyECDSA_perm (ecOk : Nat → Bytes → Bool) (bs ps : Bytes) (k : Key) :
    parsePublicKeyECDSA ecOk false bs ps = .ok k → parsePublicKeyECDSA ecOk true bs ps = .ok k := by
  unfold parsePublicKeyECDSA
  exact perm_elim (unm_perm .oid {} ps) (fun _ => id) of_err_eq_ok of_err_eq_ok

theorem parsePublicKey_perm (ecOk : Nat → Bytes → Bool) (algo : Nat) (bs ps : Bytes) (k : Key)
    (h : parsePublicKey ecOk false algo bs ps = .ok k) : parsePublicKey ecOk true algo bs ps = .ok k :=
  (ite_perm (parsePublicKeyRSA_perm bs k) <| ite_perm (parsePublicKeyDSA_perm bs ps k) <|
    ite_perm (parsePublicKeyECDSA_perm ecOk bs ps k) id) h

theorem gnElem_perm (v : Val) (tag : Nat) (inner full : Bytes) (acc r : GN)
    (h : gnElem false v tag inner full acc = (r, true)) : gnElem true v tag inner full acc = (r, true) :=
  (ite_perm (tryVal_perm · (un_perm otherNameSchema { tag := some 0 } full) (fun _ => id) stop_ne stop_ne) <|
    ite_perm id <|
    ite_perm id <|
    ite_perm (tryVal_perm · (unRDN_perm inner) (fun _ => id) stop_ne stop_ne) <|
    ite_perm (tryVal_perm · (un_perm ediSchema { tag := some 5 } full) (fun _ => id) stop_ne stop_ne) <|
    ite_perm id <|
    ite_perm (ite_perm id (absurd · stop_ne)) <|
    ite_perm (tryVal_perm · (un_perm .oid { tag := some 8 } full) (fun _ => id) stop_ne stop_ne) id) h

attribute [local irreducible] gnElem

theorem gnLoop_perm (f : Nat) (bs : Bytes) (acc r : GN) : gnLoop false f bs acc = (r, true) → gnLoop true f bs acc = (r, true) := by
  induction f generalizing bs acc with
  | zero => cases bs <;> exact id
  | succ n ih =>
    cases bs with
    | nil => exact id
    | cons b t =>
      simp only [gnLoop]
      refine perm_elim (unm_perm .raw {} (b :: t)) (fun x => ?_) (absurd · stop_ne) (absurd · stop_ne)
      obtain ⟨v, rest⟩ := x
      cases v with
      | raw cls tag k inner full =>
        dsimp only
        exact pair_elim (gnElem_perm _ tag inner full acc) (fun a => ih rest a) (fun _ => (absurd · stop_ne))
      | _ => exact (absurd · stop_ne)

theorem parseGeneralNames_perm (value : Bytes) (r : GN) :
    parseGeneralNames false value = (r, true) → parseGeneralNames true value = (r, true) := by
  unfold parseGeneralNames
  refine perm_elim (unm_perm .raw {} value) (fun x => ?_) (absurd · stop_ne) (absurd · stop_ne)
  obtain ⟨v, rest⟩ := x
  cases v with
  | raw cls tag k inner full => exact ite_perm id (gnLoop_perm _ _ _ _)
  | _ => exact (absurd · stop_ne)

theorem ncPermitted_perm (st : Val) (acc r : List NCE) (h : ncPermitted false st acc = (r, true)) :
    ncPermitted true st acc = (r, true) := by
  unfold ncPermitted at h ⊢
  cases hp : subtreeParts st with
  | none => rw [hp] at h; exact h
  | some x =>
    obtain ⟨v, tag, inner, full, mn, mx⟩ := x
    simp only [hp] at h ⊢
    exact (ite_perm id <|
      ite_perm id <|
      ite_perm (tryVal_perm · (unRDN_perm inner) (fun _ => id) stop_ne stop_ne) <|
      ite_perm (tryVal_perm · (un_perm _ _ full) (fun _ => id) stop_ne stop_ne) <|
      ite_perm (ite_perm id (absurd · stop_ne)) <|
      ite_perm (tryVal_perm · (un_perm _ _ full) (fun _ => id) stop_ne stop_ne) id) h

theorem ncExcluded_perm (st : Val) (acc r : List NCE) (h : ncExcluded false st acc = (r, true)) :
    ncExcluded true st acc = (r, true) := by
  unfold ncExcluded at h ⊢
  cases hp : subtreeParts st with
  | none => rw [hp] at h; exact h
  | some x =>
    obtain ⟨v, tag, inner, full, mn, mx⟩ := x
    simp only [hp] at h ⊢
    exact (ite_perm id <|
      ite_perm id <|
      ite_perm (tryVal_perm · (unRDN_perm inner) (fun _ => id) stop_ne stop_ne) <|
      ite_perm (tryVal_perm · (un_perm _ _ inner) (fun _ => id) stop_ne stop_ne) <|
      ite_perm (ite_perm id (absurd · stop_ne)) <|
      ite_perm (tryVal_perm · (un_perm _ _ inner) (fun _ => id) stop_ne stop_ne) id) h

theorem ncApply_perm (critical : Bool) (c : Val) (out o : Cert) :
    ncApply false critical c out = .ok o → ncApply true critical c out = .ok o := by
  unfold ncApply
  split
  · dsimp only
    refine pair_elim (chainLoop_perm _ _ ncPermitted_perm _ _) (fun pl => ?_) (fun _ => of_err_eq_ok)
    exact pair_elim (chainLoop_perm _ _ ncExcluded_perm _ _) (fun _ => id) (fun _ => of_err_eq_ok)
  · exact of_panic_eq_ok

theorem dpLoop_perm (f : Nat) (bs : Bytes) (acc r : List Bytes) :
    dpLoop false f bs acc = (r, true) → dpLoop true f bs acc = (r, true) := by
  induction f generalizing bs acc with
  | zero => cases bs <;> exact id
  | succ n ih =>
    cases bs with
    | nil => exact id
    | cons b t =>
      simp only [dpLoop]
      refine perm_elim (unm_perm .raw {} (b :: t)) (fun x => ?_) (absurd · stop_ne) (absurd · stop_ne)
      obtain ⟨v, rest⟩ := x
      cases v with
      | raw _ tag _ inner _ => exact ih rest _
      | _ => exact (absurd · stop_ne)

theorem dpElem_perm (dp : Val) (acc r : List Bytes) (h : dpElem false dp acc = (r, true)) :
    dpElem true dp acc = (r, true) := by
  unfold dpElem at h ⊢
  split at h
  · exact ite_perm id (dpLoop_perm _ _ _ _) h
  · exact h

theorem qualNotice_perm (qid : List Int) (qfull : Bytes) (acc r : Pol) (h : qualNotice false qid qfull acc = (r, true)) :
    qualNotice true qid qfull acc = (r, true) :=
  ite_perm (tryVal_perm · (un_perm _ _ qfull) (fun _ => id) stop_ne stop_ne) id h

theorem qualCPS_perm (qid : List Int) (qfull : Bytes) (acc r : Pol) (h : qualCPS false qid qfull acc = (r, true)) :
    qualCPS true qid qfull acc = (r, true) :=
  ite_perm (tryVal_perm · (un_perm _ _ qfull) (fun _ => id) stop_ne stop_ne) id h

theorem qualElem_perm (q : Val) (acc r : Pol) : qualElem false q acc = (r, true) → qualElem true q acc = (r, true) := by
  unfold qualElem
  split
  · exact pair_elim (qualNotice_perm _ _ _) (fun a => qualCPS_perm _ _ a r) (fun _ => (absurd · stop_ne))
  · exact id

theorem polElem_perm (pv : Val) (acc r : List Pol) : polElem false pv acc = (r, true) → polElem true pv acc = (r, true) := by
  unfold polElem
  split
  · exact pair_elim (chainLoop_perm _ _ qualElem_perm _ _) (fun _ => id) (fun _ => (absurd · stop_ne))
  · exact id

/-- what the theorems assume of the opaque sub-parsers: each is itself conservative -/
structure Sub.Conservative (sub : Sub) : Prop where
  tor : ∀ v n, sub.tor false v = some n → sub.tor true v = some n
  sct : ∀ v n, sub.sct false v = (n, true) → sub.sct true v = (n, true)
  qc : ∀ v, sub.qcParse false v = some () → sub.qcParse true v = some ()

theorem parseSCTList_perm (deser : Nat → Bytes → Bool) (v : Bytes) (n : Nat) :
    parseSCTList deser false v = (n, true) → parseSCTList deser true v = (n, true) := by
  unfold parseSCTList
  exact perm_elim (un_perm .octets {} v) (fun _ => id) (absurd · stop_ne) (absurd · stop_ne)

/-- sub-parsers with the SCT list modelled: its component of `Sub.Conservative` is a theorem -/
def subWithSCT (deser : Nat → Bytes → Bool) (tor : Bool → Bytes → Option Nat) (qc : Bool → Bytes → Option Unit) : Sub :=
  { tor := tor, sct := parseSCTList deser, qcParse := qc }

theorem subWithSCT_conservative (deser : Nat → Bytes → Bool) (tor : Bool → Bytes → Option Nat) (qc : Bool → Bytes → Option Unit)
    (ht : ∀ v n, tor false v = some n → tor true v = some n) (hq : ∀ v, qc false v = some () → qc true v = some ()) :
    (subWithSCT deser tor qc).Conservative :=
  ⟨ht, parseSCTList_perm deser, hq⟩

theorem optRes_perm {α : Type} {o o' : Option α} (ho : ∀ x, o = some x → o' = some x) (x : α) (h : optRes o = .ok x) :
    optRes o' = .ok x := by
  cases o with
  | none => cases h
  | some y => rw [ho y rfl]; exact h

/-- `err != nil` of a whole sub-loop, handled like a failed `Unmarshal`: `g` is the sub-loop's `(result, err == nil)` -/
theorem gnStep_perm {σ : Type} (g gp : σ × Bool) (hg : ∀ r, g = (r, true) → gp = (r, true)) (mk : σ → Cert) (o : Cert) :
    (if !g.2 then (if false then Res.ok (mk g.1) else .err) else .ok (mk g.1)) = .ok o →
    (if !gp.2 then (if true then Res.ok (mk gp.1) else .err) else .ok (mk gp.1)) = .ok o :=
  pair_elim hg (fun _ => id) (fun _ => of_err_eq_ok)

theorem extStep_perm (sub : Sub) (hs : sub.Conservative) (e : Ext) (out o : Cert) (h : extStep sub false e out = .ok o) :
    extStep sub true e out = .ok o := by
  unfold extStep at h ⊢
  refine (ite_perm ?a <| ite_perm ?b <| ite_perm ?c <| ite_perm ?d <| ite_perm ?e <| ite_perm ?f <| ite_perm ?g <|
    ite_perm ?h <| ite_perm ?i <| ite_perm ?j <| ite_perm ?k <| ite_perm ?l <| ite_perm ?m <| ite_perm ?n id) h
  · exact gnStep_perm _ _ (parseGeneralNames_perm e.value)
      (fun g => { out with san := { g with failed := [] }, failedNames := g.failed }) o
  · exact gnStep_perm _ _ (parseGeneralNames_perm e.value)
      (fun g => { out with ian := { g with failed := [] }, failedNames := g.failed }) o
  · exact guardStep_perm _ _ _ _ _ _ (un_perm _ _ _) fun c => ncApply_perm _ c _ _
  · exact guardStep_perm _ _ _ _ _ _ (unCDP_perm _) fun c =>
      pair_elim (chainLoop_perm _ _ dpElem_perm c out.crldp) (fun _ => id) (fun _ => of_err_eq_ok)
  · exact guardStep_perm _ _ _ _ _ _ (un_perm _ _ _) fun _ => id
  · exact guardStep_perm _ _ _ _ _ _ (un_perm _ _ _) fun _ => id
  · exact guardStep_perm _ _ _ _ _ _ (un_perm _ _ _) fun _ => id
  · exact guardStep_perm _ _ _ _ _ _ (un_perm _ _ _) fun c =>
      pair_elim (chainLoop_perm _ _ polElem_perm c []) (fun _ => id) (fun _ => of_err_eq_ok)
  · exact guardStep_perm _ _ _ _ _ _ (un_perm _ _ _) fun _ => id
  · exact gnStep_perm _ _ (hs.sct e.value) (fun n => { out with scts := out.scts + n }) o
  · exact ite_perm id fun h => nomatch h
  · exact guardStep_perm _ _ _ _ _ _ (optRes_perm (hs.tor e.value)) fun _ => id
  · exact guardStep_perm _ _ _ _ _ _ (un_perm _ _ _) fun _ => id
  · exact guardStep_perm _ _ _ _ _ _ (un_perm _ _ _) fun _ =>
      guardStep_perm _ _ _ _ _ _ (optRes_perm fun _ => hs.qc e.value) fun _ => id

theorem parseExts_perm (sub : Sub) (hs : sub.Conservative) (es : List Ext) (out o : Cert) :
    parseExts sub false es out = .ok o → parseExts sub true es out = .ok o := by
  induction es generalizing out with
  | nil => exact id
  | cons e rest ih =>
    simp only [parseExts]
    exact perm_elim (extStep_perm sub hs e out) (fun out' => ih out') of_err_eq_ok of_panic_eq_ok

attribute [local irreducible] parsePublicKey parseExts

theorem parseCertificate_perm (ecOk : Nat → Bytes → Bool) (sub : Sub) (hs : sub.Conservative) (algo : Nat)
    (keyData paramsFull : Bytes) (exts : List Ext) (c : Cert) :
    parseCertificate ecOk sub false algo keyData paramsFull exts = .ok c →
    parseCertificate ecOk sub true algo keyData paramsFull exts = .ok c := by
  unfold parseCertificate
  exact perm_elim (parsePublicKey_perm ecOk algo keyData paramsFull) (fun _ => parseExts_perm sub hs exts _ c)
    of_err_eq_ok of_panic_eq_ok

end ZV.C20.X
