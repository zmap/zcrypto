import ZV.Proofs.C18Pre
import ZV.Proofs.ListFacts
import Mathlib.Tactic.SplitIfs
/-!
  C01 lifted to the reflective `encoding/asn1` engine, part one: the header reader, the stages of `parseField` in
  front of the type switch, and the two fuelled loops of the deep-embedded model `ZV.Model.C18`.

  Each function gets one statement `…_sat : Sat P (f …)`, where `P` says that what is left is a suffix of what was
  given (`Adv`) and bounds the numbers read. For the header reader and its parts the statement is `…_reads`, with
  `Reads` in place of `Adv`, so that suffix, progress and reading from an extension of the input
  (`C13.parseTL_append`) come from one induction.
-/
namespace ZV.C01Asn1
open ZV.C18
open ZV.Res (Sat)

/-- `r` is what is left of `bs` after consuming at least `k` bytes -/
def Adv (k : Nat) (r bs : Bytes) : Prop := r <:+ bs ∧ r.length + k ≤ bs.length

theorem Adv.refl (bs : Bytes) : Adv 0 bs bs := ⟨List.suffix_refl bs, by omega⟩

theorem Adv.cons {k : Nat} {r bs : Bytes} (b : UInt8) (h : Adv k r bs) : Adv (k + 1) r (b :: bs) :=
  ⟨List.IsSuffix.trans h.1 (List.suffix_cons b bs), by have := h.2; simp only [List.length_cons]; omega⟩

theorem Adv.trans {k j : Nat} {r m bs : Bytes} (h1 : Adv k r m) (h2 : Adv j m bs) : Adv (k + j) r bs :=
  ⟨List.IsSuffix.trans h1.1 h2.1, by have := h1.2; have := h2.2; omega⟩

theorem Adv.mono {k j : Nat} {r bs : Bytes} (hjk : j ≤ k) (h : Adv k r bs) : Adv j r bs :=
  ⟨h.1, by have := h.2; omega⟩

/-- `f` accepted `bs`, leaving a suffix at least `k` bytes shorter, and reads the same value, leaving the same suffix, when
    more bytes follow the input. (Stated on `bs ++ c` and not on a prefix of `bs`: in this form a reader that runs one
    reader after another inherits the fact by rewriting, with no prefix to exhibit.) -/
structure Reads {α : Type} (f : Bytes → Res (α × Bytes)) (k : Nat) (bs : Bytes) (x : α × Bytes) : Prop where
  adv : Adv k x.2 bs
  append : ∀ c, f (bs ++ c) = .ok (x.1, x.2 ++ c)

theorem base128_reads : ∀ (bs : Bytes) (sh acc : Nat),
    Sat (fun x => Reads (base128 sh acc) 1 bs x ∧ x.1 ≤ 2147483647) (base128 sh acc bs)
  | [], _, _ => by rw [base128]; trivial
  | b :: r, sh, acc => by
    rw [base128]
    refine .guard fun h1 => .guard fun h2 => ?_
    by_cases h3 : b.toNat < 128
    · rw [if_pos h3]
      refine .guard fun h4 => ⟨⟨(Adv.refl r).cons b, fun c => ?_⟩, Nat.le_of_not_lt h4⟩
      rw [List.cons_append, base128, if_neg h1, if_neg h2, if_pos h3, if_neg h4]
    · rw [if_neg h3]
      refine (base128_reads r _ _).mono fun x hx => ⟨⟨(hx.1.adv.cons b).mono (Nat.le_add_left 1 1), fun c => ?_⟩, hx.2⟩
      rw [List.cons_append, base128, if_neg h1, if_neg h2, if_neg h3, hx.1.append]

theorem parseLenBytes_reads : ∀ (n acc : Nat) (bs : Bytes), acc < 2147483648 →
    Sat (fun x => Reads (parseLenBytes n acc) n bs x ∧ x.1 < 2147483648) (parseLenBytes n acc bs)
  | 0, _, bs, ha => ⟨⟨Adv.refl bs, fun _ => rfl⟩, ha⟩
  | _ + 1, _, [], _ => by rw [parseLenBytes]; trivial
  | n + 1, acc, b :: r, _ => by
    rw [parseLenBytes]
    refine .guard fun h1 => .guard fun h2 => ?_
    have hb := UInt8.toNat_lt b
    refine (parseLenBytes_reads n _ r (by omega)).mono fun x hx => ⟨⟨hx.1.adv.cons b, fun c => ?_⟩, hx.2⟩
    rw [List.cons_append, parseLenBytes, if_neg h1, if_neg h2, hx.1.append]

theorem parseTagNum_reads (b : UInt8) (r1 : Bytes) :
    Sat (fun x => Reads (parseTagNum b) 0 r1 x ∧ x.1 ≤ 2147483647) (parseTagNum b r1) := by
  rw [parseTagNum]
  by_cases hb : b.toNat % 32 = 31
  · rw [if_pos hb]
    refine (base128_reads r1 0 0).elim (fun x hx => ?_) trivial
    obtain ⟨t, r⟩ := x
    dsimp only
    refine .guard fun ht => ⟨⟨hx.1.adv.mono (Nat.zero_le 1), fun c => ?_⟩, hx.2⟩
    rw [parseTagNum, if_pos hb, hx.1.append]
    exact if_neg ht
  · rw [if_neg hb]
    exact ⟨⟨Adv.refl r1, fun c => by rw [parseTagNum, if_neg hb]⟩, by omega⟩

theorem parseTL_reads (perm : Bool) : ∀ bs : Bytes,
    Sat (fun x => Reads (parseTL perm) 2 bs x ∧ x.1.cls < 4 ∧ x.1.tag ≤ 2147483647 ∧ x.1.len < 2147483648) (parseTL perm bs)
  | [] => by rw [parseTL]; trivial
  | b :: r1 => by
    rw [parseTL]
    have hb := UInt8.toNat_lt b
    refine (parseTagNum_reads b r1).elim (fun x hx => ?_) trivial
    obtain ⟨tag, r2⟩ := x
    cases r2 with
    | nil => trivial
    | cons b2 r3 =>
      have hb2 := UInt8.toNat_lt b2
      have h3 : Adv 2 r3 (b :: r1) := ((Adv.refl r3).cons b2).trans (hx.1.adv.cons b)
      dsimp only
      by_cases hs : b2.toNat < 128
      · rw [if_pos hs]
        refine ⟨⟨h3, fun c => ?_⟩, by dsimp only; omega, hx.2, by dsimp only; omega⟩
        rw [List.cons_append, parseTL, hx.1.append]
        dsimp only [List.cons_append]
        rw [if_pos hs]
      · rw [if_neg hs]
        refine .guard fun h0 => ?_
        refine (parseLenBytes_reads _ 0 r3 (by omega)).elim (fun y hy => ?_) trivial
        obtain ⟨len, r4⟩ := y
        refine .guard fun h5 => ⟨⟨(hy.1.adv.trans h3).mono (Nat.le_add_left 2 _), fun c => ?_⟩, by dsimp only; omega, hx.2, hy.2⟩
        rw [List.cons_append, parseTL, hx.1.append]
        dsimp only [List.cons_append]
        rw [if_neg hs, if_neg h0, hy.1.append]
        exact if_neg h5

theorem base128_sat (bs : Bytes) (sh acc : Nat) : Sat (fun x => Adv 1 x.2 bs ∧ x.1 ≤ 2147483647) (base128 sh acc bs) :=
  (base128_reads bs sh acc).mono fun _ hx => ⟨hx.1.adv, hx.2⟩

theorem parseTL_sat (perm : Bool) (bs : Bytes) :
    Sat (fun x => Adv 2 x.2 bs ∧ x.1.cls < 4 ∧ x.1.tag ≤ 2147483647 ∧ x.1.len < 2147483648) (parseTL perm bs) :=
  (parseTL_reads perm bs).mono fun _ hx => ⟨hx.1.adv, hx.2⟩

theorem parseTL_adv (perm : Bool) (bs : Bytes) (t : TL) (r : Bytes) (h : parseTL perm bs = .ok (t, r)) :
    Adv 2 r bs ∧ t.cls < 4 ∧ t.tag ≤ 2147483647 ∧ t.len < 2147483648 :=
  (parseTL_sat perm bs).of_ok h

theorem explicitStage_spec (perm : Bool) (s : Schema) (p : Params) (t0 : TL) (r0 : Bytes) :
    match explicitStage perm s p t0 r0 with
    | .cont t r => Adv 0 r r0 ∧ (t0.len < 2147483648 → t.len < 2147483648)
    | .flag r => r = r0 ∧ isFlag s = true
    | _ => True := by
  unfold explicitStage
  -- the expected class is an `if` inside a condition: hide it (`split_ifs` would also split on it, and is slow here)
  generalize (if p.application then 1 else if p.priv then 3 else 2) = c
  by_cases he : p.explicit = true
  · rw [if_pos he]
    by_cases hc : t0.cls = c ∧ some t0.tag = p.tag ∧ (t0.len = 0 ∨ t0.compound = true)
    · rw [if_pos hc]
      by_cases hr : isRaw s = true
      · rw [if_pos hr]; exact ⟨Adv.refl r0, id⟩
      · rw [if_neg hr]
        by_cases hl : t0.len > 0
        · rw [if_pos hl]
          by_cases hn : r0.isEmpty = true
          · rw [if_pos hn]; trivial
          · rw [if_neg hn]
            exact (parseTL_sat perm r0).elim (fun x hx => ⟨hx.1.mono (Nat.zero_le 2), fun _ => hx.2.2.2⟩) trivial
        · rw [if_neg hl]
          by_cases hf : isFlag s = true
          · rw [if_pos hf]; exact ⟨rfl, hf⟩
          · rw [if_neg hf]; trivial
    · rw [if_neg hc]; trivial
  · rw [if_neg he]; exact ⟨Adv.refl r0, id⟩

theorem explicitStage_cont (perm : Bool) (s : Schema) (p : Params) (t0 : TL) (r0 : Bytes) (t : TL) (r : Bytes)
    (h : explicitStage perm s p t0 r0 = .cont t r) : Adv 0 r r0 ∧ (t0.len < 2147483648 → t.len < 2147483648) := by
  have := explicitStage_spec perm s p t0 r0
  rwa [h] at this

/-- `inner` is the content slice `bytes[offset : offset+t.length]`, in range (`take` does not truncate) -/
theorem matchStage_spec (s : Schema) (p : Params) (t : TL) (r : Bytes) :
    match matchStage s p t r with
    | .go t' _ inner rest => t' = t ∧ inner = r.take t.len ∧ rest = r.drop t.len ∧ t.len ≤ r.length
    | .flag _ => False
    | _ => True := by
  unfold matchStage
  cases univ s with
  | none => trivial
  | some u =>
    dsimp only
    split_ifs with _ hl
    · trivial
    · trivial
    · exact ⟨rfl, rfl, rfl, Nat.le_of_not_lt hl⟩

theorem parsePre_spec (perm : Bool) (s : Schema) (p : Params) (bs : Bytes) :
    match parsePre perm s p bs with
    | .go t _ inner rest =>
      Adv 2 (inner ++ rest) bs ∧ inner.length = t.len ∧ Adv (2 + inner.length) rest bs ∧ t.len < 2147483648
    | .flag r => Adv 2 r bs ∧ isFlag s = true
    | _ => True := by
  unfold parsePre
  refine (parseTL_sat perm bs).elim (fun x hx => ?_) trivial
  obtain ⟨t0, r0⟩ := x
  dsimp only
  have he := explicitStage_spec perm s p t0 r0
  generalize explicitStage perm s p t0 r0 = e at he
  cases e with
  | err => trivial
  | dflt => trivial
  | flag r => exact ⟨he.1 ▸ hx.1, he.2⟩
  | cont t1 r1 =>
    have h1 : Adv 2 r1 bs := he.1.trans hx.1
    have hm := matchStage_spec s p t1 r1
    dsimp only
    generalize matchStage s p t1 r1 = m at hm
    cases m with
    | err => trivial
    | dflt => trivial
    | flag r => exact hm.elim
    | go t utag inner rest =>
      obtain ⟨rfl, rfl, rfl, hl⟩ := hm
      have hi : (r1.take t.len).length = t.len := List.length_take.trans (Nat.min_eq_left hl)
      have ha : Adv t.len (r1.drop t.len) r1 := ⟨List.drop_suffix _ _, by rw [List.length_drop]; omega⟩
      exact ⟨(List.take_append_drop _ _).symm ▸ h1, hi, by rw [hi, Nat.add_comm]; exact ha.trans h1, he.2 hx.2.2.2⟩

theorem parsePre_go (perm : Bool) (s : Schema) (p : Params) (bs : Bytes) (t : TL) (utag : Nat) (inner rest : Bytes)
    (h : parsePre perm s p bs = .go t utag inner rest) :
    Adv 2 (inner ++ rest) bs ∧ inner.length = t.len ∧ Adv (2 + inner.length) rest bs ∧ t.len < 2147483648 := by
  have := parsePre_spec perm s p bs
  rwa [h] at this

theorem parsePre_flag {perm : Bool} {s : Schema} {p : Params} {bs r : Bytes} (h : parsePre perm s p bs = .flag r) :
    Adv 2 r bs ∧ isFlag s = true := by
  have := parsePre_spec perm s p bs
  rwa [h] at this

/-- the rule by which every `Sat` statement about `parseField` is proved -/
theorem fieldWith_sat {Q : Val × Bytes → Prop} (perm : Bool) (s : Schema) (p : Params) (bs : Bytes)
    (k : TL → Nat → Bytes → Bytes → Res (Val × Bytes)) (absent : p.optional = true → Q (dfltVal s p, bs))
    (flag : ∀ r, isFlag s = true → Adv 2 r bs → Q (.bool true, r))
    (go : ∀ t utag inner rest, Adv (2 + inner.length) rest bs → Sat Q (k t utag inner rest)) :
    Sat Q (fieldWith perm s p bs k) := by
  refine fieldWith_elim (C := Sat Q) (fun _ => ?_) trivial (fun r hp => ?_) (fun t utag inner rest hp => ?_)
  · rw [dfltOrErr_eq]
    by_cases ho : p.optional = true
    · rw [if_pos ho]
      exact absent ho
    · rw [if_neg ho]
      trivial
  · exact flag r (parsePre_flag hp).2 (parsePre_flag hp).1
  · exact go t utag inner rest (parsePre_go perm s p bs t utag inner rest hp).2.2.1

/-- `full = bytes[initOffset:offset]` -/
theorem takeFull_length (bs rest : Bytes) : (takeFull bs rest).length = bs.length - rest.length := by
  unfold takeFull
  rw [List.length_take]
  exact Nat.min_eq_left (Nat.sub_le _ _)

/-- named in the cluster whose decoder reads `FullBytes` -/
theorem _root_.ZV.C13.takeFull_ne_nil (bs rest : Bytes) (h : rest.length + 2 ≤ bs.length) : takeFull bs rest ≠ [] := by
  intro hc
  have hl := takeFull_length bs rest
  rw [hc] at hl
  exact absurd hl (Nat.ne_of_lt (Nat.sub_pos_of_lt (by omega)))

/-- either nothing was consumed (an absent OPTIONAL element) or a whole element of ≥ 2 bytes was -/
def Consumed (rest bs : Bytes) : Prop := rest = bs ∨ Adv 2 rest bs

theorem Consumed.suffix {rest bs : Bytes} (h : Consumed rest bs) : rest <:+ bs := by
  rcases h with h | h
  · rw [h]; exact List.suffix_refl _
  · exact h.1

/-- the element count handed to `reflect.MakeSlice` -/
theorem countElems_sat (perm ma : Bool) (et : Nat) (ec : Bool) : ∀ (fuel : Nat) (bs : Bytes),
    Sat (fun n => 2 * n ≤ bs.length) (countElems perm ma et ec fuel bs)
  | _, [] => by rw [countElems]; exact Nat.zero_le _
  | 0, _ :: _ => by rw [countElems]; trivial
  | f + 1, b :: bs => by
    rw [countElems]
    refine (parseTL_sat perm (b :: bs)).elim (fun x hx => ?_) trivial
    obtain ⟨t, r⟩ := x
    dsimp only
    split_ifs
    · trivial
    · trivial
    · refine (countElems_sat perm ma et ec f (r.drop t.len)).elim (fun n hn => ?_) trivial
      have h2 : r.length + 2 ≤ bs.length + 1 := hx.1.2
      have hn : 2 * n ≤ r.length - t.len := List.length_drop ▸ hn
      show 2 * (n + 1) ≤ bs.length + 1
      omega

theorem parseArcs_sat : ∀ (fuel : Nat) (bs : Bytes), Sat (fun l => l.length ≤ bs.length) (parseArcs fuel bs)
  | _, [] => by rw [parseArcs]; exact Nat.le_refl 0
  | 0, _ :: _ => by rw [parseArcs]; trivial
  | f + 1, b :: r => by
    rw [parseArcs]
    refine (base128_sat (b :: r) 0 0).elim (fun x hx => ?_) trivial
    obtain ⟨v, r'⟩ := x
    dsimp only
    refine (parseArcs_sat f r').elim (fun l hl => ?_) trivial
    have h2 : r'.length + 1 ≤ r.length + 1 := hx.1.2
    show l.length + 1 ≤ r.length + 1
    omega

/-- the arc slice is `make([]int, len(bytes)+1)`: the first base-128 value yields two arcs -/
theorem parseOID_sat (bs : Bytes) : Sat (fun v => ∃ l, v = .oid l ∧ l.length ≤ bs.length + 1) (parseOID bs) := by
  unfold parseOID
  split
  · trivial
  · rename_i b r
    refine (base128_sat (b :: r) 0 0).elim (fun x hx => ?_) trivial
    obtain ⟨v, r'⟩ := x
    dsimp only
    refine (parseArcs_sat r'.length r').elim (fun l hl => ?_) trivial
    have h2 : r'.length + 1 ≤ r.length + 1 := hx.1.2
    dsimp only
    split_ifs
    · exact ⟨_, rfl, by simp only [List.length_cons]; omega⟩
    · exact ⟨_, rfl, by simp only [List.length_cons]; omega⟩

/-! ### certificate-shaped schemas (what the harness derives by reflection from the zcrypto types; `asn1.RawContent`
    fields are dropped and `time.Time` is kept as a `RawValue`, both are outside `ZV.Model.C18`) -/

/-- `pkix.AlgorithmIdentifier { Algorithm ObjectIdentifier; Parameters RawValue "optional" }` -/
def algId : Schema := .struct (.fcons {} .oid (.fcons { optional := true } .raw .fnil))

/-- `publicKeyInfo { Algorithm AlgorithmIdentifier; PublicKey BitString }` -/
def spki : Schema := .struct (.fcons {} algId (.fcons {} .bits .fnil))

/-- `pkix.Extension { Id ObjectIdentifier; Critical bool "optional"; Value []byte }` -/
def extension : Schema := .struct (.fcons {} .oid (.fcons { optional := true } .bool (.fcons {} .octets .fnil)))

/-- `tbsCertificate` (x509.go): version `optional,explicit,default:0,tag:0`, serial `*big.Int`, signature algorithm,
    issuer `RawValue`, validity (kept raw), subject `RawValue`, SPKI, the two unique ids `optional,tag:1|2`,
    extensions `optional,explicit,tag:3` -/
def tbsCertificate : Schema :=
  .struct
    (.fcons { optional := true, explicit := true, defaultValue := some 0, tag := some 0 } .int64
    (.fcons {} .bigint
    (.fcons {} algId
    (.fcons {} .raw
    (.fcons {} .raw
    (.fcons {} .raw
    (.fcons {} spki
    (.fcons { optional := true, tag := some 1 } .bits
    (.fcons { optional := true, tag := some 2 } .bits
    (.fcons { optional := true, explicit := true, tag := some 3 } (.seqOf false extension) .fnil))))))))))

/-- `certificate { TBSCertificate; SignatureAlgorithm; SignatureValue BitString }` -/
def certificate : Schema := .struct (.fcons {} tbsCertificate (.fcons {} algId (.fcons {} .bits .fnil)))

/-- `pkix.RDNSequence = []RelativeDistinguishedNameSET`, `RelativeDistinguishedNameSET = []AttributeTypeAndValue`,
    with the value taken as a string (`AttributeTypeAndValue.Value` is `interface{}` in Go: outside the model) -/
def rdnSequence : Schema := .seqOf false (.seqOf true (.struct (.fcons {} .oid (.fcons {} .str .fnil))))

/-- a 49-byte v3 certificate skeleton -/
def miniCert : Bytes :=
  [0x30, 0x2f,
    0x30, 0x22,
      0xa0, 0x03, 0x02, 0x01, 0x02,
      0x02, 0x01, 0x01,
      0x30, 0x05, 0x06, 0x03, 0x2a, 0x03, 0x04,
      0x30, 0x00,
      0x30, 0x00,
      0x30, 0x00,
      0x30, 0x0b, 0x30, 0x05, 0x06, 0x03, 0x2a, 0x03, 0x04, 0x03, 0x02, 0x00, 0x01,
    0x30, 0x05, 0x06, 0x03, 0x2a, 0x03, 0x04,
    0x03, 0x02, 0x00, 0xff]

end ZV.C01Asn1
