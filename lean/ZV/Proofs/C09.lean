import ZV.Model.C09
/-!
  `toLowerCaseASCII`: its first loop ranges over RUNES, but whatever it steps over besides an ASCII
  byte consists of bytes ≥ 0x80 (`decodeRune_tail`), so a loop that runs to completion has seen no
  upper-case byte (`scanLower_true`) and returning the input unchanged IS the byte-wise lowering.
  `matchHostnames`: `splitDot` and `joinDot` are inverse on dot-free labels, which lets the property
  speak of label lists; `LabelsMatch` is the label-wise relation that `matchParts` decides on lists
  of equal length (the only ones it is called on, hence no index panic).
  `VerifyHostname`: one case analysis of the verdict (`verifyHostname_cases`), which treats `parseIP`
  as a black box.
-/
namespace ZV.C09

theorem isUpper_false_of_ge (b : UInt8) (h : 0x80 ≤ b.toNat) : isUpper b = false := by
  simp only [isUpper, Bool.and_eq_false_imp, decide_eq_true_eq, decide_eq_false_iff_not]
  omega

theorem isCont_ge (b : UInt8) (h : isCont b = true) : 0x80 ≤ b.toNat := by
  simp only [isCont, Bool.and_eq_true, decide_eq_true_eq] at h
  exact h.1

theorem inAccept_ge (n0 : Nat) (b : UInt8) (h : inAccept n0 b = true) : 0x80 ≤ b.toNat := by
  simp only [inAccept, Bool.and_eq_true, decide_eq_true_eq] at h
  have hlo : 0x80 ≤ accLo n0 := by
    unfold accLo
    split
    · omega
    · split <;> omega
  omega

theorem decodeRune_ascii (b0 : UInt8) (rest : Str) (h : b0.toNat < 0x80) : decodeRune b0 rest = (b0.toNat, 0) := by
  rw [decodeRune.eq_def, if_pos h]

/-- only the three accepting arms have a width above 1, and their tests bound each byte they step over -/
theorem decodeRune_tail (b0 : UInt8) (rest : Str) : ∀ b ∈ rest.take (decodeRune b0 rest).2, 0x80 ≤ b.toNat := by
  fun_cases decodeRune b0 rest
  case case3 _ _ _ b1 tail hc =>
    simp only [List.take_succ_cons, List.take_zero, List.forall_mem_cons]
    exact ⟨inAccept_ge _ _ hc, nofun⟩
  case case6 _ _ _ _ b1 b2 tail hc =>
    simp only [Bool.and_eq_true] at hc
    simp only [List.take_succ_cons, List.take_zero, List.forall_mem_cons]
    exact ⟨inAccept_ge _ _ hc.1, isCont_ge _ hc.2, nofun⟩
  case case9 _ _ _ _ _ b1 b2 b3 tail hc =>
    simp only [Bool.and_eq_true] at hc
    simp only [List.take_succ_cons, List.take_zero, List.forall_mem_cons]
    exact ⟨inAccept_ge _ _ hc.1.1, isCont_ge _ hc.1.2, isCont_ge _ hc.2, nofun⟩
  all_goals nofun

theorem scanLower_true (s : Str) (h : scanLower s = true) : ∀ b ∈ s, isUpper b = false := by
  fun_induction scanLower s with
  | case1 => nofun
  | case2 b0 rest r h1 => simp at h
  | case3 b0 rest r h1 h2 => simp at h
  | case4 b0 rest r h1 h2 ih =>
    rw [← List.take_append_drop r.2 rest]
    simp only [List.forall_mem_cons, List.forall_mem_append]
    refine ⟨?_, fun b hb => ?_, ih h⟩
    · by_cases hlt : b0.toNat < 0x80
      · rw [show r = _ from decodeRune_ascii b0 rest hlt] at h2
        simpa [isUpper] using h2
      · exact isUpper_false_of_ge _ (Nat.le_of_not_gt hlt)
    · exact isUpper_false_of_ge _ (decodeRune_tail b0 rest b hb)

theorem map_lowerByte_id (s : Str) (h : ∀ b ∈ s, isUpper b = false) : s.map lowerByte = s := by
  induction s with
  | nil => rfl
  | cons b s ih =>
    simp only [List.map_cons, lowerByte, h b (List.mem_cons_self), Bool.false_eq_true, if_false]
    rw [ih (fun x hx => h x (List.mem_cons_of_mem _ hx))]

/-- labels joined by single dots (the inverse of `strings.Split(·, ".")`). -/
def joinDot : List Str → Str
  | [] => []
  | [l] => l
  | l :: l2 :: ls => l ++ dot :: joinDot (l2 :: ls)

def DotFree (l : Str) : Prop := dot ∉ l

theorem splitDot_spec (s : Str) :
    ∃ l ls, splitDot s = l :: ls ∧ joinDot (l :: ls) = s ∧ ∀ x ∈ l :: ls, DotFree x := by
  induction s with
  | nil => exact ⟨[], [], rfl, rfl, List.forall_mem_cons.mpr ⟨nofun, nofun⟩⟩
  | cons b s ih =>
    obtain ⟨l, ls, e, hj, hd⟩ := ih
    by_cases hb : b = dot
    · refine ⟨[], l :: ls, by rw [splitDot, if_pos hb, e], ?_, List.forall_mem_cons.mpr ⟨nofun, hd⟩⟩
      rw [joinDot, hj, hb]
      rfl
    · obtain ⟨hl, hls⟩ := List.forall_mem_cons.mp hd
      refine ⟨b :: l, ls, ?_, ?_, List.forall_mem_cons.mpr ⟨?_, hls⟩⟩
      · rw [splitDot, if_neg hb, e]
        rfl
      · rw [← hj]
        cases ls
        · rfl
        · rfl
      · exact fun hm => (List.mem_cons.mp hm).elim (fun e => hb e.symm) hl

theorem splitDot_ne_nil (s : Str) : splitDot s ≠ [] := by
  obtain ⟨l, ls, e, -⟩ := splitDot_spec s
  exact e ▸ nofun

theorem joinDot_splitDot (s : Str) : joinDot (splitDot s) = s := by
  obtain ⟨l, ls, e, hj, -⟩ := splitDot_spec s
  rw [e, hj]

theorem splitDot_dotFree (s : Str) : ∀ l ∈ splitDot s, DotFree l := by
  obtain ⟨l, ls, e, -, hd⟩ := splitDot_spec s
  exact e ▸ hd

theorem splitDot_append {p s d : Str} {fs : List Str} (hp : DotFree p) (hs : splitDot s = d :: fs) :
    splitDot (p ++ s) = (p ++ d) :: fs := by
  induction p with
  | nil => exact hs
  | cons b p ih =>
    simp only [DotFree, List.mem_cons, not_or] at hp
    rw [List.cons_append, splitDot, if_neg (fun e => hp.1 e.symm), ih hp.2]
    rfl

theorem splitDot_dotFree_self (l : Str) (h : DotFree l) : splitDot l = [l] := by
  simpa only [List.append_nil] using splitDot_append (s := []) h rfl

theorem splitDot_append_dot (l rest : Str) (h : DotFree l) :
    splitDot (l ++ dot :: rest) = l :: splitDot rest := by
  rw [splitDot_append h (show splitDot (dot :: rest) = [] :: splitDot rest by rw [splitDot, if_pos rfl]), List.append_nil]

theorem splitDot_joinDot (ls : List Str) (hne : ls ≠ []) (hdf : ∀ l ∈ ls, DotFree l) :
    splitDot (joinDot ls) = ls := by
  match ls with
  | [] => exact absurd rfl hne
  | [l] => simpa [joinDot] using splitDot_dotFree_self l (hdf l (by simp))
  | l :: l2 :: rest =>
    simp only [joinDot]
    rw [splitDot_append_dot l _ (hdf l (by simp))]
    rw [splitDot_joinDot (l2 :: rest) (by simp) (fun x hx => hdf x (List.mem_cons_of_mem _ hx))]

theorem mem_joinDot {x : UInt8} : ∀ {ls : List Str}, x ∈ joinDot ls → x = dot ∨ ∃ l ∈ ls, x ∈ l
  | [], h => nomatch h
  | [l], h => Or.inr ⟨l, List.mem_singleton_self l, h⟩
  | l :: l2 :: ls, h => by
    rcases List.mem_append.mp h with h | h
    · exact Or.inr ⟨l, List.mem_cons_self, h⟩
    · rcases List.mem_cons.mp h with h | h
      · exact Or.inl h
      · exact (mem_joinDot h).imp_right fun ⟨g, hg, hx⟩ => ⟨g, List.mem_cons_of_mem _ hg, hx⟩

theorem splitDot_prefix (p s : Str) (hp : DotFree p) : ∃ d fs, splitDot (p ++ s) = (p ++ d) :: fs := by
  cases h : splitDot s with
  | nil => exact absurd h (splitDot_ne_nil s)
  | cons d fs => exact ⟨d, fs, splitDot_append hp h⟩

theorem trimDot_append_dot (q : Str) : trimDot (q ++ [dot]) = q := by
  simp [trimDot]

theorem trimDot_no_dot (s : Str) (h : ∀ q, s ≠ q ++ [dot]) : trimDot s = s := by
  fun_cases trimDot s with
  | case1 hl =>
    obtain ⟨ys, hys⟩ := List.getLast?_eq_some_iff.mp hl
    exact absurd hys (h ys)
  | case2 => rfl
  | case3 => rfl

def LabelMatch (pl hl : Str) : Prop := pl = [star] ∨ pl = hl

/-- pattern labels and host labels correspond one to one and each pair matches. -/
inductive LabelsMatch : List Str → List Str → Prop
  | nil : LabelsMatch [] []
  | cons {p h : Str} {ps hs : List Str} : LabelMatch p h → LabelsMatch ps hs → LabelsMatch (p :: ps) (h :: hs)

theorem LabelsMatch.cons_iff {p h : Str} {ps hs : List Str} :
    LabelsMatch (p :: ps) (h :: hs) ↔ LabelMatch p h ∧ LabelsMatch ps hs :=
  ⟨fun | .cons a b => ⟨a, b⟩, fun ⟨a, b⟩ => .cons a b⟩

/-- the loop's two tests are the two cases of `LabelMatch` -/
theorem matchParts_spec (ps hs : List Str) (hlen : ps.length = hs.length) :
    (matchParts ps hs = .ok true ∧ LabelsMatch ps hs) ∨
    (matchParts ps hs = .ok false ∧ ¬ LabelsMatch ps hs) := by
  fun_induction matchParts ps hs with
  | case1 hs =>
    cases List.length_eq_zero_iff.mp hlen.symm
    exact Or.inl ⟨rfl, .nil⟩
  | case2 => cases hlen
  | case3 ps h hs ih => -- the pattern label is "*"
    simpa only [LabelsMatch.cons_iff, LabelMatch, true_or, true_and] using ih (Nat.succ.inj hlen)
  | case4 p ps h hs h1 h2 =>
    exact Or.inr ⟨rfl, fun hm => (LabelsMatch.cons_iff.mp hm).1.elim h1 h2⟩
  | case5 p ps h hs h1 h2 ih =>
    simpa only [LabelsMatch.cons_iff, LabelMatch, Decidable.not_not.mp h2, or_true, true_and] using ih (Nat.succ.inj hlen)

theorem matchHostnames_total (pattern host : Str) : ∃ b, matchHostnames pattern host = .ok b := by
  fun_cases matchHostnames pattern host with
  | case1 => exact ⟨_, rfl⟩
  | case2 => exact ⟨_, rfl⟩
  | case3 _ _ _ _ _ hlen =>
    exact (matchParts_spec _ _ (Decidable.of_not_not hlen)).elim (fun e => ⟨_, e.1⟩) fun e => ⟨_, e.1⟩

theorem matchAny_cases (lowered : Str) (ms : List Str) :
    (matchAny lowered ms = .ok true ∧ ∃ d ∈ ms, matchHostnames (toLowerCaseASCII d) lowered = .ok true) ∨
    (matchAny lowered ms = .ok false ∧ ¬ ∃ d ∈ ms, matchHostnames (toLowerCaseASCII d) lowered = .ok true) := by
  induction ms with
  | nil => exact Or.inr ⟨rfl, nofun⟩
  | cons m ms ih =>
    obtain ⟨b, hb⟩ := matchHostnames_total (toLowerCaseASCII m) lowered
    rw [matchAny, hb]
    simp only [List.mem_cons, or_and_right, exists_or, exists_eq_left, hb, Res.ok.injEq]
    cases b
    · simpa only [Bool.false_eq_true, false_or] using ih
    · exact Or.inl ⟨rfl, Or.inl rfl⟩

theorem LabelsMatch.length_eq {l1 l2 : List Str} (h : LabelsMatch l1 l2) : l1.length = l2.length := by
  induction h with
  | nil => rfl
  | cons _ _ ih => simp [ih]

theorem bracketed_iff (h : Str) :
    (h.length ≥ 3 ∧ h.head? = some 91 ∧ h.getLast? = some 93) ↔ ∃ m, m ≠ [] ∧ h = 91 :: (m ++ [93]) := by
  constructor
  · rintro ⟨hlen, hhd, hlast⟩
    obtain ⟨ys, rfl⟩ := List.getLast?_eq_some_iff.mp hlast
    cases ys with
    | nil => simp at hlen
    | cons y m =>
      simp only [List.cons_append, List.head?_cons, Option.some.injEq] at hhd
      subst hhd
      refine ⟨m, ?_, rfl⟩
      rintro rfl
      simp at hlen
  · rintro ⟨m, hm, rfl⟩
    refine ⟨?_, rfl, by rw [← List.cons_append, List.getLast?_concat]⟩
    have := List.length_pos_iff.mpr hm
    simp only [List.length_cons, List.length_append, List.length_nil]
    omega

theorem candidateIP_of_bracketed {m : Str} (hm : m ≠ []) : candidateIP (91 :: (m ++ [93])) = m := by
  unfold candidateIP
  rw [if_pos ((bracketed_iff _).mpr ⟨m, hm, rfl⟩)]
  simp

theorem candidateIP_of_not_bracketed {h : Str} (hn : ∀ m, m ≠ [] → h ≠ 91 :: (m ++ [93])) : candidateIP h = h := by
  unfold candidateIP
  rw [if_neg]
  intro hc
  obtain ⟨m, hm, e⟩ := (bracketed_iff h).mp hc
  exact hn m hm e

/-- the condition under which `VerifyHostname` returns nil, in the model's own terms -/
def Accepts (c : Cert) (h : Str) : Prop :=
  match parseIP (candidateIP h) with
  | some ip => ∃ x ∈ c.ipAddresses, ipEqual ip x = true
  | none =>
    if hasSANExtension c = true then
      ∃ d ∈ c.dnsNames, matchHostnames (toLowerCaseASCII d) (toLowerCaseASCII h) = .ok true
    else matchHostnames (toLowerCaseASCII c.commonName) (toLowerCaseASCII h) = .ok true

theorem verifyHostname_cases (c : Cert) (h : Str) :
    (verifyHostname c h = .ok .accept ∧ Accepts c h) ∨
    (verifyHostname c h = .ok (.reject (match parseIP (candidateIP h) with | some _ => candidateIP h | none => h)) ∧
      ¬ Accepts c h) := by
  unfold verifyHostname Accepts
  dsimp only
  cases parseIP (candidateIP h) with
  | some ip =>
    simp only [← List.any_eq_true]
    by_cases ha : (c.ipAddresses.any fun x => ipEqual ip x) = true
    · exact Or.inl ⟨if_pos ha, ha⟩
    · exact Or.inr ⟨if_neg ha, ha⟩
  | none =>
    by_cases hs : hasSANExtension c = true
    · simp only [if_pos hs]
      rcases matchAny_cases (toLowerCaseASCII h) c.dnsNames with ⟨e, a⟩ | ⟨e, a⟩
      · exact Or.inl ⟨by rw [e], a⟩
      · exact Or.inr ⟨by rw [e], a⟩
    · obtain ⟨b, hb⟩ := matchHostnames_total (toLowerCaseASCII c.commonName) (toLowerCaseASCII h)
      simp only [if_neg hs, hb]
      cases b
      · exact Or.inr ⟨rfl, nofun⟩
      · exact Or.inl ⟨rfl, rfl⟩

theorem verifyHostname_accept_iff (c : Cert) (h : Str) : verifyHostname c h = .ok .accept ↔ Accepts c h := by
  rcases verifyHostname_cases c h with ⟨e, a⟩ | ⟨e, a⟩
  · exact iff_of_true e a
  · exact iff_of_false (by rw [e]; nofun) a

end ZV.C09
