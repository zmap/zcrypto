import ZV.Model.C10
/-!
  The invariant of the PKI graph (definitions only; preservation is proved in `ZV.Proofs.C10`).
  `WF V g` is the history-independent part (what the chain walk of C11 relies on);
  `Hist H g` ties nodes, edges and root flags to the history `H` of operations.
-/
namespace ZV.C10

/-- `fp ∈ n.parentsBySubjectAndKey[k]` -/
def pmem (n : Node) (k : NodeKey) (fp : Nat) : Prop := ∃ l, (k, l) ∈ n.parents ∧ fp ∈ l
/-- `fp ∈ n.childrenBySubjectAndKey[k]` -/
def cmem (n : Node) (k : NodeKey) (fp : Nat) : Prop := ∃ l, (k, l) ∈ n.children ∧ fp ∈ l
/-- `fp ∈ g.missingIssuerNode[name]` -/
def mmem (g : Graph) (name fp : Nat) : Prop := ∃ l, (name, l) ∈ g.missing ∧ fp ∈ l

structure WF (V : Ver) (g : Graph) : Prop where
  /-- one node per (subject, SPKI) -/
  nodesNodup : (g.nodes.map (·.key)).Nodup
  /-- one edge per certificate fingerprint -/
  edgesNodup : (g.edges.map (·.cert.fp)).Nodup
  /-- the head of an edge is the node of its certificate's (subject, SPKI) -/
  child : ∀ e ∈ g.edges, e.child = e.cert.sk ∧ ∃ n ∈ g.nodes, n.key = e.child
  /-- an issuer is a node of the graph with the certificate's issuer name whose key verifies it -/
  issuerSome : ∀ e ∈ g.edges, ∀ k, e.issuer = some k →
      k.1 = e.cert.iss ∧ V k e.cert.fp = true ∧ ∃ n ∈ g.nodes, n.key = k
  /-- an edge has no issuer only if no node with the issuer name verifies it -/
  issuerNone : ∀ e ∈ g.edges, e.issuer = none →
      ∀ n ∈ g.nodes, n.key.1 = e.cert.iss → V n.key e.cert.fp = false
  /-- parentsBySubjectAndKey agrees with issuer/child -/
  parents : ∀ n ∈ g.nodes, ∀ k fp, pmem n k fp ↔
      ∃ e ∈ g.edges, e.cert.fp = fp ∧ e.child = n.key ∧ e.issuer = some k
  /-- childrenBySubjectAndKey agrees with issuer/child -/
  children : ∀ n ∈ g.nodes, ∀ k fp, cmem n k fp ↔
      ∃ e ∈ g.edges, e.cert.fp = fp ∧ e.issuer = some n.key ∧ e.child = k
  /-- missingIssuerNode[name] = the edges without issuer whose issuer name is `name` -/
  missing : ∀ name fp, mmem g name fp ↔
      ∃ e ∈ g.edges, e.cert.fp = fp ∧ e.issuer = none ∧ e.cert.iss = name

/-- the adjacency association lists have no repeated key and no repeated fingerprint
    (what a Go map of sets gives for free; needed only for `C11.walk_nodup`) -/
structure AdjNodup (g : Graph) : Prop where
  keys : ∀ n ∈ g.nodes, (n.parents.map (·.1)).Nodup
  sets : ∀ n ∈ g.nodes, ∀ grp ∈ n.parents, grp.2.Nodup

structure Hist (H : List Op) (g : Graph) : Prop where
  nodes : ∀ k, (∃ n ∈ g.nodes, n.key = k) ↔ ∃ op ∈ H, op.cert.sk = k
  edges : ∀ fp, (∃ e ∈ g.edges, e.cert.fp = fp) ↔ ∃ op ∈ H, op.cert.fp = fp
  certs : ∀ e ∈ g.edges, ∃ op ∈ H, op.cert = e.cert
  roots : ∀ e ∈ g.edges, e.root = true ↔ ∃ c, Op.root c ∈ H ∧ c.fp = e.cert.fp

end ZV.C10
