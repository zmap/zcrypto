import ZV.Model.C25
/-! Independence of the transport's segmentation: `fetch` is a function of the byte stream `rawInput ++ transport`
    alone (`fetch_eq_fetchS`, through the transport-free `fetchS` and the abstraction `absF`), so two reader states with
    the same core and the same bytes still to come (`Sim`) stay so through `readStep`, `readLoop` and `readAll`.
    Then `Processed`, the case table of `process` by kind of result, from which the delivery / cipher-change / retry
    theorems of `ZV.Props.C25` are read off. -/
namespace ZV.C25

theorem readFromUntil_cons (raw b : Bytes) (n : Nat) (rest : List Bytes) (h : raw.length < n) :
    readFromUntil raw n (b :: rest) = readFromUntil (raw ++ b) n rest := by
  unfold readFromUntil
  rw [if_neg (Nat.not_le.mpr h), readAtLeast, List.length_append]
  by_cases hb : n - raw.length ≤ b.length
  · rw [if_pos hb, if_pos (by omega)]
  · rw [if_neg hb, if_neg (by omega), Nat.sub_add_eq]

theorem readFromUntil_cases (raw : Bytes) (n : Nat) (chunks : List Bytes) :
    (∃ raw' cs', readFromUntil raw n chunks = (raw', cs', none) ∧
        raw' ++ cs'.flatten = raw ++ chunks.flatten ∧ n ≤ raw'.length) ∨
    (readFromUntil raw n chunks = (raw ++ chunks.flatten, [], some .unexpectedEOF) ∧
        (raw ++ chunks.flatten).length < n) := by
  by_cases h : raw.length ≥ n
  · exact .inl ⟨raw, chunks, if_pos h, rfl, h⟩
  · induction chunks generalizing raw with
    | nil => exact .inr ⟨by simp [readFromUntil, readAtLeast, h], by simpa using h⟩
    | cons b rest ih =>
      rw [readFromUntil_cons raw b n rest (Nat.lt_of_not_le h), List.flatten_cons, ← List.append_assoc]
      by_cases h' : (raw ++ b).length ≥ n
      · exact .inl ⟨raw ++ b, rest, if_pos h', rfl, h'⟩
      · exact ih (raw ++ b) h'

theorem readAtLeast_cases (chunks : List Bytes) : ∀ (raw : Bytes) (need : Nat), 0 < need →
    (∃ raw' cs', readAtLeast raw need chunks = (raw', cs', none) ∧
        raw' ++ cs'.flatten = raw ++ chunks.flatten ∧ raw.length + need ≤ raw'.length) ∨
    (readAtLeast raw need chunks = (raw ++ chunks.flatten, [], some .unexpectedEOF) ∧
        chunks.flatten.length < need) := by
  intro raw need h
  have e : readFromUntil raw (raw.length + need) chunks = readAtLeast raw need chunks := by
    rw [readFromUntil, if_neg (by omega), Nat.add_sub_cancel_left]
  simpa only [e, List.length_append, Nat.add_lt_add_iff_left] using readFromUntil_cases raw (raw.length + need) chunks

/-- what `fetch` does, as a function of the byte stream alone (no transport) -/
inductive FetchedS where
  | fail (e : ErrK)
  | record (record rest : Bytes)
  deriving DecidableEq

def fetchS {σ} (c : Conn σ) (total : Bytes) : FetchedS :=
  match total with
  | typ :: v1 :: v2 :: l1 :: l2 :: body =>
    match headerCheck c typ v1 v2 l1 l2 with
    | some e => .fail e
    | none =>
      let n := l1.toNat * 256 + l2.toNat
      if body.length < n then .fail (.io .unexpectedEOF)
      else .record (total.take (recordHeaderLen + n)) (total.drop (recordHeaderLen + n))
  | [] => .fail (.io .eof)
  | _ => .fail (.io .unexpectedEOF)

def absF : Fetched → FetchedS
  | .fail _ _ e => .fail e
  | .record r rest cs => .record r (rest ++ cs.flatten)

theorem fetchS_short {σ} (c : Conn σ) (total : Bytes) (h : total.length < 5) :
    fetchS c total = .fail (.io (if total.length == 0 then .eof else .unexpectedEOF)) := by
  match total, h with
  | [], _ => rfl
  | [_], _ => rfl
  | [_, _], _ => rfl
  | [_, _, _], _ => rfl
  | [_, _, _, _], _ => rfl
  | _ :: _ :: _ :: _ :: _ :: _, h => simp at h; omega

theorem fetch_eq_fetchS {σ} (c : Conn σ) (raw : Bytes) (chunks : List Bytes) :
    absF (fetch c raw chunks) = fetchS c (raw ++ chunks.flatten) := by
  -- the header read, then the body read: each is a case of `readFromUntil_cases`, which keeps `rawInput ++ transport`
  rcases readFromUntil_cases raw recordHeaderLen chunks with ⟨raw', cs', h, htot, hlen⟩ | ⟨h, hlt⟩
  · rw [← htot]
    match raw', hlen, h with
    | typ :: v1 :: v2 :: l1 :: l2 :: tl, _, h =>
      unfold fetch
      rw [h]
      simp only [List.cons_append, fetchS]
      cases hc : headerCheck c typ v1 v2 l1 l2 with
      | some e => simp [absF]
      | none =>
        simp only []
        rcases readFromUntil_cases (typ :: v1 :: v2 :: l1 :: l2 :: tl)
          (recordHeaderLen + (l1.toNat * 256 + l2.toNat)) cs' with ⟨raw2, cs2, h2, htot2, hlen2⟩ | ⟨h2, hlt2⟩
        · rw [h2]
          have hl : ¬ (tl ++ cs'.flatten).length < l1.toNat * 256 + l2.toNat := by
            have := congrArg List.length htot2
            simp only [List.length_append, List.length_cons, recordHeaderLen] at this hlen2 ⊢
            omega
          simp only [hl, if_false, absF]
          have e1 : typ :: v1 :: v2 :: l1 :: l2 :: (tl ++ cs'.flatten) = raw2 ++ cs2.flatten := by
            rw [htot2]; simp
          rw [e1, List.take_append_of_le_length hlen2, List.drop_append_of_le_length hlen2]
        · rw [h2]
          have hl : (tl ++ cs'.flatten).length < l1.toNat * 256 + l2.toNat := by
            simp only [List.length_append, List.length_cons, List.cons_append, recordHeaderLen] at hlt2 ⊢; omega
          simp only [hl, if_true, absF]
    | [], hl, _ => simp [recordHeaderLen] at hl
    | [_], hl, _ => simp [recordHeaderLen] at hl
    | [_, _], hl, _ => simp [recordHeaderLen] at hl
    | [_, _, _], hl, _ => simp [recordHeaderLen] at hl
    | [_, _, _, _], hl, _ => simp [recordHeaderLen] at hl
  · unfold fetch
    rw [h, fetchS_short c _ (by simpa [recordHeaderLen] using hlt)]
    simp [absF]

def Sim {σ} (a b : RState σ) : Prop :=
  a.core = b.core ∧ (a.core.inErr = none → a.raw ++ a.chunks.flatten = b.raw ++ b.chunks.flatten)

theorem readStep_sim {σ} (a b : RState σ) (e : Bool) (h : Sim a b) :
    (∃ a' b' o, readStep a e = .done a' o ∧ readStep b e = .done b' o ∧ Sim a' b') ∨
    (∃ a' b', readStep a e = .retry a' ∧ readStep b e = .retry b' ∧ Sim a' b') ∨
    (readStep a e = .panic ∧ readStep b e = .panic) := by
  obtain ⟨hc, ht⟩ := h
  unfold readStep
  rw [← hc]
  cases hie : a.core.inErr with
  | some er => exact .inl ⟨_, _, _, rfl, rfl, hc, fun h => by rw [hie] at h; cases h⟩
  | none =>
    simp only []
    by_cases hin : a.core.input.length != 0
    · rw [if_pos hin, if_pos hin]
      exact .inl ⟨_, _, _, rfl, rfl, rfl, nofun⟩
    · rw [if_neg hin, if_neg hin]
      have hf := fetch_eq_fetchS a.core.c a.raw a.chunks
      rw [ht hie, ← fetch_eq_fetchS a.core.c b.raw b.chunks] at hf
      cases hfa : fetch a.core.c a.raw a.chunks with
      | fail r1 c1 e1 =>
        cases hfb : fetch a.core.c b.raw b.chunks with
        | fail r2 c2 e2 =>
          rw [hfa, hfb] at hf
          cases hf
          exact .inl ⟨_, _, _, rfl, rfl, rfl, nofun⟩
        | record _ _ _ => rw [hfa, hfb] at hf; cases hf
      | record rec1 rest1 c1 =>
        cases hfb : fetch a.core.c b.raw b.chunks with
        | fail r2 c2 e2 => rw [hfa, hfb] at hf; cases hf
        | record rec2 rest2 c2 =>
          rw [hfa, hfb] at hf
          injection hf with h1 h2
          subst h1
          simp only []
          cases process a.core e rec1 with
          | done k o => exact .inl ⟨_, _, _, rfl, rfl, rfl, fun _ => h2⟩
          | retry k => exact .inr (.inl ⟨_, _, rfl, rfl, rfl, fun _ => h2⟩)
          | panic => exact .inr (.inr ⟨rfl, rfl⟩)

theorem readLoop_sim {σ} (e : Bool) (fuel : Nat) : ∀ (a b : RState σ), Sim a b →
    (readLoop e fuel a = none ∧ readLoop e fuel b = none) ∨
    (∃ a' b' o, readLoop e fuel a = some (a', o) ∧ readLoop e fuel b = some (b', o) ∧ Sim a' b') := by
  induction fuel with
  | zero => intro a b _; left; simp [readLoop]
  | succ n ih =>
    intro a b h
    unfold readLoop
    rcases readStep_sim a b e h with ⟨a', b', o, ha, hb, hs⟩ | ⟨a', b', ha, hb, hs⟩ | ⟨ha, hb⟩
    · rw [ha, hb]
      exact .inr ⟨a', b', o, rfl, rfl, hs⟩
    · rw [ha, hb]
      exact ih a' b' hs
    · rw [ha, hb]
      exact .inl ⟨rfl, rfl⟩

theorem readAll_sim {σ} (n : Nat) : ∀ (a b : RState σ), Sim a b → readAll n a = readAll n b := by
  induction n with
  | zero => intro a b _; rfl
  | succ n ih =>
    intro a b h
    unfold readAll readRecordOrCCS
    rcases readLoop_sim false (maxUselessRecords + 1) a b h with ⟨h1, h2⟩ | ⟨a', b', o, h1, h2, hs⟩
    · rw [h1, h2]
    · rw [h1, h2]
      obtain ⟨hc, ht⟩ := hs
      cases o with
      | data d =>
        simp only []
        rw [ih a'.drained b'.drained ⟨by simp [RState.drained, hc], by simpa [RState.drained] using ht⟩]
      | hand =>
        simp only []
        exact ih _ _ ⟨by simp [hc], by simpa using ht⟩
      | ccs => exact ih _ _ ⟨hc, ht⟩
      | err e => rfl


/-- What one pass through `process` guarantees, by kind of result: an ignored record counts against
    `maxUselessRecords`, an error is stored, application data and a cipher change come from a record that
    `decrypt` accepted with the matching content type. -/
def Processed {σ} (k : RCore σ) (e : Bool) (r : Bytes) : Step σ → Prop
  | .panic => True
  | .retry k' => k'.c.retryCount = k.c.retryCount + 1 ∧ k'.c.retryCount ≤ maxUselessRecords
  | .done k' (.err er) => k'.inErr = some er
  | .done _ .hand => True
  | .done k' (.data d) =>
    e = false ∧ k.c.handshakeComplete = true ∧
    (∃ hc', decrypt k.c.hc r = .ok (d, recordTypeApplicationData, hc') ∧ k'.c.hc = hc') ∧
    1 ≤ d.length ∧ d.length ≤ maxPlaintext ∧ k'.input = d
  | .done k' .ccs =>
    e = true ∧ k.c.vers ≠ VersionTLS13 ∧ k'.next = none ∧
    ∃ hc', decrypt k.c.hc r = .ok ([1], recordTypeChangeCipherSpec, hc') ∧
      changeCipherSpec hc' k.next = some k'.c.hc

theorem processed_fail {σ} (k s : RCore σ) (e : Bool) (r : Bytes) (er : ErrK) :
    Processed k e r (failStep s er) := rfl

theorem processed_retry {σ} (k s : RCore σ) (e : Bool) (r : Bytes) (h : s.c.retryCount = k.c.retryCount) :
    Processed k e r (retryStep s) := by
  unfold retryStep
  simp only
  split
  · exact processed_fail ..
  · exact ⟨congrArg (· + 1) h, by simp only; omega⟩

theorem process_processed {σ} (k : RCore σ) (e : Bool) (r : Bytes) : Processed k e r (process k e r) := by
  fun_cases process k e r
  case case1 => trivial  -- `decrypt` panics
  -- the three ignored records (warning alert, TLS 1.3 change_cipher_spec, empty application data)
  -- leave `retryCount` as it was: the reset to 0 needs a non-empty record of another type
  case case8 | case14 => exact processed_retry _ _ _ _ (if_neg (by simp [bne, *]))
  case case19 hlen =>
    exact processed_retry _ _ _ _ (if_neg (by simp [List.eq_nil_of_length_eq_zero (eq_of_beq hlen)]))
  -- `.done … .ccs`: the change_cipher_spec that was waited for
  case case17 data _ _ hdec _ _ _ _ _ _ _ _ htyp hdata _ hvers he hc2 hccs =>
    cases eq_of_beq htyp
    rw [show data = [1] by simpa using hdata] at hdec
    exact ⟨by simpa using he, by simpa using hvers, rfl, _, hdec, hccs⟩
  -- `.done … (.data data)`: non-empty application data
  case case20 hdec _ hmax _ _ _ _ _ _ _ htyp hst hpos =>
    cases eq_of_beq htyp
    simp only [Bool.or_eq_true, Bool.not_eq_true', not_or, Bool.not_eq_false, Bool.not_eq_true] at hst
    exact ⟨hst.2, hst.1, ⟨_, hdec, rfl⟩, Nat.pos_of_ne_zero (by simpa using hpos), Nat.le_of_not_gt hmax, rfl⟩
  case case22 => trivial  -- `.done … .hand`: handshake bytes appended
  all_goals exact processed_fail ..

end ZV.C25
