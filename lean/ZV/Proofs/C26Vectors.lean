import ZV.Model.C26
/-! # C26 — published vectors, evaluated by the Lean kernel on the model instantiated with the executable hashes
(`decide +kernel`: kernel reduction only, no compiler, no extra axioms).

`SHA256.compress` keeps its message schedule in an `Array`; in the kernel an array is a list, every `push` and `getD`
walks it, and that is six sevenths of the work of a compression. The vectors are therefore evaluated on `sha256L`,
the same function with the schedule as a list, newest word first, which is proved equal to `sha256` below. -/
namespace ZV.C26
open ZV.Hash ZV.Hash.SHA256

/-- `n` more words of the message schedule; `r` holds the words so far, the newest first -/
def extendL : Nat → List UInt32 → List UInt32
  | 0, r => r
  | n + 1, r => extendL n ((ssig1 (r.getD 1 0) + r.getD 6 0 + ssig0 (r.getD 14 0) + r.getD 15 0) :: r)

/-- `SHA256.compress` on a block of 16 words (the only blocks `chunks 16` hands to it after padding) -/
def compressL (hv : State) (block : List UInt32) : State :=
  if block.length = 16 then
    hv.add ((K.toList.zip (extendL 48 block.reverse).reverse).foldl (fun s kw => round s kw.1 kw.2) hv)
  else compress hv block

def sha256L (msg : Bytes) : Bytes :=
  flatMapTR be32Bytes ((chunks 16 (wordsBE32 (padBE 64 8 msg))).foldl compressL init256).words

theorem extendL_length (n : Nat) (r : List UInt32) : (extendL n r).length = n + r.length := by
  induction n generalizing r with
  | zero => simp [extendL]
  | succ n ih => rw [extendL, ih, List.length_cons]; omega

/-- `scheduleStep` at `t = w.size` reads `w` at distances 2, 7, 15, 16 from its end -/
theorem schedule_fold (n s : Nat) (w : Array UInt32) (hs : w.size = s) (h : 16 ≤ s) :
    ((List.range' s n).foldl scheduleStep w).toList.reverse = extendL n w.toList.reverse := by
  induction n generalizing s w with
  | zero => rfl
  | succ n ih =>
    subst hs
    have e (i : Nat) (hi : i < 16) : w.toList.reverse[i]? = w[w.size - (i + 1)]? := by
      rw [List.getElem?_reverse (by simp; omega)]; simp [Nat.sub_sub, Nat.add_comm]
    rw [List.range'_succ, List.foldl_cons, ih _ _ (by simp [scheduleStep]) (by omega), extendL]
    simp [scheduleStep, e]

theorem foldl_range_getD {σ : Type} (f : σ → UInt32 → UInt32 → σ) (a b : Array UInt32) (h : a.size ≤ b.size)
    (x : σ) :
    (List.range a.size).foldl (fun s t => f s (a.getD t 0) (b.getD t 0)) x
      = (a.toList.zip b.toList).foldl (fun s p => f s p.1 p.2) x := by
  have : a.toList.zip b.toList = (List.range a.size).map (fun t => (a.getD t 0, b.getD t 0)) := by
    apply List.ext_getElem
    · simp [h]
    · intro i _ h2
      have ha : i < a.size := by simpa using h2
      have hb : i < b.size := by omega
      simp [ha, hb]
  rw [this, List.foldl_map]

theorem compress_eq (hv : State) (block : List UInt32) : compress hv block = compressL hv block := by
  unfold compressL
  split
  next h =>
    have hw := schedule_fold 48 16 block.toArray h (Nat.le_refl _)
    have hs : K.size ≤ (schedule block).size := by
      rw [← Array.length_toList (xs := schedule block), ← List.length_reverse, schedule, hw, extendL_length]
      simp only [List.length_reverse, h]
      decide
    rw [compress, ← List.reverse_eq_iff.mp hw]
    exact congrArg hv.add (foldl_range_getD (fun s k w => round s k w) K (schedule block) hs hv)
  next => rfl

theorem sha256_eq : sha256 = sha256L := by
  have : compress = compressL := funext fun hv => funext (compress_eq hv)
  unfold sha256 digestState sha256L
  rw [this]

theorem hash13_sha256 : hash13OfAlg HashAlg.sha256 = ⟨hmac ⟨sha256L, 64, 32⟩, sha256L, 32⟩ := by
  rw [hash13OfAlg, HashAlg.sha256, sha256_eq]

/-- a string literal is `String.ofList` of its characters: rewriting with this spares the kernel the UTF-8 decoding
that `String.toList` does on a literal (most of the cost of `ofHex "…"`) -/
theorem ofHex_ofList (l : List Char) :
    ofHex (String.ofList l) = if String.ofList l == "-" then some [] else ofHexChars l := by
  rw [ofHex, String.toList_ofList]

/-- RFC 8448 §3: Early Secret without PSK -/
example : toHex (earlySecret (hash13OfAlg HashAlg.sha256) none)
    = "33ad0a1c607ec03b09e6cd9893680ce210adf300aa1f2660e1b22e10f170f92a" := by
  rw [hash13_sha256]
  decide +kernel

/-- RFC 8448 §3: Derive-Secret(Early Secret, "derived", "") -/
example : (ofHex "33ad0a1c607ec03b09e6cd9893680ce210adf300aa1f2660e1b22e10f170f92a").map
      (fun e => showRes toHex (deriveSecret (hash13OfAlg HashAlg.sha256) e derivedLabel none))
    = some "ok 6f2615a108c702c5678f54fc9dbab69716c076189c48250cebeac3576c3611ba" := by
  rw [hash13_sha256, ofHex_ofList]
  decide +kernel

/-- RFC 8448 §3: Handshake Secret from the X25519 share -/
example : (ofHex "8bd4054fb55b9d63fdfbacf9f04b9f0d35e6d63f537563efd46272900f89492d").bind (fun ikm =>
      (ofHex "6f2615a108c702c5678f54fc9dbab69716c076189c48250cebeac3576c3611ba").map (fun salt =>
        toHex (extract (hash13OfAlg HashAlg.sha256) (some ikm) salt)))
    = some "1dc826e93606aa6fdc0aadc12f741b01046aa6b99f691ed221a9f0ca043fbeac" := by
  rw [hash13_sha256, ofHex_ofList, ofHex_ofList]
  decide +kernel

-- The RFC 8448 traffic key/iv vector and the TLS 1.2 PRF vector (8-16 more compression-function evaluations each) are not
-- evaluated here: they are T3 vectors of the harness (kat.go) and T2 corpus lines.

end ZV.C26
