import ZV.Model.C28
import ZV.Proofs.Res
/-!
  C28, ServerKeyExchange: the signature scheme named on the wire against the logged (signature, hash) pair
  (`typeAndHash_wire`), the inversion of the whole ECDHE message (`ecdheLog_inv`) and what `verifyParameters` leaves in
  the log of a DHE message (`dheSigPart_tls12`).
-/
namespace ZV.C28

theorem u16_inj {a b : UInt8} {x y : Nat} (hx : x < 256) (hy : y < 256) (h : u16 a b = x * 256 + y) :
    a.toNat = x ∧ b.toNat = y := by
  unfold u16 at h
  have ha := a.toNat_lt
  have hb := b.toNat_lt
  omega

/-- spec-side reading of a scheme's two wire bytes: the TLS HashAlgorithm the scheme names … -/
def tlsHashOf (a b : UInt8) : Nat :=
  if a.toNat ≤ 6 then a.toNat else if b.toNat = 7 then hIntrinsic else b.toNat
/-- … and its signature family (in the vocabulary of zcrypto's log) -/
def sigKindOf (a b : UInt8) : Nat :=
  if a.toNat ≤ 6 then (if b.toNat = 1 then sigPKCS1v15 else sigECDSA)
  else if b.toNat = 7 then sigEd25519 else sigRSAPSS

-- one row `x y` of the if-chain of `typeAndHash`, in its order; refers to `hh`, `a`, `b` of `typeAndHash_wire`
set_option hygiene false in
macro "scheme_case" x:num y:num : tactic =>
  `(tactic| (by_cases hc : u16 a b = $x * 256 + $y
             · rw [if_pos hc] at hh
               simp only [Option.some.injEq, Prod.mk.injEq] at hh
               obtain ⟨rfl, rfl⟩ := hh
               obtain ⟨h1, h2⟩ := u16_inj (x := $x) (y := $y) (by omega) (by omega) hc
               simp [tlsHashOf, sigKindOf, h1, h2, hSHA1, hSHA256, hSHA384, hSHA512, hIntrinsic, sigPKCS1v15, sigRSAPSS, sigECDSA, sigEd25519]
             rw [if_neg hc] at hh
             clear hc))

theorem typeAndHash_wire {a b : UInt8} {t h : Nat} (hh : typeAndHash (u16 a b) = some (t, h)) :
    h = tlsHashOf a b ∧ t = sigKindOf a b := by
  unfold typeAndHash at hh
  scheme_case 2 1
  scheme_case 4 1
  scheme_case 5 1
  scheme_case 6 1
  scheme_case 8 4
  scheme_case 8 5
  scheme_case 8 6
  scheme_case 2 3
  scheme_case 4 3
  scheme_case 5 3
  scheme_case 6 3
  scheme_case 8 7
  cases hh

theorem bindNNB {β : Type} {o : Option (Nat × Nat × Bytes)} {f : Nat → Nat → Bytes → Option β} {y : β}
    (h : (match o with | none => none | some (a, b, c) => f a b c) = some y) :
    ∃ a b c, o = some (a, b, c) ∧ f a b c = some y := by
  match o, h with
  | some (a, b, c), h => exact ⟨a, b, c, rfl, h⟩

theorem ecdheLog_inv {vers : Nat} {isRSA : Bool} {kt : KeyType} {algs : List Nat} {ok : Bool} {cr sr key : Bytes}
    {l : ECDHELog} (h : ecdheLog vers isRSA kt algs ok cr sr key = some l) :
    ∃ c1 c2 pl pub algB l1 l2,
      key = 3 :: c1 :: c2 :: pl :: (pub ++ algB ++ (l1 :: l2 :: l.sig.raw)) ∧
      pub.length = pl.toNat ∧ l.curve = u16 c1 c2 ∧ u16 l1 l2 = l.sig.raw.length ∧
      l.sig.hasSigHash = decide (vers ≥ 0x0303) ∧ l.sig.version = vers ∧
      if vers ≥ 0x0303 then
        ∃ a b, algB = [a, b] ∧ typeAndHash (u16 a b) = some (l.sig.sig, l.sig.hash) ∧ algs.contains (u16 a b) = true
      else algB = [] ∧ legacyTypeAndHash kt = some (l.sig.sig, l.sig.hash) := by
  unfold ecdheLog at h
  match key, h with
  | ct :: c1 :: c2 :: pl :: rest, h =>
    simp only at h
    obtain ⟨g1, h⟩ := guard_some h
    obtain ⟨g2, h⟩ := guard_some h
    obtain ⟨_, h⟩ := guard_some h
    obtain ⟨_, h⟩ := guard_some h
    obtain ⟨_, h⟩ := guard_some h
    obtain ⟨t, hh, sig1, halgo, h⟩ := bindNNB h
    obtain ⟨_, h⟩ := guard_some h
    match sig1, h with
    | l1 :: l2 :: sig, h =>
      obtain ⟨g7, h⟩ := guard_some h
      cases h
      -- the algorithm bytes: two of them from TLS 1.2 on, none before
      have halg : ∃ algB, rest.drop pl.toNat = algB ++ l1 :: l2 :: sig ∧
          if vers ≥ 0x0303 then
            ∃ a b, algB = [a, b] ∧ typeAndHash (u16 a b) = some (t, hh) ∧ algs.contains (u16 a b) = true
          else algB = [] ∧ legacyTypeAndHash kt = some (t, hh) := by
        by_cases hv : vers ≥ 0x0303
        · rw [if_pos (decide_eq_true hv)] at halgo
          simp only [if_pos hv]
          match hdr : List.drop pl.toNat rest, halgo with
          | a :: b :: s1, halgo =>
            obtain ⟨_, halgo⟩ := guard_some halgo
            obtain ⟨g9, halgo⟩ := guard_some halgo
            match hta : typeAndHash (u16 a b), halgo with
            | some (t', h'), halgo =>
              cases halgo
              exact ⟨[a, b], rfl, a, b, rfl, hta, by simpa using g9⟩
        · rw [if_neg (mt of_decide_eq_true hv)] at halgo
          simp only [if_neg hv]
          match legacyTypeAndHash kt, halgo with
          | some (t', h'), halgo =>
            simp only [Option.some.injEq, Prod.mk.injEq] at halgo
            obtain ⟨rfl, rfl, hs⟩ := halgo
            exact ⟨[], hs, rfl, rfl⟩
      obtain ⟨algB, hd, hspec⟩ := halg
      refine ⟨c1, c2, pl, rest.take pl.toNat, algB, l1, l2, ?_, ?_, rfl, Decidable.of_not_not g7, rfl, rfl, hspec⟩
      · rw [Decidable.of_not_not g1, List.append_assoc, ← hd, List.take_append_drop]
      · exact List.length_take_of_le (Nat.le_of_not_gt g2)

theorem dheSigPart_tls12 {vers : Nat} {cr sr params rest : Bytes} {hb sb : UInt8} (hv : vers ≥ 0x0303) :
    let r := (dheSigPart vers cr sr params (hb :: sb :: rest)).1
    r.hasSigHash = true ∧ r.hash = hb.toNat ∧ r.sig = sb.toNat ∧
      (r.raw = [] ∨ ∃ a b, rest = a :: b :: r.raw ∧ u16 a b = r.raw.length) := by
  have hd := decide_eq_true hv
  simp only [dheSigPart, hd, List.length_cons]
  rw [if_neg (Nat.not_lt.mpr (Nat.le_add_left 2 _))]
  simp only [if_true]
  by_cases g1 : sb.toNat ≠ sigRSA
  · rw [if_pos g1]; exact ⟨rfl, rfl, rfl, .inl rfl⟩
  rw [if_neg g1]
  by_cases g2 : rest.length < 2
  · rw [if_pos g2]; exact ⟨rfl, rfl, rfl, .inl rfl⟩
  rw [if_neg g2]
  by_cases g3 : (!dheClientHashes.contains hb.toNat) = true
  · rw [if_pos g3]; exact ⟨rfl, rfl, rfl, .inl rfl⟩
  rw [if_neg g3]
  match rest with
  | a :: b :: sig =>
    simp only
    by_cases g4 : u16 a b ≠ sig.length
    · rw [if_pos g4]; exact ⟨rfl, rfl, rfl, .inl rfl⟩
    rw [if_neg g4]
    refine ⟨rfl, rfl, rfl, Or.inr ⟨a, b, rfl, Decidable.of_not_not g4⟩⟩
  | [] => simp at g2
  | [_] => simp at g2

end ZV.C28
