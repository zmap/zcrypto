import ZV.Proofs.C05List
/-! The list level of C05: what `createTBS` writes, and `parseRLTail` on it. -/
namespace ZV.C05
open ZV ZV.Der ZV.C06 ZV.C04

/-- domain of the list-level theorem (decidable): entries in `EntryT.okT`; list-level extra extensions with OIDs within the
    reader's MaxInt32 limit that do not repeat the two extensions the library writes itself (authorityKeyIdentifier,
    cRLNumber — a repeated one would override the parsed `AuthorityKeyId` / `Number`, the last occurrence wins). -/
def RLDom (t : RLTmpl) : Bool :=
  t.entries.all EntryT.okT && t.extras.all (fun x => oidOk x.oid && x.oid != oidAKI && x.oid != oidCRLNumber)

/-- the signature AlgorithmIdentifier parameter is one SEQUENCE that `parseAI` accepts -/
def aiOk (sigAI : Bytes) : Bool :=
  match cbRead 0x30 sigAI with
  | .ok (e, rest) => rest.isEmpty && (parseAICB e.body).isOk
  | _ => false

/-- the issuer's subject is one SEQUENCE that `parseName` accepts -/
def issuerOk (s : Bytes) : Bool :=
  match cbRead 0x30 s with
  | .ok (_, rest) => rest.isEmpty && nameOk s
  | _ => false

theorem aiOk_elim {sigAI : Bytes} (h : aiOk sigAI = true) :
    ∃ e alg, cbRead 0x30 sigAI = .ok (e, []) ∧ parseAICB e.body = .ok alg := by
  unfold aiOk at h
  split at h
  · rename_i e rest hr
    simp only [Bool.and_eq_true, List.isEmpty_iff] at h
    obtain ⟨rfl, hok⟩ := h
    obtain ⟨alg, ha⟩ := Res.isOk_iff.1 hok
    exact ⟨e, alg, hr, ha⟩
  · cases h

theorem issuerOk_elim {s : Bytes} (h : issuerOk s = true) : ∃ e, cbRead 0x30 s = .ok (e, []) ∧ nameOk s = true := by
  unfold issuerOk at h
  split at h
  · rename_i e rest hr
    simp only [Bool.and_eq_true, List.isEmpty_iff] at h
    obtain ⟨rfl, hn⟩ := h
    exact ⟨e, hr, hn⟩
  · cases h

def RLTmpl.parsedNext (t : RLTmpl) : Option GoTime :=
  if isZeroTime (utc t.nextUpdate) then none else some (secOf t.nextUpdate)

def RLTmpl.parsedEntries (t : RLTmpl) : Option (List PEntryT) :=
  if t.entries.isEmpty then none else some (t.entries.map fun e => e.parsed (entryEnc e))

def extsW (l : List EExt) : Bytes :=
  writeTLV 0xA0 (writeTLV 0x30 ((l.map fun x => writeTLV 0x30 (extBody x)).flatten))

def revField (es : List EntryT) : Bytes := if es.isEmpty then [] else writeTLV 0x30 ((es.map entryEnc).flatten)

theorem createTBS_eq {sigAI : Bytes} {iss : IssuerC} {t : RLTmpl} {tbs : Bytes} (h : createTBS sigAI iss t = .ok tbs) :
    (iss.crlSign = true ∧ iss.ski.isEmpty = false ∧ before t.nextUpdate t.thisUpdate = false) ∧
    ∃ n tu nu, t.number = some n ∧ crlNumberOk n = true ∧
      (∀ e ∈ t.entries, encTimeG (utc e.time) = .ok (tbOf e) ∧ ∀ x ∈ e.synth, encOID x.oid = some (oidC x)) ∧
      (∀ x ∈ listExts iss n t, encOID x.oid = some (oidC x)) ∧
      encTimeG (utc t.thisUpdate) = .ok tu ∧ encNextUpdate t.nextUpdate = .ok nu ∧
      tbs = writeTLV 0x30 (writeTLV 0x02 [1] ++ (sigAI ++ (iss.subject ++ (tu ++ (nu ++
        (revField t.entries ++ extsW (listExts iss n t))))))) := by
  unfold createTBS at h
  obtain ⟨c1, h⟩ := guard_ok h
  obtain ⟨c2, h⟩ := guard_ok h
  obtain ⟨c3, h⟩ := guard_ok h
  cases hn : t.number with
  | none => rw [hn] at h; cases h
  | some n =>
  rw [hn] at h
  obtain ⟨c4, h⟩ := guard_ok h
  obtain ⟨revoked, hre, h⟩ := Res.bind_ok.mp h
  cases hm : (listExts iss n t).mapM encExtension with
  | none => simp [hm] at h
  | some xs =>
    obtain ⟨e1, p1⟩ := mapM_encExtension hm
    simp only [hm] at h
    obtain ⟨tu, htu, h⟩ := Res.bind_ok.mp h
    obtain ⟨nu, hnu, h⟩ := Res.bind_ok.mp h
    unfold encEntriesT at hre
    cases hmr : mapRes encEntryT t.entries with
    | err => simp [hmr, Res.map] at hre
    | panic => simp [hmr, Res.map] at hre
    | ok bss =>
      simp only [hmr, Res.map, Res.ok.injEq] at hre h
      obtain ⟨e2, p2⟩ := mapRes_ok_map encEntryT entryEnc
        (fun e => encTimeG (utc e.time) = .ok (tbOf e) ∧ ∀ x ∈ e.synth, encOID x.oid = some (oidC x))
        (fun a b hab => ⟨(encEntryT_eq hab).1, (encEntryT_eq hab).2⟩) _ _ hmr
      refine ⟨⟨by simpa using c1, by simpa using c2, by simpa using c3⟩, n, tu, nu, rfl, by simpa using c4, p2, p1, htu, hnu, ?_⟩
      rw [← h, ← hre, e1, e2]
      simp only [tlv, revField, extsW]

theorem parseBitString_zero (sig : Bytes) : parseBitString (0 :: sig) = .ok (0, sig) := by
  unfold parseBitString
  cases hg : ((0 : UInt8) :: sig).getLast? with
  | none => simp at hg
  | some l => simp [hg, Nat.mod_one]

theorem listExts_ok {iss : IssuerC} {n : Int} {t : RLTmpl} (hdom : RLDom t = true) :
    ∀ x ∈ listExts iss n t, oidOk x.oid = true := by
  intro x hx
  simp only [RLDom, Bool.and_eq_true] at hdom
  simp only [listExts, List.mem_cons] at hx
  rcases hx with rfl | rfl | hx
  · exact oidOk_aki
  · exact oidOk_num
  · have := List.all_eq_true.mp hdom.2 x hx
    simp only [Bool.and_eq_true] at this
    exact this.1.1

/-- the `[0]` extensions stage of `ParseRevocationList` on what `CreateRevocationList` wrote -/
theorem extsStage (iss : IssuerC) (n : Int) (t : RLTmpl) (hdom : RLDom t = true)
    (henc : ∀ x ∈ listExts iss n t, encOID x.oid = some (oidC x))
    (hlen : (extsW (listExts iss n t)).length < 2147483648) :
    cbRead 0xA0 (extsW (listExts iss n t)) =
      .ok (elemOf 0xA0 (writeTLV 0x30 (((listExts iss n t).map fun x => writeTLV 0x30 (extBody x)).flatten)), []) ∧
    cbRead 0x30 (writeTLV 0x30 (((listExts iss n t).map fun x => writeTLV 0x30 (extBody x)).flatten)) =
      .ok (elemOf 0x30 (((listExts iss n t).map fun x => writeTLV 0x30 (extBody x)).flatten), []) ∧
    parseExtsCB (((listExts iss n t).map fun x => writeTLV 0x30 (extBody x)).flatten).length
        (((listExts iss n t).map fun x => writeTLV 0x30 (extBody x)).flatten)
      = .ok ((listExts iss n t).map triple) ∧
    scanListExts ((listExts iss n t).map triple) none none = .ok (some (buildAKI iss.ski), some n) := by
  have h1 := writeTLV_length_ge 0xA0 (writeTLV 0x30 (((listExts iss n t).map fun x => writeTLV 0x30 (extBody x)).flatten))
  have h2 := writeTLV_length_ge 0x30 (((listExts iss n t).map fun x => writeTLV 0x30 (extBody x)).flatten)
  unfold extsW at hlen
  have hbl := extBody_bound (l := listExts iss n t) (N := 2147483648) (by omega)
  have hok := listExts_ok (iss := iss) (n := n) hdom
  refine ⟨cbRead_tlv_end _ _ (by decide) (by omega), cbRead_tlv_end _ _ (by decide) (by omega),
    parseExtsCB_build (listExts iss n t) _ (fun x hx => ⟨validOID_encOID (henc x hx) (hok x hx), hbl x hx⟩) (Nat.le_refl _), ?_⟩
  have hrest : ∀ x ∈ t.extras, encOID x.oid = some (oidC x) ∧ oidOk x.oid = true ∧ x.oid ≠ oidAKI ∧ x.oid ≠ oidCRLNumber := by
    intro x hx
    have hm : x ∈ listExts iss n t := by simp [listExts, hx]
    simp only [RLDom, Bool.and_eq_true] at hdom
    have := List.all_eq_true.mp hdom.2 x hx
    simp only [Bool.and_eq_true, bne_iff_ne, ne_eq] at this
    exact ⟨henc x hm, this.1.1, this.1.2, this.2⟩
  have ca : oidC ⟨oidAKI, false, buildAKI iss.ski⟩ = oidAKIBytes := by simp [oidC, encOID_aki]
  simp only [listExts, List.map_cons, scanListExts, triple, ca, if_true, tlv]
  rw [cbRead_tlv_end _ _ (by decide) (by
    have := writeTLV_length_ge 0x02 (encBigInt n)
    have hx : (⟨oidCRLNumber, false, tlv 0x02 (encBigInt n)⟩ : EExt) ∈ listExts iss n t := by simp [listExts]
    have := hbl _ hx
    simp only [extBody, List.length_append, tlv] at this
    have := writeTLV_length_ge 0x04 (writeTLV 0x02 (encBigInt n))
    omega)]
  simp only [Res.ok_bind, elemOf_body, parseBigInt_encBigInt]
  exact scanListExts_other t.extras _ _ hrest

theorem peek_revField_W (es : List EntryT) (l : List EExt) (t' : UInt8) (h30 : t' ≠ 0x30) (hA0 : t' ≠ 0xA0) :
    peek t' (revField es ++ extsW l) = false := by
  unfold revField extsW
  split
  · simp only [List.nil_append, peek_tlv_end]; simpa using fun h => hA0 h.symm
  · simp only [peek_tlv]; simpa using fun h => h30 h.symm

theorem parseRLTail_build (iss : IssuerC) (n : Int) (t : RLTmpl) (tu nu : Bytes) (hdom : RLDom t = true)
    (hes : ∀ e ∈ t.entries, encTimeG (utc e.time) = .ok (tbOf e) ∧ ∀ x ∈ e.synth, encOID x.oid = some (oidC x))
    (henc : ∀ x ∈ listExts iss n t, encOID x.oid = some (oidC x))
    (htu : encTimeG (utc t.thisUpdate) = .ok tu) (hnu : encNextUpdate t.nextUpdate = .ok nu)
    (hlen : (revField t.entries ++ extsW (listExts iss n t)).length < 2147483648) :
    parseRLTail (tu ++ (nu ++ (revField t.entries ++ extsW (listExts iss n t)))) =
      .ok (secOf t.thisUpdate, t.parsedNext, t.parsedEntries, some (buildAKI iss.ski), some n, (listExts iss n t).map triple) := by
  simp only [List.length_append] at hlen
  obtain ⟨x1, x2, x3, x4⟩ := extsStage iss n t hdom henc (by omega)
  unfold parseRLTail
  rw [(parseTimeCB_encTimeG t.thisUpdate tu _ htu).1]
  simp only [Res.ok_bind]
  have hnext : (if peek 0x18 (nu ++ (revField t.entries ++ extsW (listExts iss n t))) ||
        peek 0x17 (nu ++ (revField t.entries ++ extsW (listExts iss n t))) then
        (parseTimeCB (nu ++ (revField t.entries ++ extsW (listExts iss n t)))).bind fun nu => Res.ok (some nu.1, nu.2)
      else Res.ok (none, nu ++ (revField t.entries ++ extsW (listExts iss n t)))) =
      Res.ok (t.parsedNext, revField t.entries ++ extsW (listExts iss n t)) := by
    unfold encNextUpdate at hnu
    unfold RLTmpl.parsedNext
    by_cases hz : isZeroTime (utc t.nextUpdate) = true
    · simp only [hz, if_true, Res.ok.injEq] at hnu ⊢
      subst hnu
      simp only [List.nil_append, peek_revField_W _ _ 0x18 (by decide) (by decide),
        peek_revField_W _ _ 0x17 (by decide) (by decide), Bool.or_self, Bool.false_eq_true, if_false]
    · simp only [hz, Bool.false_eq_true, if_false] at hnu ⊢
      obtain ⟨p1, p2⟩ := parseTimeCB_encTimeG t.nextUpdate nu (revField t.entries ++ extsW (listExts iss n t)) hnu
      simp only [p2, if_true, p1, Res.ok_bind]
  rw [hnext]
  simp only [Res.ok_bind]
  have hrev : (if peek 0x30 (revField t.entries ++ extsW (listExts iss n t)) then
        (cbRead 0x30 (revField t.entries ++ extsW (listExts iss n t))).bind fun r =>
          (parseEntriesT r.1.body.length r.1.body).bind fun es => Res.ok (some es, r.2)
      else Res.ok (none, revField t.entries ++ extsW (listExts iss n t))) =
      Res.ok (t.parsedEntries, extsW (listExts iss n t)) := by
    unfold RLTmpl.parsedEntries
    by_cases hemp : t.entries.isEmpty = true
    · have : revField t.entries = [] := by simp [revField, hemp]
      have hp : peek 0x30 (extsW (listExts iss n t)) = false := by simp [extsW, peek_tlv_end]
      simp only [this, List.nil_append, hp, Bool.false_eq_true, if_false, hemp, if_true]
    · have hrf : revField t.entries = writeTLV 0x30 ((t.entries.map entryEnc).flatten) := by simp [revField, hemp]
      rw [hrf] at hlen ⊢
      have hX := writeTLV_length_ge 0x30 ((t.entries.map entryEnc).flatten)
      simp only [peek_tlv, beq_self_eq_true, if_true, hemp, Bool.false_eq_true, if_false]
      rw [cbRead_tlv _ _ _ (by decide) (by omega)]
      simp only [Res.ok_bind, elemOf_body]
      simp only [RLDom, Bool.and_eq_true] at hdom
      rw [parseEntriesT_build t.entries _ (fun e he => ⟨(hes e he).1, (hes e he).2, List.all_eq_true.mp hdom.1 e he, by
        have h1 := (List.sublist_flatten_of_mem (List.mem_map_of_mem (f := entryEnc) he)).length_le
        have h2 := writeTLV_length_ge 0x30 (entryBodyT e (tbOf e))
        simp only [entryEnc] at h1
        omega⟩) (Nat.le_refl _)]
      simp only [Res.ok_bind]
  rw [hrev]
  simp only [Res.ok_bind]
  have hpA : peek 0xA0 (extsW (listExts iss n t)) = true := by simp [extsW, peek_tlv_end]
  simp only [hpA, if_true]
  rw [x1]
  simp only [Res.ok_bind, elemOf_body]
  rw [x2]
  simp only [Res.ok_bind, elemOf_body]
  rw [x3]
  simp only [Res.ok_bind]
  rw [x4]
  simp only [Res.ok_bind]

end ZV.C05
