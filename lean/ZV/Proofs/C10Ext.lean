import ZV.Proofs.C10
import Mathlib.Data.List.Dedup
/-!
  On top of the invariant (`ZV.Proofs.C10`): `AppendFromPEMErr` is the `AddCert` / `AddRoot` sequence of the
  certificates of the stream (`pemLoop_eq_run`); `Hist H g` is kept by every operation and depends on the certificates
  and root certificates of `H` only (`Hist.congrCerts`), which is why inserting a certificate again changes nothing;
  the issuer chosen is the first verifying node in creation order (`FirstIss`).
-/
namespace ZV.C10

theorem not_exists_mem_nil {α : Type} {P : α → Prop} : ¬ ∃ x ∈ ([] : List α), P x :=
  fun h => h.elim fun _ h => List.not_mem_nil h.1

theorem run_append (V : Ver) (a b : List Op) : ∀ g, run V g (a ++ b) =
    match run V g a with
    | .ok g1 => run V g1 b
    | _ => .panic := by
  induction a with
  | nil => intro g; rfl
  | cons op a ih =>
    intro g
    simp only [List.cons_append, run]
    cases step V g op with
    | ok g1 => exact ih g1
    | err => rfl
    | panic => rfl

/-- the `AddCert` / `AddRoot` calls made by the loop -/
def pemOps (root : Bool) : List PemItem → List Op
  | [] => []
  | .junk :: r => pemOps root r
  | .bad :: r => pemOps root r
  | .big :: _ => []
  | .cert c :: r => (if root then [Op.add c, Op.root c] else [Op.add c]) ++ pemOps root r

/-- unparsable blocks before the first over-long stretch -/
def pemErrs : List PemItem → Nat
  | [] => 0
  | .junk :: r => pemErrs r
  | .bad :: r => pemErrs r + 1
  | .big :: _ => 0
  | .cert _ :: r => pemErrs r

def pemTooLong : List PemItem → Bool
  | [] => false
  | .junk :: r => pemTooLong r
  | .bad :: r => pemTooLong r
  | .big :: _ => true
  | .cert _ :: r => pemTooLong r

/-- the certificates the loop reaches -/
def pemCerts : List PemItem → List Cert
  | [] => []
  | .junk :: r => pemCerts r
  | .bad :: r => pemCerts r
  | .big :: _ => []
  | .cert c :: r => c :: pemCerts r

theorem pemLoop_eq_run (V : Ver) (root : Bool) (items : List PemItem) : ∀ g n ne,
    pemLoop V root g n ne items =
      match run V g (pemOps root items) with
      | .ok g' => .ok ⟨n + (pemCerts items).length, ne + pemErrs items, pemTooLong items, g'⟩
      | _ => .panic := by
  induction items with
  | nil => exact fun _ _ _ => rfl
  | cons it rest ih =>
    intro g n ne
    cases it with
    | junk => exact ih g n ne
    | bad =>
      show pemLoop V root g n (ne + 1) rest = _
      rw [ih, Nat.add_right_comm]
      rfl
    | big => rfl
    | cert c =>
      -- both sides run `AddCert c` (and `AddRoot c`) first, and stop if it panics
      have hcount : n + (pemCerts (.cert c :: rest)).length = n + 1 + (pemCerts rest).length :=
        (Nat.add_right_comm n 1 _).symm
      rw [hcount]
      cases root with
      | false =>
        simp only [pemLoop, pemOps, Bool.false_eq_true, if_false, List.cons_append, List.nil_append, run, step]
        cases addCert V g c with
        | ok g1 => exact ih g1 (n + 1) ne
        | err => rfl
        | panic => rfl
      | true =>
        simp only [pemLoop, pemOps, if_true, List.cons_append, List.nil_append, run, step]
        cases addCert V g c with
        | ok g1 =>
          dsimp only
          cases addRoot V g1 c with
          | ok g2 => exact ih g2 (n + 1) ne
          | err => rfl
          | panic => rfl
        | err => rfl
        | panic => rfl

theorem mem_pemOps {root : Bool} {items : List PemItem} {o : Op} :
    o ∈ pemOps root items ↔ ∃ c ∈ pemCerts items, o = Op.add c ∨ (root = true ∧ o = Op.root c) := by
  induction items with
  | nil => exact iff_of_false List.not_mem_nil not_exists_mem_nil
  | cons it rest ih =>
    cases it with
    | junk => exact ih
    | bad => exact ih
    | big => exact iff_of_false List.not_mem_nil not_exists_mem_nil
    | cert c =>
      show o ∈ (if root = true then [Op.add c, Op.root c] else [Op.add c]) ++ pemOps root rest ↔
        ∃ c' ∈ c :: pemCerts rest, _
      rw [List.mem_append, ih, exists_mem_cons]
      refine or_congr_left ?_
      cases root
      · simp only [Bool.false_eq_true, if_false, List.mem_singleton, false_and, or_false]
      · simp only [if_true, List.mem_cons, List.not_mem_nil, or_false, true_and]

theorem addCert_idem {V : Ver} {g g1 : Graph} (hinv : Inv V g) {c : Cert} (h : addCert V g c = .ok g1) :
    addCert V g1 c = .ok g1 := by
  obtain ⟨g', hadd, _, hhas⟩ := addCert_spec hinv c
  cases hadd.symm.trans h
  rw [addCert_eq, if_pos hhas]

theorem addRoot_after_addCert {V : Ver} {g g1 : Graph} (hinv : Inv V g) {c : Cert}
    (h : addCert V g c = .ok g1) : addRoot V g1 c = addRoot V g c := by
  unfold addRoot
  rw [addCert_idem hinv h, h]

theorem findEdge_isSome_iff {es : List Edge} {fp : Nat} :
    (findEdge es fp).isSome = true ↔ ∃ e ∈ es, e.cert.fp = fp := by
  simp only [findEdge, List.find?_isSome, beq_iff_eq]

theorem findNode_isSome_iff {ns : List Node} {k : NodeKey} :
    (findNode ns k).isSome = true ↔ ∃ n ∈ ns, n.key = k := by
  simp only [findNode, List.find?_isSome, beq_iff_eq]

/-- SHA-256 is injective on the certificates of the history -/
def FpInj (H : List Op) : Prop := ∀ a ∈ H, ∀ b ∈ H, a.cert.fp = b.cert.fp → a.cert = b.cert

theorem FpInj.mono {H H' : List Op} (hsub : ∀ o ∈ H', o ∈ H) (h : FpInj H) : FpInj H' :=
  fun a ha b hb => h a (hsub a ha) b (hsub b hb)

theorem fpInj_iff_map {H : List Op} :
    FpInj H ↔ ∀ x ∈ H.map Op.cert, ∀ y ∈ H.map Op.cert, x.fp = y.fp → x = y := by
  simp only [FpInj, List.forall_mem_map]

theorem hist_empty : Hist [] Graph.empty :=
  ⟨fun _ => iff_of_false not_exists_mem_nil not_exists_mem_nil,
   fun _ => iff_of_false not_exists_mem_nil not_exists_mem_nil,
   List.forall_mem_nil _, List.forall_mem_nil _⟩

/-- same certificates, same root certificates -/
def SameCerts (H H' : List Op) : Prop :=
  (∀ c, (∃ o ∈ H, o.cert = c) ↔ (∃ o ∈ H', o.cert = c)) ∧ (∀ c, Op.root c ∈ H ↔ Op.root c ∈ H')

theorem SameCerts.symm {H H' : List Op} (h : SameCerts H H') : SameCerts H' H :=
  ⟨fun c => (h.1 c).symm, fun c => (h.2 c).symm⟩

theorem SameCerts.of_mem {H H' : List Op} (h : ∀ o, o ∈ H ↔ o ∈ H') : SameCerts H H' :=
  ⟨fun _ => exists_congr fun o => and_congr_left fun _ => h o, fun _ => h _⟩

/-- a criterion that can be evaluated on concrete histories -/
theorem SameCerts.of_lists {H H' : List Op}
    (h : ∀ c ∈ H.map Op.cert, c ∈ H'.map Op.cert ∧ (Op.root c ∈ H → Op.root c ∈ H'))
    (h' : ∀ c ∈ H'.map Op.cert, c ∈ H.map Op.cert ∧ (Op.root c ∈ H' → Op.root c ∈ H)) : SameCerts H H' :=
  ⟨fun c => List.mem_map.symm.trans (Iff.trans ⟨fun hc => (h c hc).1, fun hc => (h' c hc).1⟩ List.mem_map),
   fun c => ⟨fun hr => (h c (List.mem_map_of_mem (f := Op.cert) hr)).2 hr,
     fun hr => (h' c (List.mem_map_of_mem (f := Op.cert) hr)).2 hr⟩⟩

theorem SameCerts.exists_congr {H H' : List Op} (hm : SameCerts H H') (P : Cert → Prop) :
    (∃ o ∈ H, P o.cert) ↔ ∃ o ∈ H', P o.cert := by
  constructor <;> rintro ⟨o, ho, hp⟩
  · obtain ⟨o', ho', hc⟩ := (hm.1 o.cert).mp ⟨o, ho, rfl⟩
    exact ⟨o', ho', hc ▸ hp⟩
  · obtain ⟨o', ho', hc⟩ := (hm.1 o.cert).mpr ⟨o, ho, rfl⟩
    exact ⟨o', ho', hc ▸ hp⟩

theorem Hist.congrCerts {H H' : List Op} {g : Graph} (hm : SameCerts H H') (h : Hist H g) : Hist H' g where
  nodes := fun k => (h.nodes k).trans (hm.exists_congr (·.sk = k))
  edges := fun fp => (h.edges fp).trans (hm.exists_congr (·.fp = fp))
  certs := fun e he => (hm.exists_congr (· = e.cert)).mp (h.certs e he)
  roots := fun e he => (h.roots e he).trans (exists_congr fun c => and_congr_left fun _ => hm.2 c)

theorem FpInj.congrCerts {H H' : List Op} (hm : SameCerts H H') (h : FpInj H) : FpInj H' := by
  intro a ha b hb hfp
  obtain ⟨a', ha', hca⟩ := (hm.1 a.cert).mpr ⟨a, ha, rfl⟩
  obtain ⟨b', hb', hcb⟩ := (hm.1 b.cert).mpr ⟨b, hb, rfl⟩
  rw [← hca, ← hcb]
  exact h a' ha' b' hb' (by rw [hca, hcb]; exact hfp)

/-- `H'`: the history, possibly with further certificates one asks about -/
theorem Hist.cert_eq {H H' : List Op} {g : Graph} (hh : Hist H g) (hfp : FpInj H') (hsub : ∀ o ∈ H, o ∈ H')
    {e : Edge} (he : e ∈ g.edges) {o : Op} (ho : o ∈ H') (h : e.cert.fp = o.cert.fp) : e.cert = o.cert := by
  obtain ⟨o', ho', hc⟩ := hh.certs e he
  exact hc ▸ hfp o' (hsub o' ho') o ho (hc ▸ h)

theorem exists_mem_cons_cert (o o' : Op) (h : o'.cert = o.cert) (H : List Op) (P : Cert → Prop) :
    (∃ op ∈ o' :: H, P op.cert) ↔ ∃ op ∈ o :: H, P op.cert := by
  rw [exists_mem_cons, exists_mem_cons, h]

theorem hist_addCert {V : Ver} {g g' : Graph} {H : List Op} (hinv : Inv V g) (hh : Hist H g) {c : Cert}
    (hinj : FpInj (Op.add c :: H)) (hadd : addCert V g c = .ok g') : Hist (Op.add c :: H) g' := by
  cases hdup : hasEdge g.edges c.fp with
  | true =>
    -- `c` is in the graph, so in the history: the history has gained nothing
    rw [addCert_eq, if_pos hdup] at hadd
    cases hadd
    obtain ⟨e, he, hfp⟩ := hasEdge_iff.mp hdup
    obtain ⟨o, ho, hc⟩ := hh.certs e he
    have hoc : o.cert = c :=
      hinj o (List.mem_cons_of_mem _ ho) _ List.mem_cons_self (hc ▸ hfp)
    refine hh.congrCerts ⟨fun x => ?_, fun x => ?_⟩
    · rw [exists_mem_cons]
      exact (or_iff_right_of_imp fun h => ⟨o, ho, hoc.trans h⟩).symm
    · rw [List.mem_cons]
      exact (or_iff_right_of_imp fun h => nomatch h).symm
  | false =>
    obtain ⟨g1, hadd1, _, hkeys, hedges⟩ := addCert_new hinv c hdup
    cases hadd1.symm.trans hadd
    have hskel := edgesAdd_skel V (g.nodes.map (·.key)) g.edges c
    rw [← hedges] at hskel
    refine ⟨fun k => ?_, fun fp => ?_, ?_, ?_⟩
    · rw [← List.mem_map, hkeys, mem_keysAdd, List.mem_map, hh.nodes k, exists_mem_cons]
      exact or_comm.trans (or_congr_left eq_comm)
    · refine (exists_mem_map (f := skel) (Q := fun s => s.1.fp = fp)).symm.trans ?_
      rw [hskel, exists_mem_append_singleton, exists_mem_map, exists_mem_cons]
      exact or_comm.trans (or_congr_right (hh.edges fp))
    · refine (List.forall_mem_map (f := skel) (P := fun s => ∃ o ∈ Op.add c :: H, o.cert = s.1)).mp ?_
      rw [hskel]
      refine List.forall_mem_append.mpr ⟨List.forall_mem_map.mpr fun e he => ?_,
        List.forall_mem_singleton.mpr ⟨_, List.mem_cons_self, rfl⟩⟩
      obtain ⟨o, ho, h⟩ := hh.certs e he
      exact ⟨o, List.mem_cons_of_mem _ ho, h⟩
    · refine (List.forall_mem_map (f := skel)
        (P := fun s => s.2.2 = true ↔ ∃ c', Op.root c' ∈ Op.add c :: H ∧ c'.fp = s.1.fp)).mp ?_
      simp only [hskel, List.mem_cons, reduceCtorEq, false_or]
      refine List.forall_mem_append.mpr ⟨List.forall_mem_map.mpr hh.roots, List.forall_mem_singleton.mpr ?_⟩
      -- the new edge is no root, and a root of the history with its fingerprint would be an edge of `g`
      refine iff_of_false Bool.false_ne_true ?_
      rintro ⟨c', hc', hfp⟩
      exact Bool.false_ne_true (hdup.symm.trans (hasEdge_iff.mpr ((hh.edges c.fp).mpr ⟨_, hc', hfp⟩)))

theorem hist_setRoot {g : Graph} {H : List Op} {o : Op} (hh : Hist (o :: H) g) :
    Hist (Op.root o.cert :: H) { g with edges := setRoot g.edges o.cert.fp } where
  nodes := fun k => (hh.nodes k).trans (exists_mem_cons_cert o (Op.root o.cert) rfl H (·.sk = k)).symm
  edges := fun fp => by
    simp only [setRoot_eq_map, exists_mem_map, rootAt_cert]
    exact (hh.edges fp).trans (exists_mem_cons_cert o (Op.root o.cert) rfl H (·.fp = fp)).symm
  certs := (List.forall_mem_map (f := rootAt o.cert.fp)).mpr fun e he => by
    rw [rootAt_cert]
    exact (exists_mem_cons_cert o (Op.root o.cert) rfl H (· = e.cert)).mpr (hh.certs e he)
  roots := (List.forall_mem_map (f := rootAt o.cert.fp)).mpr fun e he => by
    rw [rootAt_cert]
    unfold rootAt
    by_cases hfp : e.cert.fp = o.cert.fp
    · rw [if_pos (beq_iff_eq.mpr hfp)]
      exact iff_of_true rfl ⟨o.cert, List.mem_cons_self, hfp.symm⟩
    · rw [if_neg (mt beq_iff_eq.mp hfp), hh.roots e he]
      -- a root certificate with the fingerprint of `e` is not `o.cert`
      refine exists_congr fun c' => and_congr_left fun hc' => ?_
      have hne : ∀ {o' : Op}, o'.cert = o.cert → Op.root c' ≠ o' := fun h h' =>
        hfp (hc'.symm.trans (congrArg Cert.fp ((congrArg Op.cert h').trans h)))
      simp only [List.mem_cons, hne rfl, hne (o' := Op.root o.cert) rfl, false_or]

theorem run_hist {V : Ver} (ops : List Op) {g : Graph} {H : List Op} (hinv : Inv V g) (hh : Hist H g)
    (hinj : FpInj (ops.reverse ++ H)) : ∃ g', run V g ops = .ok g' ∧ Inv V g' ∧ Hist (ops.reverse ++ H) g' :=
  have ⟨g', hr, hinv', hh'⟩ := run_ind (P := fun H g => FpInj H → Hist H g)
    (fun _ hi hp ha hinj => hist_addCert hi (hp (hinj.mono fun _ ho => List.mem_cons_of_mem _ ho)) hinj ha)
    -- `Op.add c :: H` and `Op.root c :: H` have the same certificates
    (fun c hp hinj => hist_setRoot (hp (fpInj_iff_map.mpr ((fpInj_iff_map (H := Op.root c :: _)).mp hinj))))
    ops hinv fun _ => hh
  ⟨g', hr, hinv', hh' hinj⟩

theorem hist_of_run {V : Ver} {ops : List Op} {g : Graph} (hfp : FpInj ops)
    (hr : run V Graph.empty ops = .ok g) : Hist ops g := by
  obtain ⟨g', hr', _, hh⟩ := run_hist ops (inv_empty V) hist_empty
    (hfp.mono fun o ho => by rwa [List.append_nil, List.mem_reverse] at ho)
  cases hr.symm.trans hr'
  exact hh.congrCerts (.of_mem fun o => by rw [List.append_nil, List.mem_reverse])

theorem WF.issuer_none_of {V : Ver} {g g' : Graph} (hw : WF V g) (hw' : WF V g')
    (hn : ∀ k, (∃ n ∈ g'.nodes, n.key = k) → ∃ n ∈ g.nodes, n.key = k) {e e' : Edge} (he : e ∈ g.edges)
    (he' : e' ∈ g'.edges) (hc : e'.cert = e.cert) (hi : e.issuer = none) : e'.issuer = none := by
  cases hi' : e'.issuer with
  | none => rfl
  | some k' =>
    obtain ⟨h1, h2, hk'⟩ := hw'.issuerSome e' he' k' hi'
    obtain ⟨n, hnn, hk⟩ := hn k' hk'
    have := hw.issuerNone e he hi n hnn (by rw [hk, ← hc]; exact h1)
    rw [hk, ← hc, h2] at this
    cases this

theorem length_eq_length_dedup {α : Type} [DecidableEq α] {l m : List α} (hn : l.Nodup)
    (h : ∀ x, x ∈ l ↔ x ∈ m) : l.length = m.dedup.length :=
  ((List.perm_ext_iff_of_nodup hn (List.nodup_dedup m)).mpr fun x => (h x).trans List.mem_dedup.symm).length_eq

theorem edge_ext {e e' : Edge} (hc : e'.cert = e.cert) (hi : e'.issuer = e.issuer) (hch : e'.child = e.child)
    (hr : e'.root = e.root) : e' = e := by
  cases e; cases e'
  simp only at hc hi hch hr
  rw [hc, hi, hch, hr]

/-! ### which issuer is chosen

  After every operation sequence the issuer of an edge is the FIRST node, in creation order (`g.nodes`), that has the
  certificate's issuer name and whose key verifies it — whether the edge was linked directly (loop with `break` over
  `nodesBySubject`) or by the dangling-edge fix-up (`missingIssuerNode`).  This pins down the only freedom the
  property leaves. -/

def FirstIss (V : Ver) (g : Graph) : Prop :=
  ∀ e ∈ g.edges, e.issuer = firstVer V (g.nodes.map (·.key)) e.cert.iss e.cert.fp

theorem firstIss_empty (V : Ver) : FirstIss V Graph.empty := by
  intro e he; cases he

theorem addCert_first {V : Ver} {g g' : Graph} (hinv : Inv V g) (hfi : FirstIss V g) {c : Cert}
    (hadd : addCert V g c = .ok g') : FirstIss V g' := by
  cases hdup : hasEdge g.edges c.fp with
  | true =>
    rw [addCert_eq, if_pos hdup] at hadd
    cases hadd
    exact hfi
  | false =>
    obtain ⟨g2, hadd2, _, hk, he⟩ := addCert_new hinv c hdup
    cases hadd2.symm.trans hadd
    unfold FirstIss
    rw [hk, he, edgesAdd, keysAdd]
    split
    · exact List.forall_mem_append.mpr ⟨hfi, List.forall_mem_singleton.mpr rfl⟩
    · -- the new key is the last: it is the first verifying one exactly for the edges it adopts
      refine List.forall_mem_map.mpr (List.forall_mem_append.mpr ⟨fun e he => ?_, List.forall_mem_singleton.mpr ?_⟩)
      · show e.issuer.or _ = _
        rw [hfi e he]
        exact List.find?_append.symm
      · show (firstVer V (_ ++ [c.sk]) c.iss c.fp).or (firstVer V [c.sk] c.iss c.fp) = firstVer V (_ ++ [c.sk]) c.iss c.fp
        unfold firstVer
        rw [List.find?_append, Option.or_assoc, Option.or_self]

theorem firstIss_setRoot {V : Ver} {g : Graph} (h : FirstIss V g) (fp : Nat) :
    FirstIss V { g with edges := setRoot g.edges fp } := by
  refine (List.forall_mem_map (f := rootAt fp)).mpr fun e he => ?_
  rw [rootAt_cert, rootAt_issuer]
  exact h e he

end ZV.C10
