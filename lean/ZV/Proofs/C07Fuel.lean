import ZV.Proofs.C07
/-!
  The recursion bound of `buildChains`.

  The Go recursion `intermediate.buildChains(cache, currentChain + intermediate, opts)` is only
  reached after `intermediate.isValid(CertificateTypeIntermediate, currentChain)` returned nil,
  and `isValid` rejects `len(currentChain) > maxIntermediateCount` (= 10).  Each recursive call
  makes `currentChain` one certificate longer, so a call with `len(currentChain) = 11` does not
  recurse any more.  In the model the recursion consumes one unit of fuel per call; the lemmas
  below show that `fuel ≥ 1 ∧ fuel + len(currentChain) ≥ maxIntermediateCount + 2` is an
  invariant of the recursion under which

  * the error `outOfFuel` is never produced (`buildChains_ne_outOfFuel`), and
  * the whole result (chains, error, cache) does not depend on the fuel
    (`buildChains_fuel_irrelevant`),

  i.e. the fuelled model IS the unbounded Go recursion.
-/
namespace ZV.C07

/-- the invariant: enough fuel for a call whose current chain has `len` certificates -/
def FuelOK (fuel len : Nat) : Prop := 1 ≤ fuel ∧ maxIntermediateCount + 2 ≤ fuel + len

theorem FuelOK.step {fuel : Nat} {cur : Chain} (h : FuelOK (fuel + 1) cur.length)
    (hlen : cur.length ≤ maxIntermediateCount) (x : Cert) : FuelOK fuel (cur ++ [x]).length := by
  unfold FuelOK maxIntermediateCount at *
  simp only [List.length_append, List.length_cons, List.length_nil]
  omega

theorem fuelOK_single {fuel : Nat} (hf : maxIntermediateCount + 1 ≤ fuel) (c : Cert) : FuelOK fuel ([c] : Chain).length :=
  ⟨Nat.le_trans (Nat.le_add_left 1 _) hf, Nat.succ_le_succ hf⟩

theorem fuelOK0 (c : Cert) : FuelOK fuel0 ([c] : Chain).length :=
  fuelOK_single (by decide) c

theorem isValid_none_len (x : Cert) (t : CertType) (cur : Chain) (h : isValid x t cur = none) :
    cur.length ≤ maxIntermediateCount := (isValid_none_pathOK x t cur h).2

/-- error kinds the chain builder can hand back (besides nil) -/
def BuilderErr (e : Option Err) : Prop :=
  e = none ∨ e = some .isSelfSigned ∨ e = some .notAuthorizedToSign ∨ e = some .tooManyIntermediates ∨
  e = some .unknownAuthority

theorem builderErr_of_isValid (x : Cert) (t : CertType) (cur : Chain) : BuilderErr (isValid x t cur) := by
  rw [isValid_eq]
  split
  · exact Or.inr (Or.inr (Or.inl rfl))
  · split
    · exact Or.inl rfl
    · exact Or.inr (Or.inr (Or.inr (Or.inl rfl)))

theorem builderErr_ne_outOfFuel {e : Option Err} (h : BuilderErr e) : e ≠ some .outOfFuel := by
  rcases h with rfl | rfl | rfl | rfl | rfl <;> simp

theorem rootLoop_err (cur : Chain) (ps : List (Nat × Cert)) (st : List Chain × Option Err)
    (hst : BuilderErr st.2) : BuilderErr (rootLoop cur ps st).2 := by
  rw [rootLoop_eq]
  cases ps.getLast? with
  | none => exact hst
  | some p => exact builderErr_of_isValid p.2 .root cur

theorem interLoop_err (rec : Cache → Cert → Chain → List Chain × Option Err × Cache) (env : Env) (cur : Chain)
    (hrec : cur.length ≤ maxIntermediateCount → ∀ cache x, BuilderErr (rec cache x (cur ++ [x])).2.1)
    (ps : List (Nat × Cert)) (st : BState) (hst : BuilderErr st.err) :
    BuilderErr (interLoop rec env cur ps st).err :=
  interLoop_inv rec env cur (fun st => BuilderErr st.err) ps
    (fun _ inter _ _ hv => hv ▸ builderErr_of_isValid inter .intermediate cur) (fun _ _ _ _ _ => Or.inl rfl)
    (fun st _ inter _ _ _ _ hv _ _ hr => hr ▸ hrec (isValid_none_len _ _ _ hv) st.cache inter) st hst

/-- the final error assembly of `buildChains` -/
theorem builderErr_final (chains : List Chain) (e : Option Err) (h : BuilderErr e) :
    BuilderErr (if chains.length = 0 ∧ (if chains.length > 0 then none else e) = none then some Err.unknownAuthority
      else (if chains.length > 0 then none else e)) := by
  by_cases hl : chains.length > 0
  · have h0 : ¬ chains.length = 0 := by omega
    simp only [hl, h0, if_true, false_and, if_false]
    exact Or.inl rfl
  · have h0 : chains.length = 0 := by omega
    simp only [h0, Nat.lt_irrefl, if_false, true_and]
    by_cases he : e = none
    · simp only [he, if_true]; exact Or.inr (Or.inr (Or.inr (Or.inr rfl)))
    · simp only [he, if_false]; exact h

theorem buildChains_err (fuel : Nat) (env : Env) (cache : Cache) (c : Cert) (cur : Chain)
    (hf : FuelOK fuel cur.length) : BuilderErr (buildChains fuel env cache c cur).2.1 := by
  induction fuel generalizing cache c cur with
  | zero => exact absurd hf.1 (by omega)
  | succ fuel ih =>
    simp only [buildChains]
    apply builderErr_final
    apply interLoop_err
    · intro hlen cache' x
      apply ih
      exact hf.step hlen x
    · apply rootLoop_err
      simp only
      generalize (if cur.length = 1 ∧ containsFp env.roots c = true then [[c]] else ([] : List Chain)) = chains0
      split
      · exact Or.inr (Or.inl rfl)
      · exact Or.inl rfl

theorem buildChains_ne_outOfFuel (fuel : Nat) (env : Env) (cache : Cache) (c : Cert) (cur : Chain)
    (hf : FuelOK fuel cur.length) : (buildChains fuel env cache c cur).2.1 ≠ some .outOfFuel :=
  builderErr_ne_outOfFuel (buildChains_err fuel env cache c cur hf)

theorem interLoop_congr (rec rec' : Cache → Cert → Chain → List Chain × Option Err × Cache) (env : Env) (cur : Chain)
    (hrec : cur.length ≤ maxIntermediateCount → ∀ cache x, rec cache x (cur ++ [x]) = rec' cache x (cur ++ [x]))
    (ps : List (Nat × Cert)) (st : BState) :
    interLoop rec env cur ps st = interLoop rec' env cur ps st := by
  induction ps generalizing st with
  | nil => simp [interLoop]
  | cons p ps ih =>
    obtain ⟨num, inter⟩ := p
    unfold interLoop
    split
    · exact ih st
    · split
      · exact ih st
      · cases hv : isValid inter .intermediate cur with
        | some e => simp only; exact ih _
        | none =>
          simp only
          cases hc : st.cache num with
          | some childChains => simp only; exact ih _
          | none =>
            simp only
            rw [hrec (isValid_none_len _ _ _ hv) st.cache inter]
            exact ih _

theorem buildChains_fuel_irrelevant (fuel fuel' : Nat) (env : Env) (cache : Cache) (c : Cert) (cur : Chain)
    (hf : FuelOK fuel cur.length) (hf' : FuelOK fuel' cur.length) :
    buildChains fuel env cache c cur = buildChains fuel' env cache c cur := by
  induction fuel generalizing fuel' cache c cur with
  | zero => exact absurd hf.1 (by omega)
  | succ fuel ih =>
    cases fuel' with
    | zero => exact absurd hf'.1 (by omega)
    | succ fuel' =>
      simp only [buildChains]
      rw [interLoop_congr (buildChains fuel env) (buildChains fuel' env) env cur]
      intro hlen cache' x
      apply ih
      · exact hf.step hlen x
      · exact hf'.step hlen x

theorem buildChains_err_none_iff (fuel : Nat) (env : Env) (cache : Cache) (c : Cert) (cur : Chain) :
    (buildChains (fuel + 1) env cache c cur).2.1 = none ↔ (buildChains (fuel + 1) env cache c cur).1 ≠ [] := by
  simp only [buildChains]
  generalize (interLoop (buildChains fuel env) env cur (findVerifiedParents env env.inters c) _) = st
  cases hch : st.chains with
  | nil =>
    simp only [List.length_nil, Nat.lt_irrefl, if_false, true_and, ne_eq, not_true_eq_false, iff_false]
    split
    · simp
    · assumption
  | cons a l => simp

end ZV.C07
