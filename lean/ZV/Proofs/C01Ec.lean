import ZV.Model.C01Ec
import ZV.Proofs.C01
import ZV.Proofs.TlsWire
/-! The EC private-key post-processing (`ZV.C01.ecStrip`, `ecPrivPost`): the zero-stripping loop keeps the big-endian value
    (`ZV.TlsWire.beNat`) and can only fail on a value of at least `256^size`, which is what makes its error arm dead code
    behind the `k >= N` check. -/
namespace ZV.C01
open ZV.Res (Sat)
open ZV.TlsWire (beNat beNat_eq)

theorem beNat_zero_cons (t : Bytes) : beNat ((0 : UInt8) :: t) = beNat t := by
  rw [beNat_eq, beNat_eq, be256_zero_cons]

theorem beNat_replicate_zero (n : Nat) (p : Bytes) : beNat (List.replicate n (0 : UInt8) ++ p) = beNat p := by
  rw [beNat_eq, beNat_eq, be256_replicate_zero]

theorem beNat_ge_of_head (b : UInt8) (t : Bytes) (hb : b ≠ 0) : 256 ^ t.length ≤ beNat (b :: t) := by
  rw [beNat_eq]
  exact be256_head_le hb t

theorem ecStrip_nil (size : Nat) : ecStrip size [] = .ok [] := by
  rw [ecStrip]; simp

theorem ecStrip_cons (size : Nat) (b : UInt8) (t : Bytes) :
    ecStrip size (b :: t) =
      if size < t.length + 1 then (if b ≠ 0 then .err else ecStrip size t) else .ok (b :: t) := by
  rw [ecStrip]
  simp [idx]

theorem ecStrip_sat (size : Nat) : ∀ pk : Bytes,
    Sat (fun p => p.length ≤ size ∧ p <:+ pk ∧ beNat p = beNat pk) (ecStrip size pk)
  | [] => by rw [ecStrip_nil]; exact ⟨Nat.zero_le _, List.suffix_refl _, rfl⟩
  | b :: t => by
    rw [ecStrip_cons]
    split
    · refine .guard fun hb => (ecStrip_sat size t).mono fun p hp => ?_
      have hb0 : b = 0 := Decidable.not_not.mp hb
      exact ⟨hp.1, hp.2.1.trans (List.suffix_cons b t), by rw [hp.2.2, hb0, beNat_zero_cons]⟩
    · rename_i hs
      exact ⟨by rw [List.length_cons]; omega, List.suffix_refl _, rfl⟩

/-- `.err` is the loop's "invalid private key length" -/
theorem ecStrip_err (size : Nat) (pk : Bytes) (h : ecStrip size pk = .err) : 256 ^ size ≤ beNat pk := by
  induction pk with
  | nil => simp [ecStrip_nil] at h
  | cons b t ih =>
    rw [ecStrip_cons] at h
    split at h
    · rename_i hs
      split at h
      · rename_i hb
        have hb' : b ≠ 0 := by simpa using hb
        exact Nat.le_trans (Nat.pow_le_pow_right (by decide) (by omega)) (beNat_ge_of_head b t hb')
      · rename_i hb
        have hb0 : b = 0 := by simpa using hb
        rw [hb0, beNat_zero_cons]
        exact ih h
    · cases h

/-- the copy into the buffer never slices out of range because the stripped key fits (`ecStrip_sat`) -/
theorem ecPrivPost_sat (order size : Nat) (pk : Bytes) :
    Sat (fun x => x.1 = beNat pk ∧ x.1 < order ∧ x.2.length = size ∧ beNat x.2 = x.1) (ecPrivPost order size pk) := by
  unfold ecPrivPost
  refine .guard fun hk => (ecStrip_sat size pk).elim (fun p hp => ?_) trivial
  dsimp only
  rw [if_pos hp.1]
  refine ⟨rfl, Nat.lt_of_not_ge hk, ?_, by rw [beNat_replicate_zero, hp.2.2]⟩
  have := hp.1
  simp only [List.length_append, List.length_replicate]
  omega

end ZV.C01
