import ZV.Model.C05List
import ZV.Proofs.C05
import ZV.Proofs.C04Val
/-! Lemmas for the list level of C05 (`ZV.Model.C05List`): the cryptobyte readers on written elements, the
    `time.Time` member round trip (on the theorems of `ZV.Proofs.TimeRT` and the writer's case table of `ZV.Proofs.C04Val`), extensions, entries. -/
namespace ZV.C05
open ZV ZV.Der ZV.C06 ZV.C04

theorem peek_tlv (t t' : UInt8) (body rest : Bytes) : peek t' (writeTLV t body ++ rest) = (t == t') := by
  simp [peek, writeTLV]

theorem peek_self (t : UInt8) (body rest : Bytes) : peek t (writeTLV t body ++ rest) = true :=
  decide_eq_true rfl

theorem cbRead_ok {t : UInt8} {bs : Bytes} {e : Elem} {rest : Bytes} :
    cbRead t bs = .ok (e, rest) ↔ peek t bs = true ∧ readElem bs = .ok (e, rest) := by
  unfold cbRead
  cases peek t bs
  · exact ⟨fun h => (nomatch h), fun h => (nomatch h.1)⟩
  · exact ⟨fun h => ⟨rfl, h⟩, fun h => h.2⟩

theorem cbRead_tlv (t : UInt8) (body rest : Bytes) (ht : t.toNat % 32 ≠ 31) (hl : body.length < 2147483648) :
    cbRead t (writeTLV t body ++ rest) = .ok (elemOf t body, rest) :=
  cbRead_ok.mpr ⟨peek_self t body rest, readElem_writeTLV t body rest ht hl⟩

theorem cbRead_tlv_end (t : UInt8) (body : Bytes) (ht : t.toNat % 32 ≠ 31) (hl : body.length < 2147483648) :
    cbRead t (writeTLV t body) = .ok (elemOf t body, []) := by
  simpa using cbRead_tlv t body [] ht hl

theorem cbRead_append (t : UInt8) (bs : Bytes) (e : Elem) (rest x : Bytes) (h : cbRead t bs = .ok (e, rest)) :
    cbRead t (bs ++ x) = .ok (e, rest ++ x) := by
  obtain ⟨hp, hr⟩ := cbRead_ok.mp h
  refine cbRead_ok.mpr ⟨?_, readElem_append _ _ _ x hr⟩
  cases bs with
  | nil => cases hp
  | cons _ _ => exact hp

theorem cbRead_one {t : UInt8} {bs : Bytes} {e : Elem} (h : cbRead t bs = .ok (e, [])) (x : Bytes) :
    cbRead t (bs ++ x) = .ok (e, x) ∧ e.full = bs :=
  ⟨cbRead_append t bs e [] x h, by simpa using (readElem_full bs e [] (cbRead_ok.mp h).2).symm⟩

/-- the value read back: the same second, in UTC -/
def secOf (t : GoTime) : GoTime := { unix := t.unix, off := 0, nsec := 0 }

theorem readBack_utc (t : GoTime) : Time.readBack (utc t) = secOf t := by
  simp [Time.readBack, utc, secOf]

/-- cryptobyte tries the layout with seconds first, encoding/asn1 the one without: the two UTCTime readers are different terms
    and meet on the encoder's text (`Time.utc_reading`) -/
theorem cbUTCTime_utcText (t : GoTime) (hy0 : 1950 ≤ t.year) (hy1 : t.year < 2050)
    (h1 : -90000 < t.off) (h2 : t.off < 90000) : cbUTCTime (Time.utcText t) = .ok (Time.readBack t) := by
  obtain ⟨ret, -, hsec, hf, hw⟩ := Time.utc_reading t hy0 hy1 h1 h2
  simp only [cbUTCTime, hsec, hf, bne_self_eq_false, Bool.false_eq_true, if_false]
  rw [← hw, Time.EA.utcWindow]
  split <;> rfl

/-- cryptobyte's GeneralizedTime reader is the strict one of encoding/asn1 (`time.Parse`, then the re-serialisation test) -/
theorem cbGenTime_eq (body : Bytes) : cbGenTime body = Time.EA.parseGeneralizedTime false body := by
  unfold cbGenTime Time.EA.parseGeneralizedTime
  cases Time.parse Time.layoutGen body with
  | none => rfl
  | some ret => simp only [Time.EA.reserialises, Bool.false_or, bne]

theorem encTimeG_eq (t : GoTime) (tb : Bytes) (h : encTimeG t = .ok tb) :
    (1950 ≤ t.year ∧ t.year < 2050 ∧ tb = writeTLV 0x17 (Time.utcText t)) ∨
    ((t.year < 1950 ∨ 2050 ≤ t.year) ∧ 0 ≤ t.year ∧ t.year ≤ 9999 ∧ tb = writeTLV 0x18 (Time.genText t)) := by
  -- `encTimeG` is C04's `encTime` (the same `makeField` for a `time.Time` member), whose case table is `encTime_eq`
  rw [show encTimeG t = C04.encTime t from rfl, encTime_eq] at h
  split at h
  · rename_i hu
    cases h
    exact .inl ⟨hu.1, hu.2, rfl⟩
  · rename_i hu
    split at h
    · rename_i hg
      cases h
      exact .inr ⟨by omega, hg.1, hg.2, rfl⟩
    · cases h

/-- the second conjunct is the presence test `parseRLTail` makes before reading the OPTIONAL `nextUpdate` -/
theorem parseTimeCB_encTimeG (t : GoTime) (tb rest : Bytes) (h : encTimeG (utc t) = .ok tb) :
    parseTimeCB (tb ++ rest) = .ok (secOf t, rest) ∧ (peek 0x18 (tb ++ rest) || peek 0x17 (tb ++ rest)) = true := by
  have ho1 : -90000 < (utc t).off := (by decide : (-90000 : Int) < 0)
  have ho2 : (utc t).off < 90000 := (by decide : (0 : Int) < 90000)
  rcases encTimeG_eq (utc t) tb h with ⟨a, b, rfl⟩ | ⟨_, a, b, rfl⟩
  · have hl := Nat.lt_of_le_of_lt (Time.utcText_length (utc t)) (by decide : 17 < 2147483648)
    refine ⟨?_, rfl⟩
    simp only [parseTimeCB, peek_self, if_true, cbRead_tlv 0x17 _ _ (by decide) hl, Res.bind,
      elemOf_body, cbUTCTime_utcText (utc t) a b ho1 ho2, readBack_utc]
  · have hl := Nat.lt_of_le_of_lt (Time.genText_length (utc t)) (by decide : 19 < 2147483648)
    refine ⟨?_, rfl⟩
    have hp : peek 0x17 (writeTLV 0x18 (Time.genText (utc t)) ++ rest) = false := rfl
    simp only [parseTimeCB, hp, Bool.false_eq_true, if_false, peek_self, if_true,
      cbRead_tlv 0x18 _ _ (by decide) hl, Res.bind, elemOf_body, cbGenTime_eq,
      Time.parseGeneralizedTime_genText false (utc t) a b ho1 ho2, readBack_utc]

theorem peek_tlv_end (t t' : UInt8) (body : Bytes) : peek t' (writeTLV t body) = (t == t') := by
  simp [peek, writeTLV]

theorem parseExtCB_build (x : EExt) (hv : validOID (oidC x) = true) (hl : (extBody x).length < 2147483648) :
    parseExtCB (extBody x) = .ok (triple x) := by
  have h1 := writeTLV_length_ge 0x06 (oidC x)
  have h2 := writeTLV_length_ge 0x04 x.value
  simp only [extBody, List.length_append] at hl
  have hval := cbRead_tlv_end 0x04 x.value (by decide)
    (Nat.lt_of_le_of_lt (Nat.le_trans (Nat.le_of_add_right_le h2) (Nat.le_add_left _ _)) hl)
  have hO := Nat.lt_of_le_of_lt (Nat.le_trans (Nat.le_of_add_right_le h1) (Nat.le_add_right _ _))
    (Nat.lt_of_le_of_lt (Nat.le_add_right _ _) hl)
  simp only [parseExtCB, extBody, triple, List.append_assoc, cbRead_tlv 0x06 _ _ (by decide) hO, Res.bind, elemOf_body,
    hv, Bool.not_true, Bool.false_eq_true, if_false]
  cases x.critical
  · simp only [Bool.false_eq_true, if_false, List.nil_append, peek_tlv_end,
      (by decide : ((0x04 : UInt8) == 0x01) = false), hval]
    rfl
  · simp only [if_true, peek_self, cbRead_tlv 0x01 [0xff] _ (by decide) (by decide), elemOf_body,
      (by decide : parseBool [0xff] = .ok true), hval]

/-- after an element (at least two octets) is consumed, one unit less of fuel covers the rest -/
theorem fuel_tail {b a r f : Nat} (ha : b + 2 ≤ a) (h : a + r ≤ f + 1) : r ≤ f := by omega

theorem parseExtsCB_build : ∀ (xs : List EExt) (f : Nat),
    (∀ x ∈ xs, validOID (oidC x) = true ∧ (extBody x).length < 2147483648) →
    ((xs.map fun x => writeTLV 0x30 (extBody x)).flatten).length ≤ f →
    parseExtsCB f ((xs.map fun x => writeTLV 0x30 (extBody x)).flatten) = .ok (xs.map triple) := by
  intro xs
  induction xs with
  | nil => intro f _ _; cases f <;> simp [parseExtsCB]
  | cons x xs ih =>
    intro f hx hf
    obtain ⟨hv, hl⟩ := hx x List.mem_cons_self
    have hge := writeTLV_length_ge 0x30 (extBody x)
    simp only [List.map_cons, List.flatten_cons, List.length_append] at hf ⊢
    cases f with
    | zero => omega
    | succ f =>
      have hne : (writeTLV 0x30 (extBody x) ++ (xs.map fun x => writeTLV 0x30 (extBody x)).flatten).isEmpty = false := rfl
      simp only [parseExtsCB, hne, Bool.false_eq_true, if_false, cbRead_tlv 0x30 _ _ (by decide) hl, Res.bind, elemOf_body,
        parseExtCB_build x hv hl, ih f (fun y hy => hx y (List.mem_cons_of_mem _ hy)) (fuel_tail hge hf)]

theorem parseEnumCB_reasonExt (n : Int) (h1 : -9223372036854775808 ≤ n) (h2 : n < 9223372036854775808) :
    parseEnumCB (reasonExt n).value = .ok n := by
  have hl : Der0.intLen n ≤ 8 := Der0.intLen_int64 h1 (Int.le_of_lt_add_one h2)
  unfold parseEnumCB reasonExt tlv
  simp only
  rw [cbRead_tlv_end _ _ (by decide) (encBigInt_length n ▸ Nat.lt_of_le_of_lt hl (by decide))]
  rw [Res.ok_bind, elemOf_body, encBigInt_der0, parseInt64_eq]
  exact Der0.EA.parseInt64_ok.mpr ⟨rfl, hl⟩

theorem scanReasonCB_scan : ReasonScan parseEnumCB (scanReasonCB roB) := ⟨fun _ => rfl, fun _ _ _ => rfl⟩

/-- domain of the entry theorem (decidable): extra extensions whose OIDs — other than reasonCode ones, which are
    dropped — are within the reader's MaxInt32 limit, and a reason code that is a Go `int` (64 bits). -/
def EntryT.okT (e : EntryT) : Bool :=
  e.extras.all (fun x => x.oid == reasonOID || oidOk x.oid) &&
  (match e.reason with
   | none => true
   | some n => decide (-9223372036854775808 ≤ n ∧ n < 9223372036854775808))

def entryBodyT (e : EntryT) (tb : Bytes) : Bytes := writeTLV 0x02 (encBigInt e.serial) ++ (tb ++ extsFieldT e.synth)

/-- what the parser reports for an entry whose encoding is `raw` -/
def EntryT.parsed (e : EntryT) (raw : Bytes) : PEntryT :=
  ⟨raw, e.serial, secOf e.time, normReason e.reason, e.synth.map triple⟩

theorem encExtsField_eq (l : List EExt) : encExtsField (l.map fun x => writeTLV 0x30 (extBody x)) = extsFieldT l := by
  cases l <;> simp [encExtsField, extsFieldT, tlv]

/-- the time bytes of an entry (`[]` when the time cannot be encoded — then `encEntryT` fails) -/
def tbOf (e : EntryT) : Bytes := match encTimeG (utc e.time) with | .ok tb => tb | _ => []

def entryEnc (e : EntryT) : Bytes := writeTLV 0x30 (entryBodyT e (tbOf e))

theorem encEntryT_eq {e : EntryT} {bs : Bytes} (h : encEntryT e = .ok bs) :
    bs = entryEnc e ∧ encTimeG (utc e.time) = .ok (tbOf e) ∧ ∀ x ∈ e.synth, encOID x.oid = some (oidC x) := by
  unfold encEntryT at h
  cases hm : e.synth.mapM encExtension with
  | none => simp [hm] at h
  | some xs =>
    obtain ⟨e1, p1⟩ := mapM_encExtension hm
    cases ht : encTimeG (utc e.time) with
    | ok tb =>
      simp only [hm, ht, Res.ok.injEq] at h
      have htb : tbOf e = tb := by
        unfold tbOf
        rw [ht]
      refine ⟨?_, htb ▸ rfl, p1⟩
      rw [← h, e1, encExtsField_eq, entryEnc, htb]
      rfl
    | err => simp [hm, ht] at h
    | panic => simp [hm, ht] at h

theorem okT_reason {e : EntryT} (hok : e.okT = true) (n : Int) (hn : normReason e.reason = some n) :
    -9223372036854775808 ≤ n ∧ n < 9223372036854775808 := by
  simp only [EntryT.okT, Bool.and_eq_true, normReason_some hn, decide_eq_true_eq] at hok
  exact hok.2

theorem parseEntryT_build (e : EntryT) (tb rest : Bytes) (ht : encTimeG (utc e.time) = .ok tb)
    (henc : ∀ x ∈ e.synth, encOID x.oid = some (oidC x)) (hok : e.okT = true)
    (hlen : (entryBodyT e tb).length < 2147483648) :
    parseEntryT (writeTLV 0x30 (entryBodyT e tb) ++ rest) =
      .ok (e.parsed (writeTLV 0x30 (entryBodyT e tb)), rest) := by
  have hoidok : ∀ x ∈ e.synth, x.oid = reasonOID ∨ oidOk x.oid = true :=
    synth_oidOk (by
      simp only [EntryT.okT, Bool.and_eq_true] at hok; exact hok.1)
  have hdec : ∀ n, normReason e.reason = some n → parseEnumCB (reasonExt n).value = .ok n :=
    fun n hn => parseEnumCB_reasonExt n (okT_reason hok n hn).1 (okT_reason hok n hn).2
  have hC := cbRead_tlv 0x30 (entryBodyT e tb) rest (by decide) hlen
  unfold entryBodyT at hlen hC ⊢
  simp only [List.length_append] at hlen
  have hSer := cbRead_tlv 0x02 (encBigInt e.serial) (tb ++ extsFieldT e.synth) (by decide)
    (Nat.lt_of_le_of_lt (Nat.le_trans (Nat.le_of_add_right_le (writeTLV_length_ge 0x02 _)) (Nat.le_add_right _ _)) hlen)
  simp only [parseEntryT, hC, hSer, Res.bind, elemOf_body, elemOf_full, parseBigInt_encBigInt,
    (parseTimeCB_encTimeG e.time tb _ ht).1]
  unfold extsFieldT at hlen ⊢
  by_cases hemp : e.synth.isEmpty = true
  · have hnil : e.synth = [] := List.isEmpty_iff.mp hemp
    simp [peek, EntryT.parsed, hnil, synthExts_eq_nil hnil]
  · rw [if_neg hemp] at hlen ⊢
    have hX := writeTLV_length_ge 0x30 ((e.synth.map fun x => writeTLV 0x30 (extBody x)).flatten)
    have hW := Nat.lt_of_le_of_lt (Nat.le_trans (Nat.le_add_left _ _) (Nat.le_add_left _ _)) hlen
    have hbl := extBody_bound (l := e.synth) hW
    have hXl := Nat.lt_of_le_of_lt (Nat.le_of_add_right_le hX) hW
    have hsc : scanReasonCB roB (e.synth.map triple) none = .ok (normReason e.reason) :=
      scanReasonCB_scan.synth ⟨e.serial, [], e.reason, e.extras⟩ henc hoidok hdec
    have hro : reasonOIDBytes = roB := rfl
    simp only [cbRead_tlv_end 0x30 _ (by decide) hXl, elemOf_body,
      parseExtsCB_build e.synth _ (fun x hx => ⟨validOID_oidC (henc x hx) (hoidok x hx), hbl x hx⟩) (Nat.le_refl _),
      hro, hsc]
    rfl

theorem bind_ok {α β} (a : α) (f : α → Res β) : (Res.ok a).bind f = f a := Res.ok_bind a f

theorem mapRes_ok_map {α β} (f : α → Res β) (g : α → β) (P : α → Prop)
    (hfg : ∀ a b, f a = .ok b → b = g a ∧ P a) :
    ∀ (l : List α) (bs : List β), mapRes f l = .ok bs → bs = l.map g ∧ ∀ a ∈ l, P a := by
  intro l
  induction l with
  | nil => intro bs h; simp [mapRes] at h; subst h; simp
  | cons a l ih =>
    intro bs h
    simp only [mapRes] at h
    split at h
    · rename_i b ha
      split at h
      · rename_i r hl
        cases h
        obtain ⟨rfl, p2⟩ := ih r hl
        obtain ⟨rfl, p1⟩ := hfg a b ha
        exact ⟨rfl, List.forall_mem_cons.mpr ⟨p1, p2⟩⟩
      · cases h
      · cases h
    · cases h
    · cases h

theorem parseEntriesT_build : ∀ (es : List EntryT) (f : Nat),
    (∀ e ∈ es, encTimeG (utc e.time) = .ok (tbOf e) ∧ (∀ x ∈ e.synth, encOID x.oid = some (oidC x)) ∧ e.okT = true ∧
      (entryBodyT e (tbOf e)).length < 2147483648) →
    ((es.map entryEnc).flatten).length ≤ f →
    parseEntriesT f ((es.map entryEnc).flatten) = .ok (es.map fun e => e.parsed (entryEnc e)) := by
  intro es
  induction es with
  | nil => intro f _ _; cases f <;> simp [parseEntriesT]
  | cons e es ih =>
    intro f hx hf
    obtain ⟨ht, henc, hok, hl⟩ := hx e List.mem_cons_self
    have hge : _ + 2 ≤ (entryEnc e).length := writeTLV_length_ge 0x30 (entryBodyT e (tbOf e))
    simp only [List.map_cons, List.flatten_cons, List.length_append] at hf ⊢
    cases f with
    | zero => omega
    | succ f =>
      have hne : (entryEnc e ++ (es.map entryEnc).flatten).isEmpty = false := rfl
      have hp : parseEntryT (entryEnc e ++ (es.map entryEnc).flatten) = _ :=
        parseEntryT_build e (tbOf e) _ ht henc hok hl
      simp only [parseEntriesT, hne, Bool.false_eq_true, if_false, hp, Res.ok_bind,
        ih f (fun y hy => hx y (List.mem_cons_of_mem _ hy)) (fuel_tail hge hf)]
      rfl

theorem encOID_aki : encOID oidAKI = some oidAKIBytes := by decide
theorem encOID_num : encOID oidCRLNumber = some oidCRLNumberBytes := by decide
theorem oidOk_aki : oidOk oidAKI = true := by decide
theorem oidOk_num : oidOk oidCRLNumber = true := by decide

theorem scanListExts_other : ∀ (l : List EExt) (a : Option Bytes) (n : Option Int),
    (∀ x ∈ l, encOID x.oid = some (oidC x) ∧ oidOk x.oid = true ∧ x.oid ≠ oidAKI ∧ x.oid ≠ oidCRLNumber) →
    scanListExts (l.map triple) a n = .ok (a, n) := by
  intro l
  induction l with
  | nil => intro a n _; rfl
  | cons x xs ih =>
    intro a n h
    obtain ⟨he, hok, h1, h2⟩ := h x List.mem_cons_self
    have c1 : oidC x ≠ oidAKIBytes := by
      intro hc; rw [hc] at he; exact h1 (encOID_inj he encOID_aki hok oidOk_aki)
    have c2 : oidC x ≠ oidCRLNumberBytes := by
      intro hc; rw [hc] at he; exact h2 (encOID_inj he encOID_num hok oidOk_num)
    simp only [List.map_cons, scanListExts, triple, c1, c2, if_false]
    exact ih a n (fun y hy => h y (List.mem_cons_of_mem _ hy))

end ZV.C05
