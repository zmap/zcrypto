import ZV.Model.C32Kx
import ZV.Proofs.C32Idx
import ZV.Proofs.Res
import ZV.Proofs.Base256
/-! Every key-exchange parameter parser is shown to be `Sat P`: an error, or an accepted value of which `P` holds —
    so it never reaches a failing index / slice expression (`Sat.ne_panic`), and `P` says that an accepted message is
    exactly the concatenation of the parsed fields (`Sat.of_ok`).  The proofs follow the Go code guard by guard:
    `Sat.guard` peels one `if … return err` and hands its negation to the rest, `Sat.elim` goes through a call of a
    parser that has its own `*_spec`. -/
namespace ZV.C32
open ZV.Res (Sat)

theorem skxUnmarshal_spec (data : Bytes) :
    Sat (fun key => ∃ hdr, data = hdr ++ key ∧ hdr.length = 4) (skxUnmarshal data) := by
  unfold skxUnmarshal
  refine .guard fun h => ?_
  rw [sliceFrom_eq _ _ (by omega)]
  exact ⟨data.take 4, (List.take_append_drop 4 data).symm, by rw [List.length_take]; omega⟩

theorem ckxUnmarshal_spec (data : Bytes) :
    Sat (fun ct => ∃ t a b c, data = t :: a :: b :: c :: ct ∧ be24 a b c = ct.length) (ckxUnmarshal data) := by
  unfold ckxUnmarshal
  refine .guard fun h => ?_
  obtain ⟨t, a, b, c, ct, rfl⟩ := four_of_len (Nat.le_of_not_lt h)
  rw [idx_succ, idx_zero, idx_succ, idx_succ, idx_zero, idx_succ, idx_succ, idx_succ, idx_zero]
  refine .guard fun hl => ?_
  exact ⟨t, a, b, c, rfl, by simpa using hl⟩

theorem readDH_spec (k : Bytes) :
    Sat (fun (v, r) => ∃ a b, k = a :: b :: (v ++ r) ∧ be16 a b = v.length) (readDH k) := by
  unfold readDH
  refine .guard fun h2 => ?_
  obtain ⟨a, b, k1, rfl⟩ := two_of_len (Nat.le_of_not_lt h2)
  rw [idx_zero, idx_succ, idx_zero, sliceFrom_two]
  refine .guard fun h => ?_
  rw [sliceTo_eq _ _ (Nat.le_of_not_lt h), sliceFrom_eq _ _ (Nat.le_of_not_lt h)]
  exact ⟨a, b, by rw [List.take_append_drop], by rw [List.length_take]; exact (Nat.min_eq_left (Nat.le_of_not_lt h)).symm⟩


theorem be16_le {a b : UInt8} {n : Nat} (h : be16 a b = n) : n ≤ 65535 := by
  unfold be16 at h
  have := a.toNat_lt
  have := b.toNat_lt
  omega

theorem ecdheSigTail_spec (c : EcdheCtx) (curve : Nat) (pub : Bytes) (t h : Nat) (sig : Bytes) (h2 : 2 ≤ sig.length) :
    Sat (fun o => ∃ l1 l2 raw, sig = l1 :: l2 :: raw ∧ be16 l1 l2 = raw.length ∧ o = ⟨curve, pub, t, h, raw⟩)
      (ecdheSigTail c curve pub t h sig) := by
  obtain ⟨l1, l2, raw, rfl⟩ := two_of_len h2
  unfold ecdheSigTail
  refine .guard fun _ => ?_
  rw [idx_zero, idx_succ, idx_zero, sliceFrom_two]
  refine .guard fun g => ?_
  exact ⟨l1, l2, raw, rfl, by simpa using g, rfl⟩

theorem ecdheSigPart_spec (c : EcdheCtx) (curve : Nat) (pub : Bytes) (sig : Bytes) (h2 : 2 ≤ sig.length) :
    Sat (fun o =>
      ∃ algB l1 l2, sig = algB ++ l1 :: l2 :: o.sig ∧ be16 l1 l2 = o.sig.length ∧
        algB.length = (if c.vers ≥ versionTLS12 then 2 else 0) ∧
        (∀ a b, algB = [a, b] → typeAndHash (be16 a b) = some (o.sigType, o.hashId) ∧
          c.clientSigAlgs.contains (be16 a b) = true) ∧
        o.curve = curve ∧ o.pub = pub) (ecdheSigPart c curve pub sig) := by
  unfold ecdheSigPart
  by_cases hv : c.vers ≥ versionTLS12
  · rw [if_pos hv, if_pos hv]
    obtain ⟨a, b, sig1, rfl⟩ := two_of_len h2
    rw [idx_zero, idx_succ, idx_zero, sliceFrom_two]
    refine .guard fun g1 => .guard fun g2 => ?_
    rcases hta : typeAndHash (be16 a b) with _ | ⟨t, h⟩
    · trivial
    · refine (ecdheSigTail_spec c curve pub t h sig1 (Nat.le_of_not_lt g1)).mono ?_
      rintro _ ⟨l1, l2, raw, rfl, hl, rfl⟩
      refine ⟨[a, b], l1, l2, rfl, hl, rfl, ?_, rfl, rfl⟩
      rintro _ _ ⟨⟩
      exact ⟨hta, by simpa using g2⟩
  · rw [if_neg hv, if_neg hv]
    rcases legacyTypeAndHash c.keyType with _ | ⟨t, h⟩
    · trivial
    · refine (ecdheSigTail_spec c curve pub t h sig h2).mono ?_
      rintro _ ⟨l1, l2, raw, rfl, hl, rfl⟩
      exact ⟨[], l1, l2, rfl, hl, rfl, nofun, rfl, rfl⟩

theorem ecdheSKXMsg_spec (c : EcdheCtx) (msg : Bytes) :
    Sat (fun o =>
      ∃ hdr c1 c2 pl algB l1 l2,
        msg = hdr ++ 3 :: c1 :: c2 :: pl :: (o.pub ++ (algB ++ l1 :: l2 :: o.sig)) ∧ hdr.length = 4 ∧
        o.curve = be16 c1 c2 ∧ curveSupported o.curve = true ∧ pl.toNat = o.pub.length ∧ be16 l1 l2 = o.sig.length ∧
        algB.length = (if c.vers ≥ versionTLS12 then 2 else 0) ∧
        (∀ a b, algB = [a, b] → typeAndHash (be16 a b) = some (o.sigType, o.hashId) ∧
          c.clientSigAlgs.contains (be16 a b) = true) ∧
        msg.length = 4 + 4 + o.pub.length + algB.length + 2 + o.sig.length ∧
        o.pub.length ≤ 255 ∧ o.sig.length ≤ 65535) (ecdheSKXMsg c msg) := by
  unfold ecdheSKXMsg
  refine (skxUnmarshal_spec msg).elim ?_ trivial
  rintro key ⟨hdr, rfl, hh⟩
  dsimp only
  unfold ecdheSKX
  refine .guard fun h4 => ?_
  obtain ⟨k0, c1, c2, pl, rest, rfl⟩ := four_of_len (Nat.le_of_not_lt h4)
  rw [idx_zero, idx_succ, idx_zero, idx_succ, idx_succ, idx_zero, idx_succ, idx_succ, idx_succ, idx_zero]
  refine .guard fun g1 => .guard fun g2 => ?_
  obtain rfl : k0 = 3 := UInt8.toNat_inj.mp (Decidable.of_not_not g1)
  have hpl : pl.toNat + 4 ≤ (3 :: c1 :: c2 :: pl :: rest).length := Nat.le_of_not_lt g2
  rw [Nat.add_comm 4 pl.toNat, sliceTo_eq _ _ hpl, sliceFrom_eq _ _ hpl]
  simp only [List.take_succ_cons, List.drop_succ_cons, sliceFrom_four]
  refine .guard fun g3 => .guard fun g4 => .guard fun g5 => ?_
  refine (ecdheSigPart_spec c (be16 c1 c2) (rest.take pl.toNat) (rest.drop pl.toNat) (Nat.le_of_not_lt g3)).mono ?_
  rintro o ⟨algB, l1, l2, hs, hl, halg, hab, hc, hp⟩
  have hpub : pl.toNat = o.pub.length := by rw [hp, List.length_take, Nat.min_eq_left (Nat.le_of_add_le_add_right hpl)]
  obtain rfl : rest = o.pub ++ (algB ++ l1 :: l2 :: o.sig) := by rw [hp, ← hs, List.take_append_drop]
  refine ⟨hdr, c1, c2, pl, algB, l1, l2, rfl, hh, hc, by rw [hc]; simpa using g4, hpub, hl, halg, hab, ?_,
    hpub ▸ Nat.le_of_lt_succ pl.toNat_lt, be16_le hl⟩
  simp only [List.length_append, List.length_cons]
  omega

theorem verifyTail_spec (c : DheCtx) (hid : Nat) (sig : Bytes) (h2 : 2 ≤ sig.length) :
    Sat (fun (h, raw) =>
      ∃ l1 l2, sig = l1 :: l2 :: raw ∧ be16 l1 l2 = raw.length ∧ h = hid ∧
        (c.vers ≥ versionTLS12 → hashKnown hid = true)) (verifyTail c hid sig) := by
  obtain ⟨l1, l2, raw, rfl⟩ := two_of_len h2
  unfold verifyTail
  rw [idx_zero, idx_succ, idx_zero, sliceFrom_two]
  refine .guard fun g2 => .guard fun g3 => ?_
  refine ⟨l1, l2, rfl, by simpa using g2, rfl, fun hv => ?_⟩
  cases hk : hashKnown hid
  · exact absurd ⟨hv, hk⟩ g3
  · rfl

theorem verifyParameters_spec (c : DheCtx) (sig : Bytes) :
    Sat (fun (hid, raw) =>
      ∃ algB l1 l2, sig = algB ++ l1 :: l2 :: raw ∧ be16 l1 l2 = raw.length ∧
        algB.length = (if c.vers ≥ versionTLS12 then 2 else 0) ∧
        (∀ hb sb, algB = [hb, sb] → hid = hb.toNat ∧ sb.toNat = c.sigType ∧ (c.sigType, hb.toNat) ∈ c.clientSigHashes) ∧
        (c.vers ≥ versionTLS12 → hashKnown hid = true)) (verifyParameters c sig) := by
  unfold verifyParameters
  refine .guard fun h2 => ?_
  by_cases hv : c.vers ≥ versionTLS12
  · rw [if_pos hv, if_pos hv]
    obtain ⟨h, s, sig1, rfl⟩ := two_of_len (Nat.le_of_not_lt h2)
    rw [sliceTo_eq _ 2 (Nat.le_of_not_lt h2), sliceFrom_two]
    simp only [List.take_succ_cons, List.take_zero]
    rw [idx_zero, idx_succ, idx_zero]
    refine .guard fun g1 => .guard fun g2 => .guard fun g3 => ?_
    refine (verifyTail_spec c h.toNat sig1 (Nat.le_of_not_lt g2)).mono ?_
    rintro ⟨hid, raw⟩ ⟨l1, l2, rfl, hl, rfl, hk⟩
    refine ⟨[h, s], l1, l2, rfl, hl, rfl, ?_, hk⟩
    rintro _ _ ⟨⟩
    exact ⟨rfl, Decidable.of_not_not g1, List.contains_iff_mem.mp (by simpa using g3)⟩
  · rw [if_neg hv, if_neg hv]
    refine (verifyTail_spec c 0 sig (Nat.le_of_not_lt h2)).mono ?_
    rintro ⟨hid, raw⟩ ⟨l1, l2, rfl, hl, rfl, hk⟩
    exact ⟨[], l1, l2, rfl, hl, rfl, nofun, hk⟩

theorem dheSKXMsg_spec (c : DheCtx) (msg : Bytes) :
    Sat (fun o =>
      (c.vers ≥ versionTLS12 → hashKnown o.hashId = true) ∧
      ∃ hdr a1 a2 b1 b2 c1 c2 algB l1 l2,
        msg = hdr ++ a1 :: a2 :: (o.p ++ b1 :: b2 :: (o.g ++ c1 :: c2 :: (o.ys ++ (algB ++ l1 :: l2 :: o.sig)))) ∧
        hdr.length = 4 ∧ be16 a1 a2 = o.p.length ∧ be16 b1 b2 = o.g.length ∧ be16 c1 c2 = o.ys.length ∧
        be16 l1 l2 = o.sig.length ∧ 0 < natOf o.ys ∧ natOf o.ys < natOf o.p ∧
        o.params = a1 :: a2 :: (o.p ++ b1 :: b2 :: (o.g ++ c1 :: c2 :: o.ys)) ∧
        algB.length = (if c.vers ≥ versionTLS12 then 2 else 0) ∧
        (∀ hb sb, algB = [hb, sb] → o.hashId = hb.toNat ∧ sb.toNat = c.sigType ∧ (c.sigType, hb.toNat) ∈ c.clientSigHashes) ∧
        msg.length = 4 + 6 + o.p.length + o.g.length + o.ys.length + algB.length + 2 + o.sig.length ∧
        o.p.length ≤ 65535 ∧ o.g.length ≤ 65535 ∧ o.ys.length ≤ 65535 ∧ o.sig.length ≤ 65535) (dheSKXMsg c msg) := by
  unfold dheSKXMsg
  refine (skxUnmarshal_spec msg).elim ?_ trivial
  rintro key ⟨hdr, rfl, hh⟩
  dsimp only
  unfold dheSKX
  refine (readDH_spec key).elim ?_ trivial
  rintro ⟨p, k1⟩ ⟨a1, a2, rfl, hp⟩
  dsimp only
  refine (readDH_spec k1).elim ?_ trivial
  rintro ⟨g, k2⟩ ⟨b1, b2, rfl, hg⟩
  dsimp only
  refine (readDH_spec k2).elim ?_ trivial
  rintro ⟨ys, sig⟩ ⟨c1, c2, rfl, hy⟩
  dsimp only
  refine .guard fun g1 => ?_
  rw [sliceTo_eq _ _ (Nat.sub_le _ _)]
  dsimp only
  refine (verifyParameters_spec c sig).elim ?_ trivial
  rintro ⟨hid, raw⟩ ⟨algB, l1, l2, rfl, hl, halg, hab, hk⟩
  refine ⟨hk, hdr, a1, a2, b1, b2, c1, c2, algB, l1, l2, rfl, hh, hp, hg, hy, hl,
    Nat.pos_of_ne_zero fun h => g1 (.inl h), Nat.lt_of_not_le fun h => g1 (.inr h), ?_, halg, hab, ?_,
    be16_le hp, be16_le hg, be16_le hy, be16_le hl⟩
  · -- the signed parameters are the message without the signature block
    rw [show a1 :: a2 :: (p ++ b1 :: b2 :: (g ++ c1 :: c2 :: (ys ++ (algB ++ l1 :: l2 :: raw)))) =
      (a1 :: a2 :: (p ++ b1 :: b2 :: (g ++ c1 :: c2 :: ys))) ++ (algB ++ l1 :: l2 :: raw) by simp only [List.cons_append, List.append_assoc],
      List.length_append, Nat.add_sub_cancel, List.take_left]
  · simp only [List.length_append, List.length_cons]
    omega

theorem dheSKXSkipVerifyMsg_spec (c : DheCtx) (msg : Bytes) :
    Sat (fun (p, _, ys) => 0 < natOf ys ∧ natOf ys < natOf p ∧ 2 ≤ natOf p ∧ p.length ≤ 65535)
      (dheSKXSkipVerifyMsg c msg) := by
  unfold dheSKXSkipVerifyMsg
  refine (skxUnmarshal_spec msg).elim (fun key _ => ?_) trivial
  dsimp only
  unfold dheSKXSkipVerify
  refine (readDH_spec key).elim ?_ trivial
  rintro ⟨p, k1⟩ ⟨a1, a2, -, hp⟩
  dsimp only
  refine (readDH_spec k1).elim ?_ trivial
  rintro ⟨g, k2⟩ -
  dsimp only
  refine (readDH_spec k2).elim ?_ trivial
  rintro ⟨ys, sig⟩ -
  dsimp only
  refine .guard fun g1 => ?_
  rw [sliceTo_eq _ _ (Nat.sub_le _ _)]
  have h0 : 0 < natOf ys := Nat.pos_of_ne_zero fun h => g1 (.inl h)
  have hlt : natOf ys < natOf p := Nat.lt_of_not_le fun h => g1 (.inr h)
  -- the verdict of `verifyParameters` is dropped; only its panic would surface
  refine (verifyParameters_spec c sig).elim (fun _ _ => ?_) ?_
  all_goals exact ⟨h0, hlt, Nat.lt_of_le_of_lt h0 hlt, be16_le hp⟩

theorem rsaCKX_spec (ct : Bytes) :
    Sat (fun n => ∃ x y, ct = x :: y :: n ∧ be16 x y = n.length) (rsaCKX ct) := by
  unfold rsaCKX
  refine .guard fun h2 => ?_
  obtain ⟨a, b, n, rfl⟩ := two_of_len (Nat.le_of_not_lt h2)
  rw [idx_zero, idx_succ, idx_zero]
  refine .guard fun g => ?_
  exact ⟨a, b, rfl, by simpa using g⟩

theorem ecdheCKX_spec (ok : Bool) (ct : Bytes) :
    Sat (fun n => ∃ x, ct = x :: n ∧ x.toNat = n.length ∧ ok = true) (ecdheCKX ok ct) := by
  unfold ecdheCKX
  refine .guard fun h0 => ?_
  match ct, h0 with
  | x :: pt, _ =>
    rw [idx_zero]
    refine .guard fun g => ?_
    show Sat _ (if !ok then _ else _)
    refine .guard fun gk => ?_
    exact ⟨x, rfl, by simpa using g, by simpa using gk⟩

theorem dheCKX_spec (p : Bytes) (ct : Bytes) :
    Sat (fun n => ∃ x y, ct = x :: y :: n ∧ be16 x y = n.length ∧ 0 < natOf n ∧ natOf n < natOf p) (dheCKX p ct) := by
  unfold dheCKX
  refine .guard fun h2 => ?_
  obtain ⟨a, b, y, rfl⟩ := two_of_len (Nat.le_of_not_lt h2)
  rw [idx_zero, idx_succ, idx_zero]
  refine .guard fun g => ?_
  rw [sliceFrom_two]
  refine .guard fun g1 => ?_
  exact ⟨a, b, rfl, by simpa using g, Nat.pos_of_ne_zero fun h => g1 (.inl h), Nat.lt_of_not_le fun h => g1 (.inr h)⟩

theorem ckxMsg_spec (k : CkxKind) (msg : Bytes) :
    Sat (fun n =>
      ∃ t a b c, be24 a b c + 4 = msg.length ∧
        match k with
        | .rsa => ∃ x y, msg = t :: a :: b :: c :: x :: y :: n ∧ be16 x y = n.length
        | .ecdhe ok => ∃ x, msg = t :: a :: b :: c :: x :: n ∧ x.toNat = n.length ∧ ok = true
        | .dhe p => ∃ x y, msg = t :: a :: b :: c :: x :: y :: n ∧ be16 x y = n.length ∧ 0 < natOf n ∧ natOf n < natOf p)
      (ckxMsg k msg) := by
  unfold ckxMsg
  refine (ckxUnmarshal_spec msg).elim ?_ trivial
  rintro ct ⟨t, a, b, c, rfl, hl⟩
  have hlen : be24 a b c + 4 = (t :: a :: b :: c :: ct).length := by rw [hl]; rfl
  cases k with
  | rsa =>
    refine (rsaCKX_spec ct).mono ?_
    rintro n ⟨x, y, rfl, h⟩
    exact ⟨t, a, b, c, hlen, x, y, rfl, h⟩
  | ecdhe ok =>
    refine (ecdheCKX_spec ok ct).mono ?_
    rintro n ⟨x, rfl, h⟩
    exact ⟨t, a, b, c, hlen, x, rfl, h⟩
  | dhe p =>
    refine (dheCKX_spec p ct).mono ?_
    rintro n ⟨x, y, rfl, h⟩
    exact ⟨t, a, b, c, hlen, x, y, rfl, h⟩

theorem bytesOfNat_eq (n : Nat) : bytesOfNat n = minBE n :=
  minBE_unique (by rw [bytesOfNat, dif_pos rfl]) (fun n h => by rw [bytesOfNat, dif_neg h]) n

theorem natOf_bytesOfNat (n : Nat) : natOf (bytesOfNat n) = n := by
  rw [bytesOfNat_eq]
  exact be256_minBE n

theorem bytesOfNat_length (k n : Nat) (h : n < 256 ^ k) : (bytesOfNat n).length ≤ k := by
  rw [bytesOfNat_eq]
  exact minBE_length_le k n h

theorem be16_ofNat (l : Nat) (h : l < 65536) : be16 (UInt8.ofNat (l / 256)) (UInt8.ofNat (l % 256)) = l := by
  unfold be16
  have h1 : (UInt8.ofNat (l / 256)).toNat = l / 256 := by
    simp; omega
  have h2 : (UInt8.ofNat (l % 256)).toNat = l % 256 := by
    simp
  omega

theorem ckxUnmarshal_cons (t a b c : UInt8) (ct : Bytes) (h : be24 a b c = ct.length) :
    ckxUnmarshal (t :: a :: b :: c :: ct) = .ok ct := by
  unfold ckxUnmarshal
  rw [if_neg (by simp), idx_succ, idx_zero, idx_succ, idx_succ, idx_zero, idx_succ, idx_succ, idx_succ, idx_zero]
  simp only
  rw [if_neg (by simp [h])]
  rfl

theorem dheCKX_cons (p : Bytes) (a b : UInt8) (y : Bytes) (h : be16 a b = y.length) (h0 : 0 < natOf y)
    (hp : natOf y < natOf p) : dheCKX p (a :: b :: y) = .ok y := by
  unfold dheCKX
  rw [if_neg (by simp), idx_zero, idx_succ, idx_zero]
  simp only
  rw [if_neg (by simp [h])]
  show (if natOf y = 0 ∨ natOf y ≥ natOf p then Res.err else Res.ok y) = _
  rw [if_neg (by omega)]

theorem ckxMsg_ok (k : CkxKind) (msg ct : Bytes) (h : ckxUnmarshal msg = .ok ct) :
    ckxMsg k msg = match k with
      | .rsa => rsaCKX ct
      | .ecdhe ok => ecdheCKX ok ct
      | .dhe p => dheCKX p ct := by
  unfold ckxMsg
  rw [h]
  rfl

/-- `hp` and `h0` hold after an accepted DHE ServerKeyExchange (`dheSKXMsg_spec`, `dheSKXSkipVerifyMsg_spec`); the
    premise Yc ≠ 0 is necessary (`dheCKX_spec`: an accepted Yc is not 0) -/
theorem dheGenCKX_roundtrip (p g ys : Bytes) (x : Nat) (hp : p.length ≤ 65535) (h0 : 0 < natOf p)
    (t a b c : UInt8) :
    ∃ ct pms, dheGenCKX p g ys x = .ok (ct, pms) ∧ natOf pms = natOf ys ^ x % natOf p ∧
      (be24 a b c = ct.length → natOf g ^ x % natOf p ≠ 0 →
        ckxMsg (.dhe p) (t :: a :: b :: c :: ct) = .ok (bytesOfNat (natOf g ^ x % natOf p))) := by
  unfold dheGenCKX
  rw [if_neg (by omega)]
  refine ⟨_, _, rfl, natOf_bytesOfNat _, fun h24 hne => ?_⟩
  generalize hn : natOf g ^ x % natOf p = n at *
  have hlt : n < natOf p := hn ▸ Nat.mod_lt _ h0
  -- Yc < p has at most as many bytes as p, so its length fits the 16-bit prefix
  have hlen := bytesOfNat_length p.length n (Nat.lt_trans hlt (be256_lt p))
  refine (ckxMsg_ok _ _ _ (ckxUnmarshal_cons _ _ _ _ _ h24)).trans ?_
  exact dheCKX_cons p _ _ _ (be16_ofNat _ (by omega)) (by rw [natOf_bytesOfNat]; omega)
    (by rw [natOf_bytesOfNat]; exact hlt)

end ZV.C32
