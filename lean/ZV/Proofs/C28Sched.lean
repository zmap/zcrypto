import ZV.Model.C28Sched
/-! The logging schedule of C28: what one `step` can do to the traced parts of the state (`step_spec`), and the
    invariant of `run` that follows from it (`clientLog_inv`). -/
namespace ZV.C28

theorem run_cons (s : St) (m : Item) (r : List Item) : run s (m :: r) = run (step s m) r := rfl

theorem run_app (s : St) (a b : List Item) : run s (a ++ b) = run (run s a) b := by
  simp [run, List.foldl_append]

/-- the certificate message (attributes, position) a phase still has to log -/
def Phase.certAt : Phase → Option (CertA × Nat)
  | .gotCert _ c i | .gotStatus _ c i => some (c, i)
  | _ => none

/-- what a step that reads `m` in state `s` may have written when it leaves the log `L`: the three message records, each
    only from a message of its kind and then with the current position; ticket, key material and `done` not at all -/
structure Writes (s : St) (m : Item) (L : HLog) : Prop where
  serverHello : L.serverHello = s.log.serverHello ∨
    (s.phase = .start ∧ (∃ a, m = .serverHello a) ∧ L.serverHello = some s.n)
  skx : L.skx = s.log.skx ∨ (m = .serverKeyExchange true ∧ L.skx = some s.n)
  serverFin : L.serverFin = s.log.serverFin ∨ ((∃ ok, m = .finished ok) ∧ L.serverFin = some s.n)
  rest : L.ticket = s.log.ticket ∧ L.keyMaterial = s.log.keyMaterial ∧ L.done = s.log.done

theorem Writes.none {s : St} {m : Item} : Writes s m s.log := ⟨.inl rfl, .inl rfl, .inl rfl, rfl, rfl, rfl⟩

/-- what reading `m` in state `s` can do on the way to `t`: a traced field keeps its value or is set from the
    current position by a message of the right kind; `start` is never re-entered -/
structure StepSpec (s : St) (m : Item) (t : St) : Prop where
  n : t.n = s.n + 1
  phase : t.phase ≠ .start
  done : t.log.done = s.log.done ∨ t.phase = .complete
  serverHello : t.log.serverHello = s.log.serverHello ∨
    (s.phase = .start ∧ (∃ a, m = .serverHello a) ∧ t.log.serverHello = some s.n)
  skx : t.log.skx = s.log.skx ∨ (m = .serverKeyExchange true ∧ t.log.skx = some s.n)
  serverFin : t.log.serverFin = s.log.serverFin ∨ ((∃ ok, m = .finished ok) ∧ t.log.serverFin = some s.n)
  sess : t.sess = s.sess ∨ (m = .newSessionTicket ∧ t.sess = .msg s.n)
  ticket : t.log.ticket = s.log.ticket ∨ (t.log.ticket = s.sess ∧ t.sess = s.sess ∧ t.log.done = true)
  keyMaterial : t.log.keyMaterial = s.log.keyMaterial ∨
    (t.log.done = true ∧ m = .finished true ∧ t.log.serverFin = some s.n)

variable {s : St} {m : Item} {L : HLog}

theorem StepSpec.idle (h : s.phase ≠ .start) : StepSpec s m { s with n := s.n + 1 } :=
  ⟨rfl, h, .inl rfl, .inl rfl, .inl rfl, .inl rfl, .inl rfl, .inl rfl, .inl rfl⟩

theorem StepSpec.goto {p : Phase} (hp : p ≠ .start) (h : Writes s m L) : StepSpec s m (s.goto p L) :=
  ⟨rfl, hp, .inl h.rest.2.2, h.serverHello, h.skx, h.serverFin, .inl rfl, .inl h.rest.1,
    .inl h.rest.2.1⟩

theorem StepSpec.abort (h : Writes s m L) : StepSpec s m (s.abort L) :=
  .goto (p := .aborted) nofun h

theorem StepSpec.ite {c : Prop} [Decidable c] {x y : St} (hx : StepSpec s m x) (hy : StepSpec s m y) :
    StepSpec s m (if c then x else y) := by
  split
  · exact hx
  · exact hy

theorem onShd_spec (a : SHA) (c : CertA) (k : Bool) (h : Writes s m L) :
    StepSpec s m (onShd s a c k L m) := by
  have h' : Writes s m { L with ckx := true, clientFin := true } := ⟨h.1, h.2, h.3, h.4⟩
  unfold onShd
  split
  · exact .ite (.abort h) (.ite (.goto nofun h') (.goto nofun h'))
  · exact .abort h

theorem onCreq_spec (a : SHA) (c : CertA) (k : Bool) (h : Writes s m L) :
    StepSpec s m (onCreq s a c k L m) := by
  unfold onCreq
  split
  · exact .goto nofun h
  · exact onShd_spec a c k h

theorem onKx_spec (a : SHA) (c : CertA) (i : Nat) : StepSpec s m (onKx s a c i m) := by
  have h1 : Writes s m { s.log with certs := some i } := ⟨.inl rfl, .inl rfl, .inl rfl, rfl, rfl, rfl⟩
  have h2 : Writes s m { s.log with certs := some i, parsed := true } := ⟨.inl rfl, .inl rfl, .inl rfl, rfl, rfl, rfl⟩
  unfold onKx
  refine .ite (.abort h1) (.ite (.abort h2) ?_)
  split
  · next ok =>
    refine .ite (.abort h2) ?_
    cases ok
    · exact .abort h2
    · exact .goto nofun ⟨.inl rfl, .inr ⟨rfl, rfl⟩, .inl rfl, rfl, rfl, rfl⟩
  · exact onCreq_spec a c false h2

theorem onCert13_spec (alpn : Bool) : StepSpec s m (onCert13 s alpn m) := by
  have h2 : Writes s m { s.log with certs := some s.n, parsed := true } := ⟨.inl rfl, .inl rfl, .inl rfl, rfl, rfl, rfl⟩
  unfold onCert13
  split
  · exact .ite (.abort .none) (.ite (.abort ⟨.inl rfl, .inl rfl, .inl rfl, rfl, rfl, rfl⟩) (.ite (.abort h2) (.goto nofun h2)))
  · exact .abort .none

theorem StepSpec.finish (h : Writes s (.finished true) L) (hf : L.serverFin = some s.n) :
    StepSpec s (.finished true) (s.finish L) :=
  ⟨rfl, nofun, .inr rfl, h.serverHello, h.skx, h.serverFin, .inl rfl, .inr ⟨rfl, rfl, rfl⟩,
    .inr ⟨rfl, rfl, hf⟩⟩

theorem step_spec : ∀ (s : St) (m : Item), StepSpec s m (step s m) := by
  rintro ⟨ph, n, se, L⟩ m
  unfold step
  -- per phase the term follows the `match` / `if` tree of `step`: `split` for the message kind, one `.ite` per test,
  -- and at each leaf the `Writes` of the log built on the way there
  cases ph <;> dsimp only
  case aborted | complete => exact .idle nofun
  case start =>
    split
    · exact .abort .none
    · next a =>
      have h : Writes ⟨.start, n, se, L⟩ (.serverHello a) { L with clientHello := true, serverHello := some n } :=
        ⟨.inr ⟨rfl, ⟨a, rfl⟩, rfl⟩, .inl rfl, .inl rfl, rfl, rfl, rfl⟩
      exact .ite (.abort h) (.ite
        (.ite (.abort h) (.ite (.goto nofun h) (.goto nofun h)))
        (.ite (.abort h) (.ite (.ite (.goto nofun h) (.goto nofun h)) (.goto nofun h))))
    · exact .abort ⟨.inl rfl, .inl rfl, .inl rfl, rfl, rfl, rfl⟩
  case wantCert a =>
    split
    · exact .ite (.abort .none) (.goto nofun .none)
    · exact .abort .none
  case gotCert a c i =>
    split
    · exact .abort .none
    · exact .ite (.abort .none) (.goto nofun .none)
    · exact onKx_spec a c i
  case gotStatus a c i =>
    split
    · exact .abort .none
    · exact onKx_spec a c i
  case afterSkx a c =>
    split
    · exact .abort .none
    · exact onCreq_spec a c true .none
  case afterCreq a c k =>
    split
    · exact .abort .none
    · exact onShd_spec a c k .none
  case wantNST r =>
    split
    · exact ⟨rfl, nofun, .inl rfl, .inl rfl, .inl rfl, .inl rfl, .inr ⟨rfl, rfl⟩, .inl rfl, .inl rfl⟩
    · exact .abort .none
  case wantCCS r =>
    split
    · exact .goto nofun .none
    · exact .abort .none
  case wantFin r =>
    split
    · next ok =>
      have h : Writes ⟨.wantFin r, n, se, L⟩ (.finished ok) { L with serverFin := some n } :=
        ⟨.inl rfl, .inl rfl, .inr ⟨⟨ok, rfl⟩, rfl⟩, rfl, rfl, rfl⟩
      cases ok
      · exact .abort h
      · exact .ite (.abort h) (.ite (.finish ⟨h.1, h.2, h.3, h.4⟩ rfl) (.finish h rfl))
    · exact .abort .none
  case want13SH2 =>
    split
    · exact .idle nofun
    · exact .ite (.abort .none) (.goto nofun .none)
    · exact .abort .none
  case want13EE psk =>
    split
    · exact .idle nofun
    · exact .ite (.abort .none) (.ite (.goto nofun .none) (.goto nofun .none))
    · exact .abort .none
  case want13CertOrReq alpn =>
    split
    · exact .idle nofun
    · exact .goto nofun .none
    · exact onCert13_spec alpn
  case want13Cert alpn =>
    split
    · exact .idle nofun
    · exact onCert13_spec alpn
  case want13CV alpn =>
    split
    · exact .idle nofun
    · exact .ite (.abort .none) (.goto nofun .none)
    · exact .abort .none
  case want13Fin alpn =>
    split
    · exact .idle nofun
    · next ok =>
      refine .ite (.abort .none) ?_
      exact ⟨rfl, nofun, .inr rfl, .inl rfl, .inl rfl, .inl rfl, .inl rfl, .inl rfl, .inl rfl⟩
    · exact .abort .none

theorem step_complete {s : St} (m : Item) (h : s.phase = .complete) :
    (step s m).phase = .complete ∧ (step s m).log = s.log ∧ (step s m).sess = s.sess := by
  obtain ⟨ph, n, se, L⟩ := s
  cases h
  exact ⟨rfl, rfl, rfl⟩

theorem src_snoc {α : Type} {f : Nat → α} (hf : ∀ i j, f i = f j → i = j) {P : Item → Prop} {pre : List Item}
    {m : Item} {old new : α} (hw : new = old ∨ (P m ∧ new = f pre.length))
    (ih : ∀ i, old = f i → ∃ x, pre[i]? = some x ∧ P x) (i : Nat) (h : new = f i) :
    ∃ x, (pre ++ [m])[i]? = some x ∧ P x := by
  rcases hw with e | ⟨hm, e⟩
  · obtain ⟨x, hx, hp⟩ := ih i (e ▸ h)
    exact ⟨x, by rw [List.getElem?_append_left (List.getElem?_eq_some_iff.1 hx).1, hx], hp⟩
  · cases hf _ _ (e.symm.trans h)
    exact ⟨m, by simp, hm⟩

/-- what holds of the state after the items `pre` have been read, starting from `St.init offered` -/
structure Inv (offered : Bool) (pre : List Item) (s : St) : Prop where
  n : s.n = pre.length
  start : s.phase = .start → pre = []
  done : s.log.done = true → s.phase = .complete
  serverHello : ∀ i, s.log.serverHello = some i → i = 0 ∧ ∃ x, pre[i]? = some x ∧ ∃ a, x = .serverHello a
  skx : ∀ i, s.log.skx = some i → ∃ x, pre[i]? = some x ∧ x = .serverKeyExchange true
  serverFin : ∀ i, s.log.serverFin = some i → ∃ x, pre[i]? = some x ∧ ∃ ok, x = .finished ok
  sessMsg : ∀ i, s.sess = .msg i → ∃ x, pre[i]? = some x ∧ x = .newSessionTicket
  sessCache : s.sess = .cache → offered = true
  ticket : s.log.ticket = .none ∨ (s.log.ticket = s.sess ∧ s.log.done = true)
  keyMaterial : s.log.keyMaterial = true →
    s.log.done = true ∧ ∃ i, s.log.serverFin = some i ∧ pre[i]? = some (.finished true)

theorem Inv.init (offered : Bool) : Inv offered [] (St.init offered) :=
  ⟨rfl, fun _ => rfl, nofun, nofun, nofun, nofun, by cases offered <;> nofun, by cases offered <;> simp [St.init],
    .inl rfl, nofun⟩

theorem Inv.next {offered : Bool} {pre : List Item} {s t : St} {m : Item} (hI : Inv offered pre s)
    (hS : StepSpec s m t) (hC : s.phase = .complete → t.phase = .complete ∧ t.log = s.log ∧ t.sess = s.sess) :
    Inv offered (pre ++ [m]) t where
  n := by rw [hS.n, hI.n, List.length_append]; rfl
  start h := absurd h hS.phase
  done h := by
    rcases hS.done with e | e
    · exact (hC (hI.done (e ▸ h))).1
    · exact e
  serverHello i h := by
    refine ⟨?_, src_snoc (fun _ _ => Option.some.inj) (hI.n ▸ hS.serverHello.imp_right (·.2)) (fun i h => (hI.serverHello i h).2) i h⟩
    rcases hS.serverHello with e | ⟨hp, _, e⟩
    · exact (hI.serverHello i (e ▸ h)).1
    · have := hI.n
      rw [hI.start hp] at this
      exact Option.some.inj ((h.symm.trans e).trans (congrArg some this))
  skx := src_snoc (fun _ _ => Option.some.inj) (hI.n ▸ hS.skx) hI.skx
  serverFin := src_snoc (fun _ _ => Option.some.inj) (hI.n ▸ hS.serverFin) hI.serverFin
  sessMsg := src_snoc (fun _ _ => TicketSrc.msg.inj) (hI.n ▸ hS.sess) hI.sessMsg
  sessCache h := by
    rcases hS.sess with e | ⟨_, e⟩
    · exact hI.sessCache (e ▸ h)
    · cases e.symm.trans h
  ticket := by
    rcases hS.ticket with e | ⟨e1, e2, e3⟩
    · rcases hI.ticket with h0 | ⟨h1, h2⟩
      · exact .inl (e.trans h0)
      · obtain ⟨_, hl, hs⟩ := hC (hI.done h2)
        exact .inr ⟨by rw [hl, hs]; exact h1, by rw [hl]; exact h2⟩
    · exact .inr ⟨e1.trans e2.symm, e3⟩
  keyMaterial h := by
    rcases hS.keyMaterial with e | ⟨hd, rfl, hf⟩
    · obtain ⟨hd, i, hf, hi⟩ := hI.keyMaterial (e ▸ h)
      obtain ⟨_, hl, _⟩ := hC (hI.done hd)
      exact ⟨by rw [hl]; exact hd, i, by rw [hl]; exact hf,
        by rw [List.getElem?_append_left (List.getElem?_eq_some_iff.1 hi).1, hi]⟩
    · exact ⟨hd, s.n, hf, by rw [hI.n]; simp⟩

theorem Inv.run {offered : Bool} (ins : List Item) : ∀ {pre : List Item} {s : St}, Inv offered pre s →
    Inv offered (pre ++ ins) (run s ins) := by
  induction ins with
  | nil => intro pre s h; rw [List.append_nil]; exact h
  | cons m r ih =>
    intro pre s h
    rw [run_cons, List.append_cons]
    exact ih (h.next (step_spec s m) (step_complete m))

theorem clientLog_inv (offered : Bool) (ins : List Item) : Inv offered ins (run (St.init offered) ins) :=
  (Inv.init offered).run ins

end ZV.C28
