import ZV.Model.C22Der
import ZV.Proofs.C22
import ZV.Proofs.C18Main
/-! C22, DER leg: `pkix.RDNSequence` as an instance of the C18 round-trip theorem.  `VEq` (the `≈` of the C18 theorem) at
    `rdnSchema` is "RDN by RDN a permutation" (`RdnPerm`): only the inner `seqOf` is a SET.  `FillFromRDNSequence` of a sequence
    whose RDNs are permuted internally gives the fields as multisets but the scalars exactly, because the attribute types that
    set a scalar only occur in single-member RDNs (a scalar is fed by its guarded row alone: `emitRows_feeders`). -/
namespace ZV.C22
open ZV.C18 (Schema Val Params All2)

theorem velems_eq (v : Val) : velems v = C18.elems v := by
  induction v with
  | vcons x r _ ih => rw [velems, C18.elems, ih]
  | _ => rfl

theorem chain_eq (l : List Val) : chain l = C18.ofList l := by
  induction l <;> simp_all [chain, C18.ofList]

@[simp] theorem velems_chain (l : List Val) : velems (chain l) = l := by
  rw [velems_eq, chain_eq, C18.elems_ofList]

theorem allChain_chain (f : Val → Bool) (l : List Val) : C18.allChain f (chain l) = l.all f := by
  induction l <;> simp_all [chain, C18.allChain]

theorem lenZero_chain_cons (x : Val) (l : List Val) : C18.lenZero (chain (x :: l)) = false := rfl

theorem stringChoice_eq (s : Bytes) : stringChoice s =
    if s.all (fun b => decide (b.toNat < 128) && C18.isPrintable b false false) = true then some 19
    else if C18.utf8Valid s = true then some 12 else none := by
  rw [stringChoice, C18.stringTag]
  exact if_pos rfl

theorem stringChoice_none (s : Bytes) (h : C18.utf8Valid s = false)
    (hp : s.all (fun b => decide (b.toNat < 128) && C18.isPrintable b false false) = false) : stringChoice s = none := by
  rw [stringChoice_eq, if_neg (ne_true_of_eq_false hp), if_neg (ne_true_of_eq_false h)]

theorem stringChoice_inv (s : Bytes) (t : Nat) (h : stringChoice s = some t) :
    (t = 19 ∧ s.all (fun b => decide (b.toNat < 128) && C18.isPrintable b false false) = true) ∨
    (t = 12 ∧ C18.utf8Valid s = true) :=
  (C18.stringTag_cases {} s t h).imp And.right fun h => h.elim And.right fun h0 => absurd rfl h0.1

theorem readBack_choice (s : Bytes) (t : Nat) (h : stringChoice s = some t) : readBack t s = .ok (.bytes s) := by
  rcases stringChoice_inv s t h with ⟨rfl, hp⟩ | ⟨rfl, hu⟩
  · exact C18.parseString_19 s (C18.all_and_printable s hp)
  · exact C18.parseString_12 s hu

theorem exists_all2 {α β : Type} (P : α → β → Prop) : ∀ (l : List α), (∀ x ∈ l, ∃ b, P x b) → ∃ bs, All2 P l bs
  | [], _ => ⟨[], trivial⟩
  | x :: l, h => by
    obtain ⟨b, hb⟩ := h x List.mem_cons_self
    obtain ⟨bs, hbs⟩ := exists_all2 P l (fun y hy => h y (List.mem_cons_of_mem _ hy))
    exact ⟨b :: bs, hb, hbs⟩

theorem makeField_slice_ok (sn : Bool) (e : Schema) (l : List Val) (h : ∀ x ∈ l, ∃ b, C18.makeField e {} x = .ok b) :
    ∃ b, C18.makeField (.seqOf sn e) {} (chain l) = .ok b := by
  obtain ⟨encs, henc⟩ := exists_all2 (fun x b => C18.makeField e {} x = .ok b) l h
  exact ⟨_, C18.makeField_seqOf_mk sn e {} _ encs (C18.omitted_false _ {} _ rfl rfl) rfl rfl rfl
    (chain_eq l ▸ C18.mapElems_ofList _ l encs henc)⟩

theorem makeField_atv_ok (a : ATV) (h : atvOK a = true) : ∃ b, C18.makeField atvSchema {} (atvToVal a) = .ok b := by
  obtain ⟨t, val⟩ := a
  simp only [atvOK, Bool.and_eq_true] at h
  cases val with
  | other tg r => simp at h
  | str s =>
    obtain ⟨hu, ho⟩ := h
    simp only at hu ho
    obtain ⟨body, hb, _⟩ := C18.parseOID_makeOID _ ho
    obtain ⟨b1, h1⟩ : ∃ b1, C18.primMake .oid {} (.oid (t.map Int.ofNat)) = .ok b1 := by
      simp only [C18.primMake, C18.omitted_false _ {} _ rfl rfl, Bool.false_eq_true, if_false, C18.univ, C18.marshalTag,
        C18.makePrimBody, hb]
      exact ⟨_, rfl⟩
    obtain ⟨b2, h2⟩ : ∃ b2, C18.primMake .str {} (.bytes s) = .ok b2 := by
      obtain ⟨tg, htg⟩ : ∃ tg, C18.stringTag {} s = some tg := by
        rw [← stringChoice, stringChoice_eq, if_pos hu]
        split
        · exact ⟨19, rfl⟩
        · exact ⟨12, rfl⟩
      simp only [C18.primMake, C18.omitted_false _ {} _ rfl rfl, Bool.false_eq_true, if_false, C18.univ, C18.marshalTag,
        C18.makePrimBody, htg, C18.makeString]
      exact ⟨_, rfl⟩
    simp only [atvSchema, atvToVal, C18.makeField, C18.omitted_false _ {} _ rfl rfl, Bool.false_eq_true, if_false,
      C18.makeFields, h1, h2]
    exact ⟨_, rfl⟩

theorem marshalSeq_ok (seq : Option RDNSeq) (h : seqOK (orNil seq) = true) :
    ∃ enc, marshalSeq seq = .ok enc := by
  cases seq with
  | none => exact ⟨[0x30, 0], by decide⟩
  | some s =>
    simp only [seqOK, List.all_eq_true] at h
    unfold marshalSeq C18.marshal rdnSchema seqToVal
    apply makeField_slice_ok
    intro x hx
    obtain ⟨r, hr, rfl⟩ := List.mem_map.mp hx
    unfold rdnToVal
    apply makeField_slice_ok
    intro y hy
    obtain ⟨a, ha, rfl⟩ := List.mem_map.mp hy
    exact makeField_atv_ok a (h r hr a ha)

theorem orNil_toRDN (n : Name) (h : n.originalRDNS = none) : orNil (toRDN n) = emit n := by
  rw [toRDN_of_none n h]
  cases emit n <;> rfl

theorem inDomain_atv (a : ATV) (h : atvOK a = true) : C18.InDomain atvSchema {} (atvToVal a) = true := by
  obtain ⟨t, val⟩ := a
  simp only [atvOK, Bool.and_eq_true] at h
  cases val with
  | other tg r => simp at h
  | str s =>
    have ho : C18.oidOK (t.map Int.ofNat) = true := h.2
    simp [atvSchema, atvToVal, C18.InDomain, C18.omitted_false _ {} _ rfl rfl, C18.goodB, C18.leafOK, C18.strOK, ho]

theorem inDomain_seq (seq : Option RDNSeq) (h : seqOK (orNil seq) = true) :
    C18.InDomain rdnSchema {} (seqToVal seq) = true := by
  cases seq with
  | none => decide
  | some s =>
    simp only [seqOK, List.all_eq_true] at h
    simp only [rdnSchema, seqToVal, C18.InDomain, C18.omitted_false _ {} _ rfl rfl, Bool.false_eq_true, if_false,
      allChain_chain, Bool.and_eq_true, List.all_eq_true]
    refine ⟨⟨by decide, by decide⟩, ?_⟩
    intro x hx
    obtain ⟨r, hr, rfl⟩ := List.mem_map.mp hx
    simp only [rdnToVal, allChain_chain, List.all_eq_true]
    refine ⟨⟨by decide, by decide⟩, ?_⟩
    intro y hy
    obtain ⟨a, ha, rfl⟩ := List.mem_map.mp hy
    exact inDomain_atv a (h r hr a ha)

/-- the sequence-level relation: same number of RDNs, each RDN a permutation of the original one -/
def RdnPerm (seq seq' : RDNSeq) : Prop := All2 (fun r r' => r'.Perm r) seq seq'

theorem RdnPerm.length {seq seq' : RDNSeq} (h : RdnPerm seq seq') : seq.length = seq'.length := C18.All2_length h

theorem veq_atv (a b : Val) (h : C18.VEq atvSchema {} a b) : b = a := by
  simp only [atvSchema, C18.VEq] at h
  split at h
  · obtain ⟨h1, h2⟩ := h
    split at h2
    · rw [h1, h2.1, h2.2]
    · rw [h1, h2]
  · exact h.symm

theorem veq_rdn (a b : Val) (h : C18.VEq (.seqOf true atvSchema) {} a b) : (C18.elems b).Perm (C18.elems a) := by
  simp only [C18.VEq, Bool.or_true, if_true] at h
  obtain ⟨l, hl, hall⟩ := h
  have : C18.elems b = l := C18.All2_eq hall (fun x _ y hxy => veq_atv x y hxy)
  rw [this]; exact hl

theorem atvOfVal_atvToVal (a : ATV) (h : atvOK a = true) : atvOfVal (atvToVal a) = a := by
  obtain ⟨t, val⟩ := a
  cases val with
  | other tg r => simp [atvOK] at h
  | str s =>
    rw [atvToVal, atvOfVal, List.map_map, show Int.toNat ∘ Int.ofNat = id from rfl, List.map_id]

theorem veq_elems (seq : Option RDNSeq) (v' : Val) (h : C18.VEq rdnSchema {} (seqToVal seq) v') :
    All2 (fun a b => (C18.elems b).Perm (C18.elems a)) ((orNil seq).map rdnToVal) (C18.elems v') := by
  simp only [rdnSchema, C18.VEq, Bool.or_false, Bool.false_eq_true, if_false] at h
  have : C18.elems (seqToVal seq) = (orNil seq).map rdnToVal := by
    cases seq with
    | none => rfl
    | some s => rw [seqToVal, orNil, ← velems_eq, velems_chain]
  rw [this] at h
  exact C18.All2_mono (fun a _ b hab => veq_rdn a b hab) h

theorem rdnPerm_of_elems : ∀ (s : RDNSeq) (ys : List Val), (∀ r ∈ s, ∀ a ∈ r, atvOK a = true) →
    All2 (fun a b => (C18.elems b).Perm (C18.elems a)) (s.map rdnToVal) ys →
    RdnPerm s (ys.map (fun r => (velems r).map atvOfVal))
  | [], [], _, _ => trivial
  | r :: s, y :: ys, hok, h => by
    refine ⟨?_, rdnPerm_of_elems s ys (fun r' hr' => hok r' (List.mem_cons_of_mem _ hr')) h.2⟩
    have hp := h.1.map atvOfVal
    rw [← velems_eq, ← velems_eq, rdnToVal, velems_chain, List.map_map,
      List.map_congr_left (f := atvOfVal ∘ atvToVal) (g := id) (fun a ha => atvOfVal_atvToVal a (hok r List.mem_cons_self a ha)), List.map_id] at hp
    exact hp
  | [], _ :: _, _, h => h.elim
  | _ :: _, [], _, h => h.elim

theorem all2_map_left {α β : Type} {P : α → β → Prop} (g : α → α) : ∀ (l : List α) (bs : List β),
    All2 P l bs → (∀ x ∈ l, ∀ b, P x b → P (g x) b) → All2 P (l.map g) bs
  | [], [], _, _ => trivial
  | x :: l, b :: bs, h, hg =>
    ⟨hg x List.mem_cons_self b h.1, all2_map_left g l bs h.2 (fun y hy => hg y (List.mem_cons_of_mem _ hy))⟩
  | [], _ :: _, h, _ => h.elim
  | _ :: _, [], h, _ => h.elim

theorem all2_left_ex {α β : Type} {P : α → β → Prop} : ∀ (l : List α) (bs : List β), All2 P l bs → ∀ x ∈ l, ∃ b, P x b
  | x :: l, b :: bs, h, y, hy => by
    rcases List.mem_cons.mp hy with rfl | hy'
    · exact ⟨b, h.1⟩
    · exact all2_left_ex l bs h.2 y hy'
  | [], _, _, _, hy => nomatch hy
  | _ :: _, [], h, _, _ => h.elim

/-- `makeField` of a slice without parameters only looks at the element encodings -/
theorem makeField_slice_congr (sn : Bool) (e : Schema) (v : Val) (g : Val → Val) (b : Bytes)
    (h : C18.makeField (.seqOf sn e) {} v = .ok b)
    (hg : ∀ x ∈ C18.elems v, ∀ c, C18.makeField e {} x = .ok c → C18.makeField e {} (g x) = .ok c) :
    C18.makeField (.seqOf sn e) {} (chain ((C18.elems v).map g)) = .ok b := by
  have homit := fun w => C18.omitted_false (.seqOf sn e) {} w rfl rfl
  obtain ⟨_, _, _, encs, hm, rfl⟩ := C18.makeField_seqOf_ok sn e {} v b (homit v) h
  have hall := all2_map_left (P := fun x c => C18.makeField e {} x = .ok c) g _ _ (C18.mapElems_ok _ v encs hm) hg
  rw [chain_eq]
  exact C18.makeField_seqOf_mk sn e {} _ encs (homit _) rfl rfl rfl (C18.mapElems_ofList _ _ encs hall)

theorem remarshal (s : RDNSeq) (v' : Val) (der : Bytes) (hok : ∀ r ∈ s, ∀ a ∈ r, atvOK a = true)
    (hall : All2 (fun a b => (C18.elems b).Perm (C18.elems a)) (s.map rdnToVal) (C18.elems v'))
    (hm : C18.marshal rdnSchema {} v' = .ok der) : marshalSeq (some (valToSeq v')) = .ok der := by
  unfold marshalSeq C18.marshal valToSeq
  simp only [seqToVal]
  rw [List.map_map, velems_eq]
  unfold C18.marshal at hm
  unfold rdnSchema at hm ⊢
  apply makeField_slice_congr false _ v' _ der hm
  intro y hy c hc
  obtain ⟨x, hx, hp⟩ := C18.All2_right hall y hy
  obtain ⟨r, hr, rfl⟩ := List.mem_map.mp hx
  simp only [Function.comp, rdnToVal, List.map_map, velems_eq]
  apply makeField_slice_congr true _ y _ c hc
  intro z hz d hd
  rw [rdnToVal, ← velems_eq (chain _), velems_chain] at hp
  obtain ⟨a, ha, rfl⟩ := List.mem_map.mp ((List.Perm.mem_iff hp).mp hz)
  rw [Function.comp, atvOfVal_atvToVal a (hok r hr a ha)]
  exact hd

theorem RdnPerm.flatten : ∀ {s s' : RDNSeq}, RdnPerm s s' → s'.flatten.Perm s.flatten
  | [], [], _ => List.Perm.refl _
  | r :: s, r' :: s', h => by
    simp only [List.flatten_cons]
    exact List.Perm.append h.1 (RdnPerm.flatten h.2)
  | [], _ :: _, h => h.elim
  | _ :: _, [], h => h.elim

theorem perm_short {α : Type} : ∀ {r r' : List α}, r.length ≤ 1 → r'.Perm r → r' = r
  | [], _, _, hp => hp.eq_nil
  | [_], _, _, hp => List.perm_singleton.mp hp
  | _ :: _ :: _, _, hlen, _ => nomatch hlen

theorem scalar_perm (sc : Scalar) : ∀ (s s' : RDNSeq), RdnPerm s s' →
    (∀ r ∈ s, r.length ≤ 1 ∨ ∀ a ∈ r, ∀ x, stepS sc x a = x) →
    ∀ x, s'.flatten.foldl (stepS sc) x = s.flatten.foldl (stepS sc) x
  | [], [], _, _, _ => rfl
  | r :: s, r' :: s', h, hs, x => by
    have hr : r'.foldl (stepS sc) x = r.foldl (stepS sc) x := by
      rcases hs r List.mem_cons_self with hlen | hno
      · rw [perm_short hlen h.1]
      · rw [foldl_stepS_fixed sc r hno, foldl_stepS_fixed sc r' (fun a ha => hno a (h.1.mem_iff.mp ha))]
    rw [List.flatten_cons, List.flatten_cons, List.foldl_append, List.foldl_append, hr]
    exact scalar_perm sc s s' h.2 (fun r0 h0 => hs r0 (List.mem_cons_of_mem _ h0)) _
  | [], _ :: _, h, _, _ => h.elim
  | _ :: _, [], h, _, _ => h.elim

theorem emit_multi_no_scalar (n : Name) (sc : Scalar) :
    ∀ r ∈ emit n, r.length ≤ 1 ∨ ∀ a ∈ r, ∀ x, stepS sc x a = x := by
  intro r hr
  rw [emit_eq, List.mem_append] at hr
  rcases hr with hr | hr
  · obtain ⟨⟨src, oid⟩, hrow, rfl⟩ := mem_emitL hr
    cases src with
    | guarded s =>
      left
      rw [List.length_map, Src.vals]
      split
      · exact Nat.le_refl 1
      · exact Nat.zero_le 1
    | slice f =>
      right
      intro a ha x
      obtain ⟨v, _, rfl⟩ := List.mem_map.mp ha
      -- a slice row feeds no scalar: the only feeder of `sc` is its guarded row
      have : Act.set sc ∉ armOf oid := fun hc => by
        have hf := mem_feeders hrow hc
        rw [emitRows_feeders] at hf
        cases List.mem_singleton.mp hf
      simp [stepS, mkATV, this]
  · left
    obtain ⟨a, _, rfl⟩ := List.mem_map.mp hr
    exact Nat.le_refl 1

theorem fill_rdnPerm (s s' : RDNSeq) (h : RdnPerm s s')
    (hs : ∀ sc, ∀ r ∈ s, r.length ≤ 1 ∨ ∀ a ∈ r, ∀ x, stepS sc x a = x) :
    (∀ f, ((fill (some s')).get f).Perm (s.flatten.flatMap (valsFor f))) ∧
    (∀ sc, (fill (some s')).getS sc = s.flatten.foldl (stepS sc) []) ∧
    (fill (some s')).names.Perm s.flatten ∧ (fill (some s')).extraNames = [] ∧
    (fill (some s')).originalRDNS = some s' := by
  refine ⟨fun f => ?_, fun sc => ?_, ?_, (fill_rest _).2.1, (fill_rest _).2.2⟩
  · rw [fill_get]
    exact List.Perm.flatMap_right _ h.flatten
  · rw [fill_getS]
    exact scalar_perm sc s s' h (hs sc) []
  · rw [(fill_rest _).1]
    exact h.flatten

end ZV.C22
