import ZV.Model.C33Struct
import ZV.Proofs.C33
import ZV.Proofs.Sextet
/-!
  C33, structured types: each text function of the Go standard library that the decoders go through inverts the
  function the encoders use — `strings.Split ∘ Join` on parts without a dot, `Atoi ∘ Itoa`, `SetString ∘ String`,
  hex, base64 (over `sextet_lt`, `sextet_join` of `ZV.Proofs.Sextet`); for dotted-quad IPv4 text and
  `CIDRMask ∘ Mask.Size` the parts are here (one octet, the cut at `/`, a zero tail) and the round trips stand in Props/C33.
  Facts about a finite alphabet or range are `decide +kernel` over `Fin n` or over the `n` below a literal bound.
-/
namespace ZV.C33

theorem splitDot_ne_nil (s : Str) : splitDot s ≠ [] := by
  induction s with
  | nil => simp [splitDot]
  | cons c r ih =>
    simp only [splitDot]
    split
    · simp
    · split <;> simp

theorem splitDot_noDot (p : Str) (h : '.' ∉ p) : splitDot p = [p] := by
  induction p with
  | nil => rfl
  | cons c r ih =>
    simp only [List.mem_cons, not_or] at h
    have hc : c ≠ '.' := fun e => h.1 e.symm
    simp only [splitDot, hc, if_false, ih h.2]

theorem splitDot_append (p rest : Str) (h : '.' ∉ p) :
    splitDot (p ++ '.' :: rest) = p :: splitDot rest := by
  induction p with
  | nil => simp [splitDot]
  | cons c r ih =>
    simp only [List.mem_cons, not_or] at h
    have hc : c ≠ '.' := fun e => h.1 e.symm
    simp only [List.cons_append, splitDot, hc, if_false, ih h.2]

theorem splitDot_joinDot (ps : List Str) (hne : ps ≠ []) (h : ∀ p ∈ ps, '.' ∉ p) :
    splitDot (joinDot ps) = ps := by
  induction ps with
  | nil => exact absurd rfl hne
  | cons a r ih =>
    cases r with
    | nil => simp only [joinDot]; exact splitDot_noDot a (h a (by simp))
    | cons b r' =>
      simp only [joinDot]
      rw [splitDot_append a _ (h a (by simp))]
      rw [ih (by simp) (fun p hp => h p (List.mem_cons_of_mem _ hp))]

def int64 (i : Int) : Prop := -9223372036854775808 ≤ i ∧ i < 9223372036854775808

theorem atoiAll_map (o : List Int) (h : ∀ a ∈ o, int64 a) : atoiAll (o.map intToDec) = some o := by
  induction o with
  | nil => rfl
  | cons a r ih =>
    have ha := h a (by simp)
    simp only [List.map_cons, atoiAll, atoi_intToDec a ha.1 ha.2,
      ih (fun x hx => h x (List.mem_cons_of_mem _ hx))]

theorem atoiNonNeg_map (o : List Nat) (h : ∀ a ∈ o, a < 9223372036854775808) :
    atoiNonNeg (o.map natToDec) = some o := by
  induction o with
  | nil => rfl
  | cons a r ih =>
    have ha := h a (by simp)
    have h1 := atoi_intToDec (Int.ofNat a) (by simp only [Int.ofNat_eq_natCast]; omega) (by simp only [Int.ofNat_eq_natCast]; omega)
    rw [intToDec_ofNat] at h1
    simp only [List.map_cons, atoiNonNeg, h1,
      ih (fun x hx => h x (List.mem_cons_of_mem _ hx))]
    simp

theorem oidStringI_ofNat (o : List Nat) : oidStringI (o.map Int.ofNat) = oidString o := by
  unfold oidStringI oidString
  congr 1
  rw [List.map_map]
  apply List.map_congr_left
  intro a _
  exact intToDec_ofNat a

theorem oidStringI_ne_nil (o : List Int) (hne : o ≠ []) : oidStringI o ≠ [] := by
  cases o with
  | nil => exact absurd rfl hne
  | cons a r =>
    unfold oidStringI
    cases r with
    | nil => simpa [joinDot] using intToDec_ne_nil a
    | cons b r' => simp [joinDot]

theorem intToDec_natCast (n : Nat) : intToDec (n : Int) = natToDec n := intToDec_ofNat n

theorem litInt_intToDec (i : Int) : litInt (intToDec i) = some i := by
  unfold intToDec
  split
  · have hi : -Int.ofNat (-i).toNat = i := by simp only [Int.ofNat_eq_natCast]; omega
    simp only [litInt, parseDigits_natToDec, hi]
  · obtain ⟨c, r, hs, hc1, _⟩ := natToDec_head i.toNat
    have hp := parseDigits_natToDec i.toNat
    have hi : Int.ofNat i.toNat = i := by simp only [Int.ofNat_eq_natCast]; omega
    rw [hs] at hp ⊢
    unfold litInt
    split
    · rename_i heq
      injection heq with h1 _
      exact absurd h1 hc1
    · simp only [hp, hi]

theorem bigSetString10_intToDec (e : Int) : bigSetString10 (intToDec e) = some e := by
  unfold intToDec
  split
  · have hi : -Int.ofNat (-e).toNat = e := by simp only [Int.ofNat_eq_natCast]; omega
    simp only [bigSetString10, or_true, if_true, parseDigits_natToDec, hi]
  · obtain ⟨c, r, hs, hc1, hc2⟩ := natToDec_head e.toNat
    have hp := parseDigits_natToDec e.toNat
    have hi : Int.ofNat e.toNat = e := by simp only [Int.ofNat_eq_natCast]; omega
    rw [hs] at hp ⊢
    simp only [bigSetString10, hc1, hc2, or_self, if_false, hp, hi]

theorem memInt_num_intToDec (i : Int) (h : int64 i) :
    memInt int64Min int64Max (some (JV.num (intToDec i))) = .ok i := by
  have hr : inRange int64Min int64Max i = true := by
    rw [inRange_iff]; unfold int64 at h; simp only [int64Min, int64Max]; omega
  simp only [memInt, litInt_intToDec, hr, if_true]

theorem hexVal_hexDigit : ∀ n : Fin 16, hexVal (hexDigit n.val) = some n.val := by decide +kernel

theorem hexDecode_hexEncode (b : Bytes) : hexDecode (hexEncode b) = some b := by
  unfold hexDecode
  induction b with
  | nil => rfl
  | cons x r ih =>
    have h1 := hexVal_hexDigit ⟨x.toNat / 16, Nat.div_lt_of_lt_mul x.toNat_lt⟩
    have h2 := hexVal_hexDigit ⟨x.toNat % 16, Nat.mod_lt _ (by decide)⟩
    simp only at h1 h2
    simp only [hexEncode, ofHexChars, h1, h2, ih]
    rw [Nat.div_add_mod', UInt8.ofNat_toNat]

theorem b64Val_b64Char : ∀ n, n < 64 → b64Val (b64Char n) = some n := by decide +kernel

theorem b64Char_ok : ∀ n, n < 64 → b64Char n ≠ '=' ∧ notCRLF (b64Char n) = true := by decide +kernel

theorem b64Encode_notCRLF (b : Bytes) : ∀ c ∈ b64Encode b, notCRLF c = true := by
  fun_induction b64Encode b with
  | case1 => nofun
  | case2 a =>
    obtain ⟨l1, l2, _, _⟩ := sextet_lt a 0 0
    simp only [List.forall_mem_cons]
    exact ⟨(b64Char_ok _ l1).2, (b64Char_ok _ l2).2, by decide, by decide, nofun⟩
  | case3 a b =>
    obtain ⟨l1, l2, l3, _⟩ := sextet_lt a b 0
    simp only [List.forall_mem_cons]
    exact ⟨(b64Char_ok _ l1).2, (b64Char_ok _ l2).2, (b64Char_ok _ l3).2, by decide, nofun⟩
  | case4 a b c r ih =>
    obtain ⟨l1, l2, l3, l4⟩ := sextet_lt a b c
    simp only [List.forall_mem_cons]
    exact ⟨(b64Char_ok _ l1).2, (b64Char_ok _ l2).2, (b64Char_ok _ l3).2, (b64Char_ok _ l4).2, ih⟩

theorem b64DecodeQ_b64Encode (b : Bytes) : b64DecodeQ (b64Encode b) = some b := by
  fun_induction b64Encode b with
  | case1 => rfl
  | case2 a =>
    obtain ⟨l1, l2, _, _⟩ := sextet_lt a 0 0
    have e := (sextet_join a 0 0).1
    simp only [UInt8.toNat_zero, Nat.zero_div, Nat.add_zero] at l2 e
    simp only [b64DecodeQ, b64Val_b64Char _ l1, b64Val_b64Char _ l2, and_self, if_true, e]
  | case3 a b =>
    obtain ⟨l1, l2, l3, _⟩ := sextet_lt a b 0
    obtain ⟨e1, e2, _⟩ := sextet_join a b 0
    simp only [UInt8.toNat_zero, Nat.zero_div, Nat.add_zero] at l3 e2
    simp only [b64DecodeQ, b64Val_b64Char _ l1, b64Val_b64Char _ l2, b64Val_b64Char _ l3, (b64Char_ok _ l3).1,
      if_false, if_true, e1, e2]
  | case4 a b c r ih =>
    obtain ⟨l1, l2, l3, l4⟩ := sextet_lt a b c
    obtain ⟨e1, e2, e3⟩ := sextet_join a b c
    simp only [b64DecodeQ, b64Val_b64Char _ l1, b64Val_b64Char _ l2, b64Val_b64Char _ l3, b64Val_b64Char _ l4,
      (b64Char_ok _ l3).1, (b64Char_ok _ l4).1, if_false, ih, e1, e2, e3]

theorem parseOctet_natToDec (n : Nat) (h : n < 256) : parseOctet (natToDec n) = some (UInt8.ofNat n) := by
  cases n with
  | zero => rfl
  | succ m =>
    obtain ⟨c, r, hs, hc⟩ := natToDec_lead (m + 1) m.succ_ne_zero
    have hp := parseDigits_natToDec (m + 1)
    rw [hs] at hp ⊢
    rw [parseOctet.eq_3 _ _ (fun e _ => hc e), if_neg hc, hp]
    exact if_pos (Nat.le_of_lt_succ h)

theorem cutSlash_append (p q : Str) (h : '/' ∉ p) : cutSlash (p ++ '/' :: q) = some (p, q) := by
  induction p with
  | nil => simp [cutSlash]
  | cons c r ih =>
    simp only [List.mem_cons, not_or] at h
    have hc : c ≠ '/' := fun e => h.1 e.symm
    simp only [List.cons_append, cutSlash, hc, if_false, ih h.2]

theorem firstSpecial_digits (p r : Str) (h : ∀ c ∈ p, c.isDigit = true) :
    firstSpecial (p ++ '.' :: r) = some '.' := by
  induction p with
  | nil => simp [firstSpecial]
  | cons c t ih =>
    have hc := h c List.mem_cons_self
    simp only [List.cons_append, firstSpecial, ne_of_isDigit hc (d := '.') rfl, ne_of_isDigit hc (d := ':') rfl,
      ne_of_isDigit hc (d := '%') rfl, or_self, if_false, ih (fun x hx => h x (List.mem_cons_of_mem _ hx))]

theorem octet_roundtrip (b : UInt8) : parseOctet (natToDec b.toNat) = some b := by
  rw [parseOctet_natToDec _ b.toNat_lt, UInt8.ofNat_toNat]

theorem cutSlash_ipv4 (a b c d : UInt8) (q : Str) :
    cutSlash (ipv4String [a, b, c, d] ++ '/' :: q) = some (ipv4String [a, b, c, d], q) :=
  cutSlash_append _ q (by simp [ipv4String, joinDot, natToDec_not_mem _ '/' rfl])

theorem ipv4String_ne_nil (a b c d : UInt8) (q : Str) : ∃ x r, ipv4String [a, b, c, d] ++ '/' :: q = x :: r := by
  cases h : ipv4String [a, b, c, d] ++ '/' :: q with
  | nil => simp at h
  | cons x r => exact ⟨x, r, rfl⟩

theorem ones8_spec (v k : Nat) (h : ones8 v = some k) : k < 8 ∧ UInt8.ofNat (256 - 2 ^ (8 - k)) = UInt8.ofNat v := by
  unfold ones8 at h
  split at h <;> cases h <;> decide

theorem cidrMask_zero (l : Nat) (r : Bytes) (h : allZero r = true) (hl : r.length = l) : cidrMask l 0 = r := by
  induction r generalizing l with
  | nil => subst hl; rfl
  | cons b t ih =>
    subst hl
    simp only [allZero, Bool.decide_and, Bool.decide_eq_true, Bool.and_eq_true, decide_eq_true_eq] at h
    simp only [List.length_cons, cidrMask]
    simp only [ih _ h.2 rfl]
    rw [h.1]; rfl

/-- a decimal prefix length (1–2 digits) is never taken for an eight-digit hex mask. -/
theorem hexMask4_prefix : ∀ l : Fin 33, hexMask4 (natToDec l.val) = none := by decide +kernel

theorem hexMask4_hexEncode (mask : Bytes) (h : mask.length = 4) : hexMask4 (hexEncode mask) = some mask := by
  simp only [hexMask4, hexDecode_hexEncode, h, if_true]

end ZV.C33
