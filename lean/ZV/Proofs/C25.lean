import ZV.Model.C25
import ZV.Proofs.Res
import ZV.Proofs.ByteFacts
/-! Three layers. (1) `extractPadding`: the constant-time bit tricks are reduced to arithmetic (`msbMask_sub`: the mask
    is `0xff` iff `b ≤ a`), the checking loop to `padLoop_spec`, the whole function to the declarative `validPadding`.
    (2) The primitives are parameters; their laws are the structures `MacLaws`, `StreamLaws`, `AeadLaws`, `CbcLaws`.
    Under them `decrypt` returns what `encrypt` sealed; conversely `Accepted`, the case table of `decrypt` by cipher,
    says what an ACCEPTED record must contain.
    (3) The toy primitives of the correspondence check satisfy the laws, CBC over any invertible block function. -/
namespace ZV.C25

theorem ones8 : ∀ i (h : i < 8), (255#8)[i] = true := by decide

theorem sshift31 (x : BitVec 32) :
    BitVec.signExtend 8 (x.sshiftRight 31) = if x.msb then 255#8 else 0#8 := by
  ext i hi
  have h2 : i < 32 := by omega
  rw [BitVec.getElem_signExtend hi]
  simp only [h2, dite_true]
  rw [BitVec.getElem_sshiftRight h2]
  by_cases h0 : i = 0
  · subst h0
    simp only [Nat.add_zero, show (31 < 32) from by omega, dite_true]
    rw [BitVec.msb_eq_getLsbD_last]
    simp only [show 32 - 1 = 31 from rfl]
    rw [← BitVec.getLsbD_eq_getElem]
    by_cases h : x.getLsbD 31 = true
    · simp only [h, if_true]; exact (ones8 0 (by omega)).symm
    · have h' : x.getLsbD 31 = false := by simpa using h
      simp only [h', Bool.false_eq_true, if_false]; simp
  · have : ¬ (31 + i < 32) := by omega
    simp only [this, dite_false]
    cases hm : x.msb <;> simp
    exact ones8 i hi

theorem msbMask_eq (t : UInt64) : msbMask t = if t.toNat / 2^31 % 2 = 1 then 0 else 255 := by
  unfold msbMask
  apply UInt8.eq_of_toBitVec_eq
  simp
  rw [sshift31, BitVec.msb_not, BitVec.msb_setWidth]
  simp only [show (0 < 32) from by omega, decide_true, Bool.true_and, show 32 - 1 = 31 from rfl]
  rw [← BitVec.testBit_toNat, Nat.testBit_eq_decide_div_mod_eq]
  simp only [UInt64.toNat_toBitVec]
  by_cases h : t.toNat / 2^31 % 2 = 1
  · simp [h]
  · simp [h]

theorem msbMask_sub (a b : Nat) (ha : a < 2^31) (hb : b ≤ 2^31) :
    msbMask (UInt64.ofNat a - UInt64.ofNat b) = if b ≤ a then 255 else 0 := by
  rw [msbMask_eq]
  by_cases h : b ≤ a
  · have hab : a - b < 2^31 := Nat.lt_of_le_of_lt (Nat.sub_le a b) ha
    rw [← UInt64.ofNat_sub h, UInt64.toNat_ofNat', if_pos h, Nat.mod_eq_of_lt (Nat.lt_trans hab (by decide)),
      Nat.div_eq_of_lt hab]
    rfl
  · rw [UInt64.toNat_sub, UInt64.toNat_ofNat', UInt64.toNat_ofNat', if_neg h, if_pos (by omega)]

theorem foldGood_eq (g : UInt8) : foldGood g = if g = 255 then 255 else 0 := by
  have h : ∀ n, n < 256 → foldGood (UInt8.ofNat n) = if UInt8.ofNat n = 255 then 255 else 0 := by
    decide +kernel
  simpa only [UInt8.ofNat_toNat] using h g.toNat g.toNat_lt

theorem and_not_step (g n b : UInt8) :
    g &&& ~~~((255 &&& n) ^^^ (255 &&& b)) = 255 ↔ g = 255 ∧ b = n := by
  rw [show (255 : UInt8) = -1 by decide, UInt8.neg_one_and, UInt8.neg_one_and, UInt8.and_eq_neg_one_iff,
    ← UInt8.not_zero, UInt8.not_inj, UInt8.xor_eq_zero_iff, eq_comm (a := n)]

theorem and_not_skip (g n b : UInt8) : g &&& ~~~((0 &&& n) ^^^ (0 &&& b)) = g := by
  rw [UInt8.zero_and, UInt8.zero_and]
  simp

theorem padLoop_spec (n : UInt8) (bs : List UInt8) (i : Nat) (g : UInt8) (h : i + bs.length ≤ 2^31) :
    padLoop n i bs g = 255 ↔ g = 255 ∧ ∀ b ∈ bs.take (n.toNat + 1 - i), b = n := by
  induction bs generalizing i g with
  | nil => simp [padLoop]
  | cons b rest ih =>
    rw [List.length_cons] at h
    have hn := n.toNat_lt
    rw [padLoop, ih (i + 1) _ (by omega), ← UInt64.ofNat_uInt8ToNat, msbMask_sub _ _ (by omega) (by omega)]
    by_cases hi : i ≤ n.toNat
    · rw [if_pos hi, and_not_step, show n.toNat + 1 - i = n.toNat + 1 - (i + 1) + 1 by omega, List.take_succ_cons,
        List.forall_mem_cons, and_assoc]
    · rw [if_neg hi, and_not_skip, show n.toNat + 1 - i = 0 by omega, show n.toNat + 1 - (i + 1) = 0 by omega]
      simp

/-- the padding rule of RFC 5246 §6.2.3.2 as the code reads it: last byte `n`, at least `n+1` bytes,
    and the last `n+1` bytes all equal `n` -/
def validPadding (p : Bytes) (n : UInt8) : Prop :=
  n.toNat + 1 ≤ p.length ∧ ∀ b ∈ p.drop (p.length - (n.toNat + 1)), b = n

instance (p : Bytes) (n : UInt8) : Decidable (validPadding p n) := by
  unfold validPadding; infer_instance

theorem extractPadding_concat (q : Bytes) (n : UInt8) (hlen : q.length < 2^31) :
    extractPadding (q ++ [n]) = if validPadding (q ++ [n]) n then (n.toNat + 1, 255) else (1, 0) := by
  generalize hp : q ++ [n] = p
  have hr : p.reverse = n :: q.reverse := by rw [← hp, List.reverse_append]; rfl
  have hl : p.length = q.length + 1 := by rw [← hp, List.length_append]; rfl
  have hn := n.toNat_lt
  have key : padLoop n 0 (List.take (if 256 > p.length then p.length else 256) p.reverse)
      (msbMask (UInt64.ofNat (p.length - 1) - n.toUInt64)) = 255 ↔ validPadding p n := by
    rw [padLoop_spec _ _ _ _ (by rw [List.length_take, List.length_reverse]; split <;> omega),
      ← UInt64.ofNat_uInt8ToNat, msbMask_sub _ _ (by omega) (by omega), Nat.sub_zero, List.take_take,
      show (if n.toNat ≤ p.length - 1 then (255 : UInt8) else 0) = 255 ↔ n.toNat + 1 ≤ p.length by
        split <;> simp <;> omega]
    refine and_congr_right fun h1 => ?_
    -- the first `n + 1` bytes the loop visits are the last `n + 1` bytes of the payload
    rw [Nat.min_eq_left (by split <;> omega), List.take_reverse]
    simp only [List.mem_reverse]
  unfold extractPadding
  rw [hr]
  simp only
  rw [← hr, foldGood_eq]
  simp only [key]
  split
  · rw [show (255 : UInt8) = -1 by decide, UInt8.and_neg_one]
  · simp

/-- value of a little-endian byte list -/
def leNat : List UInt8 → Nat
  | [] => 0
  | b :: rest => b.toNat + 256 * leNat rest

/-- value of the big-endian sequence number array -/
def beNat (seq : Bytes) : Nat := leNat seq.reverse

theorem succ_toNat (b : UInt8) : (b + 1 = 0 ↔ b = 255) ∧ (b + 1 ≠ 0 → (b + 1).toNat = b.toNat + 1) := by
  have hb := b.toNat_lt
  have hadd : (b + 1).toNat = (b.toNat + 1) % 256 := UInt8.toNat_add b 1
  have h0 : b + 1 = 0 ↔ (b.toNat + 1) % 256 = 0 := by rw [← UInt8.toNat_inj, hadd]; rfl
  rw [ne_eq, h0, ← UInt8.toNat_inj (b := 255), hadd]
  show (_ ↔ b.toNat = 255) ∧ _
  omega

theorem incSeqRev_some (l r : List UInt8) (h : incSeqRev l = some r) :
    leNat r = leNat l + 1 ∧ r.length = l.length := by
  induction l generalizing r with
  | nil => cases h
  | cons b rest ih =>
    rw [incSeqRev] at h
    split at h
    · rename_i hb
      cases h
      rw [leNat, leNat, (succ_toNat b).2 (bne_iff_ne.mp hb)]
      exact ⟨by omega, rfl⟩
    · rename_i hb
      have hb255 : b.toNat = 255 := congrArg UInt8.toNat ((succ_toNat b).1.mp (by simpa using hb))
      split at h
      · cases h
      · rename_i r' hr
        cases h
        obtain ⟨h1, h2⟩ := ih r' hr
        rw [leNat, leNat, h1, hb255, List.length_cons, h2]
        exact ⟨by show 0 + _ = _; omega, rfl⟩

theorem incSeqRev_none (l : List UInt8) : incSeqRev l = none ↔ ∀ b ∈ l, b = 255 := by
  induction l with
  | nil => simp [incSeqRev]
  | cons b rest ih =>
    rw [incSeqRev, List.forall_mem_cons, ← ih, ← (succ_toNat b).1]
    split
    · rename_i hb
      simp [bne_iff_ne.mp hb]
    · rename_i hb
      have : b + 1 = 0 := by simpa using hb
      cases incSeqRev rest <;> simp [this]

theorem incSeq_ne_err (seq : Bytes) : incSeq seq ≠ .err := by
  unfold incSeq; split <;> simp

theorem copyInto_eq_append (d s : Bytes) : copyInto d s = s.take d.length ++ d.drop s.length := by
  fun_induction copyInto d s with
  | case1 x ds y ss ih => simp [ih]
  | case2 ds => simp
  | case3 => rfl

theorem xorInto_eq_append (d s : Bytes) : xorInto d s = List.zipWith (· ^^^ ·) s d ++ d.drop s.length := by
  fun_induction xorInto d s with
  | case1 x ds y ss ih => simp [ih, UInt8.xor_comm]
  | case2 ds => simp
  | case3 => rfl

theorem xorInto_inj (d s s' : Bytes) (h : s.length = d.length) (h' : s'.length = d.length)
    (e : xorInto d s = xorInto d s') : s = s' := by
  rw [xorInto_eq_append, xorInto_eq_append, h, h', List.drop_length, List.append_nil, List.append_nil] at e
  rw [← zipXor_cancel s d (Nat.le_of_eq h), e, zipXor_cancel s' d (Nat.le_of_eq h')]

theorem prefixNonce_eq (fixed s : Bytes) (hf : fixed.length = 12) (hs : s.length = 8) :
    prefixNonce fixed s = fixed.take 4 ++ s := by
  have hl : s.length = (fixed.drop 4).length := by simp [hf, hs]
  rw [prefixNonce, copyInto_eq_append, ← hl, List.take_length, List.drop_of_length_le (Nat.le_of_eq hl.symm),
    List.append_nil]

theorem byteOf_nat (n : Nat) : byteOf (n : Int) = UInt8.ofNat n := by
  show UInt8.ofNat (n % 256) = UInt8.ofNat n
  apply UInt8.toNat_inj.mp
  rw [UInt8.toNat_ofNat', UInt8.toNat_ofNat']
  exact Nat.mod_mod _ _

theorem be16_nat (n : Nat) : be16 (n : Int) = [UInt8.ofNat (n / 256), UInt8.ofNat n] := by
  unfold be16
  rw [byteOf_nat, show Int.ediv (n : Int) 256 = ((n / 256 : Nat) : Int) from rfl, byteOf_nat]

theorem be16_inj (n n' : Nat) (h : n < 65536) (h' : n' < 65536) (e : be16 n = be16 n') : n = n' := by
  rw [be16_nat, be16_nat] at e
  injection e with e1 e2
  injection e2 with e2
  have a1 := congrArg UInt8.toNat e1
  have a2 := congrArg UInt8.toNat e2
  simp only [UInt8.toNat_ofNat'] at a1 a2
  omega

/-- a MAC returns `Size()` bytes -/
def MacLaws (m : Mac) : Prop := ∀ x, (m.sum x).length = m.size

/-- XOR-style stream cipher: processing `a ++ b` = processing `a` then `b` on the advanced state;
    applying the keystream twice from the same state gives the input back and advances the state
    identically. -/
structure StreamLaws {σ} (xor : σ → Bytes → Bytes × σ) : Prop where
  append : ∀ s a b, xor s (a ++ b) = ((xor s a).1 ++ (xor (xor s a).2 b).1, (xor (xor s a).2 b).2)
  invol : ∀ s a, xor s (xor s a).1 = (a, (xor s a).2)

theorem decryptMac_ok (mac : Mac) (hm : MacLaws mac) (seq hdr3 p pad : Bytes) :
    decryptMac mac seq hdr3 (p ++ mac.sum (seq ++ (hdr3 ++ be16 p.length) ++ p) ++ pad) pad.length 255
      = .ok p := by
  unfold decryptMac
  have hl := hm (seq ++ (hdr3 ++ be16 p.length) ++ p)
  have h1 : ¬ (p.length + mac.size + pad.length < mac.size) := by omega
  have hn : ((↑(p.length + mac.size + pad.length) : Int) - ↑mac.size - ↑pad.length) = (p.length : Int) := by
    push_cast; omega
  have h2 : ¬ ((p.length : Int) < 0) := by omega
  simp only [List.length_append, hl, h1, if_false, hn, h2, Int.toNat_natCast]
  rw [List.append_assoc, List.take_left' rfl, List.drop_left' rfl, List.take_left' hl]
  simp [tls10MAC]

theorem decrypt13_other (v : Nat) (hv : v ≠ VersionTLS13) (t : UInt8) (p : Bytes) :
    decrypt13 v t p = .ok (t, p) := by
  unfold decrypt13
  have : (v == VersionTLS13) = false := by simpa using hv
  simp [this]

theorem decryptAlert_cases {σ} (hc : HalfConn σ) (r : Bytes) (P : Nat → Prop) (h0 : P alertBadRecordMAC)
    (h13 : ∀ t p, (∀ x, decrypt13 hc.version t p ≠ .ok x) → P (decrypt13Alert t p)) : P (decryptAlert hc r) := by
  unfold decryptAlert
  split
  · split
    · exact h0
    · split
      · exact h0
      · exact h13 _ _ (by assumption)
    · simp only []
      split
      · exact h0
      · split
        · exact h0
        · split
          · exact h0
          · exact h13 _ _ (by assumption)
    · simp only []
      split
      · exact h0
      · split
        · exact h0
        · exact h13 _ _ (by assumption)
  · exact h0

/-- AEAD: `Open` inverts `Seal` under the same nonce and additional data; `Seal` adds `Overhead()` bytes -/
structure AeadLaws (a : Aead) : Prop where
  open_seal : ∀ n p ad, a.openFn n (a.sealFn n p ad) ad = some p
  seal_length : ∀ n p ad, (a.sealFn n p ad).length = p.length + a.overhead

theorem decrypt_aead_sealed {σ} (a : Aead) (ha : AeadLaws a) (v : Nat) (st : σ) (seq seq' : Bytes)
    (hs : incSeq seq = .ok seq') (typ v1 v2 l1 l2 : UInt8)
    (hccs : ¬ (v = VersionTLS13 ∧ typ = recordTypeChangeCipherSpec)) (inner en : Bytes)
    (hen : en.length = a.explicitNonceLen) (ad : Bytes)
    (had : ad = if v == VersionTLS13 then [typ, v1, v2, l1, l2]
      else seq ++ [typ, v1, v2, UInt8.ofNat (inner.length / 256), UInt8.ofNat inner.length])
    (t' : UInt8) (p' : Bytes) (h13 : decrypt13 v typ inner = .ok (t', p')) :
    decrypt ⟨v, .aead a, st, seq⟩
        (typ :: v1 :: v2 :: l1 :: l2 :: (en ++ a.sealFn (if en.length == 0 then seq else en) inner ad))
      = .ok (p', t', ⟨v, .aead a, st, seq'⟩) := by
  subst had
  have hccs' : (v == VersionTLS13 && typ == recordTypeChangeCipherSpec) = false := by simpa using hccs
  have h1 : ¬ (en.length + (inner.length + a.overhead) < en.length) := Nat.not_lt.mpr (Nat.le_add_right _ _)
  simp only [decrypt, hccs', Bool.false_eq_true, if_false, explicitNonceLen,
    List.length_append, ← hen, ha.seal_length, h1, List.take_left' rfl, List.drop_left' rfl]
  rw [Int.natCast_add, Int.add_sub_cancel, be16_nat]
  simp only [recordHeaderLen, List.take_succ_cons, List.take_zero, List.append_assoc, List.cons_append, List.nil_append,
    ha.open_seal, h13, hs]

/-- the explicit nonce `encrypt` puts on the wire for an AEAD: the sequence number (explicit nonce
    shorter than 16 bytes), random bytes otherwise, nothing when the AEAD has no explicit nonce -/
def aeadExplicitNonce (a : Aead) (seq rand : Bytes) : Bytes :=
  if a.explicitNonceLen > 0 then
    (if a.explicitNonceLen < 16 then copyInto (List.replicate a.explicitNonceLen 0) seq
     else rand.take a.explicitNonceLen)
  else []

theorem aeadExplicitNonce_length (a : Aead) (seq rand : Bytes)
    (hr : a.explicitNonceLen < 16 ∨ a.explicitNonceLen ≤ rand.length) :
    (aeadExplicitNonce a seq rand).length = a.explicitNonceLen := by
  unfold aeadExplicitNonce
  split
  · split
    · rw [copyInto_eq_append, List.length_append, List.length_take, List.length_drop, List.length_replicate, Nat.add_comm,
        Nat.sub_add_min_cancel]
    · simp; omega
  · simp; omega

theorem encrypt_aead12_eq {σ} (a : Aead) (v : Nat) (hv : v ≠ VersionTLS13) (st : σ)
    (seq seq' : Bytes) (hs : incSeq seq = .ok seq') (typ v1 v2 l1 l2 : UInt8) (p rand : Bytes)
    (hr : a.explicitNonceLen < 16 ∨ a.explicitNonceLen ≤ rand.length) :
    ∃ rand', encrypt ⟨v, .aead a, st, seq⟩ [typ, v1, v2, l1, l2] p rand =
      .ok ([typ, v1, v2] ++ be16 ((aeadExplicitNonce a seq rand ++ a.sealFn
              (if (aeadExplicitNonce a seq rand).length == 0 then seq else aeadExplicitNonce a seq rand) p
              (seq ++ [typ, v1, v2, l1, l2])).length : Nat) ++
            (aeadExplicitNonce a seq rand ++ a.sealFn
              (if (aeadExplicitNonce a seq rand).length == 0 then seq else aeadExplicitNonce a seq rand) p
              (seq ++ [typ, v1, v2, l1, l2])),
          ⟨v, .aead a, st, seq'⟩, rand') := by
  have hv' : (v == VersionTLS13) = false := by simpa using hv
  unfold aeadExplicitNonce
  by_cases h0 : a.explicitNonceLen > 0
  · by_cases h16 : a.explicitNonceLen < 16
    · refine ⟨rand, ?_⟩
      simp only [encrypt, h0, h16, decide_true,
          Bool.not_true, Bool.and_false, Bool.false_and, Bool.false_eq_true, if_false, if_true, hv',
          finishEncrypt, hs]
    · have hnl : ¬ (rand.length < a.explicitNonceLen) := by omega
      refine ⟨rand.drop a.explicitNonceLen, ?_⟩
      simp only [encrypt, h0, h16, hnl, decide_true, decide_false,
          Bool.not_false, Bool.and_true, Bool.and_false, Bool.false_eq_true, if_false, if_true, hv',
          finishEncrypt, hs]
  · refine ⟨rand, ?_⟩
    simp only [encrypt, h0, decide_false,
        Bool.false_and, Bool.false_eq_true, if_false, hv', finishEncrypt, hs]

theorem encrypt_tls13_eq {σ} (a : Aead) (he : a.explicitNonceLen = 0) (st : σ) (seq seq' : Bytes)
    (hs : incSeq seq = .ok seq') (typ v1 v2 l1 l2 : UInt8) (p rand body : Bytes)
    (hb : body = a.sealFn seq (p ++ [typ])
      ([recordTypeApplicationData, v1, v2] ++ be16 ((p.length : Int) + 1 + a.overhead))) :
    encrypt ⟨VersionTLS13, .aead a, st, seq⟩ [typ, v1, v2, l1, l2] p rand =
      .ok ([recordTypeApplicationData, v1, v2] ++ be16 body.length ++ body, ⟨VersionTLS13, .aead a, st, seq'⟩, rand) := by
  simp only [hb, encrypt, he, Nat.lt_irrefl, gt_iff_lt, decide_false, Bool.false_and, Bool.false_eq_true, if_false,
    List.length_nil, beq_self_eq_true, if_true, List.nil_append, finishEncrypt, hs]

theorem decrypt13_inner (typ : UInt8) (ht : typ ≠ 0) (p : Bytes) (hp : p.length ≤ maxPlaintext) :
    decrypt13 VersionTLS13 recordTypeApplicationData (p ++ [typ]) = .ok (typ, p) := by
  unfold decrypt13
  have h1 : ¬ ((p ++ [typ]).length > maxPlaintext + 1) := by simp; omega
  simp only [beq_self_eq_true, if_true, bne_self_eq_false, Bool.false_eq_true, if_false, h1]
  cases hpp : p ++ [typ] with
  | nil => simp at hpp
  | cons x xs =>
    simp only
    rw [← hpp, List.reverse_append]
    have ht' : (typ != 0) = true := by simpa using ht
    simp [strip13Rev, ht']

theorem pad_total (n bs : Nat) (hbs : 0 < bs) : (n + (bs - n % bs)) % bs = 0 := by
  have h := Nat.div_add_mod n bs
  have hr := Nat.mod_lt n hbs
  have e : n + (bs - n % bs) = bs * (n / bs + 1) := by
    rw [Nat.mul_add, Nat.mul_one]
    generalize bs * (n / bs) = k at *
    omega
  rw [e, Nat.mul_mod_right]

theorem roundUp_le (a b L : Nat) (hb : 0 < b) (hL : L % b = 0) (ha : a ≤ L) : roundUp a b ≤ L := by
  have hr := Nat.mod_lt a hb
  have hda := Nat.div_add_mod a b
  have hdL := Nat.div_add_mod L b
  unfold roundUp
  by_cases h0 : a % b = 0
  · rw [h0, Nat.sub_zero, Nat.mod_self]; exact ha
  · -- `a` lies strictly between two multiples of `b`; the upper one, `b * (a / b + 1)`, is at most `L = b * (L / b)`
    have hq : b * (a / b + 1) ≤ b * (L / b) :=
      Nat.mul_le_mul_left b (Nat.lt_of_mul_lt_mul_left (a := b) (by omega))
    rw [Nat.mod_eq_of_lt (by omega)]
    rw [Nat.mul_succ] at hq
    omega

/-- what `encrypt` feeds into `CryptBlocks`: payload ‖ MAC ‖ padding -/
def cbcPlain (bs : Nat) (p m : Bytes) : Bytes :=
  p ++ m ++ List.replicate (bs - (p.length + m.length) % bs) (UInt8.ofNat (bs - (p.length + m.length) % bs - 1))

theorem cbcPlain_length_mod (bs : Nat) (hbs : 0 < bs) (p m : Bytes) : (cbcPlain bs p m).length % bs = 0 := by
  unfold cbcPlain
  simp only [List.length_append, List.length_replicate]
  exact pad_total _ _ hbs

theorem extractPadding_cbcPlain (bs : Nat) (hbs : 0 < bs) (hbs' : bs ≤ 256) (p m : Bytes)
    (hlen : p.length + m.length + 256 ≤ 2^31) :
    extractPadding (cbcPlain bs p m) = (bs - (p.length + m.length) % bs, 255) := by
  have hr := Nat.mod_lt (p.length + m.length) hbs
  unfold cbcPlain
  obtain ⟨j, hk⟩ : ∃ j, bs - (p.length + m.length) % bs = j + 1 := ⟨_, (Nat.sub_add_cancel (by omega)).symm⟩
  have hj : j < 256 := by omega
  have hto : (UInt8.ofNat j).toNat = j := toNat_ofNat_lt hj
  have hl : (p ++ m ++ List.replicate j (UInt8.ofNat j)).length = p.length + m.length + j := by
    rw [List.length_append, List.length_append, List.length_replicate]
  rw [hk, Nat.add_sub_cancel, List.replicate_succ', ← List.append_assoc,
    extractPadding_concat _ _ (by rw [hl]; omega), if_pos, hto]
  rw [validPadding, hto, List.length_append, hl]
  refine ⟨Nat.le_add_left _ _, fun b hb => ?_⟩
  rw [List.append_assoc, ← List.replicate_succ', List.length_singleton, Nat.add_assoc, Nat.add_sub_cancel,
    ← List.length_append, List.drop_left] at hb
  exact List.eq_of_mem_replicate hb

/-- CBC mode pair (encrypting object of the writer, decrypting object of the reader) on states
    satisfying `ok` (an IV of one block): same block size, `SetIV` installs any one-block IV,
    `CryptBlocks` keeps lengths, and decrypting from the same chaining state inverts encrypting and
    leaves both objects in the same state. -/
structure CbcLaws {σ} (enc dec : Cbc σ) (ok : σ → Prop) : Prop where
  bs_eq : dec.blockSize = enc.blockSize
  setIV_eq : ∀ s iv, dec.setIV s iv = enc.setIV s iv
  setIV_ok : ∀ s iv, iv.length = enc.blockSize → ok (enc.setIV s iv)
  crypt_ok : ∀ s x, ok s → x.length % enc.blockSize = 0 → ok (enc.cryptBlocks s x).2
  length : ∀ s x, ok s → x.length % enc.blockSize = 0 → (enc.cryptBlocks s x).1.length = x.length
  inv : ∀ s x, ok s → x.length % enc.blockSize = 0 →
    dec.cryptBlocks s (enc.cryptBlocks s x).1 = (x, (enc.cryptBlocks s x).2)

/-- `decrypt` strips the explicit nonce only `if explicitNonceLen > 0`; dropping nothing is the same -/
theorem ite_drop {α} (n : Nat) (l : List α) : (if n > 0 then l.drop n else l) = l.drop n := by
  cases n <;> rfl

/-- From TLS 1.1 on the IV is one block read from `rand`, sent in front of the ciphertext and installed by the reader with
    `SetIV`; before, it is the chaining value both sides are left in by the previous record (`hok`). -/
theorem decrypt_encrypt_cbc {σ} (enc dec : Cbc σ) (ok : σ → Prop) (hc : CbcLaws enc dec ok) (mac : Mac)
    (hm : MacLaws mac) (hbs : 0 < enc.blockSize) (hbs' : enc.blockSize ≤ 256)
    (v : Nat) (hv : v ≠ VersionTLS13) (st : σ) (hok : v < VersionTLS11 → ok st) (seq seq' : Bytes)
    (hs : incSeq seq = .ok seq') (typ v1 v2 : UInt8) (p rand : Bytes)
    (hr : v ≥ VersionTLS11 → enc.blockSize ≤ rand.length) (hlen : p.length + mac.size + 256 ≤ 2^31) :
    ∃ rec st',
      encrypt ⟨v, .cbc enc mac, st, seq⟩ ([typ, v1, v2] ++ be16 p.length) p rand
        = .ok (rec, ⟨v, .cbc enc mac, st', seq'⟩, if v ≥ VersionTLS11 then rand.drop enc.blockSize else rand) ∧
      ok st' ∧ (v ≥ VersionTLS11 → (rec.drop 5).take enc.blockSize = rand.take enc.blockSize) ∧
      decrypt ⟨v, .cbc dec mac, st, seq⟩ rec = .ok (p, typ, ⟨v, .cbc dec mac, st', seq'⟩) := by
  have hv' : (v == VersionTLS13) = false := by simpa using hv
  -- the explicit IV on the wire, and the chaining state both sides start from
  obtain ⟨en, hen⟩ : ∃ en, en = if v ≥ VersionTLS11 then rand.take enc.blockSize else [] := ⟨_, rfl⟩
  have henl : en.length = if v ≥ VersionTLS11 then enc.blockSize else 0 := by
    rw [hen]
    split
    · exact List.length_take_of_le (hr ‹_›)
    · rfl
  obtain ⟨st1, hst1⟩ : ∃ st1, st1 = if en.length > 0 then enc.setIV st en else st := ⟨_, rfl⟩
  have hok1 : ok st1 := by
    rw [hst1, henl]
    by_cases h11 : v ≥ VersionTLS11
    · rw [if_pos h11, if_pos hbs]
      exact hc.setIV_ok _ _ (by rw [henl, if_pos h11])
    · rw [if_neg h11, if_neg (Nat.lt_irrefl 0)]
      exact hok (Nat.lt_of_not_le h11)
  generalize hmdef : mac.sum (seq ++ [typ, v1, v2, UInt8.ofNat (p.length / 256), UInt8.ofNat p.length] ++ p) = m
  have hml : m.length = mac.size := hmdef ▸ hm _
  have hmod := cbcPlain_length_mod enc.blockSize hbs p m
  obtain ⟨ct, hct⟩ : ∃ ct, ct = enc.cryptBlocks st1 (cbcPlain enc.blockSize p m) := ⟨_, rfl⟩
  have hctl : ct.1.length = (cbcPlain enc.blockSize p m).length := hct ▸ hc.length st1 _ hok1 hmod
  refine ⟨[typ, v1, v2] ++ be16 (en ++ ct.1).length ++ (en ++ ct.1), ct.2, ?_, hct ▸ hc.crypt_ok st1 _ hok1 hmod,
    fun h11 => ?_, ?_⟩
  · rw [be16_nat p.length, hct, hst1, hen, ← hmdef]
    by_cases h11 : v ≥ VersionTLS11
    · have hnl : ¬ (rand.length < enc.blockSize) := Nat.not_lt.mpr (hr h11)
      simp only [List.cons_append, List.nil_append, encrypt, explicitNonceLen, h11, if_true, hbs, gt_iff_lt, decide_true,
        Bool.true_and, hnl, decide_false, Bool.false_eq_true, if_false, tls10MAC, finishEncrypt, hs, cbcPlain]
    · simp only [List.cons_append, List.nil_append, encrypt, explicitNonceLen, h11, if_false, Nat.lt_irrefl, gt_iff_lt,
        decide_false, Bool.false_and, Bool.false_eq_true, tls10MAC, finishEncrypt, hs, cbcPlain, List.length_nil]
  · rw [be16_nat]
    simp only [List.cons_append, List.nil_append, List.drop_succ_cons, List.drop_zero]
    rw [List.take_left' (by rw [henl, if_pos h11]), hen, if_pos h11]
  · have hinv : dec.cryptBlocks st1 ct.1 = (_, ct.2) := hct ▸ hc.inv st1 _ hok1 hmod
    have henl' : explicitNonceLen ⟨v, .cbc dec mac, st, seq⟩ = en.length := by
      simp only [explicitNonceLen, hc.bs_eq, henl]
    have hplen : (cbcPlain enc.blockSize p m).length ≥ mac.size + 1 := by
      unfold cbcPlain
      have hr := Nat.mod_lt (p.length + m.length) hbs
      simp only [List.length_append, List.length_replicate]
      omega
    have hmin := roundUp_le (mac.size + 1) enc.blockSize _ hbs hmod hplen
    have hmodp : (en.length + ct.1.length) % enc.blockSize = 0 := by
      rw [hctl, henl]
      split
      · rw [Nat.add_mod_left]
        exact hmod
      · rw [Nat.zero_add]
        exact hmod
    have h2 : ¬ (en.length + ct.1.length < en.length + roundUp (mac.size + 1) enc.blockSize) := by
      rw [hctl]
      omega
    rw [be16_nat]
    simp only [List.cons_append, List.nil_append, decrypt, hv', Bool.false_and, Bool.false_eq_true, if_false, henl',
      hc.bs_eq, List.length_append, hmodp, bne_self_eq_false, Bool.false_or, h2, decide_false,
      List.take_left' rfl, hc.setIV_eq, ← hst1, ite_drop]
    simp only [List.drop_left' rfl, hinv]
    rw [extractPadding_cbcPlain enc.blockSize hbs hbs' p m (by omega)]
    simp only [decrypt13_other v hv]
    have hmac := decryptMac_ok mac hm seq [typ, v1, v2] p
      (List.replicate (enc.blockSize - (p.length + m.length) % enc.blockSize)
        (UInt8.ofNat (enc.blockSize - (p.length + m.length) % enc.blockSize - 1)))
    simp only [be16_nat, List.cons_append, List.nil_append, List.length_replicate] at hmac
    rw [hmdef] at hmac
    unfold cbcPlain
    rw [hmac]
    simp only [hs]


theorem decryptMac_accept (mac : Mac) (seq hdr3 payload : Bytes) (padLen : Nat) (good : UInt8) (p : Bytes)
    (h : decryptMac mac seq hdr3 payload padLen good = .ok p) :
    p = payload.take p.length ∧ p.length + mac.size ≤ payload.length ∧
    (payload.drop p.length).take mac.size = mac.sum (seq ++ (hdr3 ++ be16 p.length) ++ p) ∧
    good.toNat % 2 = 1 := by
  unfold decryptMac at h
  by_cases h1 : payload.length < mac.size
  · simp [h1] at h
  · simp only [h1, if_false] at h
    generalize hn : (if ((payload.length : Int) - mac.size - padLen) < 0 then 0
      else ((payload.length : Int) - mac.size - padLen).toNat) = n at h
    have hnle : n + mac.size ≤ payload.length := by
      rw [← hn]; split <;> omega
    by_cases heq : (tls10MAC mac seq (hdr3 ++ be16 ↑n) (List.take n payload) ==
        List.take mac.size (List.drop n payload)) = true
    · simp only [heq, if_true] at h
      have heq' := eq_of_beq heq
      by_cases hg : (1 &&& good.toNat != 1) = true
      · rw [if_pos hg] at h; exact absurd h (by simp)
      · rw [if_neg hg] at h; simp only [Res.ok.injEq] at h
        have hpl : p.length = n := by rw [← h]; simp; omega
        refine ⟨by rw [hpl]; exact h.symm, by omega, ?_, ?_⟩
        · rw [hpl, ← heq', ← h]; rfl
        · have := Nat.and_one_is_mod good.toNat
          rw [Nat.and_comm] at this
          simp only [bne_iff_ne, ne_eq, Decidable.not_not] at hg
          omega
    · simp only [heq, Bool.false_eq_true, if_false] at h
      simp at h

/-- the block-decrypted payload `decrypt` works on for a CBC suite (explicit IV stripped from TLS 1.1 on) -/
def cbcDecrypted {σ} (c : Cbc σ) (v : Nat) (st : σ) (payload : Bytes) : Bytes :=
  (c.cryptBlocks (if (if v ≥ VersionTLS11 then c.blockSize else 0) > 0 then
      c.setIV st (payload.take (if v ≥ VersionTLS11 then c.blockSize else 0)) else st)
    (if (if v ≥ VersionTLS11 then c.blockSize else 0) > 0 then
      payload.drop (if v ≥ VersionTLS11 then c.blockSize else 0) else payload)).1

/-- nonce the reader passes to `Open` for TLS ≤ 1.2: the explicit nonce from the record, or the
    sequence number when the AEAD has none -/
def readerNonce (a : Aead) (seq payload : Bytes) : Bytes :=
  if (payload.take a.explicitNonceLen).length == 0 then seq else payload.take a.explicitNonceLen

/-- additional data the reader passes to `Open` for TLS ≤ 1.2 -/
def readerAD12 (a : Aead) (seq : Bytes) (typ v1 v2 : UInt8) (payload : Bytes) : Bytes :=
  seq ++ [typ, v1, v2] ++ be16 (((payload.drop a.explicitNonceLen).length : Int) - a.overhead)

/-- What a record accepted by `decrypt` guarantees, by cipher: the content type returned is the header's (AEAD: what the
    TLS 1.3 block made of it), and the plaintext is what the MAC block / `Open` returned on the operands the reader
    computes from its sequence number and the record. -/
def Accepted {σ} (hc : HalfConn σ) (typ v1 v2 l1 l2 : UInt8) (payload p' : Bytes) (t' : UInt8) : Prop :=
  match hc.cipher with
  | .null => t' = typ ∧ p' = payload
  | .stream xor mac => t' = typ ∧ decryptMac mac hc.seq [typ, v1, v2] (xor hc.st payload).1 0 255 = .ok p'
  | .aead a => a.explicitNonceLen ≤ payload.length ∧
      ∃ inner, a.openFn (readerNonce a hc.seq payload) (payload.drop a.explicitNonceLen)
          (if hc.version == VersionTLS13 then [typ, v1, v2, l1, l2] else readerAD12 a hc.seq typ v1 v2 payload) = some inner ∧
        decrypt13 hc.version typ inner = .ok (t', p')
  | .cbc c mac => t' = typ ∧
      decryptMac mac hc.seq [typ, v1, v2] (cbcDecrypted c hc.version hc.st payload)
        (extractPadding (cbcDecrypted c hc.version hc.st payload)).1
        (extractPadding (cbcDecrypted c hc.version hc.st payload)).2 = .ok p'

/-- … as a predicate on the result of `decrypt`; the change_cipher_spec record that TLS 1.3 passes through unprotected
    is the one accepted record of which nothing is claimed -/
def Decrypted {σ} (hc : HalfConn σ) (record : Bytes) : Res (Bytes × UInt8 × HalfConn σ) → Prop
  | .ok (p', t', _) => ∀ typ v1 v2 l1 l2 payload, record = typ :: v1 :: v2 :: l1 :: l2 :: payload →
    ¬ (hc.version = VersionTLS13 ∧ typ = recordTypeChangeCipherSpec) → Accepted hc typ v1 v2 l1 l2 payload p' t'
  | _ => True

/-- `[]` is what the MAC modes hand the TLS 1.3 block of `decrypt` -/
theorem decrypt13_nil {v : Nat} {t t' : UInt8} {p : Bytes} (h : decrypt13 v t [] = .ok (t', p)) : t' = t := by
  unfold decrypt13 at h
  by_cases hv : (v == VersionTLS13) = true
  · rw [if_pos hv] at h
    cases (guard_ok (guard_ok h).2).2
    rfl
  · rw [if_neg hv] at h
    cases h
    rfl

theorem decrypt_decrypted {σ} (hc : HalfConn σ) (record : Bytes) : Decrypted hc record (decrypt hc record) := by
  obtain ⟨v, ci, st, seq⟩ := hc
  fun_cases decrypt ⟨v, ci, st, seq⟩ record
  case case1 hccs =>  -- TLS 1.3 change_cipher_spec
    rintro _ _ _ _ _ _ ⟨⟩ h
    simp [h] at hccs
  case case2 hci _ _ =>  -- no cipher
    subst hci
    rintro _ _ _ _ _ _ ⟨⟩ _
    exact ⟨rfl, rfl⟩
  case case4 hci _ _ hx _ _ h13 _ hmac _ _ =>  -- stream cipher + MAC
    subst hci
    rintro _ _ _ _ _ _ ⟨⟩ _
    cases decrypt13_nil h13
    exact ⟨rfl, by rw [hx]; exact hmac⟩
  case case12 hci hlen _ _ _ _ _ _ h13 _ hs _ hopen =>  -- AEAD
    subst hci
    simp +zetaDelta only [hopen, h13, hs]
    rintro _ _ _ _ _ _ ⟨⟩ _
    exact ⟨Nat.le_of_not_lt hlen, _, hopen, h13⟩
  case case17 c _ hci _ _ _ _ _ _ _ hx _ _ hpad _ _ h13 _ hmac _ _ =>  -- CBC + MAC
    subst hci
    rintro _ _ _ _ _ _ ⟨⟩ _
    cases decrypt13_nil h13
    have hd : cbcDecrypted c v st _ = _ := congrArg Prod.fst hx
    refine ⟨rfl, ?_⟩
    rw [hd, hpad]
    exact hmac
  -- the AEAD branch opens with a `have`, behind which the case analysis has not rewritten the result
  case case11 | case13 | case14 | case15 =>
    simp +zetaDelta only [*]
    trivial
  all_goals trivial

theorem decrypt_accepted {σ} {hc hc' : HalfConn σ} {typ v1 v2 l1 l2 t' : UInt8} {payload p' : Bytes}
    (h : decrypt hc (typ :: v1 :: v2 :: l1 :: l2 :: payload) = .ok (p', t', hc'))
    (hccs : ¬ (hc.version = VersionTLS13 ∧ typ = recordTypeChangeCipherSpec)) :
    Accepted hc typ v1 v2 l1 l2 payload p' t' :=
  (show Decrypted hc _ (.ok (p', t', hc')) from h ▸ decrypt_decrypted hc _) _ _ _ _ _ _ rfl hccs

theorem strip13Rev_spec (l : List UInt8) (t : UInt8) (rest : List UInt8) (h : strip13Rev l = some (t, rest)) :
    t ≠ 0 ∧ ∃ k, l = List.replicate k 0 ++ t :: rest := by
  induction l with
  | nil => simp [strip13Rev] at h
  | cons b bs ih =>
    simp only [strip13Rev] at h
    by_cases hb : (b != 0) = true
    · simp only [hb, if_true, Option.some.injEq, Prod.mk.injEq] at h
      obtain ⟨h1, h2⟩ := h
      subst h1; subst h2
      exact ⟨by simpa using hb, 0, by simp⟩
    · simp only [hb, Bool.false_eq_true, if_false] at h
      obtain ⟨h1, k, hk⟩ := ih h
      have hb0 : b = 0 := by simpa using hb
      exact ⟨h1, k + 1, by rw [hk, hb0, List.replicate_succ]; rfl⟩

theorem writeRecordLocked_ok {σ} {c : Conn σ} {typ : UInt8} {data rand : Bytes} {w : WriteOut σ}
    (h : writeRecordLocked c typ data rand = .ok w) : writeLoop c typ data rand 0 [] [] = .ok w := by
  unfold writeRecordLocked at h
  split at h
  · split at h
    · cases h
    · cases h; assumption
  · cases h
  · cases h

open Toy

theorem xorKS_append (key : Bytes) (j : Nat) (a b : Bytes) :
    xorKS key j (a ++ b) = xorKS key j a ++ xorKS key (j + a.length) b := by
  induction a generalizing j with
  | nil => simp [xorKS]
  | cons x xs ih => simp [xorKS, ih, Nat.add_assoc, Nat.add_comm 1]

theorem xorKS_length (key : Bytes) (j : Nat) (a : Bytes) : (xorKS key j a).length = a.length := by
  induction a generalizing j with
  | nil => rfl
  | cons x xs ih => simp [xorKS, ih]

theorem xorKS_invol (key : Bytes) (j : Nat) (a : Bytes) : xorKS key j (xorKS key j a) = a := by
  induction a generalizing j with
  | nil => rfl
  | cons x xs ih => simp [xorKS, ih, UInt8.xor_assoc]

theorem toy_stream_laws (key : Bytes) : StreamLaws (streamXor key) := by
  constructor
  · intro s a b
    simp [streamXor, xorKS_append, Nat.add_assoc]
  · intro s a
    simp [streamXor, xorKS_invol, xorKS_length]

theorem xorPad_length (key nonce : Bytes) (i : Nat) (a : Bytes) : (xorPad key nonce i a).length = a.length := by
  induction a generalizing i with
  | nil => rfl
  | cons x xs ih => simp [xorPad, ih]

theorem xorPad_invol (key nonce : Bytes) (i : Nat) (a : Bytes) :
    xorPad key nonce i (xorPad key nonce i a) = a := by
  induction a generalizing i with
  | nil => rfl
  | cons x xs ih => simp [xorPad, ih, UInt8.xor_assoc]

theorem tagBytes_length (s : UInt32) (j n : Nat) : (tagBytes s j n).length = n := by
  induction n generalizing j with
  | zero => rfl
  | succ n ih => simp [tagBytes, ih]

theorem tag_length (key : Bytes) (tagLen : Nat) (nonce ad pt : Bytes) : (tag key tagLen nonce ad pt).length = tagLen := by
  simp [tag, tagBytes_length]

theorem toyAead_open_seal (key : Bytes) (tagLen : Nat) (n p ad : Bytes) :
    (toyAead key tagLen).openFn n ((toyAead key tagLen).sealFn n p ad) ad = some p := by
  simp only [toyAead, List.length_append, xorPad_length, tag_length]
  have h1 : ¬ (p.length + tagLen < tagLen) := by omega
  simp only [h1, if_false, Nat.add_sub_cancel]
  rw [List.take_left' (xorPad_length _ _ _ _), List.drop_left' (xorPad_length _ _ _ _), xorPad_invol]
  simp

theorem toy_prefix_laws (key : Bytes) (tagLen : Nat) (fixed : Bytes) :
    AeadLaws (prefixNonceAEAD (toyAead key tagLen) fixed) := by
  constructor
  · intro n p ad; exact toyAead_open_seal key tagLen _ p ad
  · intro n p ad; simp [prefixNonceAEAD, toyAead, xorPad_length, tag_length]

theorem toy_xor_laws (key : Bytes) (tagLen : Nat) (mask : Bytes) :
    AeadLaws (xorNonceAEAD (toyAead key tagLen) mask) := by
  constructor
  · intro n p ad; exact toyAead_open_seal key tagLen _ p ad
  · intro n p ad; simp [xorNonceAEAD, toyAead, xorPad_length, tag_length]

/-- 20 bytes: the five state words of SHA-1, four bytes each -/
theorem hmac_sha1_laws (key : Bytes) : MacLaws (hmacMac ZV.Hash.HashAlg.sha1 key) := fun _ => rfl

structure BlockLaws (bs : Nat) (E D : Bytes → Bytes) : Prop where
  lenE : ∀ b, b.length = bs → (E b).length = bs
  inv : ∀ b, b.length = bs → D (E b) = b

theorem xorBytes_length (a b : Bytes) (h : a.length = b.length) : (xorBytes a b).length = a.length := by
  simp [xorBytes, h]

theorem xorBytes_invol (a b : Bytes) (h : a.length = b.length) : xorBytes (xorBytes a b) b = a :=
  zipXor_cancel a b (Nat.le_of_eq h)

theorem chunkN_spec (bs n : Nat) (x : Bytes) (h : x.length = bs * n) :
    (chunkN bs n x).flatten = x ∧ (∀ c ∈ chunkN bs n x, c.length = bs) ∧ (chunkN bs n x).length = n := by
  induction n generalizing x with
  | zero =>
    have : x = [] := List.eq_nil_of_length_eq_zero (by simpa using h)
    subst this; simp [chunkN]
  | succ n ih =>
    have hl : (x.drop bs).length = bs * n := by simp [h, Nat.mul_succ]
    obtain ⟨h1, h2, h3⟩ := ih (x.drop bs) hl
    simp only [chunkN, List.flatten_cons, h1, List.take_append_drop, List.mem_cons, List.length_cons, h3]
    refine ⟨trivial, ?_, trivial⟩
    intro c hc
    rcases hc with hc | hc
    · subst hc; simp [h, Nat.mul_succ]
    · exact h2 c hc

theorem chunkN_append (bs n : Nat) (c cs : Bytes) (hc : c.length = bs) :
    chunkN bs (n + 1) (c ++ cs) = c :: chunkN bs n cs := by
  simp [chunkN, List.take_left' hc, List.drop_left' hc]

theorem cbc_blocks (bs : Nat) (E D : Bytes → Bytes) (h : BlockLaws bs E D) (blocks : List Bytes) (iv : Bytes)
    (hiv : iv.length = bs) (hb : ∀ b ∈ blocks, b.length = bs) :
    (cbcEnc E iv blocks).1.length = bs * blocks.length ∧ (cbcEnc E iv blocks).2.length = bs ∧
    cbcDec D iv (chunkN bs blocks.length (cbcEnc E iv blocks).1) = (blocks.flatten, (cbcEnc E iv blocks).2) := by
  induction blocks generalizing iv with
  | nil => simp [cbcEnc, cbcDec, chunkN, hiv]
  | cons b rest ih =>
    have hbl : b.length = bs := hb b (by simp)
    have hxl : (xorBytes b iv).length = bs := by rw [xorBytes_length _ _ (by rw [hbl, hiv]), hbl]
    have hcl : (E (xorBytes b iv)).length = bs := h.lenE _ hxl
    obtain ⟨i1, i2, i3⟩ := ih (E (xorBytes b iv)) hcl (fun x hx => hb x (by simp [hx]))
    simp only [cbcEnc, List.length_cons, List.length_append, hcl, i1, i2, Nat.mul_succ, true_and]
    refine ⟨by omega, ?_⟩
    rw [chunkN_append _ _ _ _ hcl]
    simp only [cbcDec, i3, List.flatten_cons, h.inv _ hxl, xorBytes_invol b iv (by rw [hbl, hiv])]

theorem cbcOf_laws (bs : Nat) (hbs : 0 < bs) (E D : Bytes → Bytes) (h : BlockLaws bs E D) :
    CbcLaws (cbcOf bs E false) (cbcOf bs D true) (fun s => s.iv.length = bs) := by
  have key : ∀ (s : St) (x : Bytes), s.iv.length = bs → x.length % bs = 0 →
      (cbcEnc E s.iv (chunks bs x)).1.length = x.length ∧ (cbcEnc E s.iv (chunks bs x)).2.length = bs ∧
      cbcDec D s.iv (chunks bs (cbcEnc E s.iv (chunks bs x)).1) = (x, (cbcEnc E s.iv (chunks bs x)).2) := by
    intro s x hs hx
    have hbs' : bs ≠ 0 := by omega
    have hxl : x.length = bs * (x.length / bs) := by
      have := Nat.div_add_mod x.length bs
      omega
    obtain ⟨c1, c2, c3⟩ := chunkN_spec bs (x.length / bs) x hxl
    obtain ⟨e1, e2, e3⟩ := cbc_blocks bs E D h (chunkN bs (x.length / bs) x) s.iv hs c2
    simp only [chunks, hbs', if_false]
    rw [c3] at e1 e3
    rw [e1, Nat.mul_div_cancel_left _ hbs, e3, c1]
    exact ⟨hxl.symm, e2, rfl⟩
  refine ⟨rfl, fun _ _ => rfl, fun s iv hiv => hiv, ?_, ?_, ?_⟩
  · intro s x hs hx
    exact (key s x hs hx).2.1
  · intro s x hs hx
    exact (key s x hs hx).1
  · intro s x hs hx
    obtain ⟨k1, k2, k3⟩ := key s x hs hx
    simp only [cbcOf, Bool.false_eq_true, if_false, if_true, k3]

theorem zip_inv (b key : Bytes) (h : b.length = key.length) :
    List.zipWith (fun y k => (y - 1) ^^^ k) (List.zipWith (fun x k => (x ^^^ k) + 1) b key) key = b := by
  induction b generalizing key with
  | nil => simp
  | cons x xs ih =>
    cases key with
    | nil => simp at h
    | cons k ks =>
      simp only [List.zipWith_cons_cons, List.cons.injEq]
      refine ⟨by simp [UInt8.xor_assoc], ih ks (by simpa using h)⟩

theorem toy_block_laws (key : Bytes) : BlockLaws key.length (blockE key) (blockD key) := by
  constructor
  · intro b hb; simp [blockE, hb]
  · intro b hb; simp only [blockD, blockE, List.reverse_reverse]; exact zip_inv b key hb

theorem toy_cbc_laws (key : Bytes) (hk : 0 < key.length) :
    CbcLaws (toyCbc key false) (toyCbc key true) (fun s => s.iv.length = key.length) := by
  have := cbcOf_laws key.length hk (blockE key) (blockD key) (toy_block_laws key)
  simpa [toyCbc] using this

end ZV.C25
