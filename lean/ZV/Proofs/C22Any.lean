import ZV.Model.C22Any
/-! The callees of the ANY arm (`ZV.Model.C22Any`) split in two groups: those of `AnyP.isString` return a Go string or fail,
  the others never return a string.  `any_string` / `any_string_tags` (Props/C22) are this split read through `anyTable`. -/
namespace ZV.C22

theorem strRes_str (r : Res C18.Val) (s : Bytes) (h : strRes r = .ok (.str s)) : r = .ok (.bytes s) := by
  unfold strRes at h
  split at h <;> cases h
  rfl

theorem strRes_not_other (r : Res C18.Val) (t : Nat) (raw : Bytes) : strRes r ≠ .ok (.other t raw) := by
  unfold strRes; split <;> simp

theorem timeRes_not_str (r : Res Time.GoTime) (s : Bytes) : timeRes r ≠ .ok (.str s) := by
  unfold timeRes; split <;> simp

theorem runAny_string (p : AnyP) (hp : p.isString = true) (inner : Bytes) (t : Nat) (raw : Bytes) :
    runAny p inner ≠ .ok (.other t raw) := by
  cases p <;> simp [AnyP.isString] at hp <;> simp only [runAny] <;> exact strRes_not_other _ _ _

theorem runAny_nonstring (p : AnyP) (hp : p.isString = false) (inner s : Bytes) : runAny p inner ≠ .ok (.str s) := by
  cases p <;> simp [AnyP.isString] at hp
  · simp only [runAny]; split <;> simp
  · simp only [runAny]; split <;> simp
  · simp only [runAny]; split <;> simp
  · simp only [runAny]; exact timeRes_not_str _ _
  · simp only [runAny]; exact timeRes_not_str _ _
  · simp [runAny]

/-- five of the six string parsers are a test in front of a fixed answer -/
theorem strRes_guard (c : Prop) [Decidable c] (v : C18.Val) (s : Bytes)
    (h : strRes (if c then .err else .ok v) = .ok (.str s)) : v = .bytes s := by
  by_cases hc : c
  · rw [if_pos hc] at h
    cases h
  · rw [if_neg hc] at h
    exact Res.ok.inj (strRes_str _ _ h)

theorem runAny_content (p : AnyP) (inner s : Bytes) (h : runAny p inner = .ok (.str s)) :
    (p ≠ .bmp → s = inner) ∧ (p = .bmp → s = C18.utf16ToUtf8 (C18.stripTerm (C18.pairs16 inner))) := by
  cases p
  case printable | numeric | ia5 | utf8 => exact ⟨fun _ => (C18.Val.bytes.inj (strRes_guard _ _ _ h)).symm, nofun⟩
  case t61 => exact ⟨fun _ => (AVal.str.inj (Res.ok.inj h)).symm, nofun⟩
  case bmp => exact ⟨fun hne => absurd rfl hne, fun _ => (C18.Val.bytes.inj (strRes_guard _ _ _ h)).symm⟩
  all_goals exact absurd h (runAny_nonstring _ rfl _ _)

theorem lookupAny_mem (tag : Nat) (p : AnyP) : ∀ (tbl : List (Nat × AnyP)), lookupAny tag tbl = some p → (tag, p) ∈ tbl
  | [], h => by simp [lookupAny] at h
  | (t, q) :: rest, h => by
    unfold lookupAny at h
    split at h
    · rename_i ht; cases h; subst ht; simp
    · exact List.mem_cons_of_mem _ (lookupAny_mem tag p rest h)

end ZV.C22
