import ZV.Proofs.C01
import ZV.Proofs.C01Asn1
import ZV.Proofs.C18
import ZV.Proofs.C20
/-!
  The DER header reader of `encoding/asn1` is modelled twice:

  * `ZV.C01.parseTagAndLength` works on `(bytes, offset)` exactly like the Go code, every index expression is
    `idx` (out of range = `Res.panic`); tied to the code by the T2 stream `c01 tl`;
  * `ZV.C18.parseTL` works on the remaining suffix `bytes[offset:]` and is what the `parseField` engine of
    `ZV.Model.C18` is built on; tied to the code by the C18 / C20 streams.

  `header_eq`: the first is the second run on `bytes[offset:]`, the new offset read back from the length of what is left;
  likewise for their three parts. So the suffix style of the engine model hides no out-of-range index, and the facts about
  the byte-level reader (no panic, progress, bounds, strict mode below permissive mode) are those of the suffix reader
  (`ZV.Proofs.C01Asn1`, `ZV.Proofs.C20`) carried across; the element loop of `parseSequenceOf` is built on them.
  `header_bridge`, `seqof_rel`: the same two models read from the engine's side.
  (A third model of the same reader, strict mode only, is `ZV.Der0.EA.parseTagAndLength`; `ZV.C14.ea_header_eq` in
  `ZV.Proofs.C14Int` ties it to `ZV.C18.parseTL false`.)
-/
namespace ZV.C01Asn1
open ZV.Res (Sat)

theorem and_two_pow (x i : Nat) : x &&& 2 ^ i = x / 2 ^ i % 2 * 2 ^ i := by
  have h1 : (x &&& 2 ^ i) % 2 ^ i = 0 := by rw [Nat.and_mod_two_pow, Nat.mod_self, Nat.and_zero]
  have h2 : (x &&& 2 ^ i) / 2 ^ i = x / 2 ^ i % 2 := by
    rw [Nat.and_div_two_pow, Nat.div_self (Nat.two_pow_pos i)]
    exact Nat.and_two_pow_sub_one_eq_mod _ 1
  rw [← h2, ← Nat.div_add_mod (x &&& 2 ^ i) (2 ^ i), h1, Nat.add_zero, Nat.mul_comm, Nat.mul_div_cancel _ (Nat.two_pow_pos i)]

theorem and7f (b : UInt8) : (b &&& 0x7f).toNat = b.toNat % 128 :=
  (UInt8.toNat_and b 0x7f).trans (Nat.and_two_pow_sub_one_eq_mod b.toNat 7)
theorem and1f (b : UInt8) : (b &&& 0x1f).toNat = b.toNat % 32 :=
  (UInt8.toNat_and b 0x1f).trans (Nat.and_two_pow_sub_one_eq_mod b.toNat 5)
theorem shr6 (b : UInt8) : (b >>> 6).toNat = b.toNat / 64 :=
  (UInt8.toNat_shiftRight b 6).trans (Nat.shiftRight_eq_div_pow b.toNat 6)
theorem eq80 (b : UInt8) : (b = 0x80) ↔ b.toNat = 128 := UInt8.toNat_inj.symm
theorem and80 (b : UInt8) : (b &&& 0x80 = 0) ↔ b.toNat < 128 := by
  have := UInt8.toNat_lt b
  rw [← UInt8.toNat_inj, UInt8.toNat_and]
  show b.toNat &&& 2 ^ 7 = 0 ↔ _
  rw [and_two_pow]
  omega
theorem and20 (b : UInt8) : (b &&& 0x20 = 0x20) ↔ b.toNat / 32 % 2 = 1 := by
  rw [← UInt8.toNat_inj, UInt8.toNat_and]
  show b.toNat &&& 2 ^ 5 = 32 ↔ _
  rw [and_two_pow]
  omega

theorem idx_ok {bs : Bytes} {off : Nat} {b : UInt8} (h : C01.idx bs off = .ok b) :
    bs.drop off = b :: bs.drop (off + 1) := by
  unfold C01.idx at h
  split at h
  · rename_i b' hb
    cases h
    obtain ⟨hlt, rfl⟩ := List.getElem?_eq_some_iff.mp hb
    exact List.drop_eq_getElem_cons hlt
  · cases h

/-- suffixes back to offsets -/
def offs (bs : Bytes) {α : Type} (x : α × Bytes) : α × Nat := (x.1, bs.length - x.2.length)

theorem Adv.offset {k off : Nat} {r bs : Bytes} (h : Adv (k + 1) r (bs.drop off)) :
    off + (k + 1) ≤ bs.length - r.length ∧ bs.length - r.length ≤ bs.length := by
  have := h.2
  rw [List.length_drop] at this
  omega

theorem offs_drop {bs : Bytes} {α : Type} (v : α) {o : Nat} (h : o ≤ bs.length) : offs bs (v, bs.drop o) = (v, o) := by
  rw [offs, List.length_drop, Nat.sub_sub_self h]

theorem b128_eq (bs : Bytes) (sh acc off : Nat) :
    C01.b128Loop bs sh acc off = (C18.base128 sh acc (bs.drop off)).map (offs bs) := by
  fun_induction C01.b128Loop bs sh acc off
  case case1 hlt =>
    obtain ⟨b, hb⟩ := C01.idx_of_lt hlt
    rw [idx_ok hb, C18.base128]; simp [Res.map]
  case case2 hlt h5 b hb h =>
    rw [idx_ok hb, C18.base128, if_neg h5, if_pos ⟨h.1, (eq80 b).mp h.2⟩]; rfl
  case case3 hlt h5 b hb h acc' h80 hgt =>
    rw [idx_ok hb, C18.base128, if_neg h5, if_neg (fun hh => h ⟨hh.1, (eq80 b).mpr hh.2⟩),
      if_pos ((and80 b).mp h80), ← and7f b, if_pos hgt]; rfl
  case case4 hlt h5 b hb h acc' h80 hgt =>
    rw [idx_ok hb, C18.base128, if_neg h5, if_neg (fun hh => h ⟨hh.1, (eq80 b).mpr hh.2⟩),
      if_pos ((and80 b).mp h80), ← and7f b, if_neg hgt, Res.map, offs_drop _ hlt]
  case case5 hlt h5 b hb h acc' h80 ih =>
    rw [idx_ok hb, C18.base128, if_neg h5, if_neg (fun hh => h ⟨hh.1, (eq80 b).mpr hh.2⟩),
      if_neg (fun hh => h80 ((and80 b).mpr hh)), ← and7f b]
    exact ih
  case case6 hlt _ hidx => obtain ⟨b, hb⟩ := C01.idx_of_lt hlt; rw [hb] at hidx; cases hidx
  case case7 hlt _ hidx => obtain ⟨b, hb⟩ := C01.idx_of_lt hlt; rw [hb] at hidx; cases hidx
  case case8 hge =>
    rw [List.drop_eq_nil_of_le (by omega), C18.base128]; rfl

theorem lenLoop_eq (bs : Bytes) : ∀ (n len off : Nat), off ≤ bs.length →
    C01.lenLoop bs n len off = (C18.parseLenBytes n len (bs.drop off)).map (offs bs)
  | 0, len, off, h => by rw [C18.parseLenBytes, C01.lenLoop, Res.map, offs_drop _ h]
  | n + 1, len, off, _ => by
    by_cases hlt : off < bs.length
    · obtain ⟨b, hb⟩ := C01.idx_of_lt hlt
      rw [idx_ok hb]
      simp only [C18.parseLenBytes, C01.lenLoop, hb]
      rw [if_neg (show ¬ off ≥ bs.length by omega)]
      split_ifs
      · rfl
      · rfl
      · exact lenLoop_eq bs n _ _ hlt
    · rw [List.drop_eq_nil_of_le (by omega)]
      simp only [C18.parseLenBytes, C01.lenLoop]
      rw [if_pos (show off ≥ bs.length by omega)]; rfl

theorem parseLength_eq (perm : Bool) (bs : Bytes) (cls tag : Nat) (comp : Bool) (off : Nat) :
    C01.parseLength perm bs cls tag comp off =
      (C18.readLen perm (bs.drop off)).map fun x => (⟨cls, tag, x.1, comp⟩, bs.length - x.2.length) := by
  by_cases hlt : off < bs.length
  · obtain ⟨b, hb⟩ := C01.idx_of_lt hlt
    rw [idx_ok hb]
    unfold C18.readLen C01.parseLength
    rw [if_neg (show ¬ off ≥ bs.length by omega), hb]
    simp only
    by_cases h80 : b &&& 0x80 = 0
    · rw [if_pos h80, if_pos ((and80 b).mp h80), and7f b, Nat.mod_eq_of_lt ((and80 b).mp h80), Res.map,
        List.length_drop, Nat.sub_sub_self hlt]
    · rw [if_neg h80, if_neg (fun hh => h80 ((and80 b).mpr hh)), and7f b]
      by_cases h0 : b.toNat % 128 = 0
      · rw [if_pos h0, if_pos h0]; rfl
      · rw [if_neg h0, if_neg h0, lenLoop_eq bs _ 0 (off + 1) hlt]
        cases C18.parseLenBytes (b.toNat % 128) 0 (bs.drop (off + 1)) with
        | err => rfl
        | panic => rfl
        | ok x =>
          simp only [Res.map, offs]
          by_cases hp : (!perm && decide (x.1 < 128)) = true
          · have : (!perm) = true ∧ x.1 < 128 := by simpa using hp
            rw [if_pos hp, if_pos (by simpa using this)]
          · have : ¬((!perm) = true ∧ x.1 < 128) := by simpa using hp
            rw [if_neg hp, if_neg (by simpa using this)]
  · rw [List.drop_eq_nil_of_le (by omega)]
    unfold C18.readLen C01.parseLength
    rw [if_pos (show off ≥ bs.length by omega)]; rfl

def tlOf (t : C01.TL) : C18.TL := { cls := t.cls, tag := t.tag, len := t.len, compound := t.compound }

def ofTL (t : C18.TL) : C01.TL := ⟨t.cls, t.tag, t.len, t.compound⟩

theorem header_eq (perm : Bool) (bs : Bytes) (off : Nat) :
    C01.parseTagAndLength perm bs off =
      (C18.parseTL perm (bs.drop off)).map fun x => (ofTL x.1, bs.length - x.2.length) := by
  by_cases hlt : off < bs.length
  · obtain ⟨b, hb⟩ := C01.idx_of_lt hlt
    rw [idx_ok hb, C18.parseTL_eq]
    unfold C18.parseTagNum C01.parseTagAndLength C01.parseBase128Int
    rw [if_neg (show ¬ off ≥ bs.length by omega), hb]
    have hd : decide (b &&& 0x20 = 0x20) = decide (b.toNat / 32 % 2 = 1) := decide_eq_decide.mpr (and20 b)
    simp only [and1f b, shr6 b, hd]
    by_cases h31 : b.toNat % 32 = 31
    · rw [if_pos h31, if_pos h31, b128_eq bs 0 0 (off + 1)]
      have hs := base128_sat (bs.drop (off + 1)) 0 0
      cases hx : C18.base128 0 0 (bs.drop (off + 1)) with
      | err => rfl
      | panic => rfl
      | ok x =>
        simp only [Res.map, offs]
        by_cases ht : x.1 < 31
        · rw [if_pos ht, if_pos ht]
        · rw [if_neg ht, if_neg ht, parseLength_eq]
          simp only
          have := (hs.of_ok hx).1.1.trans (List.drop_suffix _ _)
          rw [← (List.suffix_iff_eq_drop.mp this)]
          generalize C18.readLen perm _ = y
          rcases y with ⟨_, _⟩ | _ | _ <;> rfl
    · rw [if_neg h31, if_neg h31, parseLength_eq]
      simp only
      generalize C18.readLen perm _ = y
      rcases y with ⟨_, _⟩ | _ | _ <;> rfl
  · rw [List.drop_eq_nil_of_le (by omega)]
    unfold C01.parseTagAndLength
    rw [if_pos (show off ≥ bs.length by omega)]; rfl

def liftTL (bs : Bytes) : Res (C01.TL × Nat) → Res (C18.TL × Bytes)
  | .ok (t, o) => .ok (tlOf t, bs.drop o) | .err => .err | .panic => .panic

theorem header_bridge (perm : Bool) (bs : Bytes) (off : Nat) :
    C18.parseTL perm (bs.drop off) = liftTL bs (C01.parseTagAndLength perm bs off) := by
  rw [header_eq]
  have hs := parseTL_sat perm (bs.drop off)
  cases hx : C18.parseTL perm (bs.drop off) with
  | ok x =>
    have := (hs.of_ok hx).1.1.trans (List.drop_suffix _ _)
    rw [Res.map, liftTL, ← List.suffix_iff_eq_drop.mp this]
    rfl
  | err => rfl
  | panic => rfl

end ZV.C01Asn1

namespace ZV.C01
open ZV.C01Asn1
open ZV.Res (Sat)

theorem parseBase128Int_sat (bs : Bytes) (off : Nat) :
    Sat (fun x => off < x.2 ∧ x.2 ≤ bs.length ∧ x.1 ≤ 2147483647) (parseBase128Int bs off) := by
  rw [parseBase128Int, b128_eq]
  exact .map ((base128_sat (bs.drop off) 0 0).mono fun x hx => ⟨hx.1.offset.1, hx.1.offset.2, hx.2⟩)

theorem parseTagAndLength_sat (perm : Bool) (bs : Bytes) (off : Nat) :
    Sat (fun x => off + 2 ≤ x.2 ∧ x.2 ≤ bs.length ∧ x.1.len < 2147483648) (parseTagAndLength perm bs off) := by
  rw [header_eq]
  exact .map ((parseTL_sat perm (bs.drop off)).mono fun x hx => ⟨hx.1.offset.1, hx.1.offset.2, hx.2.2.2⟩)

attribute [local irreducible] C18.parseTL in
/-- `C18.parseTL` is irreducible here so that `perm_elim` tells the two runs apart at the flag -/
theorem parseTagAndLength_relax (bs : Bytes) (off : Nat) (r : TL × Nat)
    (h : parseTagAndLength false bs off = .ok r) : parseTagAndLength true bs off = .ok r := by
  rw [header_eq] at h ⊢
  exact C18.perm_elim (C18.parseTL_perm _) (fun _ => id) C18.of_err_eq_ok C18.of_panic_eq_ok h

end ZV.C01

namespace ZV.C01Asn1

def addN (n : Nat) : Res Nat → Res Nat
  | .ok k => .ok (n + k) | .err => .err | .panic => .panic

theorem c18_count_step (perm : Bool) (et : Nat) (ec : Bool) (bs : Bytes) (off n fuel : Nat) (hlt : off < bs.length)
    (hf : bs.length - off ≤ fuel) :
    addN n (C18.countElems perm true et ec fuel (bs.drop off)) =
      match C01.parseTagAndLength perm bs off with
      | .ok (t, o) =>
        if t.len > bs.length - o then .err
        else addN (n + 1) (C18.countElems perm true et ec (fuel - 1) (bs.drop (o + t.len)))
      | .err => .err
      | .panic => .panic := by
  obtain ⟨f, rfl⟩ : ∃ f, fuel = f + 1 := ⟨fuel - 1, by omega⟩
  have hdrop := List.drop_eq_getElem_cons hlt
  rw [hdrop, C18.countElems, ← hdrop, header_bridge]
  cases C01.parseTagAndLength perm bs off with
  | err => rfl
  | panic => rfl
  | ok x =>
    simp only [liftTL, tlOf, Bool.not_true, Bool.false_and, Bool.false_eq_true, if_false, List.length_drop,
      List.drop_drop, Nat.add_sub_cancel]
    by_cases h : x.1.len > bs.length - x.2
    · rw [if_pos h, if_pos h]
      rfl
    · rw [if_neg h, if_neg h]
      generalize C18.countElems perm true et ec f _ = r
      cases r with
      | ok k => exact congrArg Res.ok (Nat.add_right_comm n k 1)
      | err => rfl
      | panic => rfl

/-- the offset-style counting loop of `ZV.Model.C01` (whose "cannot advance" arm is an explicit `panic`) is the fuelled
    suffix-style loop of `ZV.Model.C18` for an element type that matches any tag, whenever the fuel is at least the number
    of remaining bytes (the engine passes `len(bytes)`); the one difference is the overflow arm of `invalidLength`, which
    refuses an element that ends at or beyond 2^63 and so needs an input of that size. -/
theorem seqof_rel (perm : Bool) (et : Nat) (ec : Bool) (bs : Bytes) (off n : Nat) : ∀ fuel, bs.length - off ≤ fuel →
    C01.countElems perm bs off n = addN n (C18.countElems perm true et ec fuel (bs.drop off)) ∨
      (9223372036854775808 ≤ bs.length ∧ C01.countElems perm bs off n = .err) := by
  fun_induction C01.countElems perm bs off n
  case case1 off n hlt t o hp hinv =>
    intro fuel hf
    rw [c18_count_step perm et ec bs off n fuel hlt hf, hp]
    dsimp only
    by_cases h : t.len > bs.length - o
    · exact Or.inl (if_pos h).symm
    · have hc := (C01.parseTagAndLength_sat perm bs off).of_ok hp
      simp only [C01.invalidLength, Bool.or_eq_true, decide_eq_true_eq] at hinv
      exact Or.inr ⟨by dsimp only at hc; omega, rfl⟩
  case case2 off n hlt t o hp hinv hlt2 ih =>
    intro fuel hf
    have hi := C01.invalidLength_false (by simpa using hinv)
    rw [c18_count_step perm et ec bs off n fuel hlt hf, hp]
    dsimp only
    rw [if_neg (by omega)]
    exact ih (fuel - 1) (by omega)
  case case3 off n hlt t o hp hinv hlt2 =>
    have hc := (C01.parseTagAndLength_sat perm bs off).of_ok hp
    exact absurd (by omega) hlt2
  case case4 off n hlt hp =>
    intro fuel hf
    rw [c18_count_step perm et ec bs off n fuel hlt hf, hp]
    exact Or.inl rfl
  case case5 off n hlt hp =>
    exact absurd hp (C01.parseTagAndLength_sat perm bs off).ne_panic
  case case6 off n hge =>
    intro fuel hf
    rw [List.drop_eq_nil_of_le (by omega)]
    cases fuel <;> exact Or.inl rfl

end ZV.C01Asn1

namespace ZV.C01
open ZV.C01Asn1
open ZV.Res (Sat)

/-- every element has at least a tag and a length octet, so the slice `parseSequenceOf` allocates with
    `reflect.MakeSlice(sliceType, numElements, numElements)` is linear in the input. This and the unreachable
    `panic` arm of the model ("the header did not advance") are the engine's facts (`C01Asn1.countElems_sat`) read
    through `seqof_rel`. -/
theorem countElems_sat (perm : Bool) (bs : Bytes) (off n : Nat) :
    Sat (fun m => 2 * m ≤ 2 * n + (bs.length - off)) (countElems perm bs off n) := by
  rcases seqof_rel perm 0 false bs off n _ (Nat.le_refl _) with h | h
  · rw [h]
    refine (C01Asn1.countElems_sat perm true 0 false _ (bs.drop off)).elim (fun k hk => ?_) trivial
    rw [List.length_drop] at hk
    show 2 * (n + k) ≤ _
    omega
  · rw [h.2]
    trivial

theorem countElems_no_panic (perm : Bool) (bs : Bytes) (off n : Nat) : countElems perm bs off n ≠ .panic :=
  (countElems_sat perm bs off n).ne_panic

end ZV.C01
