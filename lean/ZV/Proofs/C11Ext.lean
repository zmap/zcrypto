import ZV.Model.C11
/-!
  What surrounds the walk: the small deterministic logic (`canAddToChain`, `chanCap`, start-edge
  synthesis), the relation between the synthesized start edge and the edge `AddCert` stores, and the inversion of one
  event of a history (`evStep_ok`).
-/
namespace ZV.C11
open ZV.C10

theorem chanCap_pos (n : Int) : 1 ≤ chanCap n := by
  unfold chanCap
  split
  · exact Nat.le_of_ble_eq_true rfl
  · next h => exact Int.lt_toNat.mpr (Int.not_le.mp h)

theorem chanCap_default {n : Int} (h : n ≤ 0) : chanCap n = Gen.defaultChannelSize := if_pos h

theorem chanCap_given {n : Int} (h : 0 < n) : (chanCap n : Int) = n :=
  (congrArg Int.ofNat (if_neg (Int.not_le.mpr h))).trans (Int.toNat_of_nonneg (Int.le_of_lt h))

theorem canAddToChain_iff (c : Cert) (isRoot : Bool) (chain : List Cert) :
    canAddToChain c isRoot chain = true ↔
      (isRoot = false → c.bcValid = true ∧ c.isCA = true) ∧
      (c.bcValid = true → 0 ≤ c.maxPathLen → (chain.length : Int) - 1 ≤ c.maxPathLen) := by
  -- both guards as Boolean connectives, then the negations pushed inwards
  simp only [canAddToChain, Bool.if_false_left, Bool.if_true_right, Bool.and_eq_true, Bool.or_eq_true,
    Bool.not_eq_true', decide_eq_true_eq, decide_eq_false_iff_not, Bool.or_false, not_and, not_or,
    Bool.not_eq_false, and_imp, Int.not_lt, ge_iff_le, gt_iff_lt]

theorem startEdge_in_graph {V : Ver} {g : Graph} {c : Cert} {e : Edge} (h : findEdge g.edges c.fp = some e) :
    startEdge V g c = e := by
  simp [startEdge, h]

theorem startEdge_synth {V : Ver} {g : Graph} {c : Cert} (h : findEdge g.edges c.fp = none) :
    startEdge V g c =
      { cert := c, issuer := (searchIssuer V g.nodes c.iss c.fp).map (·.key), child := c.sk, root := false } := by
  simp [startEdge, h]

theorem walkChains_no_issuer {V : Ver} {g : Graph} {c : Cert} (he : findEdge g.edges c.fp = none)
    (hs : searchIssuer V g.nodes c.iss c.fp = none) : walkChains V g c = [] := by
  unfold walkChains
  rw [startEdge_synth he, hs]
  unfold walk
  simp

/-! ### the synthesized start edge is the edge `AddCert` would store

  `AddCert(c)` for a certificate that is not in the graph appends the edge
  `{cert := c, issuer := first verifying node with the issuer name, child := c.sk, root := false}` —
  searched in `g.nodes` PLUS the node of `c` itself when that node is new.  So when the node `(subject, key)`
  of `c` already exists (cross certificate / re-issue), or `c` does not verify under its own (subject, key)
  (`c` is not self-signed), the stored edge is literally `startEdge V g c`.  Proved for the first case
  (`startEdge_is_addCert_edge_partial` in `ZV.Props.C11`); `searchIssuer_append_new` is the step the second would need. -/

theorem findEdge_none_of_hasEdge {es : List Edge} {fp : Nat} (h : hasEdge es fp = false) :
    findEdge es fp = none :=
  List.find?_eq_none.mpr (List.any_eq_false.mp h)

theorem findEdge_append_new {es : List Edge} {e : Edge} (h : hasEdge es e.cert.fp = false) :
    findEdge (es ++ [e]) e.cert.fp = some e := by
  rw [findEdge, List.find?_append, ← findEdge, findEdge_none_of_hasEdge h, Option.none_or,
    List.find?_singleton, if_pos (beq_self_eq_true _)]

theorem searchIssuer_append_new {V : Ver} {ns : List Node} {c : Cert}
    (h : ¬ (c.subj = c.iss ∧ V c.sk c.fp = true)) :
    searchIssuer V (ns ++ [newNode c.sk]) c.iss c.fp = searchIssuer V ns c.iss c.fp := by
  rw [searchIssuer, List.find?_append, List.find?_singleton, if_neg, Option.or_none, searchIssuer]
  exact fun hp => h ⟨eq_of_beq (Bool.and_eq_true_iff.mp hp).1, (Bool.and_eq_true_iff.mp hp).2⟩

theorem evStep_ok {V : Ver} {g g1 : Graph} {e : Ev} {o : Option (List (List Cert))}
    (h : evStep V g e = .ok (g1, o)) :
    (∃ op, e = .ins op ∧ step V g op = .ok g1 ∧ o = none) ∨
    (∃ c, e = .walk c ∧ g1 = g ∧ o = some (walkChains V g c)) := by
  cases e with
  | ins op =>
    have h' : (match step V g op with | .ok g1 => Res.ok (g1, none) | _ => .panic) = .ok (g1, o) := h
    cases hs : step V g op with
    | ok g' => rw [hs] at h'; cases h'; exact Or.inl ⟨op, rfl, hs, rfl⟩
    | err => rw [hs] at h'; cases h'
    | panic => rw [hs] at h'; cases h'
  | walk c => cases h; exact Or.inr ⟨c, rfl, rfl, rfl⟩

end ZV.C11
