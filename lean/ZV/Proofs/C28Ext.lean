import ZV.Proofs.C28
import ZV.Proofs.C28Frame
/-!
  C28 — what the ClientHello and ServerHello extension mappings share: the optional extension block that ends both
  hellos, the SNI name loop `sniPick`, and the extension loop as a structure (`ExtLoop`) with one lemma for each kind of
  field: accumulating, last one wins, presence flag.
-/
namespace ZV.C28


/-- the tail of `clientHelloMsg.unmarshal` and `serverHelloMsg.unmarshal` -/
theorem extBlock_inv {β : Type} {b : Bytes} {dflt : β} {k : List (Nat × Bytes) → Option β} {y : β}
    (h : (if b.isEmpty then some dflt else
            match wholeVec16 b with
            | none => none
            | some blk =>
              match splitExts blk with
              | none => none
              | some es => k es) = some y) :
    (b = [] ∧ dflt = y) ∨
      ∃ e1 e2 blk es, b = e1 :: e2 :: blk ∧ u16 e1 e2 = blk.length ∧ FramedExts blk es ∧ k es = some y := by
  by_cases he : b.isEmpty = true
  · rw [if_pos he] at h
    exact .inl ⟨List.isEmpty_iff.mp he, Option.some.inj h⟩
  · rw [if_neg he] at h
    match h1 : wholeVec16 b, h with
    | some blk, hb =>
      simp only at hb
      match h2 : splitExts blk, hb with
      | some es, hk =>
        obtain ⟨e1, e2, rfl, hl⟩ := wholeVec16_spec h1
        exact .inr ⟨e1, e2, blk, es, rfl, hl, splitExts_framed blk es h2, hk⟩

theorem sniPick_append (l1 l2 : List (Nat × Bytes)) (cur : Bytes) :
    sniPick cur (l1 ++ l2) = (sniPick cur l1).bind (fun c => sniPick c l2) := by
  fun_induction sniPick cur l1 with
  | case1 => rfl
  | case2 cur t n rest h1 ih => rw [List.cons_append, sniPick, if_pos h1, ih]
  | case3 cur t n rest h1 h2 => rw [List.cons_append, sniPick, if_neg h1, if_pos h2]; rfl
  | case4 cur t n rest h1 h2 h3 => rw [List.cons_append, sniPick, if_neg h1, if_neg h2, if_pos h3]; rfl
  | case5 cur t n rest h1 h2 h3 ih => rw [List.cons_append, sniPick, if_neg h1, if_neg h2, if_neg h3, ih]

/-- the host names (name_type 0) among SNI entries, in wire order -/
def sniHosts (ents : List (Nat × Bytes)) : List Bytes := (ents.filter (fun e => e.1 == 0)).map (·.2)

theorem sniHosts_cons (t : Nat) (n : Bytes) (r : List (Nat × Bytes)) :
    sniHosts ((t, n) :: r) = if t ≠ 0 then sniHosts r else n :: sniHosts r := by
  cases t with
  | zero => rfl
  | succ _ => rfl

theorem sniPick_cur_ne {ents : List (Nat × Bytes)} {cur n : Bytes} (hc : cur ≠ [])
    (h : sniPick cur ents = some n) : sniHosts ents = [] ∧ n = cur := by
  induction ents with
  | nil => exact ⟨rfl, (Option.some.inj h).symm⟩
  | cons e t ih =>
    obtain ⟨ty, nm⟩ := e
    rw [sniPick] at h
    by_cases h1 : ty ≠ 0
    · rw [if_pos h1] at h
      rw [sniHosts_cons, if_pos h1]
      exact ih h
    · rw [if_neg h1, if_pos (fun hl => hc (List.eq_nil_of_length_eq_zero hl))] at h
      cases h

/-- 46 is `.`: an accepted host name has no trailing dot -/
theorem sniPick_spec {ents : List (Nat × Bytes)} {n : Bytes} (hne : ∀ e ∈ ents, e.2 ≠ [])
    (h : sniPick [] ents = some n) :
    (sniHosts ents = [] ∧ n = []) ∨ (sniHosts ents = [n] ∧ n ≠ [] ∧ n.getLast? ≠ some 46) := by
  induction ents with
  | nil => exact .inl ⟨rfl, (Option.some.inj h).symm⟩
  | cons e t ih =>
    obtain ⟨ty, nm⟩ := e
    rw [sniPick] at h
    rw [sniHosts_cons]
    by_cases h1 : ty ≠ 0
    · rw [if_pos h1] at h
      rw [if_pos h1]
      exact ih (fun e he => hne e (List.mem_cons_of_mem _ he)) h
    · rw [if_neg h1, if_neg (fun hl => hl rfl)] at h
      obtain ⟨h3, h⟩ := guard_some h
      have hnm : nm ≠ [] := hne (ty, nm) (List.mem_cons_self ..)
      obtain ⟨e1, rfl⟩ := sniPick_cur_ne hnm h
      rw [if_neg h1, e1]
      exact .inr ⟨rfl, hnm, h3⟩

/-- pointwise relation between two lists (the matching extensions and their decoded payloads) -/
inductive ListRel {α β : Type} (R : α → β → Prop) : List α → List β → Prop
  | nil : ListRel R [] []
  | cons {a : α} {b : β} {as : List α} {bs : List β} : R a b → ListRel R as bs → ListRel R (a :: as) (b :: bs)

theorem ListRel.length_eq {α β : Type} {R : α → β → Prop} {as : List α} {bs : List β} (h : ListRel R as bs) :
    as.length = bs.length := by
  induction h with
  | nil => rfl
  | cons _ _ ih => exact congrArg (· + 1) ih

theorem ListRel.mono {α β : Type} {R S : α → β → Prop} (hRS : ∀ a b, R a b → S a b) {as : List α} {bs : List β}
    (h : ListRel R as bs) : ListRel S as bs := by
  induction h with
  | nil => exact ListRel.nil
  | cons hab _ ih => exact ListRel.cons (hRS _ _ hab) ih

theorem ListRel.unique {α β : Type} {R : α → β → Prop} (hR : ∀ a b b', R a b → R a b' → b = b')
    {as : List α} {bs bs' : List β} (h : ListRel R as bs) (h' : ListRel R as bs') : bs = bs' := by
  induction h generalizing bs' with
  | nil => cases h'; rfl
  | cons hab _ ih =>
    cases h' with
    | cons hab' ht' => rw [hR _ _ _ hab hab', ih ht']

def isId (k : Nat) (e : Nat × Bytes) : Bool := e.1 == k

theorem isId_true {k id : Nat} {d : Bytes} : isId k (id, d) = true ↔ id = k := by simp [isId]
theorem isId_false {k id : Nat} {d : Bytes} : isId k (id, d) = false ↔ id ≠ k := by simp [isId]

/-- payload of the LAST extension satisfying `p` (none if there is none) -/
def lastExt (p : Nat × Bytes → Bool) (es : List (Nat × Bytes)) : Option Bytes :=
  ((es.filter p).getLast?).map (·.2)

theorem lastExt_nil (p : Nat × Bytes → Bool) : lastExt p [] = none := rfl

theorem lastExt_cons (p : Nat × Bytes → Bool) (e : Nat × Bytes) (es : List (Nat × Bytes)) :
    lastExt p (e :: es) =
      if p e then (match lastExt p es with | some d => some d | none => some e.2) else lastExt p es := by
  unfold lastExt
  rw [List.filter_cons]
  cases p e with
  | false => rfl
  | true =>
    rw [if_pos rfl, if_pos rfl, List.getLast?_cons]
    cases (es.filter p).getLast? <;> rfl

theorem lastExt_isSome (p : Nat × Bytes → Bool) (es : List (Nat × Bytes)) : (lastExt p es).isSome = es.any p := by
  induction es with
  | nil => rfl
  | cons e t ih =>
    rw [lastExt_cons, List.any_cons, ← ih]
    cases p e <;> cases lastExt p t <;> rfl

/-- the shape of both extension loops: `run` goes through the list with `step` (`isLast` = no extension follows) and
    stops at the first extension that `step` rejects -/
structure ExtLoop {σ : Type} (step : σ → Nat → Bytes → Bool → Option σ) (run : σ → List (Nat × Bytes) → Option σ) :
    Prop where
  nil : ∀ m, run m [] = some m
  cons : ∀ m id d t, run m ((id, d) :: t) = match step m id d t.isEmpty with | none => none | some m' => run m' t

theorem chExts_loop : ExtLoop chExt chExts where
  nil _ := rfl
  cons m id d t := by
    rw [chExts]
    -- the `match` of the model and the one in `ExtLoop.cons` are different matchers: they agree case by case only
    cases chExt m id d t.isEmpty <;> rfl

theorem shExts_loop : ExtLoop (fun m id d _ => shExt m id d) shExts where
  nil _ := rfl
  cons m id d t := by
    rw [shExts]
    cases shExt m id d <;> rfl

section Fold
variable {σ : Type} {step : σ → Nat → Bytes → Bool → Option σ} {run : σ → List (Nat × Bytes) → Option σ}
  (L : ExtLoop step run)
include L

theorem ExtLoop.induct {motive : (es : List (Nat × Bytes)) → (m m' : σ) → run m es = some m' → Prop}
    (nil : ∀ m, motive [] m m (L.nil m))
    (cons : ∀ m id d t m1 m' (_ : step m id d t.isEmpty = some m1) (h : run m1 t = some m')
      (h' : run m ((id, d) :: t) = some m'), motive t m1 m' h → motive ((id, d) :: t) m m' h')
    (es : List (Nat × Bytes)) (m m' : σ) (h : run m es = some m') : motive es m m' h := by
  induction es generalizing m with
  | nil =>
    cases (L.nil m).symm.trans h
    exact nil _
  | cons e t ih =>
    obtain ⟨id, d⟩ := e
    have h' := h
    rw [L.cons] at h'
    cases hs : step m id d t.isEmpty with
    | none => rw [hs] at h'; cases h'
    | some m1 => rw [hs] at h'; exact cons m id d t m1 m' hs h' h (ih m1 h')

theorem fold_all {Q : Nat × Bytes → Prop} (hQ : ∀ {m id d l m'}, step m id d l = some m' → Q (id, d))
    {es : List (Nat × Bytes)} {m m' : σ} (h : run m es = some m') : ∀ e ∈ es, Q e := by
  induction es, m, m', h using L.induct with
  | nil => nofun
  | cons m id d t m1 m' hs _ _ ih =>
    intro e he
    rcases List.mem_cons.mp he with rfl | he
    · exact hQ hs
    · exact ih e he

/-- as `fold_app`, for a decoding that is only known as a relation `R` -/
theorem fold_acc {α : Type} (π : σ → List α) (p : Nat × Bytes → Bool) (R : Nat × Bytes → List α → Prop)
    (hit : ∀ {m id d l m'}, p (id, d) = true → step m id d l = some m' → ∃ x, R (id, d) x ∧ π m' = π m ++ x)
    (miss : ∀ {m id d l m'}, p (id, d) = false → step m id d l = some m' → π m' = π m)
    {es : List (Nat × Bytes)} {m m' : σ} (h : run m es = some m') :
    ∃ xs, ListRel R (es.filter p) xs ∧ π m' = π m ++ xs.flatten := by
  induction es, m, m', h using L.induct with
  | nil => exact ⟨[], .nil, by simp⟩
  | cons m id d t m1 m' hs _ _ ih =>
    obtain ⟨xs, hrel, heq⟩ := ih
    cases hp : p (id, d) with
    | true =>
      obtain ⟨x, hx, hπ⟩ := hit hp hs
      exact ⟨x :: xs, by rw [List.filter_cons, hp]; exact .cons hx hrel, by rw [heq, hπ, List.flatten_cons, List.append_assoc]⟩
    | false => exact ⟨xs, by rw [List.filter_cons, hp]; exact hrel, by rw [heq, miss hp hs]⟩

theorem fold_app {α : Type} (π : σ → List α) (p : Nat × Bytes → Bool) (g : Nat × Bytes → List α)
    (hstep : ∀ {m id d l m'}, step m id d l = some m' → π m' = if p (id, d) then π m ++ g (id, d) else π m)
    {es : List (Nat × Bytes)} {m m' : σ} (h : run m es = some m') :
    π m' = π m ++ ((es.filter p).map g).flatten := by
  induction es, m, m', h using L.induct with
  | nil => simp
  | cons m id d t m1 m' hs _ _ ih =>
    rw [ih, hstep hs, List.filter_cons]
    cases p (id, d) <;> simp

theorem fold_last {β : Type} (π : σ → β) (p : Nat × Bytes → Bool) (g : Bytes → β)
    (hstep : ∀ {m id d l m'}, step m id d l = some m' → π m' = if p (id, d) then g d else π m)
    {es : List (Nat × Bytes)} {m m' : σ} (h : run m es = some m') :
    π m' = (match lastExt p es with | some d => g d | none => π m) := by
  induction es, m, m', h using L.induct with
  | nil => rfl
  | cons m id d t m1 m' hs _ _ ih =>
    rw [ih, hstep hs, lastExt_cons]
    cases p (id, d) <;> cases lastExt p t <;> rfl

theorem fold_flag (π : σ → Bool) (p : Nat × Bytes → Bool)
    (hstep : ∀ {m id d l m'}, step m id d l = some m' → π m' = if p (id, d) then true else π m)
    {es : List (Nat × Bytes)} {m m' : σ} (h : run m es = some m') : π m' = (π m || es.any p) := by
  induction es, m, m', h using L.induct with
  | nil => simp
  | cons m id d t m1 m' hs _ _ ih =>
    rw [ih, hstep hs, List.any_cons]
    cases p (id, d) <;> simp

end Fold

theorem any_isId_false_of_lastExt_none {k : Nat} {es : List (Nat × Bytes)} (h : lastExt (isId k) es = none) :
    es.any (isId k) = false := by
  rw [← lastExt_isSome, h]
  rfl

/-- the left side is renegotiation_info as `MakeLog` computes it: "supported", and the last payload non-empty -/
theorem reneg_last (r : Bool) (p : Nat × Bytes → Bool) (es : List (Nat × Bytes)) :
    ((r || es.any p) && decide (0 < (match lastExt p es with | some d => d.drop 1 | none => []).length)) =
      (match lastExt p es with | some d => decide (1 < d.length) | none => false) := by
  rw [← lastExt_isSome]
  cases lastExt p es with
  | none => exact Bool.and_false _
  | some d =>
    rw [Option.isSome_some, Bool.or_true, Bool.true_and]
    exact decide_eq_decide.mpr (by rw [List.length_drop]; exact Nat.sub_pos_iff_lt)

theorem flatten_map_singleton {α β : Type} (g : α → β) (l : List α) : (l.map (fun a => [g a])).flatten = l.map g := by
  induction l with
  | nil => rfl
  | cons a t ih => simp only [List.map_cons, List.flatten_cons, ih]; rfl

/-- `d` = len(1) ‖ v -/
def Vec8Ext (d : Bytes) : Prop := ∃ a v, d = a :: v ∧ a.toNat = v.length

end ZV.C28
