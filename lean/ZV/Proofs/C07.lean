import ZV.Model.C07
/-!
  Soundness of the chain builder.  `ValidChain` says what a returned chain must look like; `Prefix`
  is the same for the `currentChain` argument of a `buildChains` call in progress.  The memoised
  builder is sound because "every chain in the result AND every chain stored in `cache` is a
  `ValidChain`" is an invariant of the recursion (`RecSound`).  The roots loop has a closed form
  (`rootLoop_eq`); the intermediates loop, which threads the cache, has the induction principle
  `interLoop_inv`.
-/
namespace ZV.C07

/-- path-length clause of `isValid` for a certificate placed on top of `below` certificates
    (`below - 1` of them intermediates), plus the global length bound. -/
def PathOK (x : Cert) (below : Nat) : Prop :=
  ¬ (x.bcValid = true ∧ x.maxPathLen ≥ 0 ∧ (below : Int) - 1 > x.maxPathLen) ∧ below ≤ maxIntermediateCount

/-- A valid PREFIX of a chain: the verified certificate followed by intermediates, each one
    * a member of the intermediates pool and not (by fingerprint) a root,
    * linked to its predecessor: issuer name = subject name, signature verifies, the parent
      passes the CA / key-usage gates of `CheckSignatureFrom`,
    * a CA certificate (`BasicConstraintsValid ∧ IsCA`) within its path-length limit at this depth,
    * not repeating the subject+key of any earlier certificate of the prefix. -/
inductive Prefix (env : Env) (leaf : Cert) : Chain → Cert → Prop
  | leaf : Prefix env leaf [leaf] leaf
  | step {cur : Chain} {c x : Cert} :
      Prefix env leaf cur c →
      x ∈ env.inters → containsFp env.roots x = false →
      checkSignatureFrom env c x = true →
      x.bcValid = true → x.isCA = true → PathOK x cur.length →
      subjectAndKeyInChain cur x = false →
      Prefix env leaf (cur ++ [x]) x

/-- `ValidChain`: either the verified certificate alone when it is itself (by fingerprint) one of
    the roots, or a valid prefix closed by a member of the roots pool that is linked to the last
    prefix element (issuer name, signature, CA gates), respects its own path-length limit and does
    not repeat (by raw bytes) a certificate of the prefix. -/
inductive ValidChain (env : Env) (leaf : Cert) : Chain → Prop
  | trusted : containsFp env.roots leaf = true → ValidChain env leaf [leaf]
  | close {cur : Chain} {c root : Cert} :
      Prefix env leaf cur c →
      root ∈ env.roots →
      checkSignatureFrom env c root = true →
      PathOK root cur.length →
      certificateInChain cur root = false →
      ValidChain env leaf (cur ++ [root])

theorem enumFrom_eq_zipIdx (l : List Cert) (n : Nat) : enumFrom n l = (l.zipIdx n).map (fun p => (p.2, p.1)) := by
  induction l generalizing n with
  | nil => rfl
  | cons a l ih => rw [enumFrom, ih, List.zipIdx_cons, List.map_cons]

theorem mem_enumFrom_zero (l : List Cert) (i : Nat) (x : Cert) : (i, x) ∈ enumFrom 0 l ↔ l[i]? = some x := by
  rw [enumFrom_eq_zipIdx, ← List.mk_mem_zipIdx_iff_getElem?, List.mem_map]
  constructor
  · rintro ⟨_, hp, ⟨⟩⟩
    exact hp
  · exact fun h => ⟨(x, i), h, rfl⟩

theorem fvp_mem_iff (env : Env) (pool : List Cert) (c : Cert) (i : Nat) (x : Cert) :
    (i, x) ∈ findVerifiedParents env pool c ↔
      pool[i]? = some x ∧ checkSignatureFrom env c x = true ∧
      (if c.akid ≠ 0 ∧ ∃ y ∈ pool, y.skid = c.akid then x.skid = c.akid else x.subject = c.issuer) := by
  unfold findVerifiedParents
  have hk : ((enumFrom 0 pool).filter (fun p => decide (p.2.skid = c.akid))).length = 0 ↔
      ¬ ∃ y ∈ pool, y.skid = c.akid := by
    rw [List.length_eq_zero_iff, List.filter_eq_nil_iff]
    constructor
    · rintro h ⟨y, hy, hys⟩
      obtain ⟨j, hj⟩ := List.getElem?_of_mem hy
      exact h (j, y) ((mem_enumFrom_zero pool j y).mpr hj) (decide_eq_true hys)
    · rintro h ⟨j, y⟩ hm hs
      exact h ⟨y, List.mem_of_getElem? ((mem_enumFrom_zero pool j y).mp hm), of_decide_eq_true hs⟩
  by_cases hak : c.akid ≠ 0
  · by_cases hex : ∃ y ∈ pool, y.skid = c.akid
    · simp only [hak, hk, hex, ne_eq, not_false_eq_true, not_true_eq_false, if_true, if_false, and_self,
        List.mem_filter, mem_enumFrom_zero, decide_eq_true_eq]
      exact and_right_comm.trans and_assoc
    · simp only [hak, hk, hex, ne_eq, not_false_eq_true, if_true, if_false, and_false, List.mem_filter,
        mem_enumFrom_zero, decide_eq_true_eq]
      exact and_right_comm.trans and_assoc
  · simp only [hak, if_false, List.length_nil, if_true, false_and, List.mem_filter, mem_enumFrom_zero,
      decide_eq_true_eq]
    exact and_right_comm.trans and_assoc

theorem fvp_mem (env : Env) (pool : List Cert) (c : Cert) (i : Nat) (x : Cert)
    (h : (i, x) ∈ findVerifiedParents env pool c) : x ∈ pool ∧ checkSignatureFrom env c x = true :=
  have h' := (fvp_mem_iff env pool c i x).mp h
  ⟨List.mem_of_getElem? h'.1, h'.2.1⟩

theorem prefix_ne_nil {env leaf cur c} (h : Prefix env leaf cur c) : cur ≠ [] := by
  cases h <;> simp

theorem validChain_ne_nil {env leaf ch} (h : ValidChain env leaf ch) : ch ≠ [] := by
  cases h <;> simp

instance (x : Cert) (n : Nat) : Decidable (PathOK x n) := inferInstanceAs (Decidable (_ ∧ _))

theorem isValid_eq (x : Cert) (t : CertType) (cur : Chain) :
    isValid x t cur =
      if t = .intermediate ∧ ¬ (x.bcValid = true ∧ x.isCA = true) then some .notAuthorizedToSign
      else if PathOK x cur.length then none else some .tooManyIntermediates := by
  have e1 : (!x.bcValid || !x.isCA) = true ↔ ¬ (x.bcValid = true ∧ x.isCA = true) := by
    cases x.bcValid <;> cases x.isCA <;> decide
  unfold isValid
  simp only [e1]
  by_cases h1 : t = .intermediate ∧ ¬ (x.bcValid = true ∧ x.isCA = true)
  · rw [if_pos h1, if_pos h1]
  · rw [if_neg h1, if_neg h1]
    by_cases h2 : x.bcValid = true ∧ x.maxPathLen ≥ 0 ∧ (cur.length : Int) - 1 > x.maxPathLen
    · rw [if_pos h2, if_neg (fun h : PathOK x cur.length => h.1 h2)]
    · rw [if_neg h2]
      by_cases h3 : cur.length > maxIntermediateCount
      · rw [if_pos h3, if_neg (fun h : PathOK x cur.length => Nat.not_le_of_gt h3 h.2)]
      · rw [if_neg h3, if_pos (show PathOK x cur.length from ⟨h2, Nat.le_of_not_gt h3⟩)]

theorem isValid_none_iff (x : Cert) (t : CertType) (cur : Chain) :
    isValid x t cur = none ↔ (t = .intermediate → x.bcValid = true ∧ x.isCA = true) ∧ PathOK x cur.length := by
  rw [isValid_eq]
  by_cases h1 : t = .intermediate ∧ ¬ (x.bcValid = true ∧ x.isCA = true)
  · rw [if_pos h1]
    exact iff_of_false nofun (fun h => h1.2 (h.1 h1.1))
  · rw [if_neg h1]
    by_cases h2 : PathOK x cur.length
    · rw [if_pos h2]
      exact iff_of_true rfl ⟨fun ht => Decidable.not_not.mp fun hn => h1 ⟨ht, hn⟩, h2⟩
    · rw [if_neg h2]
      exact iff_of_false nofun (fun h => h2 h.2)

theorem isValid_none_pathOK (x : Cert) (t : CertType) (cur : Chain) (h : isValid x t cur = none) :
    PathOK x cur.length :=
  ((isValid_none_iff x t cur).mp h).2

theorem isValid_none_ca (x : Cert) (cur : Chain) (h : isValid x .intermediate cur = none) :
    x.bcValid = true ∧ x.isCA = true :=
  ((isValid_none_iff x .intermediate cur).mp h).1 rfl

theorem pathOK_nil (x : Cert) : PathOK x ([] : Chain).length := by
  refine ⟨fun h => ?_, Nat.zero_le _⟩
  have h1 := h.2.1
  have h2 := h.2.2
  rw [List.length_nil] at h2
  omega

def AllValid (env : Env) (leaf : Cert) (l : List Chain) : Prop := ∀ ch ∈ l, ValidChain env leaf ch

def CacheValid (env : Env) (leaf : Cert) (m : Cache) : Prop := ∀ k chs, m k = some chs → AllValid env leaf chs

theorem allValid_append {env leaf a b} (ha : AllValid env leaf a) (hb : AllValid env leaf b) :
    AllValid env leaf (a ++ b) :=
  List.forall_mem_append.mpr ⟨ha, hb⟩

/-- the error is the verdict of `isValid` on the LAST parent: each iteration overwrites it -/
theorem rootLoop_eq (cur : Chain) (ps : List (Nat × Cert)) (st : List Chain × Option Err) :
    rootLoop cur ps st =
      (st.1 ++ (ps.filter (fun p => isValid p.2 .root cur = none ∧ certificateInChain cur p.2 = false)).map
          (fun p => cur ++ [p.2]),
        (ps.getLast?.map (fun p => isValid p.2 .root cur)).getD st.2) := by
  induction ps generalizing st with
  | nil => exact Prod.ext (List.append_nil _).symm rfl
  | cons p ps ih =>
    obtain ⟨n, root⟩ := p
    obtain ⟨chains, e⟩ := st
    have hl : ((((n, root) :: ps).getLast?.map (fun p => isValid p.2 .root cur)).getD e) =
        (ps.getLast?.map (fun p => isValid p.2 .root cur)).getD (isValid root .root cur) := by
      rw [List.getLast?_cons]
      cases ps.getLast? <;> rfl
    rw [rootLoop, hl, List.filter_cons]
    dsimp only
    cases hv : isValid root .root cur with
    | some e' =>
      dsimp only
      rw [if_neg (by simp)]
      exact ih _
    | none =>
      cases hin : certificateInChain cur root with
      | true =>
        dsimp only
        rw [if_neg (by simp), if_neg (by simp)]
        exact ih _
      | false =>
        dsimp only
        rw [if_pos (by simp), if_pos (by simp), ih]
        simp

theorem rootLoop_sound (env : Env) (leaf c : Cert) (cur : Chain) (hp : Prefix env leaf cur c)
    (ps : List (Nat × Cert)) (hps : ∀ p ∈ ps, p.2 ∈ env.roots ∧ checkSignatureFrom env c p.2 = true)
    (st : List Chain × Option Err) (hst : AllValid env leaf st.1) :
    AllValid env leaf (rootLoop cur ps st).1 := by
  rw [rootLoop_eq]
  refine allValid_append hst fun ch hch => ?_
  obtain ⟨p, hm, rfl⟩ := List.mem_map.mp hch
  obtain ⟨hm, hok⟩ := List.mem_filter.mp hm
  obtain ⟨hv, hin⟩ := of_decide_eq_true hok
  exact ValidChain.close hp (hps p hm).1 (hps p hm).2 (isValid_none_pathOK _ _ _ hv) hin

/-- what the recursive call must guarantee -/
def RecSound (env : Env) (leaf : Cert) (rec : Cache → Cert → Chain → List Chain × Option Err × Cache) : Prop :=
  ∀ cache x cur, CacheValid env leaf cache → Prefix env leaf cur x →
    AllValid env leaf (rec cache x cur).1 ∧ CacheValid env leaf (rec cache x cur).2.2

theorem cacheValid_set {env leaf m} (hm : CacheValid env leaf m) (k : Nat) (v : List Chain)
    (hv : AllValid env leaf v) : CacheValid env leaf (setCache m k v) := by
  intro k' chs h
  unfold setCache at h
  split at h
  · cases h; exact hv
  · exact hm k' chs h

/-- `hrec` hands over everything the loop has tested before it makes the recursive call -/
theorem interLoop_inv (rec : Cache → Cert → Chain → List Chain × Option Err × Cache) (env : Env) (cur : Chain)
    (P : BState → Prop) (ps : List (Nat × Cert))
    (herr : ∀ st inter e, P st → isValid inter .intermediate cur = some e → P { st with err := some e })
    (hhit : ∀ st num cc, P st → st.cache num = some cc → P { st with chains := st.chains ++ cc, err := none })
    (hrec : ∀ st num inter, (num, inter) ∈ ps → P st → containsFp env.roots inter = false →
      subjectAndKeyInChain cur inter = false → isValid inter .intermediate cur = none → st.cache num = none →
      ∀ r, r = rec st.cache inter (cur ++ [inter]) →
        P { chains := st.chains ++ r.1, err := r.2.1, cache := setCache r.2.2 num r.1 })
    (st : BState) (h : P st) : P (interLoop rec env cur ps st) := by
  induction ps generalizing st with
  | nil => exact h
  | cons p ps ih =>
    obtain ⟨num, inter⟩ := p
    have ih' := ih (fun st n x hm => hrec st n x (List.mem_cons_of_mem _ hm))
    unfold interLoop
    cases hr : containsFp env.roots inter with
    | true => exact ih' st h
    | false =>
      cases hsk : subjectAndKeyInChain cur inter with
      | true => exact ih' st h
      | false =>
        cases hv : isValid inter .intermediate cur with
        | some e => exact ih' _ (herr st inter e h hv)
        | none =>
          cases hc : st.cache num with
          | some cc => exact ih' _ (hhit st num cc h hc)
          | none => exact ih' _ (hrec st num inter List.mem_cons_self h hr hsk hv hc _ rfl)

theorem interLoop_sound (env : Env) (leaf c : Cert) (cur : Chain) (hp : Prefix env leaf cur c)
    (rec : Cache → Cert → Chain → List Chain × Option Err × Cache) (hrec : RecSound env leaf rec)
    (ps : List (Nat × Cert)) (hps : ∀ p ∈ ps, p.2 ∈ env.inters ∧ checkSignatureFrom env c p.2 = true)
    (st : BState) (hch : AllValid env leaf st.chains) (hca : CacheValid env leaf st.cache) :
    AllValid env leaf (interLoop rec env cur ps st).chains ∧ CacheValid env leaf (interLoop rec env cur ps st).cache := by
  refine interLoop_inv rec env cur (fun st => AllValid env leaf st.chains ∧ CacheValid env leaf st.cache) ps
    (fun st _ _ h _ => h) (fun st num cc h hc => ⟨allValid_append h.1 (h.2 num cc hc), h.2⟩) ?_ st ⟨hch, hca⟩
  rintro st num inter hm h hr hsk hv _ _ rfl
  have hi := hps (num, inter) hm
  have hca' := isValid_none_ca _ _ hv
  have := hrec st.cache inter (cur ++ [inter]) h.2
    (Prefix.step hp hi.1 hr hi.2 hca'.1 hca'.2 (isValid_none_pathOK _ _ _ hv) hsk)
  exact ⟨allValid_append h.1 this.1, cacheValid_set this.2 num _ this.1⟩

theorem buildChains_sound (env : Env) (leaf : Cert) (fuel : Nat) : RecSound env leaf (buildChains fuel env) := by
  induction fuel with
  | zero =>
    intro cache x cur hc _
    simp only [buildChains]
    exact ⟨fun ch h => (by cases h), hc⟩
  | succ fuel ih =>
    intro cache x cur hc hp
    simp only [buildChains]
    have h0 : AllValid env leaf (if cur.length = 1 ∧ containsFp env.roots x = true then [[x]] else []) := by
      split
      · rename_i h
        intro ch hch
        obtain rfl := List.mem_singleton.mp hch
        cases hp with
        | leaf => exact ValidChain.trusted h.2
        | step hp' _ _ _ _ _ _ _ =>
          have hl := h.1
          rw [List.length_append] at hl
          exact absurd (List.length_eq_zero_iff.mp (Nat.succ.inj hl)) (prefix_ne_nil hp')
      · intro ch h; cases h
    refine interLoop_sound env leaf x cur hp (buildChains fuel env) ih (findVerifiedParents env env.inters x)
      (fun p h => fvp_mem env env.inters x p.1 p.2 h) _ ?_ hc
    exact rootLoop_sound env leaf x cur hp (findVerifiedParents env env.roots x)
      (fun p h => fvp_mem env env.roots x p.1 p.2 h) (_, _) h0

/-- the latest NotBefore of a chain, by recursion.  Not used: the property is stated through
    `lowerBound` / `upperBound` themselves (`lowerBound_spec`, `upperBound_spec` in Props/C07). -/
def maxNotBefore : Chain → Int
  | [] => 0
  | [c] => c.notBefore
  | c :: cs => if maxNotBefore cs > c.notBefore then maxNotBefore cs else c.notBefore

theorem lowerBound_eq (leaf : Cert) (rest : Chain) :
    ((leaf :: rest).map Cert.notBefore).max? = some (lowerBound leaf rest) := by
  have e : ∀ a b : Int, (if a > b then a else b) = max a b := fun a b => by
    rw [Int.max_def]
    by_cases h : a ≤ b
    · rw [if_pos h, if_neg (Int.not_lt.mpr h)]
    · rw [if_neg h, if_pos (Int.not_le.mp h)]
  simp only [List.map_cons, List.max?_cons', List.foldl_map, lowerBound, e]

theorem upperBound_eq (leaf : Cert) (rest : Chain) :
    ((leaf :: rest).map Cert.notAfter).min? = some (upperBound leaf rest) := by
  have e : ∀ a b : Int, (if a < b then a else b) = min a b := fun a b => by
    rw [Int.min_comm, Int.min_def]
    by_cases h : b ≤ a
    · rw [if_pos h, if_neg (Int.not_lt.mpr h)]
    · rw [if_neg h, if_pos (Int.not_le.mp h)]
  simp only [List.map_cons, List.min?_cons', List.foldl_map, upperBound, e]

/-- the `valid && !wasValid` branch of `FilterByDate` (a panic in the model) is never taken -/
theorem filterByDate_cons (now : Int) (leaf : Cert) (rest : Chain) (chains : List Chain) (acc : Dated) :
    filterByDate now ((leaf :: rest) :: chains) acc = filterByDate now chains
      (if lowerBound leaf rest < now ∧ now < upperBound leaf rest then { acc with current := acc.current ++ [leaf :: rest] }
       else if lowerBound leaf rest < upperBound leaf rest then { acc with expired := acc.expired ++ [leaf :: rest] }
       else { acc with never := acc.never ++ [leaf :: rest] }) := by
  simp only [filterByDate]
  by_cases h1 : lowerBound leaf rest < now ∧ now < upperBound leaf rest
  · simp only [h1, Int.lt_trans h1.1 h1.2, and_self, decide_true, Bool.and_self, Bool.not_true, Bool.and_false, Bool.false_eq_true, if_false,
      if_true]
  · have hv : (decide (lowerBound leaf rest < now) && decide (now < upperBound leaf rest)) = false := by
      rw [← Bool.decide_and]
      exact decide_eq_false h1
    simp only [hv, h1, Bool.false_and, Bool.false_eq_true, if_false, decide_eq_true_eq]
    exact (apply_ite _ _ _ _).symm

theorem candidateChains_of_root {env : Env} {c : Cert} (h : containsFp env.roots c = true) :
    candidateChains env c = ([[c]], none) := if_pos h

theorem candidateChains_of_not_root {env : Env} {c : Cert} (h : containsFp env.roots c ≠ true) :
    (candidateChains env c).1 = (buildChains fuel0 env (fun _ => none) c [c]).1 ∧
    (candidateChains env c).2 = (buildChains fuel0 env (fun _ => none) c [c]).2.1 := by
  simp only [candidateChains, if_neg h, and_self]

theorem filterUsage_nil (kus : List Int) : filterUsage [] kus = [] := by
  unfold filterUsage
  split <;> rfl

theorem getElem?_append_single {α : Type} {l : List α} {x y : α} {i : Nat} (h : (l ++ [x])[i]? = some y) :
    l[i]? = some y ∨ (i = l.length ∧ y = x) := by
  induction l generalizing i with
  | nil =>
    cases i with
    | zero => exact Or.inr ⟨rfl, (Option.some.inj h).symm⟩
    | succ i => cases h
  | cons a l ih =>
    cases i with
    | zero => exact Or.inl h
    | succ i => exact (ih h).imp_right (And.imp_left (congrArg Nat.succ))

end ZV.C07
