import ZV.Proofs.Der0
/-! INTEGER: minimal two's complement. `check bs → encode (value bs) = bs` for the `big.Int` writer (`bigIntBytes_canon`);
  `Der0Enc` carries it over to the fixed-width writers. -/
open ZV ZV.Der0
namespace ZV.Der0

theorem checkInteger_ne_nil {bs : Bytes} (h : checkInteger bs = true) : bs ≠ [] := by
  intro h0; subst h0; simp [checkInteger] at h

theorem twos_single (b : UInt8) :
    twos [b] = if b.toNat ≥ 128 then (b.toNat : Int) - 256 else b.toNat := by
  simp [twos, natOfBytes, natOfBytesAux]

theorem twos_snoc {init : Bytes} (b : UInt8) (hne : init ≠ []) :
    twos (init ++ [b]) = twos init * 256 + b.toNat := by
  match init, hne with
  | a :: t, _ =>
    simp only [twos, List.cons_append]
    have e : (a :: (t ++ [b])) = (a :: t) ++ [b] := rfl
    rw [e, natOfBytes_snoc]
    simp only [List.length_append, List.length_cons, List.length_nil, Nat.pow_succ]
    split
    · rw [Int.natCast_mul, Int.natCast_add, Int.natCast_mul, Int.sub_mul]
      omega
    · rw [Int.natCast_add, Int.natCast_mul]
      rfl

theorem checkInteger_cons2 {a c : UInt8} {t : Bytes} :
    checkInteger (a :: c :: t) = true ↔ (a.toNat = 0 → 128 ≤ c.toNat) ∧ (a.toNat = 255 → c.toNat < 128) := by
  simp only [checkInteger, Bool.or_eq_true, Bool.and_eq_true, decide_eq_true_eq, beq_iff_eq, uint8_eq_zero_iff,
    uint8_eq_ff_iff, ite_eq_right_iff, Bool.false_eq_true, imp_false]
  omega

theorem intLen_small {v : Int} (h1 : -128 ≤ v) (h2 : v ≤ 127) : intLen v = 1 := by
  rw [intLen]; simp; omega

theorem intLen_big {v : Int} (h : v > 127 ∨ v < -128) : intLen v = intLen (v / 256) + 1 := by
  rw [intLen]; simp [h]

theorem intBytes_snoc (v : Int) (n : Nat) :
    intBytes v (n + 1) = intBytes (v / 256) n ++ [byteOfInt v] := by
  induction n with
  | zero => simp [intBytes]
  | succ n ih =>
    rw [intBytes, ih]
    simp only [intBytes, List.cons_append]
    congr 2
    rw [Int.ediv_ediv_of_nonneg (by decide)]
    congr 1
    rw [Nat.pow_succ, Int.natCast_mul, Int.mul_comm]
    rfl

theorem notB_toNat (b : UInt8) : (notB b).toNat = 255 - b.toNat := by
  unfold notB; have := b.toNat_lt; rw [toNat_ofNat_lt (by omega)]

theorem notB_notB (b : UInt8) : notB (notB b) = b := by
  apply UInt8.toNat_inj.mp; rw [notB_toNat, notB_toNat]; have := b.toNat_lt; omega

theorem map_notB_notB (bs : Bytes) : (bs.map notB).map notB = bs := by
  induction bs with
  | nil => rfl
  | cons a t ih => simp [notB_notB, ih]

theorem natOfBytes_map_notB (bs : Bytes) :
    natOfBytes (bs.map notB) + natOfBytes bs + 1 = 256 ^ bs.length := by
  rw [natOfBytes_eq, natOfBytes_eq]
  exact be256_map_compl notB_toNat bs

theorem bigOfBytes_eq_twos (bs : Bytes) : bigOfBytes bs = twos bs := by
  cases bs with
  | nil => rfl
  | cons a t =>
    simp only [bigOfBytes, twos]
    split
    · have := natOfBytes_map_notB (a :: t)
      omega
    · rfl

theorem natOfBytes_eq_zero_head {a : UInt8} {t : Bytes} (h : natOfBytes (a :: t) = 0) : a = 0 := by
  apply Decidable.byContradiction
  intro hne
  have := natOfBytes_pos (bs := t) hne
  omega

theorem natToBytes_natOfBytes_cons {a : UInt8} {r : Bytes} (h : a = 0 → headNZ r) :
    natToBytes (natOfBytes (a :: r)) = if a = 0 then r else a :: r := by
  by_cases ha : a = 0
  · subst ha
    rw [natOfBytes_zero_cons, natToBytes_natOfBytes r (h rfl), if_pos rfl]
  · rw [natToBytes_natOfBytes (a :: r) ha, if_neg ha]

theorem bigIntBytes_canon {bs : Bytes} (h : checkInteger bs = true) : bigIntBytes (twos bs) = bs := by
  match bs, h with
  | a :: r, h =>
    -- in either sign the magnitude octets are `a :: r` (complemented when negative); `big.Int.Bytes` drops a leading zero of
    -- them, only one since by `hpad` the octet after a pad has the opposite sign bit, and the writer's sign test puts that pad back
    have ha := a.toNat_lt
    have hpad : ∀ c t, r = c :: t → (a.toNat = 0 → 128 ≤ c.toNat) ∧ (a.toNat = 255 → c.toNat < 128) :=
      fun c t e => checkInteger_cons2.1 (e ▸ h)
    unfold bigIntBytes
    by_cases hneg : a.toNat ≥ 128
    · have hv : twos (a :: r) = -((natOfBytes ((a :: r).map notB) : Int) + 1) :=
        (bigOfBytes_eq_twos _).symm.trans (if_pos hneg)
      have hff : notB a = 0 ↔ a.toNat = 255 := by rw [uint8_eq_zero_iff, notB_toNat]; omega
      rw [hv, if_pos (by omega), Int.neg_neg, Int.add_sub_cancel, Int.toNat_natCast, List.map_cons]
      have hnz : notB a = 0 → headNZ (r.map notB) := by
        intro h0
        cases r with
        | nil => trivial
        | cons c t =>
          intro hc
          have := (hpad c t rfl).2 (hff.1 h0)
          rw [uint8_eq_zero_iff, notB_toNat] at hc
          omega
      rw [natToBytes_natOfBytes_cons hnz]
      by_cases h0 : notB a = 0
      · rw [if_pos h0, map_notB_notB, (uint8_eq_ff_iff a).2 (hff.1 h0)]
        cases r with
        | nil => rfl
        | cons c t => exact if_pos ((hpad c t rfl).2 (hff.1 h0))
      · rw [if_neg h0, List.map_cons, notB_notB, map_notB_notB]
        exact if_neg (Nat.not_lt.2 hneg)
    · have hv : twos (a :: r) = (natOfBytes (a :: r) : Int) := if_neg hneg
      rw [hv, if_neg (by omega), Int.toNat_natCast]
      have hnz : a = 0 → headNZ r := by
        intro h0
        cases r with
        | nil => trivial
        | cons c t =>
          intro hc
          have := (hpad c t rfl).1 ((uint8_eq_zero_iff a).1 h0)
          rw [hc] at this
          simp at this
      rw [natToBytes_natOfBytes_cons hnz]
      by_cases h0 : a = 0
      · subst h0
        rw [natOfBytes_zero_cons, if_pos rfl]
        cases r with
        | nil => rfl
        | cons c t =>
          have hc := (hpad c t rfl).1 rfl
          have := natOfBytes_pos (bs := t) (hnz rfl)
          rw [if_neg (by omega)]
          exact if_pos hc
      · have := natOfBytes_pos (bs := r) h0
        rw [if_neg (by omega), if_neg h0]
        exact if_neg hneg

theorem uintLen_eq_intLen' (n : Nat) : CB.uintLen n = intLen (n : Int) := by
  fun_induction CB.uintLen n with
  | case1 n h ih =>
    rw [intLen_big (by omega), ih]
    rfl
  | case2 n h => rw [intLen_small (by omega) (by omega)]

end ZV.Der0
