import ZV.Proofs.C06
/-! C06: the structural parser run on the canonical encoder (`parseTbsPre` / `parseTbs` / `parseCert` on
    `encTbsPre` / `encTbsBody` / `encCert`), field by field. -/
namespace ZV.C06
open ZV ZV.Der

def startsWithout (k : Nat) (bs : Bytes) : Prop :=
  bs = [] ∨ ∃ h after, readHdr bs = .ok (h, after) ∧ (h.cls == 2 && h.tag == k) = false

theorem field_ctx_absent {k : Nat} {c : Bool} {bs : Bytes} (h : startsWithout k bs) :
    field (.ctx k c) true bs = .ok (none, bs) := by
  rcases h with rfl | ⟨hd, after, hh, hk⟩
  · rfl
  · exact field_absent hh (by simp only [Want.ok]; rw [hk]; rfl)

theorem explicitField_absent {k : Nat} {w : Want} {bs : Bytes} (h : startsWithout k bs) :
    explicitField k w bs = .ok (none, bs) := by
  rcases h with h | ⟨hd, after, hh, hk⟩
  · subst h; rfl
  · unfold explicitField
    rw [readHdr_ne_nil hh, hh]
    simp only [Bool.false_eq_true, if_false, hk, Bool.false_and]

theorem optBitString_absent {k : Nat} {bs : Bytes} (h : startsWithout k bs) : optBitString k bs = .ok bs := by
  unfold optBitString
  rw [field_ctx_absent h]
  rfl

theorem optBitString_present {k : Nat} {u : Bytes} (t : Bytes) (h : wfUID k (some u) = true) :
    optBitString k (u ++ t) = .ok t := by
  simp only [wfUID, Bool.and_eq_true] at h
  obtain ⟨v, hv⟩ := Res.isOk_iff.1 h.2
  unfold optBitString
  rw [field_isElem true t h.1]
  simp only [Res.bind, hv]

theorem startsWithout_isElem {k : Nat} {w : Want} {bs : Bytes} (t : Bytes) (h : isElem w bs = true)
    (hw : ∀ hd, w.ok hd = true → (hd.cls == 2 && hd.tag == k) = false) : startsWithout k (bs ++ t) := by
  obtain ⟨after, hh⟩ := isElem_hdr h t
  exact Or.inr ⟨_, after, hh, hw _ (isElem_spec h).2⟩

theorem univ_not_ctx (k tg : Nat) (c : Bool) (hd : Hdr) (h : (Want.univ tg c).ok hd = true) :
    (hd.cls == 2 && hd.tag == k) = false := by
  simp only [Want.ok, Bool.and_eq_true, beq_iff_eq] at h
  simp [h.1.1]

theorem ctx_not_ctx (k j : Nat) (c : Bool) (hjk : j ≠ k) (hd : Hdr) (h : (Want.ctx j c).ok hd = true) :
    (hd.cls == 2 && hd.tag == k) = false := by
  simp only [Want.ok, Bool.and_eq_true, beq_iff_eq] at h
  simp [h.1.2, hjk]

theorem startsWithout_writeTLV (k : Nat) (t : UInt8) (body rest : Bytes) (ht : t.toNat % 32 ≠ 31)
    (hl : body.length < 2147483648) (hk : t.toNat % 32 ≠ k) : startsWithout k (writeTLV t body ++ rest) := by
  refine Or.inr ⟨_, _, readHdr_writeTLV t body rest ht hl, ?_⟩
  simp [hdrOf, hk]

theorem explicitField_wrap {k : Nat} {w : Want} (t : UInt8) {inner : Bytes} (rest : Bytes)
    (ht31 : t.toNat % 32 ≠ 31) (hcls : t.toNat / 64 = 2) (hcmp : t.toNat / 32 % 2 = 1) (htag : t.toNat % 32 = k)
    (hi : isElem w inner = true) (hl : inner.length < 2147483648) :
    explicitField k w (writeTLV t inner ++ rest) = .ok (some (elemAt inner, writeTLV t inner), rest) := by
  have hne : (writeTLV t inner ++ rest).isEmpty = false := by simp [writeTLV]
  have hlen := readElem_rest_lt _ _ _ (isElem_spec hi).1
  have hl0 : (inner.length == 0) = false := by
    rw [beq_eq_false_iff_ne]; omega
  obtain ⟨after, hh⟩ := isElem_hdr hi rest
  unfold explicitField
  rw [hne, readHdr_writeTLV t inner rest ht31 hl]
  simp only [Bool.false_eq_true, if_false, hdrOf, hcls, hcmp, htag, beq_self_eq_true, Bool.true_and,
    decide_true, Bool.or_true, if_true, hl0, isElem_ne_nil hi rest, hh, (isElem_spec hi).2, Bool.not_true,
    readElem_isElem hi rest, take_sub_suffix]

theorem wfFields_iff (f : TbsFields) : wfFields f = true ↔
    wfVersion f.version = true ∧ isElem (.univ 2 false) f.serial = true ∧ checkInteger (elemAt f.serial).body = true ∧
    isElem (.univ 16 true) f.sigalg = true ∧ isElem .any f.issuer = true ∧ isElem (.univ 16 true) f.validity = true ∧
    isElem .any f.subject = true ∧ isElem (.univ 16 true) f.spki = true ∧
    wfUID 1 f.issuerUID = true ∧ wfUID 2 f.subjectUID = true := by
  simp only [wfFields, Bool.and_eq_true, and_assoc]

theorem version_step (v : Option Bytes) {serial : Bytes} (R : Bytes) (hv : wfVersion v = true)
    (hs : isElem (.univ 2 false) serial = true) (hl : ∀ b, v = some b → b.length < 2147483648) :
    ∃ ver, explicitField 0 (.univ 2 false) (encVersion v ++ (serial ++ R)) = .ok (ver, serial ++ R) ∧
      consumed ver = encVersion v ∧
      (match ver with | none => Res.ok (0 : Int) | some ve => parseInt64 ve.1.body) = .ok (verInt v) := by
  cases v with
  | none =>
    refine ⟨none, ?_, rfl, rfl⟩
    simp only [encVersion, List.nil_append]
    exact explicitField_absent (startsWithout_isElem R hs (univ_not_ctx 0 2 false))
  | some b =>
    simp only [wfVersion, Bool.and_eq_true] at hv
    refine ⟨some (elemAt b, writeTLV 0xA0 b), ?_, rfl, ?_⟩
    · simp only [encVersion]
      exact explicitField_wrap 0xA0 (serial ++ R) (by decide) (by decide) (by decide) (by decide) hv.1 (hl b rfl)
    · simp only [verInt]
      obtain ⟨x, hx⟩ := Res.isOk_iff.1 hv.2
      rw [hx]
      simp only [parseInt64, guard_ok_iff, Res.ok.injEq] at hx
      rw [hx.2.2]

theorem uid_steps (iu su : Option Bytes) (tail : Bytes) (h1 : wfUID 1 iu = true) (h2 : wfUID 2 su = true)
    (t1 : startsWithout 1 tail) (t2 : startsWithout 2 tail) :
    ((optBitString 1 (optBytes iu ++ (optBytes su ++ tail))).bind fun r7 => optBitString 2 r7) = .ok tail := by
  have s2 : optBitString 2 (optBytes su ++ tail) = .ok tail := by
    cases su with
    | none => simpa [optBytes] using optBitString_absent t2
    | some u => exact optBitString_present tail h2
  have s1 : optBitString 1 (optBytes iu ++ (optBytes su ++ tail)) = .ok (optBytes su ++ tail) := by
    cases iu with
    | some u => exact optBitString_present _ h1
    | none =>
      simp only [optBytes, List.nil_append]
      apply optBitString_absent
      cases su with
      | none => simpa [optBytes] using t1
      | some u =>
        simp only [wfUID, Bool.and_eq_true] at h2
        exact startsWithout_isElem tail h2.1 (ctx_not_ctx 1 2 false (by decide))
  rw [s1]; exact s2

theorem parseTbsPre_encTbsPre (f : TbsFields) (tail : Bytes) (hf : wfFields f = true)
    (hl : ∀ b, f.version = some b → b.length < 2147483648)
    (t1 : startsWithout 1 tail) (t2 : startsWithout 2 tail) :
    parseTbsPre (encTbsPre f ++ tail) =
      .ok (⟨verInt f.version, encVersion f.version, elemAt f.serial, elemAt f.sigalg, elemAt f.issuer,
            elemAt f.validity, elemAt f.subject, elemAt f.spki⟩, tail) := by
  obtain ⟨hver, hser, hchk, hsa, hiss, hval, hsub, hspki, hu1, hu2⟩ := (wfFields_iff f).mp hf
  obtain ⟨ver, e0, ec, ev⟩ := version_step f.version
    (f.sigalg ++ (f.issuer ++ (f.validity ++ (f.subject ++ (f.spki ++ (optBytes f.issuerUID ++ (optBytes f.subjectUID ++ tail)))))))
    hver hser hl
  have hu := uid_steps f.issuerUID f.subjectUID tail hu1 hu2 t1 t2
  rw [Res.bind_ok] at hu
  obtain ⟨r7, hr7, hr8⟩ := hu
  unfold parseTbsPre
  simp only [encTbsPre, List.append_assoc]
  rw [e0, Res.ok_bind]
  simp only [Res.ok_bind, someElem_field_isElem false _ hser, someElem_field_isElem false _ hsa,
    someElem_field_isElem false _ hiss, someElem_field_isElem false _ hval, someElem_field_isElem false _ hsub,
    someElem_field_isElem false _ hspki, hchk, Bool.not_true, Bool.false_eq_true, if_false, hr7, hr8, ec]
  cases ver <;> exact congrArg (Res.bind · _) ev

theorem version_bound {f : TbsFields} {N : Nat} (hl : (encTbsPre f).length < N) :
    ∀ b, f.version = some b → b.length < N := by
  intro b hb
  have h : (encVersion f.version).length ≤ (encTbsPre f).length := by
    simp only [encTbsPre, List.append_assoc, List.length_append]
    exact Nat.le_add_right _ _
  rw [hb] at h
  exact Nat.lt_of_le_of_lt (Nat.le_trans (length_le_writeTLV 0xA0 b) h) hl

/-- the `tbsCertificate` the parser decodes from well-formed encoder arguments -/
def tbsOf (f : TbsFields) (xs : List Ext) : Tbs :=
  ⟨verInt f.version, encVersion f.version, elemAt f.serial, elemAt f.sigalg, elemAt f.issuer,
   elemAt f.validity, elemAt f.subject, elemAt f.spki, encTbsPre f, xs⟩

theorem parseTbs_tail (f : TbsFields) (tail : Bytes) (hf : wfFields f = true)
    (hl : (encTbsPre f).length < 2147483648) (t1 : startsWithout 1 tail) (t2 : startsWithout 2 tail) :
    parseTbs (encTbsPre f ++ tail) =
      ((explicitField 3 (.univ 16 true) tail).bind fun x =>
        match x.1 with
        | none => Res.ok []
        | some xe => parseExts xe.1.body).bind fun xs =>
      .ok (tbsOf f xs) := by
  unfold parseTbs
  rw [parseTbsPre_encTbsPre f tail hf (version_bound hl) t1 t2, Res.ok_bind]
  simp only [take_sub_suffix]
  cases explicitField 3 (.univ 16 true) tail <;> rfl

theorem wfExt_spec {x : Ext} (h : wfExt x = true) :
    readElem x.full = .ok (elemAt x.full, []) ∧ isSeqHdr (elemAt x.full).hdr = true ∧
      parseExt (elemAt x.full) = .ok x := by
  unfold wfExt at h
  unfold elemAt
  split at h
  · rename_i e rest heq
    simp only [Bool.and_eq_true, List.isEmpty_iff, decide_eq_true_eq] at h
    rw [heq, h.1.1]
    exact ⟨rfl, h.1.2, h.2⟩
  · cases h

theorem wfExt_intro {x : Ext} {e : Elem} (h1 : readElem x.full = .ok (e, [])) (h2 : isSeqHdr e.hdr = true)
    (h3 : parseExt e = .ok x) : wfExt x = true := by
  unfold wfExt
  rw [h1]
  simp [h2, h3]

theorem parseExtList_wf : ∀ (xs : List Ext), (∀ x ∈ xs, wfExt x = true) →
    parseExtList (xs.map fun x => elemAt x.full) = .ok xs := by
  intro xs
  induction xs with
  | nil => intro _; rfl
  | cons x xs ih =>
    intro h
    simp only [List.map_cons, parseExtList]
    rw [(wfExt_spec (h x List.mem_cons_self)).2.2, ih (fun y hy => h y (List.mem_cons_of_mem _ hy))]

theorem parseExts_extsFlat (xs : List Ext) (h : ∀ x ∈ xs, wfExt x = true) : parseExts (extsFlat xs) = .ok xs := by
  unfold parseExts extsFlat
  have hr : readElems (xs.map (·.full)).flatten = .ok ((xs.map (·.full)).map elemAt) := by
    apply readElems_flatten elemAt
    intro b hb
    obtain ⟨x, hx, rfl⟩ := List.mem_map.mp hb
    exact (wfExt_spec (h x hx)).1
  rw [hr]
  simp only [List.map_map]
  have hall : ((xs.map ((fun b => elemAt b) ∘ fun x => x.full)).all fun e => isSeqHdr e.hdr) = true := by
    rw [List.all_eq_true]
    intro e he
    obtain ⟨x, hx, rfl⟩ := List.mem_map.mp he
    exact (wfExt_spec (h x hx)).2.1
  rw [hall]
  exact parseExtList_wf xs h

theorem encExtsField_nil : encExtsField false [] = [] := rfl

theorem encExtsField_wraps {w : Bool} {xs : List Ext} (h : xs ≠ [] ∨ w = true) :
    encExtsField w xs = writeTLV 0xA3 (writeTLV 0x30 (extsFlat xs)) := by
  unfold encExtsField
  rcases h with h | h
  · cases xs with
    | nil => exact absurd rfl h
    | cons _ _ => rfl
  · subst h; simp

theorem encExtsField_cases (w : Bool) (xs : List Ext) :
    encExtsField w xs = writeTLV 0xA3 (writeTLV 0x30 (extsFlat xs)) ∨ (xs = [] ∧ w = false) := by
  by_cases h : xs = []
  · cases w
    · exact Or.inr ⟨h, rfl⟩
    · exact Or.inl (encExtsField_wraps (Or.inr rfl))
  · exact Or.inl (encExtsField_wraps (Or.inl h))

theorem encExtsField_bounds {w : Bool} {xs : List Ext} (h : (encExtsField w xs).length < 2147483648)
    (he : encExtsField w xs = writeTLV 0xA3 (writeTLV 0x30 (extsFlat xs))) :
    (extsFlat xs).length < 2147483648 ∧ (writeTLV 0x30 (extsFlat xs)).length < 2147483648 := by
  rw [he] at h
  have a := length_le_writeTLV 0xA3 (writeTLV 0x30 (extsFlat xs))
  have b := length_le_writeTLV 0x30 (extsFlat xs)
  omega

theorem startsWithout_encExtsField (k : Nat) (hk : k ≠ 3) (w : Bool) (xs : List Ext)
    (h : (encExtsField w xs).length < 2147483648) : startsWithout k (encExtsField w xs) := by
  rcases encExtsField_cases w xs with he | ⟨h1, h2⟩
  · rw [he, ← List.append_nil (writeTLV 0xA3 _)]
    exact startsWithout_writeTLV k 0xA3 _ [] (by decide) (encExtsField_bounds h he).2 fun h3 => hk h3.symm
  · subst h1; subst h2; exact Or.inl rfl

theorem encTbsBody_bounds (f : TbsFields) (xs : List Ext) (hl : (encTbsBody f xs).length < 2147483648) :
    (∀ b, f.version = some b → b.length < 2147483648) ∧ (encExtsField f.wrapEmpty xs).length < 2147483648 := by
  simp only [encTbsBody, List.length_append] at hl
  exact ⟨version_bound (by omega), by omega⟩

/-- the `[3]` field when the wrapper is ALWAYS written (what the no-CT re-encoding does), empty list included -/
theorem exts_wrapped_step (xs : List Ext) (h : ∀ x ∈ xs, wfExt x = true)
    (hl : (writeTLV 0xA3 (writeTLV 0x30 (extsFlat xs))).length < 2147483648) :
    ((explicitField 3 (.univ 16 true) (writeTLV 0xA3 (writeTLV 0x30 (extsFlat xs)))).bind fun x =>
      (match x.1 with
       | none => Res.ok []
       | some xe => parseExts xe.1.body)) = .ok xs := by
  have a := length_le_writeTLV 0xA3 (writeTLV 0x30 (extsFlat xs))
  have b := length_le_writeTLV 0x30 (extsFlat xs)
  obtain ⟨i1, i2⟩ := isElem_writeTLV (.univ 16 true) 0x30 (extsFlat xs) (by decide) (by omega) rfl
  have := explicitField_wrap (k := 3) (w := .univ 16 true) 0xA3 (inner := writeTLV 0x30 (extsFlat xs)) []
    (by decide) (by decide) (by decide) (by decide) i1 (by omega)
  rw [List.append_nil] at this
  rw [this]
  simp only [Res.bind, i2, elemOf]
  exact parseExts_extsFlat xs h

theorem exts_step (w : Bool) (xs : List Ext) (h : ∀ x ∈ xs, wfExt x = true)
    (hl : (encExtsField w xs).length < 2147483648) :
    ((explicitField 3 (.univ 16 true) (encExtsField w xs)).bind fun x =>
      (match x.1 with
       | none => Res.ok []
       | some xe => parseExts xe.1.body)) = .ok xs := by
  rcases encExtsField_cases w xs with he | ⟨h1, h2⟩
  · rw [he] at hl ⊢
    exact exts_wrapped_step xs h hl
  · subst h1; subst h2; rfl

theorem parseTbs_encTbsBody (f : TbsFields) (xs : List Ext) (hf : wfFields f = true)
    (hx : ∀ x ∈ xs, wfExt x = true) (hl : (encTbsBody f xs).length < 2147483648) :
    parseTbs (encTbsBody f xs) =
      .ok (tbsOf f xs) := by
  have he := (encTbsBody_bounds f xs hl).2
  simp only [encTbsBody, List.length_append] at hl
  rw [encTbsBody, parseTbs_tail f _ hf (by omega) (startsWithout_encExtsField 1 (by decide) _ xs he)
    (startsWithout_encExtsField 2 (by decide) _ xs he), exts_step f.wrapEmpty xs hx he]
  rfl

theorem parseTbs_wrapped (f : TbsFields) (xs : List Ext) (hf : wfFields f = true)
    (hx : ∀ x ∈ xs, wfExt x = true)
    (hl : (encTbsPre f ++ writeTLV 0xA3 (writeTLV 0x30 (extsFlat xs))).length < 2147483648) :
    parseTbs (encTbsPre f ++ writeTLV 0xA3 (writeTLV 0x30 (extsFlat xs))) =
      .ok (tbsOf f xs) := by
  have e : encTbsBody { f with wrapEmpty := true } xs = _ := congrArg (encTbsPre f ++ ·) (encExtsField_wraps (.inr rfl))
  rw [← e] at hl ⊢
  exact parseTbs_encTbsBody _ xs hf hx hl

theorem encCert_bounds (tbsBody sa sv : Bytes) (hl : (writeTLV 0x30 tbsBody ++ sa ++ sv).length < 2147483648) :
    tbsBody.length < 2147483648 := by
  have := length_le_writeTLV 0x30 tbsBody
  simp only [List.length_append] at hl
  omega

theorem parseCert_encCert (f : TbsFields) (xs : List Ext) (sa sv : Bytes) (hf : wfFields f = true)
    (hx : ∀ x ∈ xs, wfExt x = true) (hs : wfSig sa sv = true)
    (hl : (encTbs f xs ++ sa ++ sv).length < 2147483648) :
    parseCert (encCert (encTbs f xs) sa sv) =
      .ok ⟨elemOf 0x30 (encTbs f xs ++ sa ++ sv), elemOf 0x30 (encTbsBody f xs),
           tbsOf f xs,
           elemAt sa, elemAt sv⟩ := by
  have hb := encCert_bounds (encTbsBody f xs) sa sv hl
  simp only [wfSig, Bool.and_eq_true] at hs
  obtain ⟨⟨hsa, hsv⟩, hbit⟩ := hs
  obtain ⟨bv, hbv⟩ := Res.isOk_iff.1 hbit
  obtain ⟨o1, o2⟩ := isElem_writeTLV (.univ 16 true) 0x30 (encTbs f xs ++ sa ++ sv) (by decide) hl
    rfl
  obtain ⟨i1, i2⟩ := isElem_writeTLV (.univ 16 true) 0x30 (encTbsBody f xs) (by decide) hb
    rfl
  have s1 := someElem_field_isElem false [] o1
  rw [List.append_nil, o2] at s1
  have s2 := someElem_field_isElem false (sa ++ sv) i1
  rw [i2] at s2
  have s3 := someElem_field_isElem false sv hsa
  have s4 := someElem_field_isElem false [] hsv
  rw [List.append_nil] at s4
  unfold parseCert encCert
  rw [s1, Res.ok_bind]
  have e : encTbs f xs ++ sa ++ sv = writeTLV 0x30 (encTbsBody f xs) ++ (sa ++ sv) := List.append_assoc ..
  simp only [List.isEmpty_nil, Bool.not_true, Bool.false_eq_true, if_false, elemOf, e, s2, Res.ok_bind,
    parseTbs_encTbsBody f xs hf hx hb, s3, s4, hbv]

theorem validOID_poison : validOID oidPoison = true := by decide
theorem validOID_sctList : validOID oidSCTList = true := by decide

theorem isCT_mkExt_poison (c : Bool) (v : Bytes) : isCT (mkExt oidPoison c v) = true := by
  simp [isCT, mkExt]
theorem isCT_mkExt_sctList (c : Bool) (v : Bytes) : isCT (mkExt oidSCTList c v) = true := by
  simp [isCT, mkExt]

/-- contents of the Extension SEQUENCE written by `encExt` -/
def extBody (oid : Bytes) (critical : Bool) (value : Bytes) : Bytes :=
  writeTLV 0x06 oid ++ (if critical then writeTLV 0x01 [0xff] else []) ++ writeTLV 0x04 value

theorem parseExt_extBody (h : Hdr) (full oid : Bytes) (critical : Bool) (value : Bytes) (ho : validOID oid = true)
    (hlo : oid.length < 2147483648) (hlv : value.length < 2147483648) :
    parseExt ⟨h, extBody oid critical value, full⟩ = .ok ⟨full, oid, critical, value⟩ := by
  obtain ⟨o1, o2⟩ := isElem_writeTLV (.univ 6 false) 0x06 oid (by decide) hlo rfl
  obtain ⟨hc, hv⟩ := extBody_tail critical value hlv
  unfold parseExt
  simp only [extBody, List.append_assoc]
  rw [field_isElem false _ o1]
  simp only [o2, elemOf, ho, Bool.not_true, Bool.false_eq_true, if_false, hc, hv]
  cases critical
  · rfl
  · rfl

theorem wfExt_mkExt (oid : Bytes) (critical : Bool) (value : Bytes) (ho : validOID oid = true)
    (hl : (extBody oid critical value).length < 2147483648) : wfExt (mkExt oid critical value) = true := by
  have := length_le_writeTLV 0x06 oid
  have := length_le_writeTLV 0x04 value
  have hr := readElem_writeTLV 0x30 (extBody oid critical value) [] (by decide) hl
  rw [List.append_nil] at hr
  simp only [extBody, List.length_append] at hl
  exact wfExt_intro hr rfl (parseExt_extBody _ _ oid critical value ho (by omega) (by omega))

theorem extsFlat_insertAt_length (i : Nat) (ct : Ext) (xs : List Ext) :
    (extsFlat (insertAt i ct xs)).length = (extsFlat xs).length + ct.full.length := by
  have e : extsFlat xs = extsFlat (xs.take i) ++ extsFlat (xs.drop i) := by
    unfold extsFlat
    rw [← List.flatten_append, ← List.map_append, List.take_append_drop]
  have e2 : extsFlat (insertAt i ct xs) = extsFlat (xs.take i) ++ (ct.full ++ extsFlat (xs.drop i)) := by
    unfold extsFlat insertAt
    simp
  rw [e2, e]
  simp only [List.length_append]; omega

theorem insertAt_ne_nil {α} (i : Nat) (x : α) (l : List α) : insertAt i x l ≠ [] := by
  unfold insertAt; simp

theorem mem_insertAt {α} {i : Nat} {x y : α} {l : List α} : y ∈ insertAt i x l ↔ y = x ∨ y ∈ l := by
  unfold insertAt
  rw [List.mem_append, List.mem_cons]
  conv => rhs; rw [← List.take_append_drop i l, List.mem_append]
  exact or_left_comm

theorem encExtsField_length_mono (w : Bool) (i : Nat) (ct : Ext) (xs : List Ext) :
    (encExtsField w xs).length ≤ (encExtsField w (insertAt i ct xs)).length := by
  rcases encExtsField_cases w xs with he | ⟨h1, h2⟩
  · rw [he, encExtsField_wraps (.inl (insertAt_ne_nil i ct xs))]
    apply writeTLV_length_mono
    apply writeTLV_length_mono
    rw [extsFlat_insertAt_length]; omega
  · subst h1; subst h2; simp [encExtsField_nil]

theorem encCert_size_mono (f : TbsFields) (i : Nat) (ct : Ext) (xs : List Ext) (sa sv : Bytes) :
    (encTbs f xs ++ sa ++ sv).length ≤ (encTbs f (insertAt i ct xs) ++ sa ++ sv).length := by
  have h : (encTbs f xs).length ≤ (encTbs f (insertAt i ct xs)).length := by
    unfold encTbs
    apply writeTLV_length_mono
    have := encExtsField_length_mono f.wrapEmpty i ct xs
    simp only [encTbsBody, List.length_append]; omega
  simp only [List.length_append]; omega

theorem wfCert_iff (f : TbsFields) (exts : List Ext) (sa sv : Bytes) : wfCert f exts sa sv = true ↔
    wfFields f = true ∧ (∀ x ∈ exts, wfExt x = true) ∧ wfSig sa sv = true ∧
      (encTbs f exts ++ sa ++ sv).length < 2147483648 := by
  simp only [wfCert, Bool.and_eq_true, List.all_eq_true, decide_eq_true_eq, and_assoc]

end ZV.C06
