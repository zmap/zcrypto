import ZV.Model.C24
/-!
  For `ZV.Props.C24`: names for the inputs of `negotiate`; `connect_cases`, which relates a connection through the session
  cache to the full negotiation once and for all; the server's usability filter on the rows of the suite table and
  `selectCipherSuite` in closed form (a `find?`); what `honest_sentinel_no_abort` needs of version lists and of the
  client's downgrade check.
-/
namespace ZV.C24
open Gen

theorem find?_first {α} {p : α → Bool} {l : List α} {v : α} (h : l.find? p = some v) :
    ∃ pre post, l = pre ++ v :: post ∧ p v = true ∧ ∀ x ∈ pre, p x = false :=
  let ⟨hv, pre, post, he, hpre⟩ := List.find?_eq_some_iff_append.mp h
  ⟨pre, post, he, hv, fun x hx => by simpa using hpre x hx⟩

theorem find?_desc_max {p : Nat → Bool} {l : List Nat} {v : Nat} (hd : l.Pairwise (· > ·)) (h : l.find? p = some v)
    (w : Nat) (hw : w ∈ l) (hp : p w = true) : w ≤ v := by
  obtain ⟨pre, post, rfl, _, hpre⟩ := find?_first h
  rcases List.mem_append.mp hw with hw | hw
  · rw [hpre w hw] at hp
    cases hp
  · rcases List.mem_cons.mp hw with rfl | hw
    · exact Nat.le_refl _
    · exact Nat.le_of_lt ((List.pairwise_cons.mp (List.pairwise_append.mp hd).2.1).1 w hw)

@[simp] theorem failedWith_res (p c : Option Sess) : (failedWith p c).res = .fail := by
  unfold failedWith; split <;> rfl

@[simp] theorem failedWith_resumed (p c : Option Sess) : (failedWith p c).resumed = false := by
  unfold failedWith; split <;> rfl

@[simp] theorem completed_res (o : Outcome) (r i : Bool) (tk : Option (List Nat)) (c : Option Sess) :
    (completed o r i tk c).res = .done o := by
  unfold completed; split <;> rfl

@[simp] theorem completed_resumed (o : Outcome) (r i : Bool) (tk : Option (List Nat)) (c : Option Sess) :
    (completed o r i tk c).resumed = r := by
  unfold completed; split <;> rfl

/-- the client's / server's version list, the ClientHello's suite list, and the other inputs of `negotiate` -/
abbrev cvOf (c : Client) : List Nat := configVersions supportedVersions c.minV c.maxV
abbrev svOf (s : Server) : List Nat := configVersions supportedVersions s.minV s.maxV
abbrev offerOf (c : Client) : List Nat := clientOffer (cvOf c) c.suites c.force
/-- TLS_FALLBACK_SCSV offered although the server supports more than the client's hello asked for -/
abbrev scsvBad (c : Client) (s : Server) (v : Nat) : Bool :=
  (offerOf c).contains fallbackSCSV &&
    (if v == VersionTLS13 then v < maxSupported (svOf s) else min (maxSupported (cvOf c)) VersionTLS12 < maxSupported (svOf s))
abbrev alpnOf (c : Client) (s : Server) : Option Nat := if c.alpn.isEmpty then none else mutualProtocol c.alpn s.alpn
abbrev ecdheOkOf (c : Client) (s : Server) : Bool := (curvesOf c.curves).any (fun g => (curvesOf s.curves).contains g)
abbrev factsOf (c : Client) (s : Server) (v : Nat) : Facts := facts v s.key (ecdheOkOf c s)
/-- the sentinel the client sees in the last 8 bytes of the server random: the server's own rule, or a forged value -/
abbrev sentinelOf (s : Server) (v : Nat) : Canary :=
  match s.rand with
  | .none => serverCanary (maxSupported (svOf s)) v
  | x => x

/-- left: the TLS ≤ 1.2 server resumes the presented session (abbreviated handshake: no suite selection, no FALLBACK_SCSV
    test, no key exchange; only the client's downgrade check remains); right: the full negotiation, where only a TLS 1.3
    PSK can have been accepted -/
theorem connect_cases (k : Conn) (cache : Option Sess) :
    (∃ v r old, mutualVersion (svOf k.s) (cvOf k.c) = some v ∧ v ≠ VersionTLS13 ∧
      checkResume12 v (offerOf k.c) k.s.suites (factsOf k.c k.s v) k.tkeys
        (loadSession (cvOf k.c) (offerOf k.c) k.useCache cache) = some (r, old) ∧
      (connect k cache).resumed = !clientAborts (maxSupported (cvOf k.c)) v (sentinelOf k.s v) ∧
      (connect k cache).res =
        if clientAborts (maxSupported (cvOf k.c)) v (sentinelOf k.s v) then .fail
        else .done { vers := v, suite := r.id, alpn := alpnOf k.c k.s, canary := sentinelOf k.s v }) ∨
    ((connect k cache).res = negotiate k.c k.s ∧
      ((connect k cache).resumed = true ↔ ∃ o, negotiate k.c k.s = .done o ∧ o.vers = VersionTLS13 ∧
        checkResume13 o.suite (k.useCache && maxSupported (cvOf k.c) == VersionTLS13) k.tkeys
          (loadSession (cvOf k.c) (offerOf k.c) k.useCache cache) = true)) := by
  delta sentinelOf factsOf ecdheOkOf offerOf cvOf svOf alpnOf
  unfold connect negotiate
  dsimp only
  -- every term the two functions share gets a name, so that the case analysis below sees constructors and Booleans only
  generalize configVersions supportedVersions k.c.minV k.c.maxV = cv
  generalize configVersions supportedVersions k.s.minV k.s.maxV = sv
  generalize clientOffer cv k.c.suites k.c.force = offer
  generalize loadSession cv offer k.useCache cache = presented
  generalize (if k.c.alpn.isEmpty then none else mutualProtocol k.c.alpn k.s.alpn) = alpn
  generalize ((curvesOf k.s.curves).any fun g => (curvesOf k.c.curves).contains g) = cu
  generalize ((curvesOf k.c.curves).any fun g => (curvesOf k.s.curves).contains g) = ec
  generalize pickTLS13 offer k.s.prefer = p13
  cases hE : cv.isEmpty with
  | true => exact Or.inr (by simp)
  | false =>
    simp only [Bool.false_eq_true, if_false]
    cases hv : mutualVersion sv cv with
    | none => exact Or.inr (by simp)
    | some v =>
      dsimp only
      generalize (offer.contains fallbackSCSV &&
        if (v == VersionTLS13) = true then decide (v < maxSupported sv)
        else decide (min (maxSupported cv) VersionTLS12 < maxSupported sv)) = sb
      by_cases h13 : v = VersionTLS13
      · refine Or.inr ?_
        simp only [h13, beq_self_eq_true, if_true]
        cases sb with
        | true => simp
        | false =>
          rcases p13 with _ | _ | id
          · simp
          · simp
          · cases cu <;> simp
      · simp only [beq_eq_false_iff_ne.mpr h13, Bool.false_eq_true, if_false]
        cases hr : checkResume12 v offer k.s.suites (facts v k.s.key ec) k.tkeys presented with
        | some ro =>
          obtain ⟨r, old⟩ := ro
          refine Or.inl ⟨v, r, old, rfl, h13, hr, ?_⟩
          dsimp only
          generalize clientAborts (maxSupported cv) v _ = ab
          cases ab with
          | true => exact ⟨failedWith_resumed _ _, failedWith_res _ _⟩
          | false => exact ⟨completed_resumed _ _ _ _ _, completed_res _ _ _ _ _⟩
        | none =>
          refine Or.inr ?_
          dsimp only
          generalize pickCipherSuite offer k.s.suites k.s.prefer (facts v k.s.key ec) = pk
          cases pk with
          | unmodelled => simp
          | noSuite => simp
          | suite r =>
            dsimp only
            generalize exchangeWorks r k.s.key v = ex
            generalize clientAborts (maxSupported cv) v _ = ab
            cases sb with
            | true => simp
            | false =>
              cases ex with
              | false => simp
              | true => cases ab <;> simp [h13]

/-- what "usable with the server's key" means for a key-exchange kind -/
def kaFitsKey (ka : String) (key : KeyType) (ecdheOk : Bool) : Bool :=
  match key with
  | .rsa => ka == "rsa" || ka == "dhe-rsa" || (ka == "ecdhe-rsa" && ecdheOk)
  | .ecdsa => ka == "ecdhe-ecdsa" && ecdheOk
  | .ed25519 => ka == "ecdhe-ecdsa" && ecdheOk

/-- stated for the effective rows: the first with its id, the one `cipherSuiteByID` finds -/
theorem row_kinds : ∀ r ∈ implemented, lookup implemented r.id = some r →
    r.ka ∈ ["rsa", "dhe-rsa", "dhe-dss", "ecdhe-rsa", "ecdhe-ecdsa"] ∧
    hasFlag r.flags flagECDHE = (r.ka == "ecdhe-rsa" || r.ka == "ecdhe-ecdsa") ∧
    hasFlag r.flags flagECSign = (r.ka == "ecdhe-ecdsa") ∧
    hasFlag r.flags flagDSS = (r.ka == "dhe-dss") := by
  decide +kernel

theorem cipherSuiteOk_facts {r : SuiteRow} (hl : lookup implemented r.id = some r) (key : KeyType) (v : Nat) (e : Bool) :
    cipherSuiteOk (facts v key e) r =
      (kaFitsKey r.ka key e && !(decide (v < VersionTLS12) && hasFlag r.flags flagTLS12)) := by
  obtain ⟨hka, h1, h2, h3⟩ := row_kinds r (List.mem_of_find?_eq_some hl) hl
  unfold cipherSuiteOk
  rw [h1, h2, h3, show (facts v key e).vers = v by cases key <;> rfl]
  generalize r.ka = ka at hka ⊢
  simp only [List.mem_cons, List.not_mem_nil, or_false] at hka
  rcases hka with rfl | rfl | rfl | rfl | rfl <;> cases key <;> simp [facts, kaFitsKey]

theorem lookup_id {t : List SuiteRow} {id : Nat} {r : SuiteRow} (h : lookup t id = some r) : r.id = id :=
  beq_iff_eq.mp (List.find?_some (p := fun r : SuiteRow => r.id == id) (show t.find? _ = _ from h))

theorem selectCipherSuite_eq (ids sup : List Nat) (ok : SuiteRow → Bool) :
    selectCipherSuite ids sup ok =
      (ids.find? fun id => sup.contains id && (lookup implemented id).any ok).bind (lookup implemented) := by
  induction ids with
  | nil => rfl
  | cons id rest ih =>
    rw [selectCipherSuite, List.find?_cons, ih]
    cases hl : lookup implemented id with
    | none => rw [Option.any_none, Bool.and_false]
    | some r =>
      rw [Option.any_some, Bool.and_comm]
      dsimp only
      cases ok r && sup.contains id
      · rfl
      · exact hl.symm

/-- the `bind` loses nothing: a qualifying id has a row -/
theorem selectCipherSuite_eq_none {ids sup : List Nat} {ok : SuiteRow → Bool} :
    selectCipherSuite ids sup ok = none ↔
      ids.find? (fun id => sup.contains id && (lookup implemented id).any ok) = none := by
  rw [selectCipherSuite_eq]
  cases hf : ids.find? fun id => sup.contains id && (lookup implemented id).any ok with
  | none => exact iff_of_true rfl rfl
  | some id =>
    have hq := List.find?_some hf
    rw [Bool.and_eq_true, Option.any_eq_true] at hq
    obtain ⟨_, r, hr, _⟩ := hq
    simp [hr]

theorem mutualVersion_nonempty {sv cv : List Nat} {v : Nat} (h : mutualVersion sv cv = some v) : cv.isEmpty = false := by
  have := List.mem_of_find?_eq_some h
  cases cv with
  | nil => simp at this
  | cons _ _ => rfl

theorem mem_configVersions {table : List Nat} {minV maxV w : Nat} :
    w ∈ configVersions table minV maxV ↔ w ∈ table ∧ (minV = 0 ∨ minV ≤ w) ∧ (maxV = 0 ∨ w ≤ maxV) := by
  simp [configVersions]

theorem configVersions_convex (table : List Nat) (minV maxV lo hi w : Nat)
    (hlo : lo ∈ configVersions table minV maxV) (hhi : hi ∈ configVersions table minV maxV)
    (hw : w ∈ table) (h1 : lo ≤ w) (h2 : w ≤ hi) : w ∈ configVersions table minV maxV := by
  rw [mem_configVersions] at hlo hhi ⊢
  exact ⟨hw, by omega, by omega⟩

theorem maxSupported_mem {l : List Nat} {v : Nat} (h : v ∈ l) : maxSupported l ∈ l := by
  cases l with
  | nil => simp at h
  | cons x t => simp [maxSupported]

theorem clientAborts_lt {cliMax v : Nat} {seen : Canary} (h : clientAborts cliMax v seen = true) :
    v < cliMax ∧ seen ≠ .none := by
  unfold clientAborts at h
  simp only [VersionTLS13, VersionTLS12, VersionTLS11, Bool.or_eq_true, Bool.and_eq_true, beq_iff_eq] at h
  rcases h with ⟨⟨h1, h2⟩, h3⟩ | ⟨⟨h1, h2⟩, h3⟩
  · have h2' := of_decide_eq_true h2
    refine ⟨by omega, ?_⟩
    rcases h3 with h3 | h3 <;> (rw [h3]; simp)
  · have h2' := of_decide_eq_true h2
    exact ⟨by omega, by rw [h3]; simp⟩

end ZV.C24
