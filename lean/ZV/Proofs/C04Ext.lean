import ZV.Proofs.C04
import ZV.Proofs.C04Int
import ZV.Proofs.C04Oid
/-! Round trips of the extension value builders of `buildExtensions` through the matching arms of `parseCertificate`. -/
namespace ZV.C04
open ZV ZV.Der ZV.C06

theorem mapM_filterMap {α β} (f : α → Option β) (l : List α) (os : List β) (h : l.mapM f = some os) : os = l.filterMap f := by
  have := congrArg (List.filterMap id) (mapM_eq_some.mp h)
  simpa [List.filterMap_map] using this.symm

/-- the content octets of the OIDs of a list (those that `makeObjectIdentifier` accepts — all of them whenever the
    builder succeeds) -/
def oidContents (oids : List (List Nat)) : List Bytes := oids.filterMap encOID

theorem mem_oidContents {oids : List (List Nat)} {c : Bytes} (h : c ∈ oidContents oids) :
    ∃ o ∈ oids, encOID o = some c := by
  simpa [oidContents] using h

theorem encOIDs_eq : ∀ (oids : List (List Nat)) (body : Bytes), encOIDs oids = some body →
    oids.map encOID = (oidContents oids).map some ∧
    body = ((oidContents oids).map fun c => writeTLV 0x06 c).flatten := by
  intro oids
  induction oids with
  | nil => intro body h; simp [encOIDs] at h; subst h; simp [oidContents]
  | cons o os ih =>
    intro body h
    simp only [encOIDs] at h
    split at h
    · rename_i b r hb hr
      simp only [Option.some.injEq] at h
      obtain ⟨h1, h2⟩ := ih r hr
      subst h
      simp only [oidContents, List.filterMap_cons, hb, List.map_cons, List.flatten_cons, tlv] at h1 h2 ⊢
      exact ⟨by rw [h1], by rw [h2]⟩
    · cases h

theorem valid_oidContents {oids : List (List Nat)} (hok : ∀ o ∈ oids, oidOk o = true) :
    ∀ c ∈ oidContents oids, validOID c = true := by
  intro c hc
  obtain ⟨o, ho, he⟩ := mem_oidContents hc
  exact validOID_encOID he (hok o ho)

theorem parseEKU_build (oids : List (List Nat)) (body : Bytes) (h : encOIDs oids = some body)
    (hok : ∀ o ∈ oids, oidOk o = true) (hlen : (tlv 0x30 body).length < 2147483648) :
    parseEKU (tlv 0x30 body) = .ok (oidContents oids) := by
  obtain ⟨_, hb⟩ := encOIDs_eq oids body h
  subst hb
  unfold parseEKU tlv
  rw [seqOf_tlvs 6 false 0x06 (fun c => c) (oidContents oids) (by decide) (by decide) hlen]
  simp only
  rw [if_pos]
  · simp [List.map_map, Function.comp_def]
  · rw [List.all_eq_true]
    intro e he
    obtain ⟨c, hc, rfl⟩ := List.mem_map.mp he
    exact valid_oidContents hok c hc

theorem buildPolicies_eq (ps : List (List Nat)) (v : Bytes) (h : buildPolicies ps = some v) :
    v = writeTLV 0x30 (((oidContents ps).map fun c => writeTLV 0x30 (writeTLV 0x06 c)).flatten) := by
  unfold buildPolicies at h
  split at h
  · rename_i es he
    cases h
    rw [mapM_filterMap id _ es he, List.filterMap_map, oidContents, List.map_filterMap]
    rfl
  · cases h

theorem parsePolicies_build (ps : List (List Nat)) (v : Bytes) (h : buildPolicies ps = some v)
    (hok : ∀ o ∈ ps, oidOk o = true) (hlen : v.length < 2147483648) :
    parsePolicies v = .ok (oidContents ps) := by
  have hv := buildPolicies_eq ps v h
  subst hv
  obtain ⟨_, he⟩ := tlvs_bounds 0x30 (fun c => writeTLV 0x30 (writeTLV 0x06 c)) (oidContents ps) _ hlen
  unfold parsePolicies
  rw [seqOf_tlvs 16 true 0x30 (fun c => writeTLV 0x06 c) (oidContents ps) (by decide) (by decide) hlen]
  simp only
  have := mapRes_map (fun e => (someElem (field (.univ 6 false) false e.body)).bind fun p =>
      if !validOID p.1.body then Res.err else Res.ok p.1.body) (fun c => elemOf 0x30 (writeTLV 0x06 c)) (fun c => c)
      (oidContents ps) (by
        intro c hc
        simp only [elemOf_body]
        rw [field_tlv_end _ _ _ _ (by decide) (lt_of_writeTLV (lt_of_writeTLV (he c hc))) rfl]
        simp [someElem, Res.bind, valid_oidContents hok c hc])
  simpa using this

theorem parseDP_build (u : Bytes) (hl : (writeTLV 0xA0 (writeTLV 0xA0 (writeTLV 0x86 u))).length < 2147483648) :
    parseDP (elemOf 0x30 (writeTLV 0xA0 (writeTLV 0xA0 (writeTLV 0x86 u)))) = .ok [u] := by
  have h1 := lt_of_writeTLV hl
  have h2 := lt_of_writeTLV h1
  unfold parseDP
  simp only [elemOf_body]
  rw [field_tlv_end _ _ _ _ (by decide) h1 rfl]
  simp only [Res.bind, elemOf_body]
  rw [field_tlv_end _ _ _ _ (by decide) h2 rfl]
  simp only [elemOf_body]
  rw [readElems_tlv _ _ (by decide) (lt_of_writeTLV h2)]
  rfl

theorem parseCRLDP_build (urls : List Bytes) (hlen : (buildCRLDP urls).length < 2147483648) :
    parseCRLDP (buildCRLDP urls) = .ok urls := by
  unfold buildCRLDP tlv at hlen ⊢
  obtain ⟨_, he⟩ := tlvs_bounds 0x30 (fun u => writeTLV 0x30 (writeTLV 0xA0 (writeTLV 0xA0 (writeTLV 0x86 u)))) urls _ hlen
  unfold parseCRLDP
  rw [seqOf_tlvs 16 true 0x30 (fun u => writeTLV 0xA0 (writeTLV 0xA0 (writeTLV 0x86 u))) urls (by decide) (by decide) hlen]
  simp only
  rw [mapRes_map parseDP (fun u => elemOf 0x30 (writeTLV 0xA0 (writeTLV 0xA0 (writeTLV 0x86 u)))) (fun u => [u]) urls (by
    intro u hu
    exact parseDP_build u (lt_of_writeTLV (he u hu)))]
  simp only [Res.map, ← List.flatMap_def, List.flatMap_singleton']

def ocspB : Bytes := [0x2b, 0x06, 0x01, 0x05, 0x05, 0x07, 0x30, 0x01]
def issuersB : Bytes := [0x2b, 0x06, 0x01, 0x05, 0x05, 0x07, 0x30, 0x02]

theorem encOID_ocsp : encOID oidOcsp = some ocspB := by decide
theorem encOID_issuers : encOID oidIssuers = some issuersB := by decide

/-- (method OID contents, location) pairs in the order the builder writes them -/
def aiaList (ocsp issuing : List Bytes) : List (Bytes × Bytes) :=
  ocsp.map (fun u => (ocspB, u)) ++ issuing.map (fun u => (issuersB, u))

theorem buildAIA_eq (ocsp issuing : List Bytes) :
    buildAIA ocsp issuing = some (writeTLV 0x30 (((aiaList ocsp issuing).map fun x =>
      writeTLV 0x30 (writeTLV 0x06 x.1 ++ writeTLV 0x86 x.2)).flatten)) := by
  unfold buildAIA
  have e : ocsp.map (aiaEntry oidOcsp) ++ issuing.map (aiaEntry oidIssuers)
      = ((aiaList ocsp issuing).map fun x => writeTLV 0x30 (writeTLV 0x06 x.1 ++ writeTLV 0x86 x.2)).map some := by
    have e1 : aiaEntry oidOcsp = fun u => some (writeTLV 0x30 (writeTLV 0x06 ocspB ++ writeTLV 0x86 u)) := by
      funext u; simp [aiaEntry, encOID_ocsp, tlv]
    have e2 : aiaEntry oidIssuers = fun u => some (writeTLV 0x30 (writeTLV 0x06 issuersB ++ writeTLV 0x86 u)) := by
      funext u; simp [aiaEntry, encOID_issuers, tlv]
    rw [e1, e2]
    simp [aiaList, Function.comp_def]
  rw [e, mapM_eq_some.mpr (List.map_id _)]
  rfl

theorem parseAIAEntry_build (m u : Bytes) (hv : validOID m = true)
    (hl : (writeTLV 0x06 m ++ writeTLV 0x86 u).length < 2147483648) :
    parseAIAEntry (elemOf 0x30 (writeTLV 0x06 m ++ writeTLV 0x86 u)) = .ok (m, 6, u) := by
  rw [List.length_append] at hl
  unfold parseAIAEntry
  simp only [elemOf_body]
  rw [field_tlv _ _ _ _ _ (by decide) (lt_of_writeTLV_le (Nat.le_add_right _ _) hl) rfl]
  simp only [someElem, Res.bind, elemOf_body, hv]
  rw [field_tlv_end _ _ _ _ (by decide) (lt_of_writeTLV_le (Nat.le_add_left _ _) hl) rfl]
  rfl

theorem filter_method (c c' : Bytes) (l : List Bytes) :
    ((l.map (fun u => ((c, 6, u) : Bytes × Nat × Bytes))).filter (fun x => x.2.1 == 6 && some x.1 == some c')).map (·.2.2)
      = if c = c' then l else [] := by
  rw [List.filter_map, List.map_map]
  by_cases h : c = c'
  · rw [if_pos h, List.filter_eq_self.mpr (by simp [h])]
    exact List.map_id l
  · rw [if_neg h, List.filter_eq_nil_iff.mpr (by simp [h])]
    rfl

theorem parseAIA_build (ocsp issuing : List Bytes) (v : Bytes) (h : buildAIA ocsp issuing = some v)
    (hlen : v.length < 2147483648) : parseAIA v = .ok (ocsp, issuing) := by
  rw [buildAIA_eq] at h
  simp only [Option.some.injEq] at h
  subst h
  obtain ⟨_, he⟩ := tlvs_bounds 0x30 (fun (x : Bytes × Bytes) => writeTLV 0x30 (writeTLV 0x06 x.1 ++ writeTLV 0x86 x.2))
    (aiaList ocsp issuing) _ hlen
  unfold parseAIA
  rw [seqOf_tlvs 16 true 0x30 (fun (x : Bytes × Bytes) => writeTLV 0x06 x.1 ++ writeTLV 0x86 x.2) (aiaList ocsp issuing)
    (by decide) (by decide) hlen]
  simp only
  rw [mapRes_map parseAIAEntry (fun (x : Bytes × Bytes) => elemOf 0x30 (writeTLV 0x06 x.1 ++ writeTLV 0x86 x.2))
    (fun x => (x.1, 6, x.2)) (aiaList ocsp issuing) (by
      intro x hx
      have hv : validOID x.1 = true := by
        simp only [aiaList, List.mem_append, List.mem_map] at hx
        rcases hx with ⟨u, _, rfl⟩ | ⟨u, _, rfl⟩
        · show validOID ocspB = true; decide
        · show validOID issuersB = true; decide
      exact parseAIAEntry_build x.1 x.2 hv (lt_of_writeTLV (he x hx)))]
  simp only [encOID_ocsp, encOID_issuers, aiaList, List.map_append, List.map_map, Function.comp_def,
    List.filter_append]
  rw [filter_method ocspB ocspB, filter_method issuersB ocspB, filter_method ocspB issuersB, filter_method issuersB issuersB]
  simp [ocspB, issuersB]

/-- the GeneralName forms the parser stores: rfc822Name [1], dNSName [2], uniformResourceIdentifier [6] (IA5 strings,
    carried as octets) and iPAddress [7] -/
inductive GName where
  | email (b : Bytes)
  | dns (b : Bytes)
  | uri (b : Bytes)
  | ip (b : Bytes)
  deriving Repr, DecidableEq

def GName.tag : GName → UInt8
  | .email _ => 0x81
  | .dns _ => 0x82
  | .uri _ => 0x86
  | .ip _ => 0x87

def GName.bytes : GName → Bytes
  | .email b => b
  | .dns b => b
  | .uri b => b
  | .ip b => b

/-- an iPAddress must be 4 or 16 octets -/
def GName.ok : GName → Bool
  | .ip b => b.length == 4 || b.length == 16
  | _ => true

/-- `asn1.Marshal([]asn1.RawValue{…})` of context-tagged primitive names -/
def encGNames (l : List GName) : Bytes := writeTLV 0x30 ((l.map fun g => writeTLV g.tag g.bytes).flatten)

def SAN.add (acc : SAN) : GName → SAN
  | .email b => { acc with email := acc.email ++ [b] }
  | .dns b => { acc with dns := acc.dns ++ [b] }
  | .uri b => { acc with uris := acc.uris ++ [b] }
  | .ip b => { acc with ips := acc.ips ++ [b] }

theorem parseGeneralNameList_enc : ∀ (l : List GName) (acc : SAN),
    parseGeneralNameList (l.map fun g => elemOf g.tag g.bytes) acc
      = if l.all GName.ok then .ok (l.foldl SAN.add acc) else .err := by
  intro l
  induction l with
  | nil => intro acc; rfl
  | cons g l ih =>
    intro acc
    cases g with
    | email b =>
      show parseGeneralNameList (elemOf 0x81 b :: _) acc = _
      exact ih (acc.add (.email b))
    | dns b =>
      show parseGeneralNameList (elemOf 0x82 b :: _) acc = _
      exact ih (acc.add (.dns b))
    | uri b =>
      show parseGeneralNameList (elemOf 0x86 b :: _) acc = _
      exact ih (acc.add (.uri b))
    | ip b =>
      show parseGeneralNameList (elemOf 0x87 b :: _) acc = _
      show (if b.length = 4 ∨ b.length = 16 then parseGeneralNameList _ (acc.add (.ip b)) else .err) = _
      have hk : GName.ok (.ip b) = decide (b.length = 4 ∨ b.length = 16) :=
        (Bool.decide_or _ _).symm
      rw [List.all_cons, hk]
      by_cases hb : b.length = 4 ∨ b.length = 16
      · rw [if_pos hb, ih, decide_eq_true hb]
        rfl
      · rw [if_neg hb, decide_eq_false hb]
        rfl

theorem parseSAN_enc (l : List GName) (hlen : (encGNames l).length < 2147483648) :
    parseSAN (encGNames l) = if l.all GName.ok then .ok (l.foldl SAN.add ⟨[], [], [], []⟩) else .err := by
  unfold encGNames at hlen ⊢
  obtain ⟨hb, he⟩ := tlvs_bounds 0x30 (fun (g : GName) => writeTLV g.tag g.bytes) l _ hlen
  unfold parseSAN
  rw [first_tlv _ _ _ (by decide) hb rfl]
  simp only [elemOf_hdr, elemOf_body]
  rw [readElems_writeTLVs GName.tag GName.bytes l (by
    intro g hg
    refine ⟨by cases g <;> simp [GName.tag], lt_of_writeTLV (he g hg)⟩)]
  have hc : (!(decide (UInt8.toNat 48 / 32 % 2 = 1) && UInt8.toNat 48 % 32 == 16 && UInt8.toNat 48 / 64 == 0)) = false := by
    decide
  simp only [hdrOf, hc, Bool.false_eq_true, if_false]
  exact parseGeneralNameList_enc l _

theorem foldl_add_dns (l : List Bytes) (acc : SAN) :
    (l.map GName.dns).foldl SAN.add acc = { acc with dns := acc.dns ++ l } := by
  induction l generalizing acc with
  | nil => simp
  | cons b l ih => simp [SAN.add, ih]
theorem foldl_add_email (l : List Bytes) (acc : SAN) :
    (l.map GName.email).foldl SAN.add acc = { acc with email := acc.email ++ l } := by
  induction l generalizing acc with
  | nil => simp
  | cons b l ih => simp [SAN.add, ih]
theorem foldl_add_uri (l : List Bytes) (acc : SAN) :
    (l.map GName.uri).foldl SAN.add acc = { acc with uris := acc.uris ++ l } := by
  induction l generalizing acc with
  | nil => simp
  | cons b l ih => simp [SAN.add, ih]
theorem foldl_add_ip (f : Bytes → Bytes) (l : List Bytes) (acc : SAN) :
    (l.map (fun x => GName.ip (f x))).foldl SAN.add acc = { acc with ips := acc.ips ++ l.map f } := by
  induction l generalizing acc with
  | nil => simp
  | cons b l ih => simp [SAN.add, ih]

/-- the names `marshalSANs` writes, in its order: DNS, e-mail, then IP addresses after `To4` -/
def sanNames (dns email ips : List Bytes) : List GName :=
  dns.map GName.dns ++ email.map GName.email ++ (ips.map to4).map GName.ip

theorem buildSAN_eq (dns email ips : List Bytes) : buildSAN dns email ips = encGNames (sanNames dns email ips) := by
  have e : tlv = writeTLV := by funext t b; rfl
  simp [buildSAN, encGNames, sanNames, e, GName.tag, GName.bytes, Function.comp_def]

theorem parseSAN_build (dns email ips : List Bytes) (hlen : (buildSAN dns email ips).length < 2147483648) :
    parseSAN (buildSAN dns email ips) =
      if ips.all (fun ip => (to4 ip).length == 4 || (to4 ip).length == 16) then .ok ⟨dns, email, [], ips.map to4⟩
      else .err := by
  rw [buildSAN_eq] at hlen ⊢
  rw [parseSAN_enc _ hlen]
  simp [sanNames, List.foldl_append, foldl_add_dns, foldl_add_email, foldl_add_ip, GName.ok, Function.comp_def]

theorem to4_length (ip : Bytes) (h : ip.length = 4 ∨ ip.length = 16) : (to4 ip).length = 4 ∨ (to4 ip).length = 16 := by
  unfold to4
  split
  · rename_i hc; left; simp [hc.1]
  · exact h

theorem reverseBits_spec : ∀ b < 256, reverseBits b < 256 ∧ (reverseBits b = 0 → b = 0) ∧
    ∀ i < 8, reverseBits b / 2 ^ (7 - i) % 2 = b / 2 ^ i % 2 := by
  decide +kernel

theorem trailingZeros_spec : ∀ a < 256, a ≠ 0 → trailingZeros a ≤ 7 ∧ a % 2 ^ trailingZeros a = 0 ∧
    ∀ j < trailingZeros a, a / 2 ^ j % 2 = 0 := by
  decide +kernel

theorem usage_fold (f : Nat → Bool) (x : Nat) : ∀ n, (∀ i < n, f i = decide (x / 2 ^ i % 2 = 1)) →
    (List.range n).foldl (fun acc i => if f i then acc + 2 ^ i else acc) 0 = x % 2 ^ n
  | 0, _ => by simp [Nat.mod_one]
  | n + 1, h => by
    rw [List.range_succ, List.foldl_append, usage_fold f x n (fun i hi => h i (Nat.lt_succ_of_lt hi)), List.foldl_cons,
      List.foldl_nil, h n (Nat.lt_succ_self n), Nat.mod_pow_succ]
    by_cases hb : x / 2 ^ n % 2 = 1
    · rw [decide_eq_true hb, if_pos rfl, hb, Nat.mul_one]
    · rw [decide_eq_false hb, if_neg Bool.false_ne_true, show x / 2 ^ n % 2 = 0 by omega, Nat.mul_zero, Nat.add_zero]

theorem bitAt_first (p : Nat) (x : UInt8) (tl : Bytes) (i : Nat) (hi : i < 8) :
    bitAt p (x :: tl) i = if i ≥ (tl.length + 1) * 8 - p then false else decide (x.toNat / 2 ^ (7 - i) % 2 = 1) := by
  simp only [bitAt, List.length_cons, Nat.div_eq_of_lt hi, Nat.mod_eq_of_lt hi, List.getElem?_cons_zero]

theorem parseKeyUsage_tlv (p : Nat) (data : Bytes) (l : UInt8) (hp : p ≤ 7) (hd : data.length < 2147483647)
    (hne : data.isEmpty = false) (hl : (UInt8.ofNat p :: data).getLast? = some l) (h0 : l.toNat % 2 ^ p = 0) :
    parseKeyUsage (tlv 0x03 (UInt8.ofNat p :: data)) =
      .ok ((List.range 9).foldl (fun acc i => if bitAt p data i then acc + 2 ^ i else acc) 0) := by
  unfold parseKeyUsage tlv
  rw [first_tlv _ _ (UInt8.ofNat p :: data) (by decide) (Nat.succ_lt_succ hd) rfl]
  simp only [elemOf, parseBitString, toNat_ofNat_lt (n := p) (by omega), hl, hne, h0]
  rw [if_neg (by omega)]
  simp

theorem usage_nine (f : Nat → Bool) (lo : Nat) (hlo : lo < 256) (h : ∀ i < 8, f i = decide (lo / 2 ^ i % 2 = 1)) :
    (List.range 9).foldl (fun acc i => if f i then acc + 2 ^ i else acc) 0 = if f 8 then lo + 256 else lo := by
  rw [List.range_succ, List.foldl_append, usage_fold f lo 8 h, List.foldl_cons, List.foldl_nil, Nat.mod_eq_of_lt hlo]

theorem parseKeyUsage_octets (ku lo hi : Nat) (hl : lo < 256) (hh : hi < 256) (e0 : ku % 256 = lo)
    (e1 : ku / 256 % 256 = hi) : parseKeyUsage (buildKeyUsage ku) = .ok (lo + 256 * (hi % 2)) := by
  unfold buildKeyUsage
  simp only [e0, e1]
  obtain ⟨hlt0, hz0, hrev0⟩ := reverseBits_spec lo hl
  obtain ⟨hlt1, hz1, hrev1⟩ := reverseBits_spec hi hh
  -- bit `i` of the BIT STRING (`i < 8`, read from the first octet) is bit `i` of `lo`
  have hbit : ∀ i < 8, decide ((UInt8.ofNat (reverseBits lo)).toNat / 2 ^ (7 - i) % 2 = 1) = decide (lo / 2 ^ i % 2 = 1) := by
    intro i hlt
    rw [toNat_ofNat_lt hlt0, hrev0 i hlt]
  by_cases h1 : reverseBits hi = 0
  · -- one octet; its trailing zero bits are declared unused, and bit 8 lies beyond the data
    cases hz1 h1
    rw [if_neg (fun h => h h1)]
    by_cases h0 : lo = 0
    · subst h0
      decide
    · obtain ⟨ht, hm, hlow⟩ := trailingZeros_spec _ hlt0 (fun h => h0 (hz0 h))
      simp only [bitLength, List.map_cons, List.map_nil]
      rw [(by decide : ∀ z ≤ 7, (8 - (8 - z) % 8) % 8 = z) _ ht,
        parseKeyUsage_tlv _ _ (UInt8.ofNat (reverseBits lo)) ht (by simp) rfl rfl (by rwa [toNat_ofNat_lt hlt0]),
        usage_nine _ lo hl ?_]
      · have h8 : bitAt (trailingZeros (reverseBits lo)) [UInt8.ofNat (reverseBits lo)] 8 = false := by
          simp [bitAt]
        rw [h8]
        rfl
      · intro i hlt
        rw [bitAt_first _ _ _ i hlt]
        show (if i ≥ 8 - trailingZeros (reverseBits lo) then false else _) = _
        by_cases hge : i ≥ 8 - trailingZeros (reverseBits lo)
        · rw [if_pos hge, ← hrev0 i hlt, hlow (7 - i) (by omega)]
          rfl
        · rw [if_neg hge, hbit i hlt]
  · -- two octets; the padding is that of the second, whose top bit is bit 8
    obtain ⟨ht, hm, -⟩ := trailingZeros_spec _ hlt1 h1
    rw [if_pos h1, show bitLength [reverseBits lo, reverseBits hi] = 16 - trailingZeros (reverseBits hi) from if_neg h1,
      (by decide : ∀ z ≤ 7, (8 - (16 - z) % 8) % 8 = z) _ ht, List.map_cons, List.map_cons, List.map_nil,
      parseKeyUsage_tlv _ _ (UInt8.ofNat (reverseBits hi)) ht (by simp) rfl rfl (by rwa [toNat_ofNat_lt hlt1]),
      usage_nine _ lo hl ?_]
    · have e : bitAt (trailingZeros (reverseBits hi)) [UInt8.ofNat (reverseBits lo), UInt8.ofNat (reverseBits hi)] 8
          = decide ((UInt8.ofNat (reverseBits hi)).toNat / 2 ^ 7 % 2 = 1) := by
        simp only [bitAt, List.length_cons, List.length_nil]
        rw [if_neg (by omega)]
        rfl
      have h8 := hrev1 0 (by decide)
      rw [Nat.pow_zero, Nat.div_one] at h8
      rw [e, toNat_ofNat_lt hlt1, (h8 : reverseBits hi / 2 ^ 7 % 2 = hi % 2)]
      by_cases hb : hi % 2 = 1
      · rw [decide_eq_true hb, if_pos rfl, hb]
      · rw [decide_eq_false hb, if_neg Bool.false_ne_true, show hi % 2 = 0 by omega]
        rfl
    · intro i hlt
      rw [bitAt_first _ _ _ i hlt]
      show (if i ≥ 16 - trailingZeros (reverseBits hi) then false else _) = _
      rw [if_neg (by omega), hbit i hlt]

/-- the builder looks at the low sixteen bits of the value, the parser collects nine -/
theorem parseKeyUsage_build (ku : Nat) : parseKeyUsage (buildKeyUsage ku) = .ok (ku % 512) := by
  rw [show (512 : Nat) = 256 * 2 from rfl, Nat.mod_mul, ← Nat.mod_mod_of_dvd (ku / 256) (by decide : 2 ∣ 256)]
  exact parseKeyUsage_octets ku _ _ (Nat.mod_lt _ (by decide)) (Nat.mod_lt _ (by decide)) rfl rfl

theorem parseSKI_build (id : Bytes) (h : id.length < 2147483648) : parseSKI (buildSKI id) = .ok id := by
  unfold parseSKI buildSKI tlv
  rw [first_tlv _ _ _ (by decide) h rfl]
  rfl

theorem parseAKI_build (id : Bytes) (h : (buildAKI id).length < 2147483648) : parseAKI (buildAKI id) = .ok id := by
  unfold buildAKI tlv at h ⊢
  unfold parseAKI
  rw [first_tlv _ _ _ (by decide) (lt_of_writeTLV h) rfl]
  simp only [elemOf_body]
  rw [field_tlv_end _ _ _ _ (by decide) (lt_of_writeTLV (lt_of_writeTLV h)) rfl]
  rfl

theorem parseBasicConstraints_build (ca z : Bool) (mpl : Int)
    (h1 : -9223372036854775808 ≤ mpl) (h2 : mpl ≤ 9223372036854775807) :
    parseBasicConstraints (buildBasicConstraints ca mpl z) = .ok (ca, effectiveMaxPathLen mpl z) := by
  have hm1 : -9223372036854775808 ≤ effectiveMaxPathLen mpl z := by unfold effectiveMaxPathLen; split <;> omega
  have hm2 : effectiveMaxPathLen mpl z ≤ 9223372036854775807 := by unfold effectiveMaxPathLen; split <;> omega
  unfold buildBasicConstraints tlv parseBasicConstraints
  simp only
  generalize effectiveMaxPathLen mpl z = m at *
  obtain ⟨hi, _, hl⟩ := parseInt64_encInt m hm1 hm2
  have ht := writeTLV_length_le 0x02 (encInt m)
  by_cases hm : m = -1
  · subst hm
    cases ca
    · rw [first_tlv _ _ _ (by decide) (by decide) rfl]
      rfl
    · rw [first_tlv _ _ _ (by decide) (by decide) rfl]
      rfl
  · rw [if_neg hm]
    cases ca
    · simp only [Bool.false_eq_true, if_false, List.nil_append]
      rw [first_tlv _ _ _ (by decide) (by omega) rfl]
      simp only [elemOf_body]
      have := field_skip (.univ 1 false) 0x02 (encInt m) [] (by decide) (by omega) rfl
      rw [List.append_nil] at this
      rw [this]
      simp only [Res.bind]
      rw [field_tlv_end _ _ _ _ (by decide) (by omega) rfl]
      simp only [elemOf_body, hi]
    · have hb : (writeTLV 0x01 [0xff]).length = 3 := by decide
      simp only [if_true]
      rw [first_tlv _ _ _ (by decide) (by rw [List.length_append, hb]; omega) rfl]
      simp only [elemOf_body]
      rw [field_tlv _ _ _ _ _ (by decide) (by decide) rfl]
      simp only [Res.bind, elemOf_body]
      rw [field_tlv_end _ _ _ _ (by decide) (by omega) rfl]
      simp only [elemOf_body, hi]
      rfl

end ZV.C04
