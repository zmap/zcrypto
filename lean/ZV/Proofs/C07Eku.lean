import ZV.Model.C07
/-!
  `checkChainForKeyUsage` against a declarative reading of its comments.

  "We walk down the list and cross out any usages that aren't supported by each certificate.
   If we cross out all the usages, then the chain is unacceptable."

  A certificate SUPPORTS a requested usage when (comments of the Go code)
  * "The certificate doesn't have any extended key usage specified"
    (`len(ExtKeyUsage) == 0 && len(UnknownExtKeyUsage) == 0`), or
  * "The certificate is explicitly good for any usage" (`ExtKeyUsageAny` listed), or
  * the usage is listed, or
  * "In order to support COMODO certificate chains, we have to accept Netscape or Microsoft SGC
    usages as equal to ServerAuth".

  The chain is acceptable when it is non-empty and one SLOT of the requested list is never crossed
  out, i.e. is supported by every certificate.  Two corner cases of the implementation are part of
  the honest specification: an empty request list is acceptable (`usagesRemaining` starts at 0 and
  the `== 0` test is only made after a decrement), and a requested usage equal to the in-band
  sentinel `invalidUsage = -1` is skipped by every certificate, so it is never crossed out.
-/
namespace ZV.C07

/-- the certificate supports the requested usage (see the module comment) -/
def CertAllows (cert : Cert) (u : Int) : Prop :=
  (cert.eku = [] ∧ cert.unknownEku = false) ∨ ekuAny ∈ cert.eku ∨ u ∈ cert.eku ∨
  (u = ekuServerAuth ∧ (ekuNetscapeSGC ∈ cert.eku ∨ ekuMicrosoftSGC ∈ cert.eku))

/-- declarative specification of `checkChainForKeyUsage` -/
def UsageSpec (chain : Chain) (usages : List Int) : Prop :=
  chain ≠ [] ∧ (usages = [] ∨ ∃ u ∈ usages, u = invalidUsage ∨ ∀ cert ∈ chain, CertAllows cert u)

theorem usageSupported_iff (ce : List Int) (u : Int) :
    usageSupported ce u = true ↔ u ∈ ce ∨ (u = ekuServerAuth ∧ (ekuNetscapeSGC ∈ ce ∨ ekuMicrosoftSGC ∈ ce)) := by
  unfold usageSupported
  rw [List.any_eq_true]
  constructor
  · rintro ⟨x, hx, h⟩
    simp only [decide_eq_true_eq] at h
    rcases h with rfl | ⟨h1, rfl | rfl⟩
    · exact Or.inl hx
    · exact Or.inr ⟨h1, Or.inl hx⟩
    · exact Or.inr ⟨h1, Or.inr hx⟩
  · rintro (h | ⟨h1, h | h⟩)
    · exact ⟨u, h, by simp⟩
    · exact ⟨ekuNetscapeSGC, h, by simp [h1]⟩
    · exact ⟨ekuMicrosoftSGC, h, by simp [h1]⟩

/-- the certificate restricts usages: neither "no EKU at all" nor "any" -/
def restricts (cert : Cert) : Bool :=
  !(decide (cert.eku.length = 0) && !cert.unknownEku) && !cert.eku.any (fun u => u = ekuAny)

theorem restricts_iff (cert : Cert) :
    restricts cert = true ↔ ¬ (cert.eku = [] ∧ cert.unknownEku = false) ∧ ekuAny ∉ cert.eku := by
  simp only [restricts, Bool.and_eq_true, Bool.not_eq_true', Bool.and_eq_false_iff, decide_eq_false_iff_not,
    Bool.not_eq_false', List.any_eq_false, decide_eq_true_eq, List.length_eq_zero_iff, not_and, Bool.not_eq_false]
  exact and_congr Decidable.imp_iff_not_or.symm ⟨fun h m => h _ m rfl, fun h x m e => h (e ▸ m)⟩

theorem certAllows_iff (cert : Cert) (u : Int) :
    CertAllows cert u ↔ (restricts cert = true → usageSupported cert.eku u = true) := by
  rw [restricts_iff, usageSupported_iff, CertAllows, ← or_assoc, Decidable.or_iff_not_imp_left, not_or]

/-- slots that are still live (not the sentinel) -/
def live (u : Int) : Bool := decide (u ≠ invalidUsage)
/-- live slots this certificate crosses out -/
def bad (ce : List Int) (u : Int) : Bool := decide (u ≠ invalidUsage) && !usageSupported ce u

/-- the usage list after one certificate -/
def crossed (ce : List Int) (us : List Int) : List Int := us.map (fun u => if bad ce u then invalidUsage else u)

theorem crossed_cons (ce : List Int) (u : Int) (us : List Int) :
    crossed ce (u :: us) = (if bad ce u then invalidUsage else u) :: crossed ce us := rfl

theorem crossOut_eq (ce : List Int) (us : List Int) (rem : Nat) :
    crossOut ce us rem =
      if us.countP (bad ce) = 0 ∨ us.countP (bad ce) < rem then some (crossed ce us, rem - us.countP (bad ce))
      else none := by
  induction us generalizing rem with
  | nil => rfl
  | cons u us ih =>
    rw [crossOut, crossed_cons, List.countP_cons]
    by_cases hb : bad ce u = true
    · -- a live slot this certificate does not support: crossed out, one fewer remains
      have h1 : u ≠ invalidUsage := by
        intro e
        simp [bad, e] at hb
      have h2 : usageSupported ce u ≠ true := by
        intro e
        simp [bad, e] at hb
      rw [if_neg h1, if_neg h2, if_pos hb, if_pos hb, ih]
      by_cases hr : rem - 1 = 0
      · rw [if_pos hr, if_neg (by omega)]
      · rw [if_neg hr]
        by_cases hc : List.countP (bad ce) us + 1 < rem
        · rw [if_pos (Or.inr hc), if_pos (Or.inr (by omega)), Option.map_some, Nat.sub_sub, Nat.add_comm 1]
        · rw [if_neg (by omega), if_neg (by omega), Option.map_none]
    · -- the sentinel or a supported usage: kept
      have h : (if u = invalidUsage then (crossOut ce us rem).map (fun r => (u :: r.1, r.2))
          else if usageSupported ce u = true then (crossOut ce us rem).map (fun r => (u :: r.1, r.2))
          else if rem - 1 = 0 then none else (crossOut ce us (rem - 1)).map (fun r => (invalidUsage :: r.1, r.2))) =
          (crossOut ce us rem).map (fun r => (u :: r.1, r.2)) := by
        by_cases h1 : u = invalidUsage
        · rw [if_pos h1]
        · rw [if_neg h1, if_pos]
          simpa [bad, h1] using hb
      rw [h, if_neg hb, if_neg hb, Nat.add_zero, ih]
      split <;> rfl

/-- the two `continue` tests of the `NextCert` loop are "the certificate does not restrict usages" -/
theorem ekuLoop_cons (cert : Cert) (rest : List Cert) (us : List Int) (rem : Nat) :
    ekuLoop (cert :: rest) us rem =
      if restricts cert then
        match crossOut cert.eku us rem with
        | none => false
        | some (us', rem') => ekuLoop rest us' rem'
      else ekuLoop rest us rem := by
  have e : (cert.eku.length = 0 ∧ (!cert.unknownEku) = true) ↔
      (decide (cert.eku.length = 0) && !cert.unknownEku) = true := by
    rw [Bool.and_eq_true, decide_eq_true_eq]
  rw [ekuLoop, restricts]
  simp only [e]
  cases (decide (cert.eku.length = 0) && !cert.unknownEku) <;> cases cert.eku.any (fun u => u = ekuAny) <;> rfl

/-- some certificate of the list crosses the slot out: it is live and a restricting certificate does not support it -/
def lost (certs : List Cert) (u : Int) : Bool :=
  live u && certs.any (fun c => restricts c && !usageSupported c.eku u)

theorem lost_cons (cert : Cert) (rest : List Cert) (u : Int) :
    lost (cert :: rest) u = (restricts cert && bad cert.eku u || lost rest u) := by
  rw [lost, lost, List.any_cons, Bool.and_or_distrib_left, Bool.and_left_comm]
  rfl

theorem countP_lost_cons (cert : Cert) (rest : List Cert) (us : List Int) (hr : restricts cert = true) :
    us.countP (lost (cert :: rest)) = us.countP (bad cert.eku) + (crossed cert.eku us).countP (lost rest) := by
  rw [crossed, List.countP_map, List.countP_eq_length_filter (p := lost (cert :: rest)),
    List.length_eq_countP_add_countP (bad cert.eku), List.countP_filter, List.countP_filter]
  congr 2
  · funext u
    rw [lost_cons, hr]
    cases bad cert.eku u <;> rfl
  · funext u
    rw [lost_cons, hr, Function.comp]
    cases bad cert.eku u <;> rfl

/-- the `= 0` disjunct: the `NextCert` loop tests `usagesRemaining == 0` only when it crosses a slot out -/
theorem ekuLoop_eq (certs : List Cert) (us : List Int) (rem : Nat) :
    ekuLoop certs us rem = decide (us.countP (lost certs) = 0 ∨ us.countP (lost certs) < rem) := by
  induction certs generalizing us rem with
  | nil =>
    have : us.countP (lost []) = 0 := List.countP_eq_zero.mpr fun u _ => by simp [lost]
    rw [ekuLoop, this]
    exact (decide_eq_true (Or.inl rfl)).symm
  | cons cert rest ih =>
    rw [ekuLoop_cons]
    cases hr : restricts cert with
    | false =>
      have : lost (cert :: rest) = lost rest := by
        funext u
        rw [lost_cons, hr]
        rfl
      rw [if_neg Bool.false_ne_true, ih, this]
    | true =>
      rw [if_pos rfl, crossOut_eq, countP_lost_cons cert rest us hr]
      by_cases hcase : us.countP (bad cert.eku) = 0 ∨ us.countP (bad cert.eku) < rem
      · rw [if_pos hcase]
        dsimp only
        rw [ih]
        exact decide_eq_decide.mpr (by omega)
      · rw [if_neg hcase]
        exact (decide_eq_false (by omega)).symm

theorem lost_eq_false_iff (certs : List Cert) (u : Int) :
    lost certs u = false ↔ u = invalidUsage ∨ ∀ c ∈ certs, CertAllows c u := by
  simp only [lost, live, Bool.and_eq_false_iff, decide_eq_false_iff_not, Decidable.not_not, List.any_eq_false,
    Bool.and_eq_true, Bool.not_eq_true', not_and, Bool.not_eq_false, certAllows_iff]

theorem ekuLoop_length_iff (certs : List Cert) (us : List Int) :
    ekuLoop certs us us.length = true ↔ us = [] ∨ ∃ u ∈ us, u = invalidUsage ∨ ∀ c ∈ certs, CertAllows c u := by
  have hle : us.countP (lost certs) ≤ us.length := List.countP_le_length
  have hlt : us.countP (lost certs) < us.length ↔ ∃ u ∈ us, u = invalidUsage ∨ ∀ c ∈ certs, CertAllows c u := by
    rw [Nat.lt_iff_le_and_ne, and_iff_right hle, Ne, List.countP_eq_length]
    simp only [Classical.not_forall, exists_prop, Bool.not_eq_true, lost_eq_false_iff]
  rw [ekuLoop_eq, decide_eq_true_iff, ← hlt, ← List.length_eq_zero_iff]
  omega
end ZV.C07
