import ZV.Proofs.C07
/-!
  Completeness facts that survive the memoisation: the loops only ever append chains, and every
  verified root parent that passes `isValid` and is not already in the chain closes the current
  chain.  (Completeness through intermediates is false for the memoised builder: a cached child
  result computed in one context is reused in another.)
-/
namespace ZV.C07

theorem rootLoop_complete (cur : Chain) (ps : List (Nat × Cert)) (st : List Chain × Option Err)
    (n : Nat) (root : Cert) (hm : (n, root) ∈ ps) (hv : isValid root .root cur = none)
    (hin : certificateInChain cur root = false) :
    cur ++ [root] ∈ (rootLoop cur ps st).1 := by
  rw [rootLoop_eq]
  exact List.mem_append_right _ (List.mem_map.mpr ⟨_, List.mem_filter.mpr ⟨hm, decide_eq_true ⟨hv, hin⟩⟩, rfl⟩)

theorem interLoop_mono (rec : Cache → Cert → Chain → List Chain × Option Err × Cache) (env : Env) (cur : Chain)
    (ps : List (Nat × Cert)) (st : BState) :
    ∀ ch ∈ st.chains, ch ∈ (interLoop rec env cur ps st).chains := fun ch h =>
  interLoop_inv rec env cur (fun st => ch ∈ st.chains) ps (fun _ _ _ h _ => h)
    (fun _ _ _ h _ => List.mem_append_left _ h) (fun _ _ _ _ h _ _ _ _ _ _ => List.mem_append_left _ h) st h

theorem buildChains_root_complete (fuel : Nat) (env : Env) (cache : Cache) (c : Cert) (cur : Chain)
    (n : Nat) (root : Cert) (hm : (n, root) ∈ findVerifiedParents env env.roots c)
    (hv : isValid root .root cur = none) (hin : certificateInChain cur root = false) :
    cur ++ [root] ∈ (buildChains (fuel + 1) env cache c cur).1 := by
  simp only [buildChains]
  apply interLoop_mono
  exact rootLoop_complete cur _ _ n root hm hv hin

end ZV.C07
