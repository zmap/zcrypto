import ZV.Model.TlsWire
import ZV.Proofs.Res
import ZV.Proofs.Base256
/-!
  Laws of the codec combinators of `ZV.TlsWire` (`ZV.Model.TlsWire`), proved once per combinator for unbounded sizes.

  * `Lawful c D`    — round trip with an arbitrary tail, for values in the domain `D`;
  * `NoPrefix c D`  — no strict prefix of a valid encoding is accepted;
  * `NonEmptyEnc c` — encodings are never empty (needed under `many`);
  * `MLawful`, `MNoPrefix` — the same for whole-buffer formats.
  The domain predicate collects the decoder-side checks (`guard`) the encoder does not make.
-/
namespace ZV.TlsWire

structure Lawful {α} (c : Fmt α) (D : α → Prop) : Prop where
  rt : ∀ a bs tl, D a → c.ser a = some bs → c.par (bs ++ tl) = some (a, tl)

structure NoPrefix {α} (c : Fmt α) (D : α → Prop) : Prop where
  np : ∀ a bs p, D a → c.ser a = some bs → p <+: bs → p ≠ bs → c.par p = none

structure NonEmptyEnc {α} (c : Fmt α) : Prop where
  ne : ∀ a bs, c.ser a = some bs → bs ≠ []

structure MLawful {α} (m : MFmt α) (D : α → Prop) : Prop where
  rt : ∀ a bs, D a → m.ser a = some bs → m.par bs = some a

structure MNoPrefix {α} (m : MFmt α) (D : α → Prop) : Prop where
  np : ∀ a bs p, D a → m.ser a = some bs → p <+: bs → p ≠ bs → m.par p = none

theorem Lawful.mono {α} {c : Fmt α} {D D' : α → Prop} (h : Lawful c D) (hD : ∀ a, D' a → D a) : Lawful c D' :=
  ⟨fun a bs tl hd hs => h.rt a bs tl (hD a hd) hs⟩

theorem MLawful.mono {α} {m : MFmt α} {D D' : α → Prop} (h : MLawful m D) (hD : ∀ a, D' a → D a) : MLawful m D' :=
  ⟨fun a bs hd hs => h.rt a bs (hD a hd) hs⟩

theorem natBE_eq (k n : Nat) : natBE k n = fixBE k n := by
  induction k with
  | zero => rfl
  | succ k ih => exact congrArg (_ :: ·) ih

theorem beNat_eq (bs : Bytes) : beNat bs = be256 bs := by
  induction bs with
  | nil => rfl
  | cons b r ih => rw [beNat, be256_cons, ih]

@[simp] theorem natBE_length (k n : Nat) : (natBE k n).length = k := by
  rw [natBE_eq, fixBE_length]

theorem beNat_natBE (k n : Nat) : beNat (natBE k n) = n % 256 ^ k := by
  rw [beNat_eq, natBE_eq, be256_fixBE]

theorem beNat_natBE_lt {k n : Nat} (h : n < 256 ^ k) : beNat (natBE k n) = n := by
  rw [beNat_natBE, Nat.mod_eq_of_lt h]

theorem prefix_strict_length {p bs : Bytes} (h : p <+: bs) (hne : p ≠ bs) : p.length < bs.length := by
  obtain ⟨t, rfl⟩ := h
  cases t with
  | nil => simp at hne
  | cons x t => simp

theorem prefix_append_cases {p a b : Bytes} (h : p <+: a ++ b) (hne : p ≠ a ++ b) :
    (p <+: a ∧ p ≠ a) ∨ ∃ q, p = a ++ q ∧ q <+: b ∧ q ≠ b := by
  obtain ⟨t, ht⟩ := h
  rcases List.append_eq_append_iff.mp ht with ⟨as, ha, _⟩ | ⟨q, hq, hb⟩
  · by_cases hpa : p = a
    · subst hpa
      right
      refine ⟨[], by simp, List.nil_prefix, ?_⟩
      intro hb
      subst hb
      simp at hne
    · exact Or.inl ⟨⟨as, ha.symm⟩, hpa⟩
  · right
    refine ⟨q, hq, ⟨t, hb.symm⟩, ?_⟩
    intro hb'
    subst hb'
    exact hne hq


theorem of_match_append {x y : Option Bytes} {v : Bytes}
    (h : (match x, y with | some p, some q => some (p ++ q) | _, _ => none) = some v) :
    ∃ p q, x = some p ∧ y = some q ∧ v = p ++ q := by
  cases x with
  | none => cases h
  | some p =>
    cases y with
    | none => cases h
    | some q => exact ⟨p, q, rfl, rfl, (Option.some.inj h).symm⟩

theorem uN_ser_inv {k n : Nat} {bs : Bytes} (h : (uN k).ser n = some bs) : n < 256 ^ k ∧ natBE k n = bs :=
  accept_eq_some.1 h

theorem opq_ser_inv {k : Nat} {b bs : Bytes} (h : (opq k).ser b = some bs) :
    b.length < 256 ^ k ∧ natBE k b.length ++ b = bs :=
  accept_eq_some.1 h

theorem pair_ser_inv {α β} {a : Fmt α} {b : Fmt β} {x : α × β} {bs : Bytes} (h : (pair a b).ser x = some bs) :
    ∃ p q, a.ser x.1 = some p ∧ b.ser x.2 = some q ∧ bs = p ++ q :=
  of_match_append h

theorem lp_ser_inv {α} {m : MFmt α} {k : Nat} {a : α} {bs : Bytes} (h : (lp k m).ser a = some bs) :
    ∃ body, m.ser a = some body ∧ body.length < 256 ^ k ∧ natBE k body.length ++ body = bs := by
  simp only [lp] at h
  cases h1 : m.ser a with
  | none => rw [h1] at h; cases h
  | some b => rw [h1] at h; exact ⟨b, rfl, accept_eq_some.1 h⟩

theorem hdrSkip_ser_inv {α} {m : MFmt α} {typ : Nat} {a : α} {bs : Bytes} (h : (hdrSkip typ m).ser a = some bs) :
    ∃ b, m.ser a = some b ∧ b.length < 256 ^ 3 ∧ UInt8.ofNat typ :: natBE 3 b.length ++ b = bs := by
  simp only [hdrSkip] at h
  cases h1 : m.ser a with
  | none => rw [h1] at h; cases h
  | some b => rw [h1] at h; exact ⟨b, rfl, accept_eq_some.1 h⟩

/-- `hdrSkipT` and `hdrChecked` encode alike -/
theorem hdrT_ser_inv {α} {m : MFmt α} {typ : Nat} {a : α} {bs : Bytes}
    (h : (match m.ser a with | none => none | some b => some (UInt8.ofNat typ :: natBE 3 b.length ++ b)) = some bs) :
    ∃ b, m.ser a = some b ∧ UInt8.ofNat typ :: natBE 3 b.length ++ b = bs := by
  cases h1 : m.ser a with
  | none => rw [h1] at h; cases h
  | some b => rw [h1] at h; exact ⟨b, rfl, Option.some.inj h⟩

theorem uN_ser_length {k n : Nat} {bs : Bytes} (h : (uN k).ser n = some bs) : bs.length = k := by
  rw [← (uN_ser_inv h).2, natBE_length]

theorem opq_ser_length {k : Nat} {b bs : Bytes} (h : (opq k).ser b = some bs) :
    bs.length = k + b.length ∧ b.length < 256 ^ k := by
  obtain ⟨hlt, rfl⟩ := opq_ser_inv h
  exact ⟨by rw [List.length_append, natBE_length], hlt⟩

theorem lp_ser_length {α} {m : MFmt α} {k : Nat} {a : α} {bs : Bytes} (h : (lp k m).ser a = some bs) :
    ∃ body, m.ser a = some body ∧ bs.length = k + body.length ∧ body.length < 256 ^ k := by
  obtain ⟨b, h1, hlt, rfl⟩ := lp_ser_inv h
  exact ⟨b, h1, by rw [List.length_append, natBE_length], hlt⟩

theorem uN_lawful (k : Nat) : Lawful (uN k) (fun _ => True) := by
  refine ⟨fun a bs tl _ h => ?_⟩
  obtain ⟨hlt, rfl⟩ := uN_ser_inv h
  simp [uN, beNat_natBE_lt hlt]

theorem uN_noPrefix (k : Nat) : NoPrefix (uN k) (fun _ => True) := by
  refine ⟨fun a bs p _ h hp hne => ?_⟩
  have hl := prefix_strict_length hp hne
  rw [uN_ser_length h] at hl
  simp [uN, hl]

theorem uN_nonEmpty {k : Nat} (hk : 0 < k) : NonEmptyEnc (uN k) := by
  refine ⟨fun a bs h hbs => ?_⟩
  have := uN_ser_length h
  rw [hbs] at this
  exact absurd this.symm (Nat.ne_of_gt hk)

theorem bytesN_lawful (n : Nat) : Lawful (bytesN n) (fun _ => True) := by
  refine ⟨fun a bs tl _ h => ?_⟩
  obtain ⟨rfl, rfl⟩ := accept_eq_some.1 h
  simp [bytesN]

theorem bytesN_noPrefix (n : Nat) : NoPrefix (bytesN n) (fun _ => True) := by
  refine ⟨fun a bs p _ h hp hne => ?_⟩
  have hl := prefix_strict_length hp hne
  obtain ⟨rfl, rfl⟩ := accept_eq_some.1 h
  simp [bytesN, hl]

theorem opq_par_natBE (k : Nat) {n : Nat} (q : Bytes) (h : n < 256 ^ k) :
    (opq k).par (natBE k n ++ q) = if q.length < n then none else some (q.take n, q.drop n) := by
  have h1 : ¬ (natBE k n ++ q).length < k := by simp
  simp only [opq]
  rw [if_neg h1, List.take_left' (natBE_length k n), List.drop_left' (natBE_length k n), beNat_natBE_lt h]

theorem opq_par_ser (k : Nat) (b tl : Bytes) (h : b.length < 256 ^ k) :
    (opq k).par (natBE k b.length ++ b ++ tl) = some (b, tl) := by
  rw [List.append_assoc, opq_par_natBE k _ h, if_neg (by simp), List.take_left, List.drop_left]

theorem opq_lawful (k : Nat) : Lawful (opq k) (fun _ => True) := by
  refine ⟨fun a bs tl _ h => ?_⟩
  obtain ⟨hlt, rfl⟩ := opq_ser_inv h
  exact opq_par_ser k a tl hlt

theorem opq_par_prefix_none (k : Nat) (b p : Bytes) (h : b.length < 256 ^ k)
    (hp : p <+: natBE k b.length ++ b) (hne : p ≠ natBE k b.length ++ b) : (opq k).par p = none := by
  rcases prefix_append_cases hp hne with ⟨hpa, hnea⟩ | ⟨q, rfl, hq, hneq⟩
  · have hl := prefix_strict_length hpa hnea
    rw [natBE_length] at hl
    simp only [opq, if_pos hl]
  · rw [opq_par_natBE k q h, if_pos (prefix_strict_length hq hneq)]

theorem opq_noPrefix (k : Nat) : NoPrefix (opq k) (fun _ => True) := by
  refine ⟨fun a bs p _ h hp hne => ?_⟩
  obtain ⟨hlt, rfl⟩ := opq_ser_inv h
  exact opq_par_prefix_none k a p hlt hp hne

theorem opq_nonEmpty {k : Nat} (hk : 0 < k) : NonEmptyEnc (opq k) := by
  refine ⟨fun a bs h hbs => ?_⟩
  have := (opq_ser_length h).1
  rw [hbs] at this
  exact absurd this (by simp; omega)

theorem skipC_lawful (c : Bytes) : Lawful (skipC c) (fun _ => True) := by
  refine ⟨fun a bs tl _ h => ?_⟩
  cases h
  simp [skipC]

theorem skipC_noPrefix (c : Bytes) : NoPrefix (skipC c) (fun _ => True) := by
  refine ⟨fun a bs p _ h hp hne => ?_⟩
  have hl := prefix_strict_length hp hne
  cases h
  simp [skipC, hl]

theorem constC_lawful (c : Bytes) : Lawful (constC c) (fun _ => True) := by
  refine ⟨fun a bs tl _ h => ?_⟩
  cases h
  simp [constC]

theorem constC_noPrefix (c : Bytes) : NoPrefix (constC c) (fun _ => True) := by
  refine ⟨fun a bs p _ h hp hne => ?_⟩
  have hl := prefix_strict_length hp hne
  cases h
  have : p.take c.length ≠ c := fun h => by
    have := congrArg List.length h
    simp at this
    omega
  simp [constC, this]

theorem pair_lawful {α β} {a : Fmt α} {b : Fmt β} {Da Db}
    (ha : Lawful a Da) (hb : Lawful b Db) : Lawful (pair a b) (fun x => Da x.1 ∧ Db x.2) := by
  refine ⟨fun x bs tl hD h => ?_⟩
  obtain ⟨p, q, h1, h2, rfl⟩ := pair_ser_inv h
  simp only [pair, List.append_assoc, ha.rt _ _ _ hD.1 h1, hb.rt _ _ _ hD.2 h2]

theorem pair_noPrefix {α β} {a : Fmt α} {b : Fmt β} {Da Db}
    (ha : Lawful a Da) (hna : NoPrefix a Da) (hnb : NoPrefix b Db) :
    NoPrefix (pair a b) (fun x => Da x.1 ∧ Db x.2) := by
  refine ⟨fun x bs p hD h hp hne => ?_⟩
  obtain ⟨p1, q, h1, h2, rfl⟩ := pair_ser_inv h
  rcases prefix_append_cases hp hne with ⟨hpa, hnea⟩ | ⟨r, rfl, hr, hner⟩
  · simp only [pair, hna.np _ _ _ hD.1 h1 hpa hnea]
  · simp only [pair, ha.rt _ _ _ hD.1 h1, hnb.np _ _ _ hD.2 h2 hr hner]

theorem pair_nonEmpty_left {α β} {a : Fmt α} {b : Fmt β} (ha : NonEmptyEnc a) : NonEmptyEnc (pair a b) := by
  refine ⟨fun x bs h hbs => ?_⟩
  obtain ⟨p, q, h1, _, rfl⟩ := pair_ser_inv h
  exact ha.ne _ _ h1 (List.append_eq_nil_iff.mp hbs).1

theorem guard_lawful {α} {c : Fmt α} {D} (p : α → Bool) (hc : Lawful c D) :
    Lawful (guard p c) (fun a => D a ∧ p a = true) := by
  refine ⟨fun a bs tl hD h => ?_⟩
  simp only [guard, hc.rt _ _ _ hD.1 h, hD.2, if_true]

theorem guard_noPrefix {α} {c : Fmt α} {D} (p : α → Bool) (hc : NoPrefix c D) :
    NoPrefix (guard p c) (fun a => D a ∧ p a = true) := by
  refine ⟨fun a bs q hD h hq hne => ?_⟩
  simp only [guard, hc.np _ _ _ hD.1 h hq hne]

theorem guard_nonEmpty {α} {c : Fmt α} (p : α → Bool) (hc : NonEmptyEnc c) : NonEmptyEnc (guard p c) :=
  ⟨fun a bs h => hc.ne a bs h⟩

theorem minLen_lawful {α} {c : Fmt α} {D} (n : Nat) (hc : Lawful c D) :
    Lawful (minLen n c) (fun a => D a ∧ ∀ bs, c.ser a = some bs → n ≤ bs.length) := by
  refine ⟨fun a bs tl hD h => ?_⟩
  have := hD.2 bs h
  have h1 : ¬ (bs ++ tl).length < n := by simp; omega
  simp only [minLen, if_neg h1]
  exact hc.rt _ _ _ hD.1 h

theorem minLen_noPrefix {α} {c : Fmt α} {D} (n : Nat) (hc : NoPrefix c D) :
    NoPrefix (minLen n c) (fun a => D a ∧ ∀ bs, c.ser a = some bs → n ≤ bs.length) := by
  refine ⟨fun a bs q hD h hq hne => ?_⟩
  simp only [minLen]
  split
  · rfl
  · exact hc.np _ _ _ hD.1 h hq hne

theorem minLen_nonEmpty {α} {c : Fmt α} (n : Nat) (hc : NonEmptyEnc c) : NonEmptyEnc (minLen n c) :=
  ⟨fun a bs h => hc.ne a bs h⟩

theorem iso_lawful {α β} {c : Fmt α} {D} (f : α → β) (g : β → α) (hc : Lawful c D) :
    Lawful (iso f g c) (fun b => D (g b) ∧ f (g b) = b) := by
  refine ⟨fun b bs tl hD h => ?_⟩
  simp only [iso, hc.rt _ _ _ hD.1 h, hD.2]

theorem iso_noPrefix {α β} {c : Fmt α} {D} (f : α → β) (g : β → α) (hc : NoPrefix c D) :
    NoPrefix (iso f g c) (fun b => D (g b) ∧ f (g b) = b) := by
  refine ⟨fun b bs q hD h hq hne => ?_⟩
  simp only [iso, hc.np _ _ _ hD.1 h hq hne]

theorem iso_nonEmpty {α β} {c : Fmt α} (f : α → β) (g : β → α) (hc : NonEmptyEnc c) : NonEmptyEnc (iso f g c) :=
  ⟨fun b bs h => hc.ne (g b) bs h⟩

/-- a format chosen by an input of the parser (`hasSignatureAlgorithm`) -/
theorem ite_lawful {α} {c₁ c₂ : Fmt α} {D₁ D₂ : α → Prop} (b : Bool) (h₁ : Lawful c₁ D₁) (h₂ : Lawful c₂ D₂) :
    Lawful (if b then c₁ else c₂) (fun a => (b = true → D₁ a) ∧ (b = false → D₂ a)) := by
  cases b
  · exact h₂.mono fun _ h => h.2 rfl
  · exact h₁.mono fun _ h => h.1 rfl

theorem ite_noPrefix {α} {c₁ c₂ : Fmt α} {D₁ D₂ : α → Prop} (b : Bool) (h₁ : NoPrefix c₁ D₁) (h₂ : NoPrefix c₂ D₂) :
    NoPrefix (if b then c₁ else c₂) (fun a => (b = true → D₁ a) ∧ (b = false → D₂ a)) := by
  cases b
  · exact ⟨fun a bs p h => h₂.np a bs p (h.2 rfl)⟩
  · exact ⟨fun a bs p h => h₁.np a bs p (h.1 rfl)⟩

theorem lp_lawful {α} {m : MFmt α} {D} (k : Nat) (hm : MLawful m D) : Lawful (lp k m) D := by
  refine ⟨fun a bs tl hD h => ?_⟩
  obtain ⟨b, h1, hlt, rfl⟩ := lp_ser_inv h
  simp only [lp, opq_par_ser k b tl hlt, hm.rt _ _ hD h1]

theorem lp_noPrefix {α} {m : MFmt α} (D : α → Prop) (k : Nat) : NoPrefix (lp k m) D := by
  refine ⟨fun a bs p _ h hp hne => ?_⟩
  obtain ⟨b, _, hlt, rfl⟩ := lp_ser_inv h
  simp only [lp, opq_par_prefix_none k b p hlt hp hne]

theorem lp_nonEmpty {α} {m : MFmt α} {k : Nat} (hk : 0 < k) : NonEmptyEnc (lp k m) := by
  refine ⟨fun a bs h hbs => ?_⟩
  obtain ⟨b, _, hl, _⟩ := lp_ser_length h
  rw [hbs] at hl
  exact absurd hl (by simp; omega)


theorem restB_lawful : MLawful restB (fun _ => True) :=
  ⟨fun _ _ _ h => h.symm⟩

theorem complete_lawful {α} {c : Fmt α} {D} (hc : Lawful c D) : MLawful (complete c) D := by
  refine ⟨fun a bs hD h => ?_⟩
  have := hc.rt a bs [] hD h
  rw [List.append_nil] at this
  simp only [complete, this]

theorem complete_noPrefix {α} {c : Fmt α} {D} (hc : NoPrefix c D) : MNoPrefix (complete c) D := by
  refine ⟨fun a bs p hD h hp hne => ?_⟩
  simp only [complete, hc.np a bs p hD h hp hne]

theorem parMany_nil {α} (par : Bytes → Option (α × Bytes)) : parMany par [] = some [] := by
  rw [parMany]

theorem parMany_step {α} (par : Bytes → Option (α × Bytes)) (s r : Bytes) (a : α)
    (hs : s ≠ []) (hp : par s = some (a, r)) (hlt : r.length < s.length) :
    parMany par s = (parMany par r).map (a :: ·) := by
  cases s with
  | nil => exact absurd rfl hs
  | cons b t =>
    rw [parMany]
    simp only [hp]
    rw [dif_pos hlt]
    cases parMany par r <;> rfl

theorem many_lawful {α} {c : Fmt α} {D} (hc : Lawful c D) (hne : NonEmptyEnc c) :
    MLawful (many c) (fun l => ∀ x ∈ l, D x) := by
  refine ⟨fun l => ?_⟩
  induction l with
  | nil =>
    intro bs _ h
    cases h
    exact parMany_nil _
  | cons a l ih =>
    intro bs hD h
    obtain ⟨p, q, h1, h2, rfl⟩ := of_match_append h
    have hp : p ≠ [] := hne.ne a p h1
    have hlt : q.length < (p ++ q).length := by
      have := List.length_pos_iff.mpr hp
      simp
      omega
    have hrec : parMany c.par q = some l := ih q (fun x hx => hD x (List.mem_cons_of_mem _ hx)) h2
    show parMany c.par (p ++ q) = some (a :: l)
    rw [parMany_step c.par (p ++ q) q a (by simp [hp]) (hc.rt a p q (hD a (List.mem_cons_self ..)) h1) hlt, hrec]
    rfl

theorem mguard_lawful {α} {m : MFmt α} {D} (p : α → Bool) (hm : MLawful m D) :
    MLawful (mguard p m) (fun a => D a ∧ p a = true) := by
  refine ⟨fun a bs hD h => ?_⟩
  simp only [mguard, hm.rt _ _ hD.1 h, hD.2, if_true]

theorem miso_lawful {α β} {m : MFmt α} {D} (f : α → β) (g : β → α) (hm : MLawful m D) :
    MLawful (miso f g m) (fun b => D (g b) ∧ f (g b) = b) := by
  refine ⟨fun b bs hD h => ?_⟩
  simp only [miso, hm.rt _ _ hD.1 h, Option.map_some, hD.2]

theorem miso_noPrefix {α β} {m : MFmt α} {D} (f : α → β) (g : β → α) (hm : MNoPrefix m D) :
    MNoPrefix (miso f g m) (fun b => D (g b) ∧ f (g b) = b) := by
  refine ⟨fun b bs q hD h hq hne => ?_⟩
  simp only [miso, hm.np _ _ _ hD.1 h hq hne, Option.map_none]

/-- optional tail: the tail, when present, must have a non-empty encoding (otherwise the decoder
    cannot tell it from an absent one). -/
theorem optTail_lawful {α β} {c : Fmt α} {t : MFmt β} {Dc Dt} (hc : Lawful c Dc) (ht : MLawful t Dt) :
    MLawful (optTail c t)
      (fun x => Dc x.1 ∧ ∀ y, x.2 = some y → Dt y ∧ ∀ q, t.ser y = some q → q ≠ []) := by
  refine ⟨fun x bs hD h => ?_⟩
  obtain ⟨a, o⟩ := x
  simp only [optTail] at h ⊢
  cases h1 : c.ser a with
  | none => simp [h1] at h
  | some p =>
    simp only [h1] at h
    cases o with
    | none =>
      simp at h
      subst h
      have := hc.rt a p [] hD.1 h1
      rw [List.append_nil] at this
      rw [this]
    | some y =>
      simp only at h
      cases h2 : t.ser y with
      | none => simp [h2] at h
      | some q =>
        simp [h2] at h
        subst h
        obtain ⟨hDt, hq⟩ := hD.2 y rfl
        have hqne := hq q h2
        rw [hc.rt a p q hD.1 h1]
        cases q with
        | nil => exact absurd rfl hqne
        | cons b r =>
          simp only
          rw [ht.rt y _ hDt h2]

theorem hdrSkip_lawful {α} {m : MFmt α} {D} (typ : Nat) (hm : MLawful m D) : MLawful (hdrSkip typ m) D := by
  refine ⟨fun a bs hD h => ?_⟩
  obtain ⟨b, h1, _, rfl⟩ := hdrSkip_ser_inv h
  simp [hdrSkip, hm.rt _ _ hD h1]

theorem skip4_noPrefix {α} {m : MFmt α} {D} (hm : MNoPrefix m D) {a : α} {b hdr p : Bytes} (hD : D a)
    (h1 : m.ser a = some b) (hl : hdr.length = 4) (hp : p <+: hdr ++ b) (hne : p ≠ hdr ++ b) :
    (if p.length < 4 then none else m.par (p.drop 4)) = none := by
  split
  · rfl
  · rcases prefix_append_cases hp hne with ⟨hpa, hnea⟩ | ⟨r, rfl, hr, hner⟩
    · have := prefix_strict_length hpa hnea
      omega
    · rw [← hl, List.drop_left]
      exact hm.np _ _ _ hD h1 hr hner

theorem hdrSkip_noPrefix {α} {m : MFmt α} {D} (typ : Nat) (hm : MNoPrefix m D) : MNoPrefix (hdrSkip typ m) D := by
  refine ⟨fun a bs p hD h hp hne => ?_⟩
  obtain ⟨b, h1, _, rfl⟩ := hdrSkip_ser_inv h
  exact skip4_noPrefix hm (hdr := UInt8.ofNat typ :: natBE 3 b.length) hD h1 (by simp) hp hne

theorem hdrSkipT_lawful {α} {m : MFmt α} {D} (typ : Nat) (hm : MLawful m D) : MLawful (hdrSkipT typ m) D := by
  refine ⟨fun a bs hD h => ?_⟩
  obtain ⟨b, h1, rfl⟩ := hdrT_ser_inv h
  simp [hdrSkipT, hm.rt _ _ hD h1]

theorem hdrSkipT_noPrefix {α} {m : MFmt α} {D} (typ : Nat) (hm : MNoPrefix m D) : MNoPrefix (hdrSkipT typ m) D := by
  refine ⟨fun a bs p hD h hp hne => ?_⟩
  obtain ⟨b, h1, rfl⟩ := hdrT_ser_inv h
  exact skip4_noPrefix hm (hdr := UInt8.ofNat typ :: natBE 3 b.length) hD h1 (by simp) hp hne

theorem hdrChecked_par_hdr {α} {m : MFmt α} {typ n : Nat} (r : Bytes) (h : n < 256 ^ 3) :
    (hdrChecked typ m).par (UInt8.ofNat typ :: natBE 3 n ++ r) = if n ≠ r.length then none else m.par r := by
  simp [hdrChecked, beNat_natBE_lt h]
  intro hlt
  omega

/-- the encoder truncates the length to 24 bits and the decoder compares it with what follows: hence the domain -/
theorem hdrChecked_lawful {α} {m : MFmt α} {D} (typ : Nat) (hm : MLawful m D) :
    MLawful (hdrChecked typ m) (fun a => D a ∧ ∀ b, m.ser a = some b → b.length < 256 ^ 3) := by
  refine ⟨fun a bs hD h => ?_⟩
  obtain ⟨b, h1, rfl⟩ := hdrT_ser_inv h
  rw [hdrChecked_par_hdr b (hD.2 b h1), if_neg (fun hn => hn rfl)]
  exact hm.rt _ _ hD.1 h1

theorem hdrChecked_noPrefix {α} {m : MFmt α} (typ : Nat) :
    MNoPrefix (hdrChecked typ m) (fun a => ∀ b, m.ser a = some b → b.length < 256 ^ 3) := by
  refine ⟨fun a bs p hD h hp hne => ?_⟩
  obtain ⟨b, h1, rfl⟩ := hdrT_ser_inv h
  rcases prefix_append_cases (a := UInt8.ofNat typ :: natBE 3 b.length) hp hne with ⟨hpa, hnea⟩ | ⟨r, rfl, hr, hner⟩
  · have hl := prefix_strict_length hpa hnea
    rw [List.length_cons, natBE_length] at hl
    simp only [hdrChecked, if_pos hl]
  · exact (hdrChecked_par_hdr r (hD b h1)).trans (if_pos (Nat.ne_of_gt (prefix_strict_length hr hner)))


theorem beNat_lt (l : Bytes) : beNat l < 256 ^ l.length := by
  rw [beNat_eq]
  exact be256_lt l

theorem natBE_beNat (l : Bytes) : natBE l.length (beNat l) = l := by
  rw [beNat_eq, natBE_eq, fixBE_be256]

theorem natBE_beNat_take {k : Nat} {s : Bytes} (h : ¬ s.length < k) :
    beNat (s.take k) < 256 ^ k ∧ natBE k (beNat (s.take k)) = s.take k := by
  have h1 := beNat_lt (s.take k)
  have h2 := natBE_beNat (s.take k)
  rw [List.length_take_of_le (Nat.le_of_not_lt h)] at h1 h2
  exact ⟨h1, h2⟩

theorem uN_par_inv {k n : Nat} {s r : Bytes} (h : (uN k).par s = some (n, r)) :
    n < 256 ^ k ∧ natBE k n ++ r = s := by
  simp only [uN] at h
  split at h
  · cases h
  · cases h
    obtain ⟨h1, h2⟩ := natBE_beNat_take ‹_›
    exact ⟨h1, by rw [h2, List.take_append_drop]⟩

theorem opq_par_inv {k : Nat} {s b r : Bytes} (h : (opq k).par s = some (b, r)) :
    b.length < 256 ^ k ∧ natBE k b.length ++ b ++ r = s := by
  simp only [opq] at h
  split at h
  · cases h
  · split at h
    · cases h
    · cases h
      obtain ⟨h1, h2⟩ := natBE_beNat_take ‹¬ s.length < k›
      rw [List.length_take_of_le (Nat.le_of_not_lt ‹_›)]
      exact ⟨h1, by rw [h2, List.append_assoc, List.take_append_drop, List.take_append_drop]⟩

theorem pair_par_inv {α β} {a : Fmt α} {b : Fmt β} {s r : Bytes} {x : α × β} (h : (pair a b).par s = some (x, r)) :
    ∃ r1, a.par s = some (x.1, r1) ∧ b.par r1 = some (x.2, r) := by
  simp only [pair] at h
  split at h
  · cases h
  · rename_i y r1 h1
    split at h
    · cases h
    · rename_i z r' h2
      cases h
      exact ⟨r1, h1, h2⟩

theorem complete_par_inv {α} {c : Fmt α} {s : Bytes} {a : α} (h : (complete c).par s = some a) :
    c.par s = some (a, []) := by
  simp only [complete] at h
  split at h
  · rename_i a' h1
    cases h
    exact h1
  · cases h

end ZV.TlsWire
