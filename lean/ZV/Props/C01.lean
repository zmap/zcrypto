import ZV.Proofs.C01
import ZV.Proofs.C01Asn1
import ZV.Proofs.C01Alloc
import ZV.Proofs.C01Bridge
import ZV.Proofs.C01Ec
import ZV.Props.C15
import ZV.Props.C16
import ZV.Props.C30
import ZV.Props.C32
/-!
  C01 — parsers of untrusted bytes never panic, hang or over-allocate: the theorems.

  All statements are about the executable models of `ZV.Model.C01` (tied to the Go code by the T2
  streams `tl b128 il seqof cba cbe cblp sst crlset onecrle edkey rsapub ecpriv`). In the models every Go
  index / slice expression is `idx` / `slice` (out of range = `Res.panic`), the preconditions of the
  primitives (`ed25519.Verify`, `math/big`) are explicit `Res.panic` branches, and every loop is a
  total Lean function, so *termination is part of the definition being accepted* and "no panic" is
  what is proved below, for every input and both parsing modes.

  The reflective `parseField` engine of `encoding/asn1` (on which every x509 / OCSP parser is built) is
  covered through the deep-embedded model `ZV.Model.C18` (tied to the Go code by the C18 and C20
  correspondence streams): see the section on the reflective engine below. `ZV.Model.C18` works on suffixes (`bytes[offset:]`) and
  takes lists apart by pattern matching, so an out-of-range index cannot be WRITTEN in it: its `Res.panic`
  arms only propagate. What carries the content there is therefore (a) the bridge theorems — the suffix-style
  header reader and counting loop of `ZV.Model.C18` ARE the index-explicit ones of `ZV.Model.C01` —, (b) the
  in-bounds theorems — every `take` / `drop` of the engine is guarded, the content slice has exactly the
  announced length —, (c) consumption / progress, (d) the fuel of the two fuelled loops is never what stops
  them, and (e) the linear allocation bound.

  The CT decoders, the TLS record reader, the key-exchange parsers and the TLS handshake messages are covered by
  corollaries of the owning packages' models (C16, C32, C30; section "composition"); `entrypoints_accounted` ties the
  list of covered entry points to a scan of the source.

  -- FULL (not proved here): the same for the parts of `encoding/asn1` outside `ZV.Model.C18`
  -- (`time.Time`, `interface{}`, `RawContent`, int8/int16) and for the cryptobyte readers other than `read`,
  -- `readLengthPrefixed`, `readASN1`. Those are explored by T3 only (see tools/props/C01.json and the `.t3` rows of
  -- `coverTable`).
-/
namespace ZV.C01

/-! ### encoding/asn1 header reader (`parseBase128Int`, `parseTagAndLength`, `invalidLength`) -/

/-- the base-128 tag reader never indexes out of range, whatever the offset -/
theorem der_base128_no_panic (bs : Bytes) (off : Nat) : parseBase128Int bs off ≠ .panic :=
  (parseBase128Int_sat bs off).ne_panic

/-- … and what it returns lies strictly beyond the start, inside the input, and fits an int32 -/
theorem der_base128_consumed (bs : Bytes) (off r o : Nat) (h : parseBase128Int bs off = .ok (r, o)) :
    off < o ∧ o ≤ bs.length ∧ r ≤ 2147483647 :=
  (parseBase128Int_sat bs off).of_ok h

example : parseBase128Int [0x81, 0x00] 0 = .ok (128, 2) := by decide +kernel

/-- `parseTagAndLength` never panics: both parsing modes, every byte string, every offset -/
theorem der_header_no_panic (perm : Bool) (bs : Bytes) (off : Nat) : parseTagAndLength perm bs off ≠ .panic :=
  (parseTagAndLength_sat perm bs off).ne_panic

/-- an accepted header consumes at least two bytes, stays inside the input, and its length field is
    < 2^31 (so `offset + length` cannot overflow where the callers add them) -/
theorem der_header_consumed (perm : Bool) (bs : Bytes) (off : Nat) (t : TL) (o : Nat)
    (h : parseTagAndLength perm bs off = .ok (t, o)) : off + 2 ≤ o ∧ o ≤ bs.length ∧ t.len < 2147483648 :=
  (parseTagAndLength_sat perm bs off).of_ok h

example : parseTagAndLength false [0x30, 0x82, 0x01, 0x00] 0 = .ok (⟨0, 16, 256, true⟩, 4) := by decide +kernel

/-- the permissive switch only relaxes: whatever strict mode accepts, permissive mode accepts with the same result -/
theorem der_header_strict_le_permissive (bs : Bytes) (off : Nat) (r : TL × Nat)
    (h : parseTagAndLength false bs off = .ok r) : parseTagAndLength true bs off = .ok r :=
  parseTagAndLength_relax bs off r h

/-- and it really is a relaxation (non-minimal long form) -/
example : parseTagAndLength false [0x04, 0x81, 0x05] 0 = .err ∧
    parseTagAndLength true [0x04, 0x81, 0x05] 0 = .ok (⟨0, 4, 5, false⟩, 3) := by decide +kernel

/-- `invalidLength` = false really means the element lies inside the slice -/
theorem der_invalidLength_sound (o l s : Nat) (h : invalidLength o l s = false) : o + l ≤ s :=
  invalidLength_false h

example : invalidLength 2 3 5 = false := by decide

/-- the wrapping int64 expression of the Go code and the mathematical one agree on every pair of
    non-negative int64 arguments — the overflow arm `offset+length < offset` closes the hole -/
theorem der_invalidLength_wraps (o l s : Nat) (ho : o < 9223372036854775808) (hl : l < 9223372036854775808) :
    invalidLengthInt o l s = invalidLength o l s :=
  invalidLength_eq_int o l s ho hl

example : invalidLengthInt 9223372036854775807 1 100 = true := by decide

/-! ### the element loop (`parseSequenceOf`) and `Unmarshal` into `[]RawValue` -/

/-- the counting loop of `parseSequenceOf` never panics. The model recurses on `len - offset` behind an explicit test
    that the offset grew, with `panic` in the other arm; that arm is never taken because every accepted header
    advances (`der_header_consumed`): the loop cannot spin -/
theorem der_seqof_loop_no_panic (perm : Bool) (bs : Bytes) (off n : Nat) : countElems perm bs off n ≠ .panic :=
  countElems_no_panic perm bs off n

/-- allocation of the element loop: the element count it hands to `reflect.MakeSlice` is at most half
    the number of content bytes -/
theorem der_seqof_count_linear (perm : Bool) (bs : Bytes) (m : Nat) (h : countElems perm bs 0 0 = .ok m) :
    2 * m ≤ bs.length :=
  ((countElems_sat perm bs 0 0).of_ok h).trans (Nat.le_of_eq (Nat.zero_add _))

example : countElems false [0x05, 0x00] 0 0 = .ok 1 := by decide +kernel

theorem der_unmarshal_rawseq_no_panic (perm : Bool) (bs : Bytes) : unmarshalRawSeq perm bs ≠ .panic := by
  refine Res.Sat.ne_panic (P := fun _ => True) ?_
  unfold unmarshalRawSeq
  refine .guard fun _ => (parseTagAndLength_sat perm bs 0).elim (fun x _ => ?_) trivial
  refine .guard fun _ => .guard fun hinv => ?_
  have := invalidLength_false (by simpa using hinv)
  rw [slice_ok (by omega) this]
  dsimp only
  exact (countElems_sat perm _ 0 0).elim (fun _ _ => trivial) trivial

/-! ### cryptobyte `readASN1` -/

/-- `readASN1` never reaches its `panic("cryptobyte: internal error")` nor an out-of-range slice,
    including for lengths near 2^32 (the `headerLen+len32 < len32` guard) -/
theorem cb_readASN1_no_panic (s : Bytes) (skipHeader : Bool) : cbReadASN1 s skipHeader ≠ .panic :=
  (cbReadASN1_sat s skipHeader).ne_panic

/-- what it hands out and what it leaves never exceed the input, and it always consumes ≥ 2 bytes -/
theorem cb_readASN1_consumed (s : Bytes) (skip : Bool) (tag : UInt8) (out rest : Bytes)
    (h : cbReadASN1 s skip = .ok (tag, out, rest)) :
    out.length + rest.length ≤ s.length ∧ rest.length + 2 ≤ s.length :=
  (cbReadASN1_sat s skip).of_ok h

example : cbReadASN1 [0x04, 0x01, 0xaa, 0xbb] true = .ok (0x04, [0xaa], [0xbb]) := by decide +kernel
/-- the uint32 overflow case is an error, not a wrap-around -/
example : cbReadASN1 [0x04, 0x84, 0xff, 0xff, 0xff, 0xfb, 0x00] true = .err := by decide +kernel

/-! ### Microsoft SST -/

/-- `microsoft.parse` is total for every input and every behaviour of the certificate parser -/
theorem sst_parse_total (certOK : Bytes → Bool) (bs : Bytes) : sstParse certOK bs ≠ .panic :=
  (sstParse_sat certOK bs).ne_panic

/-- and the buffers it allocates (`make([]byte, len)` + the decoder buffer of `binary.Read`) are
    bounded by twice the input length -/
theorem sst_parse_alloc (certOK : Bytes → Bool) (bs : Bytes) (n a : Nat) (h : sstParse certOK bs = .ok (n, a)) :
    a ≤ 2 * bs.length :=
  (sstParse_sat certOK bs).of_ok h

example : sstParse (fun _ => true) [0,0,0,0, 0x43,0x45,0x52,0x54, 32,0,0,0, 1,0,0,0, 2,0,0,0, 7,7] = .ok (1, 4) := by
  decide +kernel

/-! ### Google CRLSet -/

theorem crlset_parse_total (headerOK : Bool) (bs : Bytes) : crlsetParse headerOK bs ≠ .panic :=
  (crlsetParse_sat headerOK bs).ne_panic

/-- allocation (with the unit costs of the model: 128 per issuer entry, 64 + 2·len per serial) is at
    most 64 bytes per input byte -/
theorem crlset_parse_alloc (headerOK : Bool) (bs : Bytes) (k n a : Nat)
    (h : crlsetParse headerOK bs = .ok (k, n, a)) : a ≤ 64 * bs.length :=
  (crlsetParse_sat headerOK bs).of_ok h

example : crlsetParse true [2, 0, 0x7b, 0x7d] = .ok (0, 0, 0) := by decide +kernel

/-! ### Mozilla OneCRL -/

theorem onecrl_entry_no_panic (r : Rec) : entryUnmarshal r ≠ .panic := (entryUnmarshal_sat r).ne_panic

/-- `mozilla.Parse` never dereferences a missing issuer: any list of records, including `null` ones -/
theorem onecrl_parse_no_panic (recs : List Rec) : onecrlParse recs ≠ .panic := by
  unfold onecrlParse
  split
  · exact nofun
  · rename_i es h
    rw [onecrlLoop_eq, if_neg]
    · exact nofun
    · -- every entry is an answer of `entryUnmarshal`, which sets the issuer of every serial entry
      intro hm
      obtain ⟨r, _, hr⟩ := mem_of_mapM h hm
      revert hr
      refine (entryUnmarshal_sat r).elim (fun e he hr => ?_) nofun
      cases hr
      rcases he with h | h
      · cases h
      · cases h

/-! ### post-parse steps with primitive preconditions -/

/-- a key accepted by `parsePublicKey` (Ed25519 / X25519 arms) never makes the signature check panic:
    this covers the self-signature test inside `ParseCertificate` and any later child check -/
theorem selfsig_ed25519_no_panic (isEd : Bool) (keyLen sigLen : Nat) : edKeyFlow isEd keyLen sigLen ≠ .panic := by
  refine Res.Sat.ne_panic (P := fun _ => True) ?_
  unfold edKeyFlow
  refine (parseEdKey_sat isEd keyLen).elim (fun k hk => ?_) trivial
  rcases hk with ⟨l, rfl⟩ | rfl
  · trivial
  · trivial

/-- the precondition is real: the verifier panics on a 31-byte key (what D3 allowed through) -/
example : ed25519Verify 31 64 = .panic := by decide

/-- RSA verification (PKCS#1 v1.5 and PSS share the skeleton) on ANY key — nil, zero, negative
    modulus or exponent — returns -/
theorem rsa_verify_no_panic (p : RsaPub) (sigLen sig : Nat) : verify p sigLen sig ≠ .panic :=
  verify_no_panic p sigLen sig

theorem rsa_encrypt_no_panic (p : RsaPub) (msgLen : Nat) : encryptPKCS1v15 p msgLen ≠ .panic := by
  unfold encryptPKCS1v15
  cases hc : checkPub p with
  | false => exact nofun
  | true =>
    obtain ⟨n, e, rfl, _⟩ := checkPub_inv hc
    exact Res.Sat.ne_panic (P := fun _ => True) (.ite trivial (.ite trivial trivial))

/-- without the `checkPub` guard the same skeleton panics (D8): negative exponent, signature not
    coprime to the modulus; or a nil modulus -/
example : verifyUnguarded { n := some 35, e := some (-1) } 1 0 = .panic := by decide
example : verifyUnguarded { n := none, e := some 3 } 0 0 = .panic := by decide

/-! ### the reflective `parseField` engine of encoding/asn1 (`ZV.Model.C18`)

  `C18.unmarshal perm schema params bytes` is `asn1.UnmarshalWithParams` for the Go type `schema` (a deep
  embedding of `reflect.Type`: the theorems quantify over EVERY type built from int / int32 / Enumerated /
  *big.Int / bool / Flag / ObjectIdentifier / BitString / []byte / string / RawValue / struct / []T, every
  field-parameter set, every byte string, both parsing modes).

  Termination is by construction: `parseField` / `parseFields` are structural recursions on the schema (the
  recursion depth of the Go code is the nesting depth of the Go type, not of the input), `parseElems` on the
  element count, every primitive on its input list; the two fuelled loops (`countElems`, `parseArcs`) are
  shown below never to run out of fuel. Lean accepted these definitions without `partial`. -/

/-- **no panic**: `Unmarshal` into any modelled Go type, any parameters, any bytes, both modes -/
theorem asn1_unmarshal_no_panic (perm : Bool) (s : C18.Schema) (p : C18.Params) (bs : Bytes) :
    C18.unmarshal perm s p bs ≠ .panic :=
  ((C01Asn1.engine_spec perm s).1 p bs).ne_panic

/-- … and the field loop of the struct arm -/
theorem asn1_fields_no_panic (perm : Bool) (fs : C18.Schema) (bs : Bytes) : C18.parseFields perm fs bs ≠ .panic :=
  ((C01Asn1.engine_spec perm fs).2 bs).ne_panic

/-- … and every arm of the type switch on its own (content parsers: OID, BIT STRING, INTEGER ×3, BOOLEAN, strings) -/
theorem asn1_primitives_no_panic (perm : Bool) (s : C18.Schema) (utag : Nat) (t : C18.TL) (inner full : Bytes) :
    C18.parsePrim perm s utag t inner full ≠ .panic :=
  (C01Asn1.parsePrim_spec perm s utag t inner full).ne_panic

/-- **never reads past the input**: what `Unmarshal` returns as `rest` is a suffix of what it was given -/
theorem asn1_unmarshal_consumed (perm : Bool) (s : C18.Schema) (p : C18.Params) (bs : Bytes) (v : C18.Val) (rest : Bytes)
    (h : C18.unmarshal perm s p bs = .ok (v, rest)) : rest <:+ bs :=
  (((C01Asn1.engine_spec perm s).1 p bs).of_ok h).consumed.suffix

/-- progress: either nothing was consumed (an absent OPTIONAL element took its default) or a whole element of at
    least two bytes was -/
theorem asn1_unmarshal_progress (perm : Bool) (s : C18.Schema) (p : C18.Params) (bs : Bytes) (v : C18.Val) (rest : Bytes)
    (h : C18.unmarshal perm s p bs = .ok (v, rest)) : rest = bs ∨ rest.length + 2 ≤ bs.length :=
  (((C01Asn1.engine_spec perm s).1 p bs).of_ok h).consumed.imp id And.right

/-- the model threads the remaining suffix instead of an offset (`offset = len(bytes) - len(rest)`); the offset
    is monotone along the field loop: after each field the remainder is a suffix of the previous one -/
theorem asn1_fields_offsets_monotone (perm : Bool) (p : C18.Params) (s rest : C18.Schema) (bs : Bytes) (vs : C18.Val) (r' : Bytes)
    (h : C18.parseFields perm (.fcons p s rest) bs = .ok (vs, r')) :
    ∃ v r ws, C18.parseField perm s p bs = .ok (v, r) ∧ C18.parseFields perm rest r = .ok (ws, r') ∧
      vs = .vcons v ws ∧ r' <:+ r ∧ r <:+ bs := by
  obtain ⟨v, r, ws, h1, h2, e⟩ := C18.parseFields_cons_ok h
  exact ⟨v, r, ws, h1, h2, e, (((C01Asn1.engine_spec perm rest).2 r).of_ok h2).2.1, asn1_unmarshal_consumed perm s p bs v r h1⟩

example : C18.parseFields false (.fcons {} .bool (.fcons {} .octets .fnil)) [0x01, 0x01, 0xff, 0x04, 0x00, 0x09] =
    .ok (.vcons (.bool true) (.vcons (.bytes []) .vnil), [0x09]) := by decide +kernel

/-- **every slice of the engine is in range**: when the stages in front of the type switch accept an element, the
    input is `header ++ content ++ rest` with at least two header bytes, the content slice
    `bytes[offset : offset+t.length]` has exactly the announced length (the model's `take` did not truncate), and
    that length is below 2^31 (`offset + length` cannot overflow) -/
theorem asn1_element_in_bounds (perm : Bool) (s : C18.Schema) (p : C18.Params) (bs : Bytes) (t : C18.TL) (utag : Nat)
    (inner rest : Bytes) (h : C18.parsePre perm s p bs = .go t utag inner rest) :
    (inner ++ rest) <:+ bs ∧ (inner ++ rest).length + 2 ≤ bs.length ∧ inner.length = t.len ∧ t.len < 2147483648 := by
  obtain ⟨h1, h2, _, h4⟩ := C01Asn1.parsePre_go perm s p bs t utag inner rest h
  exact ⟨h1.1, h1.2, h2, h4⟩

/-- an accepted header of the engine's reader: ≥ 2 bytes consumed, class < 4, tag and length below 2^31 -/
theorem asn1_header_consumed (perm : Bool) (bs : Bytes) (t : C18.TL) (r : Bytes) (h : C18.parseTL perm bs = .ok (t, r)) :
    r <:+ bs ∧ r.length + 2 ≤ bs.length ∧ t.cls < 4 ∧ t.tag ≤ 2147483647 ∧ t.len < 2147483648 := by
  obtain ⟨h1, h2⟩ := C01Asn1.parseTL_adv perm bs t r h
  exact ⟨h1.1, h1.2, h2⟩

example : C18.parseTL false [0x30, 0x82, 0x01, 0x00, 0x07] = .ok (⟨0, 16, 256, true⟩, [0x07]) := by decide +kernel

/-- **bridge**: the suffix-style header reader of the engine model IS the index-explicit reader of `ZV.Model.C01`
    (where every `bytes[i]` is a panic-on-out-of-range `idx`), at every offset: `rest = bytes[offset':]`.
    The two models are tied to the Go code by different T2 streams (`c01 tl` and C18/C20). -/
theorem asn1_header_same_function (perm : Bool) (bs : Bytes) (off : Nat) :
    C18.parseTL perm (bs.drop off) = C01Asn1.liftTL bs (parseTagAndLength perm bs off) :=
  C01Asn1.header_bridge perm bs off

/-- **bridge**: the same for the counting loop of `parseSequenceOf` (element type matching any tag): the loop of
    `ZV.Model.C01`, whose "header did not advance" arm is an explicit `panic`, is the fuelled loop of the engine
    model whenever the fuel is at least the number of remaining bytes (the engine passes `len(bytes)`) -/
theorem asn1_seqof_same_function (perm : Bool) (et : Nat) (ec : Bool) (bs : Bytes) (hbs : bs.length < 9223372036854775808)
    (off n fuel : Nat) (hf : bs.length - off ≤ fuel) :
    countElems perm bs off n = C01Asn1.addN n (C18.countElems perm true et ec fuel (bs.drop off)) :=
  (C01Asn1.seqof_rel perm et ec bs off n fuel hf).resolve_right fun h => Nat.not_le_of_lt hbs h.1

example : ([0x05, 0x00] : Bytes).length < 9223372036854775808 ∧ ([0x05, 0x00] : Bytes).length - 0 ≤ 2 := by decide

/-- the element count handed to `reflect.MakeSlice` is at most half the content bytes — for EVERY element type -/
theorem asn1_seqof_count_linear (perm ma : Bool) (et : Nat) (ec : Bool) (fuel : Nat) (bs : Bytes) (n : Nat)
    (h : C18.countElems perm ma et ec fuel bs = .ok n) : 2 * n ≤ bs.length :=
  (C01Asn1.countElems_sat perm ma et ec fuel bs).of_ok h

example : C18.countElems false true 0 false 4 [0x05, 0x00, 0x01, 0x00] = .ok 2 := by decide +kernel

/-- the fuel of the counting loop is never what stops it: any fuel ≥ the input length gives the same answer
    (the engine passes `len(bytes)`; every iteration consumes at least two bytes) -/
theorem asn1_seqof_fuel_unreachable (perm ma : Bool) (et : Nat) (ec : Bool) (f g : Nat) (bs : Bytes)
    (hf : bs.length ≤ f) (hg : bs.length ≤ g) :
    C18.countElems perm ma et ec f bs = C18.countElems perm ma et ec g bs := by
  refine fuel_irrelevant (C18.countElems perm ma et ec) (fun _ _ => ?_) (fun f g b bs ih => ?_) f g bs hf hg
  · rw [C18.countElems, C18.countElems]
  · rw [C18.countElems, C18.countElems]
    split
    · rfl
    · rfl
    · rename_i t r hp
      have ha : r.length + 2 ≤ bs.length + 1 := (C01Asn1.parseTL_adv perm (b :: bs) t r hp).1.2
      split_ifs
      · rfl
      · rfl
      · have hl : (r.drop t.len).length ≤ bs.length := by
          rw [List.length_drop]
          omega
        rw [ih _ hl]

example : ([0x05, 0x00, 0x01, 0x00] : Bytes).length ≤ 4 ∧ ([0x05, 0x00, 0x01, 0x00] : Bytes).length ≤ 100 := by decide

/-- the same for the sub-identifier loop of `parseObjectIdentifier` -/
theorem asn1_oid_fuel_unreachable (f g : Nat) (bs : Bytes) (hf : bs.length ≤ f) (hg : bs.length ≤ g) :
    C18.parseArcs f bs = C18.parseArcs g bs := by
  refine fuel_irrelevant C18.parseArcs (fun _ _ => ?_) (fun f g b r ih => ?_) f g bs hf hg
  · rw [C18.parseArcs, C18.parseArcs]
  · rw [C18.parseArcs, C18.parseArcs]
    split
    · rename_i v r' hb
      have ha : r'.length + 1 ≤ r.length + 1 := ((C01Asn1.base128_sat (b :: r) 0 0).of_ok hb).1.2
      rw [ih r' (Nat.le_of_succ_le_succ ha)]
    · rfl
    · rfl

example : ([0x2a, 0x03] : Bytes).length ≤ 2 ∧ ([0x2a, 0x03] : Bytes).length ≤ 7 := by decide

/-- an OBJECT IDENTIFIER has at most `len(bytes)+1` arcs (the Go code allocates exactly `make([]int, len(bytes)+1)`) -/
theorem asn1_oid_arcs_linear (bs : Bytes) (l : List Int) (h : C18.parseOID bs = .ok (.oid l)) : l.length ≤ bs.length + 1 := by
  obtain ⟨l', e, hl⟩ := (C01Asn1.parseOID_sat bs).of_ok h
  cases e
  exact hl

example : C18.parseOID [0x2a, 0x86, 0x48] = .ok (.oid [1, 2, 840]) := by decide +kernel

/-- **allocation is linear in the bytes consumed**: the decoded value (one unit per node, the bytes of every string /
    BIT STRING / RawValue incl. FullBytes, the arcs of every OID, the limbs of every integer) is bounded by
    `aC schema + |default| + bC schema · (bytes consumed)`, `aC` / `bC` computed from the Go type alone -/
theorem asn1_unmarshal_alloc_linear (perm : Bool) (s : C18.Schema) (p : C18.Params) (bs : Bytes) (v : C18.Val) (rest : Bytes)
    (h : C18.unmarshal perm s p bs = .ok (v, rest)) :
    C01Asn1.vsize v ≤ C01Asn1.aC s + C01Asn1.dflt p + C01Asn1.bC s * (bs.length - rest.length) :=
  (C01Asn1.engine_size perm s).1 p bs v rest h

/-! #### instances: certificate-shaped Go types -/

/-- `x509.certificate` (RawContent dropped, Validity kept raw): never panics, never reads past the input, and the
    decoded certificate is at most `148 + 17·|input|` units -/
theorem asn1_certificate_safe (perm : Bool) (bs : Bytes) :
    C18.unmarshal perm C01Asn1.certificate {} bs ≠ .panic ∧
    ∀ v rest, C18.unmarshal perm C01Asn1.certificate {} bs = .ok (v, rest) →
      rest <:+ bs ∧ C01Asn1.vsize v ≤ 148 + 17 * bs.length := by
  refine ⟨asn1_unmarshal_no_panic _ _ _ _, fun v rest h => ⟨asn1_unmarshal_consumed _ _ _ _ _ _ h, ?_⟩⟩
  have h1 := asn1_unmarshal_alloc_linear _ _ _ _ _ _ h
  rw [show C01Asn1.aC C01Asn1.certificate = 148 by decide +kernel,
    show C01Asn1.bC C01Asn1.certificate = 17 by decide +kernel] at h1
  exact h1.trans (Nat.add_le_add_left (Nat.mul_le_mul_left 17 (Nat.sub_le _ _)) 148)

/-- the hypothesis is satisfiable: a 49-byte v3 certificate skeleton followed by two stray bytes is accepted and
    the stray bytes come back as `rest` -/
example : (match C18.unmarshal false C01Asn1.certificate {} (C01Asn1.miniCert ++ [0xde, 0xad]) with
    | .ok (_, rest) => some rest | _ => none) = some [0xde, 0xad] := by decide +kernel

/-- `pkix.AlgorithmIdentifier`, `[]pkix.Extension`, `pkix.RDNSequence` (SEQUENCE OF SET OF SEQUENCE) -/
theorem asn1_pkix_instances_safe (perm : Bool) (bs : Bytes) :
    C18.unmarshal perm C01Asn1.algId {} bs ≠ .panic ∧
    C18.unmarshal perm (.seqOf false C01Asn1.extension) {} bs ≠ .panic ∧
    C18.unmarshal perm C01Asn1.rdnSequence {} bs ≠ .panic ∧
    C18.unmarshal perm C01Asn1.tbsCertificate {} bs ≠ .panic :=
  ⟨asn1_unmarshal_no_panic _ _ _ _, asn1_unmarshal_no_panic _ _ _ _, asn1_unmarshal_no_panic _ _ _ _,
   asn1_unmarshal_no_panic _ _ _ _⟩

/-- sha256WithRSAEncryption with NULL parameters, one trailing byte -/
example : C18.unmarshal false C01Asn1.algId {}
      [0x30, 0x0d, 0x06, 0x09, 0x2a, 0x86, 0x48, 0x86, 0xf7, 0x0d, 0x01, 0x01, 0x0b, 0x05, 0x00, 0x77] =
    .ok (.vcons (.oid [1, 2, 840, 113549, 1, 1, 11]) (.vcons (.raw 0 5 false [] [5, 0]) .vnil), [0x77]) := by decide +kernel

/-- a name `CN=hi`: two nested element loops, the allocation bound with the constants of the type -/
example : ∀ v rest, C18.unmarshal false C01Asn1.rdnSequence {}
      [0x30, 0x0d, 0x31, 0x0b, 0x30, 0x09, 0x06, 0x03, 0x55, 0x04, 0x03, 0x0c, 0x02, 0x68, 0x69] = .ok (v, rest) →
    C01Asn1.vsize v ≤ 1 + 15 * 15 := by
  intro v rest h
  have h1 := asn1_unmarshal_alloc_linear _ _ _ _ _ _ h
  rw [show C01Asn1.aC C01Asn1.rdnSequence = 1 by decide +kernel,
    show C01Asn1.bC C01Asn1.rdnSequence = 15 by decide +kernel] at h1
  exact h1.trans (Nat.add_le_add_left (Nat.mul_le_mul_left 15 (Nat.sub_le _ _)) 1)

/-- an absent OPTIONAL element consumes nothing (left arm of `asn1_unmarshal_progress`) … -/
example : C18.unmarshal false .bool { optional := true } [0x02, 0x01, 0x05] = .ok (.bool false, [0x02, 0x01, 0x05]) := by
  decide +kernel
/-- … a present one at least two bytes (right arm) -/
example : C18.unmarshal false .octets {} [0x04, 0x00, 0x05] = .ok (.bytes [], [0x05]) := by decide +kernel

/-- an accepted element, split as `asn1_element_in_bounds` says -/
example : C18.parsePre false .octets {} [0x04, 0x02, 0xaa, 0xbb, 0xcc] =
    .go { cls := 0, tag := 4, len := 2, compound := false } 4 [0xaa, 0xbb] [0xcc] := by rfl


/-! ### x509.parseECPrivateKey: the code AFTER `asn1.Unmarshal` succeeded (x509/sec1.go; T2 stream `c01 ecpriv`) -/
open ZV.TlsWire (beNat) in
/-- the zero-stripping loop `for len(pk) > size { if pk[0] != 0 {…}; pk = pk[1:] }` never indexes or slices out of range,
    for every buffer size and every OCTET STRING -/
theorem x509_ecStrip_no_panic (size : Nat) (pk : Bytes) : ecStrip size pk ≠ .panic := (ecStrip_sat size pk).ne_panic

open ZV.TlsWire (beNat) in
/-- what the loop hands on fits the buffer (so the low index `len(privateKey)-len(pk)` of the copy is not negative),
    is a suffix of the input and denotes the same integer -/
theorem x509_ecStrip_fits (size : Nat) (pk p : Bytes) (h : ecStrip size pk = .ok p) :
    p.length ≤ size ∧ p <:+ pk ∧ beNat p = beNat pk := (ecStrip_sat size pk).of_ok h

example : ecStrip 2 [0, 0, 1, 2] = .ok [1, 2] := by decide +kernel

/-- the whole post-processing never panics: every order, every buffer size, every OCTET STRING -/
theorem x509_parseECPrivateKey_post_no_panic (order size : Nat) (pk : Bytes) : ecPrivPost order size pk ≠ .panic :=
  (ecPrivPost_sat order size pk).ne_panic

/-- … and so does `parseECPrivateKey` after Unmarshal, for every version, curve index and OCTET STRING -/
theorem x509_parseECPrivateKey_no_panic (version curve : Nat) (pk : Bytes) : ecPrivParse version curve pk ≠ .panic := by
  unfold ecPrivParse
  split
  · nofun
  · split
    · nofun
    · exact x509_parseECPrivateKey_post_no_panic _ _ pk

open ZV.TlsWire (beNat) in
/-- an accepted key: D < N, the buffer handed to `ScalarBaseMult` has EXACTLY `size` bytes (the `make` size: the
    allocation does not depend on the attacker's length) and is the big-endian encoding of D -/
theorem x509_parseECPrivateKey_buffer (order size : Nat) (pk : Bytes) (k : Nat) (buf : Bytes)
    (h : ecPrivPost order size pk = .ok (k, buf)) : k = beNat pk ∧ k < order ∧ buf.length = size ∧ beNat buf = k :=
  (ecPrivPost_sat order size pk).of_ok h

example : ecPrivPost 1000 2 [0, 0, 7] = .ok (7, [0, 7]) := by decide +kernel

open ZV.TlsWire (beNat) in
/-- when the order fits the buffer (`N ≤ 256^size`, true of every named curve: `x509_curves_fit`) the post-processing
    rejects EXACTLY the values `≥ N`: the error `x509: invalid private key length` of the loop is unreachable behind the
    `k.Cmp(curveOrder) >= 0` check (dead code, not a defect) -/
theorem x509_parseECPrivateKey_err_iff (order size : Nat) (pk : Bytes) (hfit : order ≤ 256 ^ size) :
    ecPrivPost order size pk = .err ↔ order ≤ beNat pk := by
  unfold ecPrivPost
  dsimp only
  split
  · rename_i hk
    exact ⟨fun _ => hk, fun _ => rfl⟩
  · rename_i hk
    refine ⟨fun h => ?_, fun h => absurd h hk⟩
    split at h
    · split at h <;> cases h
    · rename_i he
      exact absurd (hfit.trans (ecStrip_err size pk he)) hk
    · cases h

example : (115792089210356248762697446949407573529996955224135760342422259061068512044369 : Nat) ≤ 256 ^ 32 := by decide

/-- T1: the orders of the four named curves (read from crypto/elliptic at check time) fit their buffers and are
    positive; the version constant is the one of the source -/
theorem x509_curves_fit :
    (∀ c ∈ Gen.curves, 0 < c.2.2 ∧ c.2.2 ≤ 256 ^ ((c.2.1 + 7) / 8) ∧ 256 ^ ((c.2.1 + 7) / 8 - 1) ≤ c.2.2) ∧
    Gen.curves.map (·.1) = ["P-224", "P-256", "P-384", "P-521"] ∧ Gen.ecPrivKeyVersion = 1 := by decide +kernel

open ZV.TlsWire (beNat) in
/-- for the real curves: `parseECPrivateKey` (version 1, known curve) fails iff the value is `≥ N` -/
theorem x509_parseECPrivateKey_named_err_iff (curve : Nat) (pk : Bytes) (n size : Nat) (hc : ecCurve curve = some (n, size)) :
    ecPrivParse Gen.ecPrivKeyVersion curve pk = .err ↔ n ≤ beNat pk := by
  have hfit : n ≤ 256 ^ size := by
    unfold ecCurve at hc
    split at hc
    · rename_i nm bits n' hg
      cases hc
      exact (x509_curves_fit.1 _ (List.mem_of_getElem? hg)).2.1
    · cases hc
  unfold ecPrivParse
  simp only [ne_eq, not_true_eq_false, if_false, hc]
  exact x509_parseECPrivateKey_err_iff n size pk hfit

example : ∃ n size, ecCurve 1 = some (n, size) := ⟨_, _, rfl⟩

/-! ### cryptobyte `read` / `readLengthPrefixed`: in bounds -/

/-- `(*String).read(n)`: what is returned is exactly the first `n` bytes and the rest — nothing beyond the input -/
theorem cb_read_in_bounds (s : Bytes) (n : Int) (v r : Bytes) (h : cbRead s n = some (v, r)) :
    s = v ++ r ∧ (v.length : Int) = n :=
  cbRead_some h

example : cbRead [1, 2, 3] 2 = some ([1, 2], [3]) := by decide +kernel

/-- `readLengthPrefixed`: prefix ++ child ++ rest is the input (ReadUint8/16/24LengthPrefixed) -/
theorem cb_readLengthPrefixed_in_bounds (s : Bytes) (lenLen : Nat) (child rest : Bytes)
    (h : cbReadLengthPrefixed s lenLen = some (child, rest)) :
    ∃ pre, pre.length = lenLen ∧ s = pre ++ child ++ rest := by
  unfold cbReadLengthPrefixed at h
  split at h
  · cases h
  · rename_i lb s1 h1
    obtain ⟨e1, l1⟩ := cb_read_in_bounds _ _ _ _ h1
    obtain ⟨e2, _⟩ := cb_read_in_bounds _ _ _ _ h
    refine ⟨lb, Int.ofNat_inj.mp l1, ?_⟩
    rw [e1, e2, List.append_assoc]

example : cbReadLengthPrefixed [2, 9, 8, 7] 1 = some ([9, 8], [7]) := by decide +kernel

/-! ### composition: parser entry points owned by other packages' models (corollaries; the models are tied to the Go
    code by the owning package's T2 stream) -/

theorem ct_deserializeSCT_no_panic (bs : Bytes) : ZV.C16.deserializeSCT bs ≠ .panic := (ZV.C16.decoders_no_panic bs).1
theorem ct_unmarshalDigitallySigned_no_panic (bs : Bytes) : ZV.C16.unmarshalDS bs ≠ .panic := (ZV.C16.decoders_no_panic bs).2.1
theorem ct_readMerkleTreeLeaf_no_panic (bs : Bytes) : ZV.C16.readMerkleTreeLeaf bs ≠ .panic := (ZV.C16.decoders_no_panic bs).2.2.1
theorem ct_unmarshalX509ChainArray_no_panic (bs : Bytes) : ZV.C16.unmarshalX509Chain bs ≠ .panic :=
  (ZV.C16.decoders_no_panic bs).2.2.2.1
theorem ct_unmarshalPrecertChainArray_no_panic (bs : Bytes) : ZV.C16.unmarshalPrecertChain bs ≠ .panic :=
  (ZV.C16.decoders_no_panic bs).2.2.2.2

/-- the C15 model of google.Parse (a second, independent model of the same function) -/
theorem crlset_parse_no_panic_c15 (inp : Bytes) (h : ZV.C15.Hdr) : ZV.C15.csParse inp h ≠ .panic :=
  ZV.C15.crlset_parse_no_panic inp h
/-- the C15 model of mozilla.Parse -/
theorem onecrl_parse_no_panic_c15 (recs : List ZV.C15.Rec) (ntbl : Bytes → Option ZV.C15.Str) :
    ZV.C15.ocParse recs ntbl ≠ .panic := ZV.C15.onecrl_parse_no_panic recs ntbl

/-- the TLS record reader behind `Conn.Read`: the no-panic component of C32 `reader_total` (its other component bounds
    what is consumed) -/
theorem tls_readRecord_no_panic (vers : Nat) (st : ZV.C32.St) (s : Bytes) : ZV.C32.readRecord vers st s ≠ .panic :=
  (ZV.C32.reader_total vers st s).1
/-- the key-exchange parsers run on ServerKeyExchange / ClientKeyExchange bodies (C32) -/
theorem tls_serverKeyExchange_ecdhe_parse_no_panic (c : ZV.C32.EcdheCtx) (msg : Bytes) : ZV.C32.ecdheSKXMsg c msg ≠ .panic :=
  ZV.C32.skx_parse_no_panic c msg
theorem tls_serverKeyExchange_dhe_parse_no_panic (c : ZV.C32.DheCtx) (msg : Bytes) : ZV.C32.dheSKXMsg c msg ≠ .panic :=
  ZV.C32.skx_dhe_parse_no_panic c msg
theorem tls_clientKeyExchange_parse_no_panic (k : ZV.C32.CkxKind) (msg : Bytes) : ZV.C32.ckxMsg k msg ≠ .panic :=
  ZV.C32.ckx_parse_no_panic k msg

/-- The TLS handshake-message models of C30 are `Option`-valued total functions over `ZV.TlsWire` (every `take` / `drop`
    sits behind a length comparison in the combinator, proved lawful once in `ZV.Proofs.TlsWire`): they have NO panic
    outcome, so "returns a value or an error" holds BY TYPE and the content is carried by C30's T2 stream (a panicking Go
    `unmarshal` prints `panic`, which no model output equals). The named statements below pin each entry point to its
    model; they are trivial on purpose and are marked `.byType` in the table. -/
theorem optOutcome {α} (o : Option α) : o = none ∨ ∃ v, o = some v :=
  o.eq_none_or_eq_some

theorem tls_certificate_unmarshal_total (bs : Bytes) : ZV.C30.certificate.par bs = none ∨ ∃ v, ZV.C30.certificate.par bs = some v := optOutcome _
theorem tls_certificateTLS13_unmarshal_total (bs : Bytes) : ZV.C30.certificateTLS13.par bs = none ∨ ∃ v, ZV.C30.certificateTLS13.par bs = some v := optOutcome _
theorem tls_certificateRequest_unmarshal_total (hasSig : Bool) (bs : Bytes) : (ZV.C30.certificateRequest hasSig).par bs = none ∨ ∃ v, (ZV.C30.certificateRequest hasSig).par bs = some v := optOutcome _
theorem tls_certificateRequestTLS13_unmarshal_total (bs : Bytes) : ZV.C30.certificateRequestTLS13.par bs = none ∨ ∃ v, ZV.C30.certificateRequestTLS13.par bs = some v := optOutcome _
theorem tls_certificateStatus_unmarshal_total (bs : Bytes) : ZV.C30.certificateStatus.par bs = none ∨ ∃ v, ZV.C30.certificateStatus.par bs = some v := optOutcome _
theorem tls_certificateVerify_unmarshal_total (hasSig : Bool) (bs : Bytes) : (ZV.C30.certificateVerify hasSig).par bs = none ∨ ∃ v, (ZV.C30.certificateVerify hasSig).par bs = some v := optOutcome _
theorem tls_clientHello_unmarshal_total (bs : Bytes) : ZV.C30.clientHello.par bs = none ∨ ∃ v, ZV.C30.clientHello.par bs = some v := optOutcome _
theorem tls_clientKeyExchange_unmarshal_total (bs : Bytes) : ZV.C30.clientKeyExchange.par bs = none ∨ ∃ v, ZV.C30.clientKeyExchange.par bs = some v := optOutcome _
theorem tls_encryptedExtensions_unmarshal_total (bs : Bytes) : ZV.C30.encryptedExtensions.par bs = none ∨ ∃ v, ZV.C30.encryptedExtensions.par bs = some v := optOutcome _
theorem tls_endOfEarlyData_unmarshal_total (bs : Bytes) : ZV.C30.endOfEarlyData.par bs = none ∨ ∃ v, ZV.C30.endOfEarlyData.par bs = some v := optOutcome _
theorem tls_finished_unmarshal_total (bs : Bytes) : ZV.C30.finished.par bs = none ∨ ∃ v, ZV.C30.finished.par bs = some v := optOutcome _
theorem tls_helloRequest_unmarshal_total (bs : Bytes) : ZV.C30.helloRequest.par bs = none ∨ ∃ v, ZV.C30.helloRequest.par bs = some v := optOutcome _
theorem tls_keyUpdate_unmarshal_total (bs : Bytes) : ZV.C30.keyUpdate.par bs = none ∨ ∃ v, ZV.C30.keyUpdate.par bs = some v := optOutcome _
theorem tls_newSessionTicket_unmarshal_total (bs : Bytes) : ZV.C30.newSessionTicket.par bs = none ∨ ∃ v, ZV.C30.newSessionTicket.par bs = some v := optOutcome _
theorem tls_newSessionTicketTLS13_unmarshal_total (bs : Bytes) : ZV.C30.newSessionTicketTLS13.par bs = none ∨ ∃ v, ZV.C30.newSessionTicketTLS13.par bs = some v := optOutcome _
theorem tls_serverHelloDone_unmarshal_total (bs : Bytes) : ZV.C30.serverHelloDone.par bs = none ∨ ∃ v, ZV.C30.serverHelloDone.par bs = some v := optOutcome _
theorem tls_serverHello_unmarshal_total (bs : Bytes) : ZV.C30.serverHello.par bs = none ∨ ∃ v, ZV.C30.serverHello.par bs = some v := optOutcome _
theorem tls_serverKeyExchange_unmarshal_total (bs : Bytes) : ZV.C30.serverKeyExchange.par bs = none ∨ ∃ v, ZV.C30.serverKeyExchange.par bs = some v := optOutcome _
theorem tls_sessionState_unmarshal_total (bs : Bytes) : ZV.C30.sessionState.par bs = none ∨ ∃ v, ZV.C30.sessionState.par bs = some v := optOutcome _
theorem tls_sessionStateTLS13_unmarshal_total (bs : Bytes) : ZV.C30.sessionStateTLS13.par bs = none ∨ ∃ v, ZV.C30.sessionStateTLS13.par bs = some v := optOutcome _

/-! ### entry-point accounting (T1): every parser entry point found in the source is covered or listed as T3 only -/

inductive Cover where
  /-- no-panic / in-bounds theorem of this file, on the named model -/
  | proved (thm model : String)
  /-- proved for the named part only; the rest is T3 -/
  | partly (thm model rest : String)
  /-- the owning model is `Option`-valued (no panic outcome): total by type, tie = owning package's T2 -/
  | byType (thm model : String)
  /-- explored only (recover + watchdog + allocation meter) -/
  | t3 (why : String)
  deriving DecidableEq, Repr

def coverTable : List (String × Cover) := [
  ("cryptobyte String.ReadASN1", .partly "cb_readASN1_no_panic" "ZV.Model.C01" "readASN1 core proved; the tag comparison after it is T3"),
  ("cryptobyte String.ReadASN1BitString", .t3 "ASN.1 value reader on top of readASN1: T3 only"),
  ("cryptobyte String.ReadASN1BitStringAsBytes", .t3 "ASN.1 value reader on top of readASN1: T3 only"),
  ("cryptobyte String.ReadASN1Boolean", .t3 "ASN.1 value reader on top of readASN1: T3 only"),
  ("cryptobyte String.ReadASN1Bytes", .t3 "ASN.1 value reader on top of readASN1: T3 only"),
  ("cryptobyte String.ReadASN1Element", .partly "cb_readASN1_no_panic" "ZV.Model.C01" "readASN1 core proved; the tag comparison after it is T3"),
  ("cryptobyte String.ReadASN1Enum", .t3 "ASN.1 value reader on top of readASN1: T3 only"),
  ("cryptobyte String.ReadASN1GeneralizedTime", .t3 "ASN.1 value reader on top of readASN1: T3 only"),
  ("cryptobyte String.ReadASN1Int64WithTag", .t3 "ASN.1 value reader on top of readASN1: T3 only"),
  ("cryptobyte String.ReadASN1Integer", .t3 "ASN.1 value reader on top of readASN1: T3 only"),
  ("cryptobyte String.ReadASN1ObjectIdentifier", .t3 "ASN.1 value reader on top of readASN1: T3 only"),
  ("cryptobyte String.ReadASN1UTCTime", .t3 "ASN.1 value reader on top of readASN1: T3 only"),
  ("cryptobyte String.ReadAnyASN1", .proved "cb_readASN1_no_panic" "ZV.Model.C01"),
  ("cryptobyte String.ReadAnyASN1Element", .proved "cb_readASN1_no_panic" "ZV.Model.C01"),
  ("cryptobyte String.ReadBytes", .proved "cb_read_in_bounds" "ZV.Model.C01"),
  ("cryptobyte String.ReadOptionalASN1", .t3 "ASN.1 value reader on top of readASN1: T3 only"),
  ("cryptobyte String.ReadOptionalASN1Boolean", .t3 "ASN.1 value reader on top of readASN1: T3 only"),
  ("cryptobyte String.ReadOptionalASN1Integer", .t3 "ASN.1 value reader on top of readASN1: T3 only"),
  ("cryptobyte String.ReadOptionalASN1OctetString", .t3 "ASN.1 value reader on top of readASN1: T3 only"),
  ("cryptobyte String.ReadUint16", .proved "cb_read_in_bounds" "ZV.Model.C01"),
  ("cryptobyte String.ReadUint16LengthPrefixed", .proved "cb_readLengthPrefixed_in_bounds" "ZV.Model.C01"),
  ("cryptobyte String.ReadUint24", .proved "cb_read_in_bounds" "ZV.Model.C01"),
  ("cryptobyte String.ReadUint24LengthPrefixed", .proved "cb_readLengthPrefixed_in_bounds" "ZV.Model.C01"),
  ("cryptobyte String.ReadUint32", .proved "cb_read_in_bounds" "ZV.Model.C01"),
  ("cryptobyte String.ReadUint8", .proved "cb_read_in_bounds" "ZV.Model.C01"),
  ("cryptobyte String.ReadUint8LengthPrefixed", .proved "cb_readLengthPrefixed_in_bounds" "ZV.Model.C01"),
  ("ct DeserializeSCT", .proved "ct_deserializeSCT_no_panic" "ZV.Model.C16"),
  ("ct DigitallySigned.UnmarshalJSON", .t3 "JSON layer (encoding/json drives it): T3 only"),
  ("ct ReadMerkleTreeLeaf", .proved "ct_readMerkleTreeLeaf_no_panic" "ZV.Model.C16"),
  ("ct ReadTimestampedEntryInto", .partly "ct_readMerkleTreeLeaf_no_panic" "ZV.Model.C16" "reached through ReadMerkleTreeLeaf only; direct calls T3"),
  ("ct SHA256Hash.UnmarshalJSON", .t3 "JSON layer (encoding/json drives it): T3 only"),
  ("ct UnmarshalDigitallySigned", .proved "ct_unmarshalDigitallySigned_no_panic" "ZV.Model.C16"),
  ("ct UnmarshalPrecertChainArray", .proved "ct_unmarshalPrecertChainArray_no_panic" "ZV.Model.C16"),
  ("ct UnmarshalX509ChainArray", .proved "ct_unmarshalX509ChainArray_no_panic" "ZV.Model.C16"),
  ("ct/x509 ParseCRL", .t3 "ct/x509 fork, code around the asn1 engine: T3 only"),
  ("ct/x509 ParseCertificate", .t3 "ct/x509 fork, code around the asn1 engine: T3 only"),
  ("ct/x509 ParseCertificates", .t3 "ct/x509 fork, code around the asn1 engine: T3 only"),
  ("ct/x509 ParseDERCRL", .t3 "ct/x509 fork, code around the asn1 engine: T3 only"),
  ("ct/x509 ParseECPrivateKey", .t3 "ct/x509 fork, code around the asn1 engine: T3 only"),
  ("ct/x509 ParsePKCS1PrivateKey", .t3 "ct/x509 fork, code around the asn1 engine: T3 only"),
  ("ct/x509 ParsePKCS8PrivateKey", .t3 "ct/x509 fork, code around the asn1 engine: T3 only"),
  ("ct/x509 ParsePKIXPublicKey", .t3 "ct/x509 fork, code around the asn1 engine: T3 only"),
  ("ct/x509 ParseTBSCertificate", .t3 "ct/x509 fork, code around the asn1 engine: T3 only"),
  ("encoding/asn1 Unmarshal", .proved "asn1_unmarshal_no_panic" "ZV.Model.C18"),
  ("encoding/asn1 UnmarshalWithParams", .proved "asn1_unmarshal_no_panic" "ZV.Model.C18"),
  ("tls CipherSuiteID.UnmarshalJSON", .t3 "JSON layer (encoding/json drives it): T3 only"),
  ("tls ClientAuthType.UnmarshalJSON", .t3 "JSON layer (encoding/json drives it): T3 only"),
  ("tls CompressionMethod.UnmarshalJSON", .t3 "JSON layer (encoding/json drives it): T3 only"),
  ("tls Conn.Read", .proved "tls_readRecord_no_panic" "ZV.C32.readRecord"),
  ("tls CurveID.UnmarshalJSON", .t3 "JSON layer (encoding/json drives it): T3 only"),
  ("tls KeyShareExtension.UnmarshalJSON", .t3 "JSON layer (encoding/json drives it): T3 only"),
  ("tls PointFormat.UnmarshalJSON", .t3 "JSON layer (encoding/json drives it): T3 only"),
  ("tls SignatureAndHash.UnmarshalJSON", .t3 "JSON layer (encoding/json drives it): T3 only"),
  ("tls TLSVersion.UnmarshalJSON", .t3 "JSON layer (encoding/json drives it): T3 only"),
  ("tls atLeastReader.Read", .t3 "io.Reader adapter, no parsing: T3 only (through Conn.Read)"),
  ("tls certificateMsg.unmarshal", .byType "tls_certificate_unmarshal_total" "ZV.C30.certificate"),
  ("tls certificateMsgTLS13.unmarshal", .byType "tls_certificateTLS13_unmarshal_total" "ZV.C30.certificateTLS13"),
  ("tls certificateRequestMsg.unmarshal", .byType "tls_certificateRequest_unmarshal_total" "ZV.C30.certificateRequest"),
  ("tls certificateRequestMsgTLS13.unmarshal", .byType "tls_certificateRequestTLS13_unmarshal_total" "ZV.C30.certificateRequestTLS13"),
  ("tls certificateStatusMsg.unmarshal", .byType "tls_certificateStatus_unmarshal_total" "ZV.C30.certificateStatus"),
  ("tls certificateVerifyMsg.unmarshal", .byType "tls_certificateVerify_unmarshal_total" "ZV.C30.certificateVerify"),
  ("tls clientHelloMsg.unmarshal", .byType "tls_clientHello_unmarshal_total" "ZV.C30.clientHello"),
  ("tls clientKeyExchangeMsg.unmarshal", .byType "tls_clientKeyExchange_unmarshal_total" "ZV.C30.clientKeyExchange"),
  ("tls encryptedExtensionsMsg.unmarshal", .byType "tls_encryptedExtensions_unmarshal_total" "ZV.C30.encryptedExtensions"),
  ("tls endOfEarlyDataMsg.unmarshal", .byType "tls_endOfEarlyData_unmarshal_total" "ZV.C30.endOfEarlyData"),
  ("tls finishedMsg.unmarshal", .byType "tls_finished_unmarshal_total" "ZV.C30.finished"),
  ("tls helloRequestMsg.unmarshal", .byType "tls_helloRequest_unmarshal_total" "ZV.C30.helloRequest"),
  ("tls keyUpdateMsg.unmarshal", .byType "tls_keyUpdate_unmarshal_total" "ZV.C30.keyUpdate"),
  ("tls newSessionTicketMsg.unmarshal", .byType "tls_newSessionTicket_unmarshal_total" "ZV.C30.newSessionTicket"),
  ("tls newSessionTicketMsgTLS13.unmarshal", .byType "tls_newSessionTicketTLS13_unmarshal_total" "ZV.C30.newSessionTicketTLS13"),
  ("tls serverHelloDoneMsg.unmarshal", .byType "tls_serverHelloDone_unmarshal_total" "ZV.C30.serverHelloDone"),
  ("tls serverHelloMsg.unmarshal", .byType "tls_serverHello_unmarshal_total" "ZV.C30.serverHello"),
  ("tls serverKeyExchangeMsg.unmarshal", .byType "tls_serverKeyExchange_unmarshal_total" "ZV.C30.serverKeyExchange"),
  ("tls sessionState.unmarshal", .byType "tls_sessionState_unmarshal_total" "ZV.C30.sessionState"),
  ("tls sessionStateTLS13.unmarshal", .byType "tls_sessionStateTLS13_unmarshal_total" "ZV.C30.sessionStateTLS13"),
  ("x509 Certificate.UnmarshalJSON", .t3 "JSON layer (encoding/json drives it): T3 only"),
  ("x509 CertificateFingerprint.UnmarshalJSON", .t3 "JSON layer (encoding/json drives it): T3 only"),
  ("x509 CertificateType.UnmarshalJSON", .t3 "JSON layer (encoding/json drives it): T3 only"),
  ("x509 ExtendedKeyUsageExtension.UnmarshalJSON", .t3 "JSON layer (encoding/json drives it): T3 only"),
  ("x509 GeneralNames.UnmarshalJSON", .t3 "JSON layer (encoding/json drives it): T3 only"),
  ("x509 GeneralSubtreeIP.UnmarshalJSON", .t3 "JSON layer (encoding/json drives it): T3 only"),
  ("x509 JSONCertificate.UnmarshalJSON", .t3 "JSON layer (encoding/json drives it): T3 only"),
  ("x509 JSONCertificateWithRaw.ParseRaw", .t3 "JSON layer (encoding/json drives it): T3 only"),
  ("x509 KeyUsage.UnmarshalJSON", .t3 "JSON layer (encoding/json drives it): T3 only"),
  ("x509 NameConstraints.UnmarshalJSON", .t3 "JSON layer (encoding/json drives it): T3 only"),
  ("x509 ParseCRL", .t3 "x509 code around the asn1 engine (extension, name, key post-processing): T3 only"),
  ("x509 ParseCertificate", .t3 "x509 code around the asn1 engine (extension, name, key post-processing): T3 only"),
  ("x509 ParseCertificateRequest", .t3 "x509 code around the asn1 engine (extension, name, key post-processing): T3 only"),
  ("x509 ParseCertificates", .t3 "x509 code around the asn1 engine (extension, name, key post-processing): T3 only"),
  ("x509 ParseDERCRL", .t3 "x509 code around the asn1 engine (extension, name, key post-processing): T3 only"),
  ("x509 ParseECPrivateKey", .partly "x509_parseECPrivateKey_post_no_panic" "ZV.Model.C01Ec + ZV.Model.C18" "engine (asn1_unmarshal_no_panic) + post-processing proved; ScalarBaseMult and the optional PublicKey field T3"),
  ("x509 ParsePKCS1PrivateKey", .t3 "x509 code around the asn1 engine (extension, name, key post-processing): T3 only"),
  ("x509 ParsePKCS1PublicKey", .t3 "x509 code around the asn1 engine (extension, name, key post-processing): T3 only"),
  ("x509 ParsePKCS8PrivateKey", .t3 "x509 code around the asn1 engine (extension, name, key post-processing): T3 only"),
  ("x509 ParsePKIXPublicKey", .partly "selfsig_ed25519_no_panic" "ZV.Model.C01" "Ed25519/X25519 arm only; RSA/DSA/ECDSA arms are modelled in ZV.C20.X.parsePublicKey (T2-tied by C20) without a Lean no-panic theorem"),
  ("x509 ParseRevocationList", .t3 "x509 code around the asn1 engine (extension, name, key post-processing): T3 only"),
  ("x509 ParseTBSCertificate", .t3 "x509 code around the asn1 engine (extension, name, key post-processing): T3 only"),
  ("x509 PublicKeyAlgorithm.UnmarshalJSON", .t3 "JSON layer (encoding/json drives it): T3 only"),
  ("x509 QCStatements.Parse", .t3 "x509 code around the asn1 engine (extension, name, key post-processing): T3 only"),
  ("x509 SignatureAlgorithm.UnmarshalJSON", .t3 "JSON layer (encoding/json drives it): T3 only"),
  ("x509 validity.UnmarshalJSON", .t3 "JSON layer (encoding/json drives it): T3 only"),
  ("x509/ct DeserializeSCT", .proved "ct_deserializeSCT_no_panic" "ZV.Model.C16"),
  ("x509/ct DigitallySigned.UnmarshalJSON", .t3 "JSON layer (encoding/json drives it): T3 only"),
  ("x509/ct SHA256Hash.UnmarshalJSON", .t3 "JSON layer (encoding/json drives it): T3 only"),
  ("x509/ct UnmarshalDigitallySigned", .proved "ct_unmarshalDigitallySigned_no_panic" "ZV.Model.C16"),
  ("x509/revocation/google Parse", .proved "crlset_parse_total" "ZV.Model.C01 + ZV.Model.C15 (crlset_parse_no_panic_c15)"),
  ("x509/revocation/google ZipReader.ReadAt", .t3 "io.ReaderAt adapter over a byte slice: T3 only"),
  ("x509/revocation/microsoft Parse", .proved "sst_parse_total" "ZV.Model.C01"),
  ("x509/revocation/mozilla Entry.UnmarshalJSON", .proved "onecrl_entry_no_panic" "ZV.Model.C01"),
  ("x509/revocation/mozilla Parse", .proved "onecrl_parse_no_panic" "ZV.Model.C01 + ZV.Model.C15 (onecrl_parse_no_panic_c15)"),
  ("x509/revocation/ocsp ParseRequest", .t3 "OCSP code around the asn1 engine: T3 only"),
  ("x509/revocation/ocsp ParseResponse", .t3 "OCSP code around the asn1 engine: T3 only"),
  ("x509/revocation/ocsp ParseResponseForCert", .t3 "OCSP code around the asn1 engine: T3 only")]

/-- every theorem name the table cites exists (elaboration fails otherwise) -/
def coverTheorems : List Lean.Name := [
  ``asn1_unmarshal_no_panic,
  ``cb_readASN1_no_panic,
  ``cb_readLengthPrefixed_in_bounds,
  ``cb_read_in_bounds,
  ``crlset_parse_total,
  ``ct_deserializeSCT_no_panic,
  ``ct_readMerkleTreeLeaf_no_panic,
  ``ct_unmarshalDigitallySigned_no_panic,
  ``ct_unmarshalPrecertChainArray_no_panic,
  ``ct_unmarshalX509ChainArray_no_panic,
  ``onecrl_entry_no_panic,
  ``onecrl_parse_no_panic,
  ``selfsig_ed25519_no_panic,
  ``sst_parse_total,
  ``tls_certificateRequestTLS13_unmarshal_total,
  ``tls_certificateRequest_unmarshal_total,
  ``tls_certificateStatus_unmarshal_total,
  ``tls_certificateTLS13_unmarshal_total,
  ``tls_certificateVerify_unmarshal_total,
  ``tls_certificate_unmarshal_total,
  ``tls_clientHello_unmarshal_total,
  ``tls_clientKeyExchange_unmarshal_total,
  ``tls_encryptedExtensions_unmarshal_total,
  ``tls_endOfEarlyData_unmarshal_total,
  ``tls_finished_unmarshal_total,
  ``tls_helloRequest_unmarshal_total,
  ``tls_keyUpdate_unmarshal_total,
  ``tls_newSessionTicketTLS13_unmarshal_total,
  ``tls_newSessionTicket_unmarshal_total,
  ``tls_readRecord_no_panic,
  ``tls_serverHelloDone_unmarshal_total,
  ``tls_serverHello_unmarshal_total,
  ``tls_serverKeyExchange_unmarshal_total,
  ``tls_sessionStateTLS13_unmarshal_total,
  ``tls_sessionState_unmarshal_total,
  ``x509_parseECPrivateKey_post_no_panic]

/-- the table lists EXACTLY the entry points the go/ast scan finds in the anchored packages (same order): adding a
    parser to zcrypto makes this fail until it is accounted for -/
theorem entrypoints_accounted : coverTable.map (·.1) = Gen.entryPoints := rfl

/-- how many are covered by a theorem (fully / partly / by type) and how many are T3 only -/
theorem entrypoints_census :
    (coverTable.filter (fun e => match e.2 with | .proved .. => true | _ => false)).length = 24 ∧
    (coverTable.filter (fun e => match e.2 with | .partly .. => true | _ => false)).length = 5 ∧
    (coverTable.filter (fun e => match e.2 with | .byType .. => true | _ => false)).length = 20 ∧
    (coverTable.filter (fun e => match e.2 with | .t3 .. => true | _ => false)).length = 64 := by decide +kernel

end ZV.C01
