import ZV.Generated.C17
import ZV.Proofs.C17B
/-!
  C17 — the CT scanner hands every log entry of the scanned range to the matchers exactly once.

  What is proved here is about the MODEL (`ZV.Model.C17`): the partition loop of `Scan`, the retry loop of
  `fetcherJob` against a server that answers with errors or prefixes, and an interleaving model of `nf`
  fetchers and `nm` matchers in which every step is atomic and the schedule is an arbitrary list of worker
  ids.  Data-race freedom of the Go code (the assumption "each counter update is atomic") is NOT a theorem;
  it is explored by the race detector (see tools/props/C17.json).
-/
namespace ZV.C17

/-! ### 1. the range partition of `Scan` -/

/-- For every start, stop and batch size ≥ 1 the ranges built by `Scan`
    * concatenate (in order) to exactly `start, start+1, …, stop-1` — so they cover `[start, stop)`, are
      ordered and pairwise disjoint,
    * are non-empty, hold at most `batch` indices and lie inside `[start, stop)`,
    * are adjacent (each begins right after its predecessor ends). -/
theorem ranges_partition (start stop batch : Nat) (hb : 1 ≤ batch) :
    (ranges start stop batch).flatMap (fun r => List.range' r.1 (r.2 + 1 - r.1)) = List.range' start (stop - start)
    ∧ (∀ r ∈ ranges start stop batch, r.1 ≤ r.2 ∧ r.2 + 1 - r.1 ≤ batch ∧ start ≤ r.1 ∧ r.2 < stop)
    ∧ Adjacent start (ranges start stop batch) :=
  ⟨ranges_cover start stop batch hb, ranges_wf start stop batch, ranges_adjacent start stop batch⟩

example : ranges 2 9 3 = [(2, 4), (5, 7), (8, 8)] := by decide +kernel

/-- corollary: every index of `[start, stop)` lies in exactly one range, every other index in none -/
theorem ranges_each_index_once (start stop batch a : Nat) (hb : 1 ≤ batch) :
    ((ranges start stop batch).flatMap (fun r => List.range' r.1 (r.2 + 1 - r.1))).count a
      = if start ≤ a ∧ a < stop then 1 else 0 := by
  rw [(ranges_partition start stop batch hb).1, count_interval]

/-! ### 2. one fetcher, one range, any server script -/

/-- Whatever the server does for a range — any finite script of errors, empty answers and truncated answers
    (answers are prefixes of what was asked), followed by complete answers — the fetcher hands on exactly the
    indices `s, s+1, …, e`, each once and in order. -/
theorem fetcher_exactly_once (s e : Nat) (script : List Tok) (h : s ≤ e) :
    (fetchRange s e script).1 = List.range' s (e + 1 - s) := by
  fun_induction fetchRange s e script with
  | case1 s => rfl
  | case2 s rest r ih => exact ih h
  | case3 s n rest k hk r ih => exact ih h
  | case4 s n rest k hk hgt =>
    have : k ≤ e + 1 - s := Nat.min_le_right _ _
    exact congrArg (List.range' s) (by omega)
  | case5 s n rest k hk hle r ih =>
    rw [show r.1 = _ from ih (by omega), ← range'_split s (s + k) (e + 1) (by omega) (by omega),
      Nat.add_sub_cancel_left]

/-- … and it does so with at most one request per script token plus one, all of them inside the range and with
    the original `end` (it never asks beyond the range after a partial answer). -/
theorem fetcher_requests (s e : Nat) (script : List Tok) (h : s ≤ e) :
    (∀ q ∈ (fetchRange s e script).2, s ≤ q.1 ∧ q.1 ≤ e ∧ q.2 = e)
    ∧ (fetchRange s e script).2.length ≤ script.length + 1 := by
  -- the request `(s, e)` in front of the requests made from a later start `s'`
  have more {s s' rest} (hs : s ≤ s') (hle : s' ≤ e)
      (ih : (∀ q ∈ (fetchRange s' e rest).2, s' ≤ q.1 ∧ q.1 ≤ e ∧ q.2 = e)
        ∧ (fetchRange s' e rest).2.length ≤ rest.length + 1) :
      (∀ q ∈ (s, e) :: (fetchRange s' e rest).2, s ≤ q.1 ∧ q.1 ≤ e ∧ q.2 = e)
        ∧ ((s, e) :: (fetchRange s' e rest).2).length ≤ rest.length + 1 + 1 := by
    refine ⟨fun q hq => ?_, Nat.succ_le_succ ih.2⟩
    rcases List.mem_cons.mp hq with rfl | hq
    · exact ⟨Nat.le_refl _, by omega, rfl⟩
    · have := ih.1 q hq; omega
  fun_induction fetchRange s e script with
  | case1 s => simp; omega
  | case2 s rest r ih => exact more (Nat.le_refl _) h (ih h)
  | case3 s n rest k hk r ih => exact more (Nat.le_refl _) h (ih h)
  | case4 s n rest k hk hgt => simp; omega
  | case5 s n rest k hk hle r ih => exact more (by omega) (by omega) (ih (by omega))

/-- The "finite script, then complete answers" shape loses no generality: for an ARBITRARY infinite server
    behaviour `β` (the j-th request for the range gets `β j`), as soon as its first `N` answers contain as many
    productive ones (non-error, non-empty) as the range has indices — which happens for some `N` whenever errors
    and empty answers are finitely many — the fetcher's run is determined by those `N` answers alone, whatever
    the server would answer afterwards; it hands on exactly `s..e` and sends at most `N+1` requests. -/
theorem fetcher_any_server (s e : Nat) (β : Nat → Tok) (N : Nat) (h : s ≤ e)
    (hprod : e + 1 - s ≤ productive ((List.range N).map β)) (tail : List Tok) :
    fetchRange s e ((List.range N).map β ++ tail) = fetchRange s e ((List.range N).map β)
    ∧ (fetchRange s e ((List.range N).map β ++ tail)).1 = List.range' s (e + 1 - s)
    ∧ (fetchRange s e ((List.range N).map β ++ tail)).2.length ≤ N + 1 := by
  have h1 := fetchRange_tail_irrelevant e ((List.range N).map β) tail s h hprod
  refine ⟨h1, ?_, ?_⟩
  · rw [h1]; exact fetcher_exactly_once s e _ h
  · rw [h1]
    have := (fetcher_requests s e ((List.range N).map β) h).2
    simpa using this

example : (4 : Nat) + 1 - 2 ≤ productive ((List.range 6).map (fun j => if j % 2 = 0 then Tok.err else Tok.give 1)) := by
  decide

example : fetchRange 4 9 [.err, .give 2, .give 0, .err, .give 100] =
    ([4, 5, 6, 7, 8, 9], [(4, 9), (4, 9), (6, 9), (6, 9), (6, 9)]) := by decide

/-! ### 3. all interleavings of fetchers and matchers -/

/-- Safety, for EVERY schedule (finished or not): at any moment every index of `[start, stop)` is in exactly
    one place — a range nobody has taken yet, the current range of one fetcher, the `jobs` channel, or the
    processed multiset — and no other index is anywhere.  In particular no index is ever processed twice. -/
theorem interleaving_invariant (start stop batch nf nm : Nat) (scriptOf : Nat → List Tok) (hb : 1 ≤ batch)
    (sched : List Worker) (a : Nat) :
    occ a (run (init start stop batch nf nm scriptOf) sched) = if start ≤ a ∧ a < stop then 1 else 0 := by
  rw [(run_wf_occ sched _ (init_wf start stop batch nf nm scriptOf)).2 a,
    init_occ a start stop batch nf nm scriptOf hb, count_interval]

theorem never_processed_twice (start stop batch nf nm : Nat) (scriptOf : Nat → List Tok) (hb : 1 ≤ batch)
    (sched : List Worker) (a : Nat) :
    (run (init start stop batch nf nm scriptOf) sched).processed.count a ≤ 1 := by
  refine Nat.le_trans (Nat.le_add_left _ _) (?_ : occ a _ ≤ 1)
  rw [interleaving_invariant start stop batch nf nm scriptOf hb sched a]
  split <;> decide

/-- `Scan`'s return value is `StartIndex` + the number of `processEntry` calls, in every reachable state. -/
theorem scan_return (start stop batch nf nm : Nat) (scriptOf : Nat → List Tok) (sched : List Worker) :
    scanReturn start (run (init start stop batch nf nm scriptOf) sched)
      = start + (run (init start stop batch nf nm scriptOf) sched).processed.length := by
  have := (run_wf_occ sched _ (init_wf start stop batch nf nm scriptOf)).1.cnt
  simp only [scanReturn, this]

/-- Exactly once: for every batch size ≥ 1, at least one fetcher and one matcher, every server script and
    EVERY schedule after which both wait groups are released (`finished`), the multiset of processed indices is
    exactly `[start, stop)` and `Scan` returns `stop` (= start + number processed). -/
theorem interleaving_exactly_once (start stop batch nf nm : Nat) (scriptOf : Nat → List Tok)
    (hb : 1 ≤ batch) (hle : start ≤ stop) (hnf : 1 ≤ nf) (hnm : 1 ≤ nm) (sched : List Worker)
    (hfin : finished (run (init start stop batch nf nm scriptOf) sched) = true) :
    (run (init start stop batch nf nm scriptOf) sched).processed.Perm (List.range' start (stop - start))
    ∧ scanReturn start (run (init start stop batch nf nm scriptOf) sched) = stop := by
  have hw := run_wf_occ sched _ (init_wf start stop batch nf nm scriptOf)
  have hl := run_lengths sched (init start stop batch nf nm scriptOf)
  obtain ⟨hp, hc⟩ := finished_perm _ hw.1 hfin (by rw [hl.1]; exact List.length_replicate.symm ▸ hnf)
    (by rw [hl.2]; exact List.length_replicate.symm ▸ hnm) _
    fun a => (hw.2 a).trans (init_occ a start stop batch nf nm scriptOf hb)
  refine ⟨hp, ?_⟩
  rw [scanReturn, hc, List.length_range']
  omega

/-! ### 4. termination -/

/-- No deadlock: while `Scan` cannot return yet, some worker can move. -/
theorem no_deadlock (st : St) (h : finished st = false) : ∃ w ∈ workers st, enabled w st = true :=
  exists_enabled st h

/-- Every step taken by a worker that can move strictly decreases the measure `mu`; a worker that cannot move
    leaves the state unchanged. -/
theorem enabled_step_decreases (start stop batch nf nm : Nat) (scriptOf : Nat → List Tok) (sched : List Worker)
    (w : Worker) :
    let st := run (init start stop batch nf nm scriptOf) sched
    (enabled w st = true → mu (step w st) < mu st) ∧ (enabled w st = false → step w st = st) :=
  ⟨step_mu w _ (run_wf_occ sched _ (init_wf start stop batch nf nm scriptOf)).1, step_disabled w _⟩

/-- Termination: a schedule in which every step is taken by a worker that can move has at most `mu init`
    steps — there is no infinite execution, whatever the (finite-error) server scripts are. Together with
    `no_deadlock`: every maximal execution is finite and ends with `Scan` returning. -/
theorem terminates (start stop batch nf nm : Nat) (scriptOf : Nat → List Tok) (sched : List Worker)
    (h : AllEnabled (init start stop batch nf nm scriptOf) sched) :
    sched.length ≤ mu (init start stop batch nf nm scriptOf) := by
  have := measured.length_le runs (fun _ _ _ h => h) sched _ (init_wf start stop batch nf nm scriptOf) h
  omega

example : AllEnabled (init 0 3 2 1 1 (fun _ => [.err])) [.f 0, .f 0, .f 0, .f 0, .m 0] := by
  simp only [AllEnabled]
  decide +kernel

example : finished (init 0 3 2 1 1 (fun _ => [])) = false := by decide +kernel

/-- A fair schedule exists and works: `mu init` rounds of round-robin over all workers end in a finished state
    (this is also how the driver runs the model to completion, and it shows the hypothesis `finished` of
    `interleaving_exactly_once` is satisfiable for every configuration). -/
theorem round_robin_finishes (start stop batch nf nm : Nat) (scriptOf : Nat → List Tok) (pre : List Worker) :
    let st := run (init start stop batch nf nm scriptOf) pre
    finished (run (init start stop batch nf nm scriptOf)
      (pre ++ (List.replicate (mu st + 1) (workers st)).flatten)) = true := by
  intro st
  rw [runs.append, ← roundRobin_eq_run]
  exact roundRobin_finishes _ st (run_wf_occ pre _ (init_wf start stop batch nf nm scriptOf)).1 (Nat.le_succ _)

example : ∃ sched, finished (run (init 2 9 3 2 3 (fun _ => [.err, .give 1])) sched) = true :=
  ⟨_, round_robin_finishes 2 9 3 2 3 _ [.m 0, .f 1, .f 1]⟩

/-! ### 5. `processEntry` (finite case analysis over entry kinds × options) -/

/-- X.509 entries only ever reach `foundCert`, precert entries only `foundPrecert`; `precertsSeen` counts exactly
    the precert entries that got past parsing; with `PrecertOnly` no X.509 entry produces a callback or a
    counter other than `certsProcessed`. -/
theorem processEntry_shape (o : Opts) (k : Kind) :
    ((processEntry o k).cb = .cert → k.isPre = false)
    ∧ ((processEntry o k).cb = .precert → k.isPre = true ∧ (processEntry o k).pre = 1)
    ∧ (k.isPre = false → (processEntry o k).pre = 0)
    ∧ (o.precertOnly = true → k.isPre = false → processEntry o k = ⟨.none, 0, 0, 0⟩)
    ∧ (processEntry o k).pre ≤ 1 ∧ (processEntry o k).unparsable ≤ 1 ∧ (processEntry o k).nonFatal ≤ 1 := by
  obtain ⟨po, ig, m⟩ := o
  cases m <;> cases k <;> decide +revert +kernel

/-! ### 6. one `Scanner` value, several `Scan` calls

The counters are fields of the `Scanner` value; `Scan` returns `StartIndex + s.certsProcessed`.  What the prologue
of `Scan` has to establish for all the theorems above to hold for EVERY scan of a sequence on one value — not only
for the first, which finds the zero-initialised fields of `NewScanner` — is `certsProcessed = 0` (and likewise for
the other three counters, which only feed the statistics): -/

/-- After the prologue the scan starts in exactly the state in which the scan of a fresh `Scanner` starts,
    whatever earlier scans have left in the object. -/
theorem initOn_reset (ob : Obj) (start stop batch nf nm : Nat) (scriptOf : Nat → List Tok) :
    initOn (resetCounters ob) start stop batch nf nm scriptOf = init start stop batch nf nm scriptOf := rfl

/-- Hence every scan of a sequence on one value IS the scan of a fresh `Scanner` with the same parameters: all of
    `interleaving_invariant`, `interleaving_exactly_once`, `scan_return`, `terminates`, … apply to it unchanged. -/
theorem scanSeq_eq_fresh (ob : Obj) (cs : List ScanCfg) :
    scanSeq ob cs = cs.map (fun c => (scanReturn c.start (scanFresh c), scanFresh c)) := by
  induction cs generalizing ob with
  | nil => rfl
  | cons c cs ih => simp only [scanSeq, List.map_cons, ih]; rfl

/-- `scan_return` for every scan of a sequence: each returns ITS OWN start index plus the number of entries IT
    processed, for every content of the object before the first scan, all schedules and all server scripts. -/
theorem scanSeq_return (ob : Obj) (cs : List ScanCfg) :
    (scanSeq ob cs).map (fun p => p.1) = cs.map (fun c => c.start + (scanFresh c).processed.length) := by
  rw [scanSeq_eq_fresh, List.map_map]
  apply List.map_congr_left
  intro c _
  exact scan_return c.start c.stop c.batch c.nf c.nm c.scriptOf c.sched

/-- exactly-once for every scan of a sequence -/
theorem scanSeq_exactly_once (ob : Obj) (cs : List ScanCfg)
    (h : ∀ c ∈ cs, 1 ≤ c.batch ∧ c.start ≤ c.stop ∧ 1 ≤ c.nf ∧ 1 ≤ c.nm ∧ finished (scanFresh c) = true) :
    ∀ p ∈ scanSeq ob cs, ∃ c ∈ cs, p.2 = scanFresh c ∧ p.1 = c.stop
      ∧ p.2.processed.Perm (List.range' c.start (c.stop - c.start)) := by
  rw [scanSeq_eq_fresh]
  intro p hp
  obtain ⟨c, hc, rfl⟩ := List.mem_map.mp hp
  obtain ⟨hb, hle, hnf, hnm, hfin⟩ := h c hc
  have := interleaving_exactly_once c.start c.stop c.batch c.nf c.nm c.scriptOf hb hle hnf hnm c.sched hfin
  exact ⟨c, hc, rfl, this.2, this.1⟩

example : ∃ c : ScanCfg, 1 ≤ c.batch ∧ c.start ≤ c.stop ∧ 1 ≤ c.nf ∧ 1 ≤ c.nm ∧ finished (scanFresh c) = true :=
  ⟨⟨0, 1, 1, 1, 1, fun _ => [], [.f 0, .f 0, .f 0, .f 0, .f 0, .m 0, .m 0]⟩, by decide +kernel⟩

/-- The reset is NECESSARY: the workers only ever add to the counter, so a scan that starts with a leftover
    `certsProcessed = ob.certs` (prologue missing) processes exactly the same entries but returns
    `start + ob.certs + processed` — the sum over all scans so far instead of its own count. -/
theorem scan_return_leftover (ob : Obj) (start stop batch nf nm : Nat) (scriptOf : Nat → List Tok)
    (sched : List Worker) :
    (run (initOn ob start stop batch nf nm scriptOf) sched).processed
        = (run (init start stop batch nf nm scriptOf) sched).processed
      ∧ scanReturn start (run (initOn ob start stop batch nf nm scriptOf) sched)
        = start + ob.certs + (run (init start stop batch nf nm scriptOf) sched).processed.length := by
  have hi : initOn ob start stop batch nf nm scriptOf = addC ob.certs (init start stop batch nf nm scriptOf) := by
    simp [initOn, addC, init]
  have hr := scan_return start stop batch nf nm scriptOf sched
  rw [hi, run_addC]
  constructor
  · rfl
  · simp only [scanReturn, addC] at hr ⊢
    omega

/-- … so `Scan` returns "start index plus the number of entries processed" exactly when the counter it starts
    from is 0: this is what `resetCounters` has to (and does) establish. -/
theorem scan_return_iff_reset (ob : Obj) (start stop batch nf nm : Nat) (scriptOf : Nat → List Tok)
    (sched : List Worker) :
    scanReturn start (run (initOn ob start stop batch nf nm scriptOf) sched)
        = start + (run (initOn ob start stop batch nf nm scriptOf) sched).processed.length
      ↔ ob.certs = 0 := by
  have h := scan_return_leftover ob start stop batch nf nm scriptOf sched
  rw [h.1, h.2]
  omega

example : scanReturn 5 (run (initOn ⟨32, 0, 0, 0⟩ 5 7 1 1 1 (fun _ => [])) [.f 0, .f 0, .f 0, .m 0]) = 5 + 32 + 1 := by
  decide +kernel

/-! ### 7. bounded channels and the main goroutine of `Scan` as a thread

`binit capF capJ …` is the state after `Scan` has started its workers; the main goroutine then feeds the `fetches`
channel (capacity `capF`), closes it, waits for the fetchers, closes `jobs` (capacity `capJ`), waits for the
matchers and returns.  Sends block on a full channel, receives on an empty open one.  Everything below holds for
ALL capacities, worker counts, server scripts and schedules (lists of thread ids, main goroutine included). -/

/-- Refinement: every run of the bounded model is a run of the unbounded one (`babs` forgets the split of the
    untaken ranges into "still in the list" and "in the channel") — for all capacities, even 0. Hence every
    safety theorem of section 3 carries over. -/
theorem bounded_refines_unbounded (capF capJ start stop batch nf nm : Nat) (scriptOf : Nat → List Tok)
    (ws : List BWorker) :
    ∃ sched : List Worker, sched.length ≤ ws.length ∧
      babs (brun (binit capF capJ start stop batch nf nm scriptOf) ws)
        = run (init start stop batch nf nm scriptOf) sched := by
  have := brun_refines ws _ (binit_inv capF capJ start stop batch nf nm scriptOf)
  rw [babs_binit] at this
  exact this

/-- … in particular: at every moment of every bounded run every index of `[start, stop)` is in exactly one place
    and none is ever processed twice. -/
theorem bounded_invariant (capF capJ start stop batch nf nm : Nat) (scriptOf : Nat → List Tok) (hb : 1 ≤ batch)
    (ws : List BWorker) (a : Nat) :
    occ a (babs (brun (binit capF capJ start stop batch nf nm scriptOf) ws))
        = (if start ≤ a ∧ a < stop then 1 else 0)
    ∧ (brun (binit capF capJ start stop batch nf nm scriptOf) ws).st.processed.count a ≤ 1 := by
  obtain ⟨sched, _, h⟩ := bounded_refines_unbounded capF capJ start stop batch nf nm scriptOf ws
  have h2 := never_processed_twice start stop batch nf nm scriptOf hb sched a
  rw [← h] at h2
  rw [h]
  exact ⟨interleaving_invariant start stop batch nf nm scriptOf hb sched a, h2⟩

/-- Exactly once and the return value, bounded: when `Scan` has returned (the main goroutine is past
    `matcherWG.Wait()`), the processed multiset is exactly `[start, stop)` and the return value is `stop`. -/
theorem bounded_exactly_once (capF capJ start stop batch nf nm : Nat) (scriptOf : Nat → List Tok)
    (hb : 1 ≤ batch) (hle : start ≤ stop) (hnf : 1 ≤ nf) (hnm : 1 ≤ nm) (ws : List BWorker)
    (hfin : bfinished (brun (binit capF capJ start stop batch nf nm scriptOf) ws) = true) :
    (brun (binit capF capJ start stop batch nf nm scriptOf) ws).st.processed.Perm (List.range' start (stop - start))
    ∧ scanReturn start (brun (binit capF capJ start stop batch nf nm scriptOf) ws).st = stop := by
  obtain ⟨sched, _, h⟩ := bounded_refines_unbounded capF capJ start stop batch nf nm scriptOf ws
  have hf := bfinished_finished (brun_inv ws _ (binit_inv capF capJ start stop batch nf nm scriptOf)) hfin
  rw [h] at hf
  have := interleaving_exactly_once start stop batch nf nm scriptOf hb hle hnf hnm sched hf
  rw [← h] at this
  exact this

/-- No reachable state is a deadlock: for all capacities ≥ 1, at least one fetcher and one matcher, every server
    script and every schedule, as long as `Scan` has not returned some thread (main goroutine, a fetcher or a
    matcher) can move — in particular a producer blocked on a full channel always has a consumer that can run. -/
theorem bounded_no_deadlock (capF capJ start stop batch nf nm : Nat) (scriptOf : Nat → List Tok)
    (hF : 1 ≤ capF) (hJ : 1 ≤ capJ) (hnf : 1 ≤ nf) (hnm : 1 ≤ nm) (ws : List BWorker)
    (h : bfinished (brun (binit capF capJ start stop batch nf nm scriptOf) ws) = false) :
    ∃ w ∈ bworkers (brun (binit capF capJ start stop batch nf nm scriptOf) ws),
      benabled w (brun (binit capF capJ start stop batch nf nm scriptOf) ws) = true := by
  have inv := bruns.inv bmeasured_live.inv ws _
    ⟨binit_inv capF capJ start stop batch nf nm scriptOf, binit_live start stop batch scriptOf hF hJ hnf hnm⟩
  exact b_exists_enabled _ inv.1 inv.2 h

example : bfinished (brun (binit 1 1 0 3 1 1 1 (fun _ => [])) [.main, .f 0]) = false := by
  decide +kernel

/-- Termination under fairness: every step taken by a thread that can move strictly decreases the measure `bmu`
    (remaining work: unserved script tokens and entries, entries in flight, threads not yet returned, ranges not
    yet sent); a thread that cannot move (blocked or returned) leaves the state unchanged. -/
theorem bounded_step_decreases (capF capJ start stop batch nf nm : Nat) (scriptOf : Nat → List Tok)
    (ws : List BWorker) (w : BWorker) :
    let b := brun (binit capF capJ start stop batch nf nm scriptOf) ws
    (benabled w b = true → bmu (bstep w b) < bmu b) ∧ (benabled w b = false → bstep w b = b) :=
  have inv := brun_inv ws _ (binit_inv capF capJ start stop batch nf nm scriptOf)
  ⟨bstep_mu w _ inv, bstep_disabled w _ inv⟩

/-- … so an execution in which every step is a real step has at most `bmu binit` steps. -/
theorem bounded_terminates (capF capJ start stop batch nf nm : Nat) (scriptOf : Nat → List Tok)
    (ws : List BWorker) (h : BAllEnabled (binit capF capJ start stop batch nf nm scriptOf) ws) :
    ws.length ≤ bmu (binit capF capJ start stop batch nf nm scriptOf) := by
  have := bmeasured.length_le bruns (fun _ _ _ h => h) ws _ (binit_inv capF capJ start stop batch nf nm scriptOf) h
  omega

example : BAllEnabled (binit 1 1 0 3 1 1 1 (fun _ => [])) [.main, .f 0] := by
  simp only [BAllEnabled]
  decide +kernel

/-- A fair schedule finishes: after any prefix, `bmu + 1` rounds of round-robin over all threads end with `Scan`
    returned (this is how the driver runs the bounded model; the hypothesis of `bounded_exactly_once` is
    satisfiable for every configuration with capacities, fetchers, matchers ≥ 1). -/
theorem bounded_round_robin_finishes (capF capJ start stop batch nf nm : Nat) (scriptOf : Nat → List Tok)
    (hF : 1 ≤ capF) (hJ : 1 ≤ capJ) (hnf : 1 ≤ nf) (hnm : 1 ≤ nm) (pre : List BWorker) :
    let b := brun (binit capF capJ start stop batch nf nm scriptOf) pre
    bfinished (broundRobin b (bmu b + 1)) = true := by
  intro b
  have inv := bruns.inv bmeasured_live.inv pre _
    ⟨binit_inv capF capJ start stop batch nf nm scriptOf, binit_live start stop batch scriptOf hF hJ hnf hnm⟩
  exact broundRobin_finishes _ b inv.1 inv.2 (Nat.le_succ _)

/-- The hypothesis "a matcher is running" of `bounded_no_deadlock` is necessary — this is the stall of a `Scan`
    whose matchers are started only after `fetcherWG.Wait()`: with no matcher running, capacity 1 and 3 entries
    the fetcher blocks on the full `jobs` channel and the main goroutine in `fetcherWG.Wait()`, for ever. -/
def stallState : BSt :=
  brun ⟨1, 1, [⟨0, 0, []⟩, ⟨1, 1, []⟩, ⟨2, 2, []⟩], .feed, ⟨[], [.idle], [], [], [], 0, []⟩⟩
    [.main, .f 0, .f 0, .f 0, .f 0, .main, .f 0, .f 0, .f 0, .main, .main]

theorem deadlock_when_no_matcher_runs :
    bfinished stallState = false ∧ (bworkers stallState).all (fun w => !benabled w stallState) = true := by
  decide +kernel

example : binit 1 1 0 3 1 1 0 (fun _ => [])
    = ⟨1, 1, [⟨0, 0, []⟩, ⟨1, 1, []⟩, ⟨2, 2, []⟩], .feed, ⟨[], [.idle], [], [], [], 0, []⟩⟩ := by
  decide +kernel

/-! ### 8. facts extracted from the source of `Scan` (T1, `ZV.C17.Gen`, regenerated on every run) -/

/-- statement of `Scan` (as printed by the extractor) ↦ operation of the model's main goroutine -/
def MainOp.ofStmt (s : String) : Option MainOp :=
  if s = "reset certsProcessed" ∨ s = "reset precertsSeen" ∨ s = "reset unparsableEntries"
      ∨ s = "reset entriesWithNonFatalErrors" then some .resetCounter
  else if s = "make fetches" then some .makeFetches
  else if s = "make jobs" then some .makeJobs
  else if s = "go ticker" then some .goTicker
  else if s = "loop go matcherJob" then some .startMatchers
  else if s = "loop go fetcherJob" then some .startFetchers
  else if s = "loop send fetches" then some .feed
  else if s = "close fetches" then some .closeFetches
  else if s = "wait fetcherWG" then some .waitFetchers
  else if s = "close jobs" then some .closeJobs
  else if s = "wait matcherWG" then some .waitMatchers
  else if s = "stop ticker" then some .stopTicker
  else if s = "return" then some .ret
  else none

/-- The synchronisation statements of the real `Scan`, in source order, are exactly the program of the model's
    main goroutine (`mainProgram`: reset ×4, make ×2, ticker, start matchers, start fetchers, feed, close(fetches),
    fetcherWG.Wait, close(jobs), matcherWG.Wait, ticker.Stop, return), and there is no other synchronisation
    statement besides the two `WaitGroup.Add` calls next to the `go` statements. -/
theorem scan_order_is_model_order :
    Gen.scanOrder.filterMap MainOp.ofStmt = mainProgram
    ∧ Gen.scanOrder.all (fun s => (MainOp.ofStmt s).isSome || s == "loop add matcherWG" || s == "loop add fetcherWG")
        = true := by decide +kernel

/-- Both kinds of consumers are started BEFORE the first statement at which the main goroutine can block (the
    first `fetches <- r`, a `Wait`): whenever the producer blocks on a full channel, the consumers of
    `bounded_no_deadlock` are already running. -/
theorem consumers_started_before_producer_blocks :
    (((Gen.scanOrder.filterMap MainOp.ofStmt).takeWhile
        (fun o => !(o == .feed || o == .waitFetchers || o == .waitMatchers))).contains .startMatchers
    && ((Gen.scanOrder.filterMap MainOp.ofStmt).takeWhile
        (fun o => !(o == .feed || o == .waitFetchers || o == .waitMatchers))).contains .startFetchers) = true := by
  rw [scan_order_is_model_order.1]; decide +kernel

/-- the channel capacities in the source satisfy the hypotheses of `bounded_no_deadlock` -/
theorem scan_capacities : 1 ≤ Gen.fetchesCap ∧ 1 ≤ Gen.jobsCap := by decide +kernel

/-- `bounded_no_deadlock` at the capacities written in the source -/
theorem scan_source_no_deadlock (start stop batch nf nm : Nat) (scriptOf : Nat → List Tok)
    (hnf : 1 ≤ nf) (hnm : 1 ≤ nm) (ws : List BWorker)
    (h : bfinished (brun (binit Gen.fetchesCap Gen.jobsCap start stop batch nf nm scriptOf) ws) = false) :
    ∃ w ∈ bworkers (brun (binit Gen.fetchesCap Gen.jobsCap start stop batch nf nm scriptOf) ws),
      benabled w (brun (binit Gen.fetchesCap Gen.jobsCap start stop batch nf nm scriptOf) ws) = true :=
  bounded_no_deadlock _ _ start stop batch nf nm scriptOf scan_capacities.1 scan_capacities.2 hnf hnm ws h

/-- Every syntactic access to one of the four counter fields in scanner.go goes through `sync/atomic`, except the
    plain READS in `Scan` after the last `Wait()` (final log lines and the return value, which happen after every
    worker has been joined; the only goroutine still alive, the ticker, only loads atomically). -/
theorem counter_accesses_atomic :
    Gen.counterAccesses.all (fun a => a.2.2.2.1 || (a.1 == "Scan" && a.2.2.1 == "read" && a.2.2.2.2)) = true := by
  decide +kernel

/-- the workers only ever ADD to the counters (the premise of `scan_return_leftover`), and `Scan` begins by
    resetting all four with atomic stores -/
theorem counters_workers_add_scan_resets :
    (Gen.counterAccesses.filter (fun a => !(a.1 == "Scan" || a.1 == "Scan.func"))).all
        (fun a => a.2.2.1 == "atomic.AddInt64") = true
    ∧ Gen.scanOrder.take 4 = ["reset certsProcessed", "reset precertsSeen", "reset unparsableEntries",
        "reset entriesWithNonFatalErrors"] := ⟨by decide +kernel, rfl⟩

end ZV.C17
