import ZV.Proofs.C08
/-!
  C08 — CertPool behaves as a fingerprint-keyed ordered set.

  Specification: every pool variable is described by its ADD HISTORY, the plain list of
  certificates handed to it (`AddCert c` appends `c`, `AppendCertsFromPEM` appends the
  certificates of the parseable blocks, `x.Sum(y)` starts from history(x) ++ history(y)).
  `pool_refines` shows that after ANY operation sequence the `certs` slice of the Go-shaped
  model is `dedupFp history` — the distinct-by-fingerprint certificates in first-insertion
  order (`dedupFp` keeps the head and drops later certificates with the same fingerprint;
  `dedupFp_nodup`, `dedupFp_mem_fps`, `dedupFp_sublist` in `ZV.Proofs.C08` characterise it) —
  and that the representation invariant `Inv` (index maps = indices computed from `certs`)
  holds.  The observers and `findVerifiedParents` are then characterised on every reachable pool
  (`observers_refine`: Size / Contains / Covers / Certificates / Subjects of ANY two pool variables, nil ones
  included, after ANY operation sequence, against the abstract ordered set `oset`).
  `appendPEM_is_addCerts` shows that the PEM loop (wrong type / headers / unparsable block are skipped, `ok` result)
  is exactly a sequence of `AddCert` calls, for every pool and every block list; `t1_*` are the T1 facts read
  from x509/cert_pool.go on every run.
-/
namespace ZV.C08

/-! ### add histories -/

abbrev Hist := Nat → Option (List Cert)

/-- the history of a nil pool variable is empty -/
def histOf : Option (List Cert) → List Cert
  | some l => l
  | none => []

/-- the history transformer of one operation (with the same nil-receiver panics as the code). -/
def histStep (A : Hist) : Op → Res Hist
  | .add r c =>
    match c with
    | none => .panic                      -- AddCert(nil)
    | some c =>
      match A r with
      | none => .panic
      | some l => .ok (setKey A r (some (l ++ [c])))
  | .pem r bs =>
    match A r with
    | none => if (pemCerts bs).isEmpty then .ok A else .panic
    | some l => .ok (setKey A r (some (l ++ pemCerts bs)))
  | .sum d a b =>
    .ok (setKey A d (some (histOf (A a) ++ histOf (A b))))

def histRun (A : Hist) : List Op → Res Hist
  | [] => .ok A
  | op :: ops =>
    match histStep A op with
    | .ok A' => histRun A' ops
    | .err => .err
    | .panic => .panic

def histInit : Hist := fun r => if r < 2 then some [] else none

/-- a pool variable agrees with its history -/
def Agrees (p : Option Pool) (l : Option (List Cert)) : Prop :=
  match p, l with
  | some p, some l => Inv p ∧ p.certs = dedupFp l
  | none, none => True
  | _, _ => False

def AllAgree (regs : Regs) (A : Hist) : Prop := ∀ r, Agrees (regs r) (A r)

theorem agree_init : AllAgree init histInit := by
  intro r
  unfold init histInit
  split
  · exact ⟨inv_new, rfl⟩
  · trivial

theorem agrees_setKey (regs : Regs) (A : Hist) (h : AllAgree regs A) (r : Nat) (p : Pool) (l : List Cert)
    (hp : Inv p) (hc : p.certs = dedupFp l) : AllAgree (setKey regs r (some p)) (setKey A r (some l)) := by
  intro x
  unfold setKey
  split
  · exact ⟨hp, hc⟩
  · exact h x

theorem optCerts_agrees (p : Option Pool) (l : Option (List Cert)) (h : Agrees p l) :
    dedupFp (optCerts p) = dedupFp (histOf l) ∧ optCerts p = dedupFp (histOf l) := by
  match p, l, h with
  | none, none, _ => exact ⟨rfl, rfl⟩
  | some p, some l, h => exact ⟨(congrArg dedupFp h.2).trans (dedupFp_of_nodup _ (dedupFp_nodup l)), h.2⟩

/-- one operation preserves agreement (and panics exactly when the history transformer does). -/
theorem step_agrees (regs : Regs) (A : Hist) (op : Op) (h : AllAgree regs A) :
    (∃ regs' o A', step regs op = .ok (regs', o) ∧ histStep A op = .ok A' ∧ AllAgree regs' A') ∨
    (step regs op = .panic ∧ histStep A op = .panic) := by
  cases op with
  | add r c =>
    simp only [step, addCertOpt, histStep]
    match c, regs r, A r, h r with
    | none, _, _, _ => exact .inr ⟨rfl, rfl⟩
    | some c, none, none, _ => exact .inr ⟨rfl, rfl⟩
    | some c, some p, some l, hr =>
      have a := foldl_addCert_hist [c] hr.1 hr.2
      exact .inl ⟨_, _, _, rfl, rfl, agrees_setKey regs A h r _ _ a.1 a.2⟩
  | pem r bs =>
    simp only [step, appendPEMOpt_eq, histStep]
    match hp : regs r, hl : A r, h r with
    | none, none, _ =>
      cases (pemCerts bs).isEmpty
      · exact .inr ⟨rfl, rfl⟩
      · refine .inl ⟨_, _, _, rfl, rfl, fun x => ?_⟩
        unfold setKey
        split
        · rename_i e
          rw [e, hl]
          trivial
        · exact h x
    | some p, some l, hr =>
      have a := foldl_addCert_hist (pemCerts bs) hr.1 hr.2
      exact .inl ⟨_, _, _, rfl, rfl, agrees_setKey regs A h r _ _ a.1 a.2⟩
  | sum d a b =>
    have s := sum_spec (regs a) (regs b)
    refine .inl ⟨_, _, _, rfl, rfl, agrees_setKey regs A h d _ _ s.1 ?_⟩
    rw [s.2, dedupFp_append, dedupFp_append, (optCerts_agrees _ _ (h a)).1, (optCerts_agrees _ _ (h b)).2,
      foldl_specAdd_dedup]

/-- REFINEMENT.  After any operation sequence (from any agreeing start, in particular the
    initial variables), the model either panics together with the history semantics (a write
    through a nil pool) or every pool variable satisfies the representation invariant and
    its `certs` is `dedupFp` of its add history. -/
theorem run_agrees (ops : List Op) (regs : Regs) (A : Hist) (h : AllAgree regs A) :
    (∃ regs' outs A', run regs ops = .ok (regs', outs) ∧ histRun A ops = .ok A' ∧ AllAgree regs' A') ∨
    (run regs ops = .panic ∧ histRun A ops = .panic) := by
  induction ops generalizing regs A with
  | nil => exact .inl ⟨regs, [], A, rfl, rfl, h⟩
  | cons op ops ih =>
    unfold run histRun
    rcases step_agrees regs A op h with ⟨regs1, o, A1, e1, e2, h1⟩ | ⟨e1, e2⟩
    · rcases ih regs1 A1 h1 with ⟨regs2, outs, A2, f1, f2, h2⟩ | ⟨f1, f2⟩
      · simp only [e1, e2, f1, f2]
        exact .inl ⟨_, _, _, rfl, rfl, h2⟩
      · simp only [e1, e2, f1, f2]
        exact .inr ⟨trivial, trivial⟩
    · rw [e1, e2]
      exact .inr ⟨rfl, rfl⟩

/-- `pool_refines`: abs (run ops) = dedupByFingerprint (adds ops), for all operation sequences. -/
theorem pool_refines (ops : List Op) :
    (run init ops).map (fun x => fun r => (x.1 r).map (·.certs)) =
    (histRun histInit ops).map (fun A => fun r => (A r).map dedupFp) := by
  rcases run_agrees ops init histInit agree_init with ⟨regs, outs, A, e1, e2, h⟩ | ⟨e1, e2⟩
  · rw [e1, e2]
    refine congrArg Res.ok (funext fun r => ?_)
    show (regs r).map (·.certs) = (A r).map dedupFp
    match regs r, A r, h r with
    | none, none, _ => rfl
    | some p, some l, hr => exact congrArg some hr.2
  · rw [e1, e2]; rfl

/-! ### observers on a pool that agrees with history `l` -/

theorem size_spec (p : Pool) (l : List Cert) (h : Agrees (some p) (some l)) :
    size (some p) = (dedupFp l).length :=
  congrArg List.length h.2

theorem certificates_spec (p : Pool) (l : List Cert) (h : Agrees (some p) (some l)) :
    certificates p = dedupFp l :=
  h.2

theorem subjects_spec (p : Pool) (l : List Cert) (h : Agrees (some p) (some l)) :
    subjects p = (dedupFp l).map (·.subject) :=
  congrArg (List.map Cert.subject) h.2

theorem contains_nil (c : Cert) : contains none c = false := rfl

/-- the characterisations hold on every pool reachable from the initial variables. -/
theorem reachable_agrees (ops : List Op) (regs : Regs) (outs : List Bool)
    (h : run init ops = .ok (regs, outs)) :
    ∃ A, histRun histInit ops = .ok A ∧ ∀ r, Agrees (regs r) (A r) := by
  rcases run_agrees ops init histInit agree_init with ⟨regs', outs', A, e1, e2, ha⟩ | ⟨e1, _⟩
  · rw [e1] at h; cases h; exact ⟨A, e2, ha⟩
  · rw [e1] at h; cases h

/-! ### parent lookup -/

/-- the candidate set of `findVerifiedParents`, read off `certs`: by key id when the child
    has an AKID and some member has that SKID, otherwise by issuer name. -/
def candidateOf (certs : List Cert) (child : Cert) (x : Cert) : Bool :=
  if child.akid ≠ 0 ∧ idxs (fun y => y.skid = child.akid) certs 0 ≠ [] then x.skid = child.akid
  else x.subject = child.issuer

/-- `parents_sound` (+ exactness): on a pool satisfying the representation invariant,
    `findVerifiedParents` does not panic and returns exactly the indices of the pool members
    that are lookup candidates for the child and whose signature check over the child passed;
    in particular only indices of pool members with `chk child member`. -/
theorem parents_sound (chk : Cert → Cert → Bool) (p : Pool) (h : Inv p) (child : Cert) (v0 : Bool) :
    ∃ res, findVerifiedParents chk (some p) child v0 = .ok res ∧
      (∀ i, i ∈ res.parents ↔ ∃ x, p.certs[i]? = some x ∧ candidateOf p.certs child x = true ∧ chk child x = true) ∧
      -- side effect: the child's ValidSignature is set iff a parent was found, and never cleared
      res.valid = (v0 || !res.parents.isEmpty) := by
  unfold findVerifiedParents
  dsimp only
  -- under `Inv` the candidate list is the list of positions of the lookup candidates
  rw [show @ite (List Nat) _ _ (p.byName child.issuer) _ = idxs (candidateOf p.certs child) p.certs 0 from ?cand]
  case cand =>
    unfold candidateOf
    rw [h.skid, h.name]
    by_cases ha : child.akid = 0
    · simp [ha]
    · by_cases hl : idxs (fun y => decide (y.skid = child.akid)) p.certs 0 = [] <;> simp [ha, hl]
  obtain ⟨res, e, hp, hv⟩ := parentsLoop_spec chk p.certs child (idxs (candidateOf p.certs child) p.certs 0)
    ⟨[], none, true, v0⟩ (fun i hi => let ⟨x, hx, _⟩ := (mem_idxs _ _ i).mp hi; ⟨x, hx⟩)
  refine ⟨res, e, fun i => ?_, ?_⟩
  · rw [hp, List.nil_append, List.mem_filter, mem_idxs]
    cases p.certs[i]? <;> simp
  · rw [hv, hp]
    rfl

/-- a nil pool has no parents to offer. -/
theorem parents_nil (chk : Cert → Cert → Bool) (child : Cert) (v0 : Bool) :
    findVerifiedParents chk none child v0 = .ok { parents := [], errCert := none, errNil := true, valid := v0 } := rfl

/-! ### pool variables hold values: an operation changes only its destination variable

    In particular the result of `Sum` shares nothing with its receiver or argument: whatever is done
    afterwards to any of the three pools leaves the observation of the other two unchanged.  The Go
    harness checks exactly this on the implementation by observing EVERY live pool after EVERY operation. -/

theorem step_frame (regs regs' : Regs) (op : Op) (o : Option Bool) (h : step regs op = .ok (regs', o))
    (x : Nat) (hx : x ≠ op.dst) : regs' x = regs x := by
  obtain ⟨⟨v, rfl⟩, _⟩ := step_ok h
  exact if_neg hx

/-- a variable that no operation of the sequence writes keeps its pool, whatever happens to the others
    (e.g. the receiver and the argument of a `Sum` while the result is mutated, and vice versa). -/
theorem run_frame (ops : List Op) (regs regs' : Regs) (outs : List Bool) (h : run regs ops = .ok (regs', outs))
    (x : Nat) (hx : ∀ op ∈ ops, x ≠ op.dst) : regs' x = regs x := by
  induction ops generalizing regs regs' outs with
  | nil => cases h; rfl
  | cons op ops ih =>
    obtain ⟨r1, o, os, hs, hr, _⟩ := run_cons_ok h
    obtain ⟨h0, hx'⟩ := List.forall_mem_cons.mp hx
    rw [ih r1 regs' os hr hx']
    exact step_frame regs r1 op o hs x h0

/-! ### AppendCertsFromPEM is a sequence of AddCert calls -/

/-- which blocks pass the two `continue` tests of the loop: exactly the header-less blocks whose type is the
    literal the source compares with (T1 `pemBlockType`; `t1_pem_constants` pins it to "CERTIFICATE"). -/
theorem skipped_iff (b : Block) : b.skipped = false ↔ b.typ = "CERTIFICATE" ∧ b.nHeaders = 0 := by
  show (b.typ != "CERTIFICATE" || b.nHeaders != 0) = false ↔ _
  rw [Bool.or_eq_false_iff, bne_eq_false_iff_eq, bne_eq_false_iff_eq]

/-- a block contributes a certificate iff its type is CERTIFICATE, it has no headers and its bytes parse. -/
theorem accepted_iff (b : Block) (c : Cert) :
    b.accepted = some c ↔ b.typ = "CERTIFICATE" ∧ b.nHeaders = 0 ∧ b.parsed = some c := by
  rw [← and_assoc, ← skipped_iff, Block.accepted]
  cases b.skipped
  · exact ⟨fun h => ⟨rfl, h⟩, fun h => h.2⟩
  · exact ⟨nofun, nofun⟩

/-- THE PEM LOOP, for ALL pools and ALL block lists: `AppendCertsFromPEM` returns the pool obtained by calling
    `AddCert` on the accepted blocks' certificates in order, and `ok` = "some block was accepted". -/
theorem appendPEM_is_addCerts (s : Pool) (bs : List Block) :
    appendCertsFromPEM s bs = ((pemCerts bs).foldl addCert s, !(pemCerts bs).isEmpty) :=
  appendPEM_eq_addCerts bs s

/-- on a nil receiver the call panics iff some block is accepted (AddCert dereferences the receiver); otherwise it
    returns false and there is still no pool. -/
theorem appendPEM_nil (bs : List Block) :
    appendCertsFromPEMOpt none bs = if (pemCerts bs).isEmpty then .ok (none, false) else .panic :=
  appendPEMOpt_eq none bs

/-- skipped blocks are invisible: deleting them from the input changes neither the pool nor the result. -/
theorem appendPEM_skips (s : Pool) (bs : List Block) :
    appendCertsFromPEM s bs = appendCertsFromPEM s (bs.filter (fun b => b.accepted.isSome)) := by
  have : (fun b : Block => if b.accepted.isSome then b.accepted else none) = Block.accepted :=
    funext fun b => by cases b.accepted <;> rfl
  simp only [appendPEM_is_addCerts, pemCerts, List.filterMap_filter, this]

/-- AddCert(nil) panics whatever the receiver is (the test precedes every dereference), and a history containing it panics. -/
theorem addCert_nil_panics (s : Option Pool) : addCertOpt s none = .panic := rfl

theorem step_addCert_nil (regs : Regs) (r : Nat) : step regs (.add r none) = .panic := rfl

def pemOuts : List Op → List Bool
  | [] => []
  | op :: ops => (match opOut op with | some b => [b] | none => []) ++ pemOuts ops

/-- every AppendCertsFromPEM call of ANY non-panicking history reports exactly "some block was accepted". -/
theorem run_outs (ops : List Op) (regs regs' : Regs) (outs : List Bool) (h : run regs ops = .ok (regs', outs)) :
    outs = pemOuts ops := by
  induction ops generalizing regs regs' outs with
  | nil => cases h; rfl
  | cons op ops ih =>
    obtain ⟨r1, o, os, hs, hr, rfl⟩ := run_cons_ok h
    rw [ih r1 regs' os hr, (step_ok hs).2]
    rfl

/-! ### all observers against the abstract ordered set, nil pools included -/

/-- the abstract value of a pool variable: the fingerprint-keyed ordered set of its add history (empty for nil) -/
def oset (l : Option (List Cert)) : List Cert := dedupFp (histOf l)

/-- the abstract set operations: insertion is `specAdd` (append unless the fingerprint is present), the union of
    `Sum` inserts the elements of the argument in order. -/
theorem oset_add (l : List Cert) (c : Cert) : oset (some (l ++ [c])) = specAdd (oset (some l)) c := by
  simp only [oset, histOf, dedupFp_append]; rfl

theorem oset_union (l m : Option (List Cert)) :
    oset (some (histOf l ++ histOf m)) = (oset m).foldl specAdd (oset l) :=
  (dedupFp_append _ _).trans (foldl_specAdd_dedup _ _).symm

theorem oset_nodup (l : Option (List Cert)) : (fps (oset l)).Nodup := dedupFp_nodup _

theorem contains_eq (p : Option Pool) (l : Option (List Cert)) (h : Agrees p l) (c : Cert) :
    contains p c = decide (c.fp ∈ fps (oset l)) := by
  match p, l, h with
  | none, none, _ => rfl
  | some p, some l, h =>
    show (p.bySHA256 c.fp).isSome = decide (c.fp ∈ fps (dedupFp l))
    rw [← h.2]
    exact h.1.sha_isSome c.fp

/-- `Contains c` ⇔ a certificate with c's fingerprint was added at some point. -/
theorem contains_spec (p : Pool) (l : List Cert) (h : Agrees (some p) (some l)) (c : Cert) :
    contains (some p) c = true ↔ c.fp ∈ fps l := by
  rw [contains_eq _ _ h, decide_eq_true_iff]
  exact dedupFp_mem_fps l c.fp

/-- `s.Covers(q)` ⇔ every certificate added to `q` was (by fingerprint) added to `s`. -/
theorem covers_spec (p q : Pool) (l m : List Cert) (hp : Agrees (some p) (some l)) (hq : Agrees (some q) (some m)) :
    covers (some p) (some q) = true ↔ ∀ c ∈ m, c.fp ∈ fps l := by
  have : ∀ n : List Cert, (∀ c ∈ n, c.fp ∈ fps l) ↔ ∀ k ∈ fps n, k ∈ fps l := fun n => List.forall_mem_map.symm
  simp only [covers, List.all_eq_true, hq.2, contains_spec p l hp, this, dedupFp_mem_fps]

/-- OBSERVERS: for two pool variables that agree with their histories (nil ones included) `Size`, `Contains`,
    `Covers`, `Certificates` and `Subjects` are the corresponding functions of the abstract ordered sets. -/
theorem observers_agree (p q : Option Pool) (l m : Option (List Cert)) (hp : Agrees p l) (hq : Agrees q m) (c : Cert) :
    size p = (oset l).length ∧
    contains p c = decide (c.fp ∈ fps (oset l)) ∧
    covers p q = (oset m).all (fun x => decide (x.fp ∈ fps (oset l))) ∧
    (∀ x, p = some x → certificates x = oset l ∧ subjects x = (oset l).map (·.subject)) := by
  have ep : optCerts p = oset l := (optCerts_agrees p l hp).2
  have eq : optCerts q = oset m := (optCerts_agrees q m hq).2
  refine ⟨?_, contains_eq p l hp c, ?_, ?_⟩
  · rw [← ep]
    cases p <;> rfl
  · rw [← eq, ← funext (contains_eq p l hp)]
    cases q <;> rfl
  · rintro x rfl
    exact ⟨ep, congrArg (List.map Cert.subject) ep⟩

/-- REFINEMENT OF THE OBSERVERS.  After ANY operation sequence that does not panic, for ANY two pool variables
    `r`, `q` (equal or not, nil or not, results / receivers / arguments of earlier Sums alike) and any certificate:
    every observer returns what the abstract ordered sets of the add histories say, and the AppendCertsFromPEM
    results are `pemOuts`. -/
theorem observers_refine (ops : List Op) (regs : Regs) (outs : List Bool) (h : run init ops = .ok (regs, outs)) :
    ∃ A, histRun histInit ops = .ok A ∧ outs = pemOuts ops ∧ ∀ r q c,
      size (regs r) = (oset (A r)).length ∧
      contains (regs r) c = decide (c.fp ∈ fps (oset (A r))) ∧
      covers (regs r) (regs q) = (oset (A q)).all (fun x => decide (x.fp ∈ fps (oset (A r)))) ∧
      (∀ x, regs r = some x → certificates x = oset (A r) ∧ subjects x = (oset (A r)).map (·.subject)) := by
  obtain ⟨A, e, ha⟩ := reachable_agrees ops regs outs h
  exact ⟨A, e, run_outs ops init regs outs h, fun r q c => observers_agree _ _ _ _ (ha r) (ha q) c⟩

/-- `Sum`: for ANY receiver and argument (nil allowed, the same pool allowed, no invariant assumed) the result
    satisfies the invariant and holds the ordered union: the receiver's distinct certificates, then the argument's
    inserted in order. -/
theorem sum_union (a b : Option Pool) :
    Inv (sum a b) ∧ (sum a b).certs = (optCerts b).foldl specAdd (dedupFp (optCerts a)) := by
  have := sum_spec a b
  exact ⟨this.1, by rw [this.2, dedupFp_append]⟩

/-- in `x.Sum(y)` the receiver's members keep their OBJECTS and POSITIONS (so indices into the receiver are valid in
    the result); the argument's members with new fingerprints follow, in the argument's order. -/
theorem sum_receiver_prefix (a : Pool) (b : Option Pool) (ha : Inv a) :
    (sum (some a) b).certs = a.certs ++ (dedupFp (optCerts b)).filter (fun c => decide (c.fp ∉ fps a.certs)) := by
  rw [(sum_union (some a) b).2, foldl_specAdd]
  simp only [optCerts, dedupFp_of_nodup _ ha.nodup]

/-- a nil receiver contributes nothing: the result is the argument, de-duplicated (a no-op on a pool satisfying Inv). -/
theorem sum_nil_receiver (b : Pool) (hb : Inv b) : (sum none (some b)).certs = b.certs := by
  rw [(sum_spec none (some b)).2]
  simp only [optCerts, List.nil_append, dedupFp_of_nodup _ hb.nodup]

/-! ### T1: facts read from x509/cert_pool.go on every run -/

/-- the literals of the AppendCertsFromPEM `continue` test and of the AddCert(nil) panic -/
theorem t1_pem_constants :
    ZV.Generated.C08.pemBlockType = "CERTIFICATE" ∧ ZV.Generated.C08.pemBlockTypeOp = "!=" ∧
    ZV.Generated.C08.pemHeaderOp = "!=" ∧ ZV.Generated.C08.pemHeaderBound = 0 ∧
    ZV.Generated.C08.addCertNilPanic = "adding nil Certificate to CertPool" ∧
    ZV.Generated.C08.shapeCounts = [1, 1, 1] := ⟨rfl, rfl, rfl, rfl, rfl, rfl⟩

/-- every guard (`if` / loop header / `break` / `continue`) of x509/cert_pool.go, in source order, is the one the
    model mirrors: weakening, removing or adding a guard in the file changes the generated table and fails here. -/
theorem t1_guards : ZV.Generated.C08.guards = [
    ("findVerifiedParents", "if s == nil"),
    ("findVerifiedParents", "if len(cert.AuthorityKeyId) > 0"),
    ("findVerifiedParents", "if len(candidates) == 0"),
    ("findVerifiedParents", "range candidates"),
    ("findVerifiedParents", "if err == nil"),
    ("Contains", "if s == nil"),
    ("Covers", "if pool == nil"),
    ("Covers", "range pool.certs"),
    ("Covers", "if !s.Contains(c)"),
    ("Size", "if s == nil"),
    ("Sum", "if s != nil"),
    ("Sum", "range s.certs"),
    ("Sum", "if other != nil"),
    ("Sum", "range other.certs"),
    ("AddCert", "if cert == nil"),
    ("AddCert", "if ok"),
    ("AddCert", "if len(cert.SubjectKeyId) > 0"),
    ("AppendCertsFromPEM", "for len(pemCerts) > 0"),
    ("AppendCertsFromPEM", "if block == nil"),
    ("AppendCertsFromPEM", "break"),
    ("AppendCertsFromPEM", "if block.Type != \"CERTIFICATE\" || len(block.Headers) != 0"),
    ("AppendCertsFromPEM", "continue"),
    ("AppendCertsFromPEM", "if err != nil"),
    ("AppendCertsFromPEM", "continue"),
    ("Subjects", "range s.certs")] := rfl

/-- statement counts per function (an inserted or deleted statement in a modelled function shows here) -/
theorem t1_stmt_counts : ZV.Generated.C08.stmtCounts = [
    ("NewCertPool", 2), ("cert", 2), ("findVerifiedParents", 21), ("Contains", 6), ("Covers", 10),
    ("Certificates", 4), ("Size", 5), ("Sum", 13), ("AddCert", 18), ("AppendCertsFromPEM", 18), ("Subjects", 6)] := rfl

/-! ### non-vacuity -/

-- a reachable state with a nil variable (3), a Sum result (2) and PEM input with every kind of skipped block:
-- the hypotheses of `observers_refine` / `run_outs` / `reachable_agrees` are satisfiable
example :
    let a : Cert := { uid := 0, fp := 1, subject := 1, issuer := 1, skid := 1, akid := 0 }
    let b : Cert := { uid := 1, fp := 2, subject := 1, issuer := 1, skid := 0, akid := 1 }
    let blocks : List Block := [{ typ := "X509 CRL", nHeaders := 0, parsed := some a }, { typ := "CERTIFICATE", nHeaders := 1, parsed := some a },
      { typ := "CERTIFICATE", nHeaders := 0, parsed := none }, { typ := "CERTIFICATE", nHeaders := 0, parsed := some b }]
    (run init [.add 0 (some a), .pem 1 blocks, .pem 3 (blocks.take 3), .sum 2 0 1]).map (fun x => (x.2, (x.1 2).map (fun p => p.certs.map (·.uid)), (x.1 3).isSome))
      = .ok ([true, false], some [0, 1], false) := by decide +kernel

-- `parents_sound`: the invariant holds for the empty pool, and a pool with one verified parent sets ValidSignature
example : Inv newPool := inv_new
example :
    let r : Cert := { uid := 0, fp := 1, subject := 1, issuer := 1, skid := 1, akid := 0 }
    let c : Cert := { uid := 1, fp := 2, subject := 2, issuer := 1, skid := 0, akid := 1 }
    findVerifiedParents (fun _ _ => true) (some (addCert newPool r)) c false
      = .ok { parents := [0], errCert := none, errNil := true, valid := true } := by decide +kernel

-- `accepted_iff` / `skipped_iff`: a block that is accepted, and near misses that are not
example : (Block.mk "CERTIFICATE" 0 (some ⟨0, 1, 1, 1, 0, 0⟩)).accepted = some ⟨0, 1, 1, 1, 0, 0⟩ :=
  (accepted_iff _ _).mpr ⟨rfl, rfl, rfl⟩
example : (Block.mk "certificate" 0 (some ⟨0, 1, 1, 1, 0, 0⟩)).accepted = none ∧ (Block.mk "CERTIFICATE " 0 (some ⟨0, 1, 1, 1, 0, 0⟩)).accepted = none ∧
    (Block.mk "CERTIFICATE" 2 (some ⟨0, 1, 1, 1, 0, 0⟩)).accepted = none := by decide +kernel

-- AddCert(nil) in the middle of a history: the whole run panics
example (c : Cert) : run init [.add 0 (some c), .add 0 none, .add 1 (some c)] = .panic := rfl


example : Agrees (init 0) (histInit 0) := agree_init 0

-- two certificates with the same fingerprint: the second AddCert is a no-op, Sum de-duplicates
example :
    let a : Cert := { uid := 0, fp := 1, subject := 1, issuer := 1, skid := 1, akid := 0 }
    let a' : Cert := { uid := 6, fp := 1, subject := 1, issuer := 1, skid := 1, akid := 0 }
    let b : Cert := { uid := 1, fp := 2, subject := 1, issuer := 1, skid := 0, akid := 1 }
    (histRun histInit [.add 0 (some a), .add 0 (some b), .add 1 (some a'), .sum 2 1 0]).map (fun A => (A 2).map (fun l => (dedupFp l).map (·.uid)))
      = .ok (some [6, 1]) := by decide +kernel

-- Sum into variable 2, then mutate the RESULT: receiver 0 and argument 1 keep their pools
example (regs' : Regs) (outs : List Bool) (c : Cert)
    (h : run init [.sum 2 0 1, .add 2 (some c)] = .ok (regs', outs)) : regs' 0 = init 0 ∧ regs' 1 = init 1 :=
  ⟨run_frame _ _ _ _ h 0 (by simp only [List.forall_mem_cons, Op.dst]; decide), run_frame _ _ _ _ h 1 (by simp only [List.forall_mem_cons, Op.dst]; decide)⟩

end ZV.C08
