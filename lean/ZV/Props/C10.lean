import ZV.Proofs.C10Ext
/-!
  C10 — the PKI graph is determined by its certificate set.

  `graph_inv` : every sequence of `AddCert` / `AddRoot` from the empty graph runs without panic and
  ends in a graph satisfying `WF` (one node per (subject, SPKI), one edge per fingerprint, adjacency
  maps and `missingIssuerNode` agree with the edges, an issuer is a node with the issuer name whose key
  verifies the certificate, no issuer only if no such node) and `Hist` (nodes, edges and roots are
  exactly those of the operations performed).
  `graph_order_independent` : permuting the operations gives the same graph up to the choice of
  issuer among several verifying nodes; `graph_order_independent_exact` : when at most one node can
  verify each certificate, issuers, adjacency sets and `missingIssuerNode` coincide as well.

  `V` (the signature relation) is arbitrary; `FpInj` says SHA-256 does not collide on the certificates
  of the history.
-/
namespace ZV.C10

/-! ### invariant from the empty graph, for every operation sequence -/

/-- `addOrPanic` never fires and `AddRoot` never dereferences a nil edge -/
theorem no_duplicate_edge_panic (V : Ver) (ops : List Op) : ∃ g, run V Graph.empty ops = .ok g := by
  obtain ⟨g, h, _⟩ := run_inv (V := V) ops (inv_empty V)
  exact ⟨g, h⟩

theorem graph_inv (V : Ver) (ops : List Op) (hfp : FpInj ops) :
    ∃ g, run V Graph.empty ops = .ok g ∧ WF V g ∧ Hist ops g := by
  obtain ⟨g, h⟩ := no_duplicate_edge_panic V ops
  exact ⟨g, h, (inv_of_run h).wf, hist_of_run hfp h⟩

/-- the structural part needs no assumption on fingerprints -/
theorem graph_wf (V : Ver) (ops : List Op) : ∃ g, run V Graph.empty ops = .ok g ∧ WF V g := by
  obtain ⟨g, h⟩ := no_duplicate_edge_panic V ops
  exact ⟨g, h, (inv_of_run h).wf⟩

/-- structural invariant together with duplicate-freeness of the adjacency lists (`AdjNodup`, the second hypothesis of
    `C11.walk_nodup`) -/
theorem graph_wf_adj (V : Ver) (ops : List Op) :
    ∃ g, run V Graph.empty ops = .ok g ∧ WF V g ∧ AdjNodup g := by
  obtain ⟨g, h⟩ := no_duplicate_edge_panic V ops
  exact ⟨g, h, (inv_of_run h).wf, (inv_of_run h).adjNodup⟩

/-! ### the sentences of the property -/

/-- one node per distinct (subject, SPKI) pair of the inserted certificates -/
theorem one_node_per_subject_key {V : Ver} {ops : List Op} {g : Graph} (hfp : FpInj ops)
    (hr : run V Graph.empty ops = .ok g) :
    (g.nodes.map (·.key)).Nodup ∧ ∀ k, k ∈ g.nodes.map (·.key) ↔ ∃ op ∈ ops, op.cert.sk = k := by
  refine ⟨(inv_of_run hr).wf.nodesNodup, fun k => ?_⟩
  rw [← (hist_of_run hfp hr).nodes k, List.mem_map]

/-- one edge per distinct certificate, and it carries that certificate -/
theorem one_edge_per_certificate {V : Ver} {ops : List Op} {g : Graph} (hfp : FpInj ops)
    (hr : run V Graph.empty ops = .ok g) :
    (g.edges.map (·.cert.fp)).Nodup ∧ (∀ op ∈ ops, ∃ e ∈ g.edges, e.cert = op.cert) ∧
      (∀ e ∈ g.edges, ∃ op ∈ ops, op.cert = e.cert) := by
  have hh := hist_of_run hfp hr
  refine ⟨(inv_of_run hr).wf.edgesNodup, ?_, hh.certs⟩
  intro op hop
  obtain ⟨e, he, hfpe⟩ := (hh.edges op.cert.fp).mpr ⟨op, hop, rfl⟩
  exact ⟨e, he, hh.cert_eq hfp (fun _ h => h) he hop hfpe⟩

/-- roots are exactly the certificates ever passed to `AddRoot` -/
theorem roots_are_added_roots {V : Ver} {ops : List Op} {g : Graph} (hfp : FpInj ops)
    (hr : run V Graph.empty ops = .ok g) :
    ∀ e ∈ g.edges, e.root = true ↔ Op.root e.cert ∈ ops := by
  have hh := hist_of_run hfp hr
  intro e he
  rw [hh.roots e he]
  constructor
  · rintro ⟨c, hc, hfpc⟩
    exact hh.cert_eq hfp (fun _ h => h) he hc hfpc.symm ▸ hc
  · exact fun h => ⟨e.cert, h, rfl⟩

/-- each edge's issuer is a node with the certificate's issuer name whose key verifies it -/
theorem issuer_is_verifying_node {V : Ver} {ops : List Op} {g : Graph}
    (hr : run V Graph.empty ops = .ok g) :
    ∀ e ∈ g.edges, ∀ k, e.issuer = some k →
      (∃ n ∈ g.nodes, n.key = k) ∧ k.1 = e.cert.iss ∧ V k e.cert.fp = true := by
  intro e he k hk
  obtain ⟨h1, h2, h3⟩ := (inv_of_run hr).wf.issuerSome e he k hk
  exact ⟨h3, h1, h2⟩

/-- an edge has no issuer exactly when no such node exists -/
theorem no_issuer_iff_no_verifying_node {V : Ver} {ops : List Op} {g : Graph}
    (hr : run V Graph.empty ops = .ok g) :
    ∀ e ∈ g.edges, e.issuer = none ↔ ¬ ∃ n ∈ g.nodes, n.key.1 = e.cert.iss ∧ V n.key e.cert.fp = true := by
  have hwf := (inv_of_run hr).wf
  intro e he
  constructor
  · rintro hn ⟨n, hnn, hname, hv⟩
    rw [hwf.issuerNone e he hn n hnn hname] at hv; cases hv
  · intro hno
    cases hi : e.issuer with
    | none => rfl
    | some k =>
      exfalso
      obtain ⟨h1, h2, n, hn, h3⟩ := hwf.issuerSome e he k hi
      exact hno ⟨n, hn, by rw [h3]; exact h1, by rw [h3]; exact h2⟩

/-- the adjacency maps and `missingIssuerNode` are functions of the edges -/
theorem adjacency_agrees {V : Ver} {ops : List Op} {g : Graph} (hr : run V Graph.empty ops = .ok g) :
    (∀ n ∈ g.nodes, ∀ k fp, pmem n k fp ↔ ∃ e ∈ g.edges, e.cert.fp = fp ∧ e.child = n.key ∧ e.issuer = some k) ∧
    (∀ n ∈ g.nodes, ∀ k fp, cmem n k fp ↔ ∃ e ∈ g.edges, e.cert.fp = fp ∧ e.issuer = some n.key ∧ e.child = k) ∧
    (∀ name fp, mmem g name fp ↔ ∃ e ∈ g.edges, e.cert.fp = fp ∧ e.issuer = none ∧ e.cert.iss = name) := by
  have hwf := (inv_of_run hr).wf
  exact ⟨hwf.parents, hwf.children, hwf.missing⟩

/-! ### order independence -/

/-- `e'` is `e`, except possibly for the choice among several verifying issuer nodes -/
def EdgeSim (V : Ver) (e e' : Edge) : Prop :=
  e'.cert = e.cert ∧ e'.child = e.child ∧ e'.root = e.root ∧
  (e'.issuer = e.issuer ∨
    ∃ k k', k ≠ k' ∧ e.issuer = some k ∧ e'.issuer = some k' ∧ k.1 = e.cert.iss ∧ k'.1 = e.cert.iss ∧
      V k e.cert.fp = true ∧ V k' e.cert.fp = true)

structure SubGraph (V : Ver) (g g' : Graph) : Prop where
  nodes : ∀ n ∈ g.nodes, ∃ n' ∈ g'.nodes, n'.key = n.key
  edges : ∀ e ∈ g.edges, ∃ e' ∈ g'.edges, EdgeSim V e e'
  missing : ∀ name fp, mmem g name fp → mmem g' name fp

def SameUpToIssuerChoice (V : Ver) (g g' : Graph) : Prop := SubGraph V g g' ∧ SubGraph V g' g

theorem subGraph_of_hist {V : Ver} {H : List Op} {g g' : Graph} (hfp : FpInj H)
    (hw : WF V g) (hh : Hist H g) (hw' : WF V g') (hh' : Hist H g') : SubGraph V g g' := by
  have hnode : ∀ k, (∃ n ∈ g.nodes, n.key = k) ↔ ∃ n' ∈ g'.nodes, n'.key = k := fun k =>
    (hh.nodes k).trans (hh'.nodes k).symm
  have hedge : ∀ e ∈ g.edges, ∃ e' ∈ g'.edges, EdgeSim V e e' := by
    intro e he
    obtain ⟨e', he', hfe'⟩ := (hh'.edges e.cert.fp).mpr ((hh.edges e.cert.fp).mp ⟨e, he, rfl⟩)
    obtain ⟨o1, ho1, hc1⟩ := hh.certs e he
    have hcert : e'.cert = e.cert := (hh'.cert_eq hfp (fun _ h => h) he' ho1 (hfe'.trans (congrArg Cert.fp hc1).symm)).trans hc1
    refine ⟨e', he', hcert, ?_, ?_, ?_⟩
    · rw [(hw'.child e' he').1, (hw.child e he).1, hcert]
    · rw [Bool.eq_iff_iff, hh'.roots e' he', hh.roots e he, hcert]
    · cases hi : e.issuer with
      | none => exact Or.inl (hw.issuer_none_of hw' (fun k => (hnode k).mpr) he he' hcert hi)
      | some k =>
        obtain ⟨h1, h2, _⟩ := hw.issuerSome e he k hi
        cases hi' : e'.issuer with
        | none =>
          have := hw'.issuer_none_of hw (fun k => (hnode k).mp) he' he hcert.symm hi'
          rw [hi] at this; cases this
        | some k' =>
          obtain ⟨h1', h2', _⟩ := hw'.issuerSome e' he' k' hi'
          by_cases hkk : k = k'
          · exact Or.inl (by rw [hkk])
          · exact Or.inr ⟨k, k', hkk, rfl, rfl, h1, hcert ▸ h1', h2, hcert ▸ h2'⟩
  refine ⟨fun n hn => (hnode n.key).mp ⟨n, hn, rfl⟩, hedge, fun name fp hmm => ?_⟩
  obtain ⟨e, he, h1, h2, h3⟩ := (hw.missing name fp).mp hmm
  obtain ⟨e', he', hc, _, _, hiss⟩ := hedge e he
  refine (hw'.missing name fp).mpr ⟨e', he', hc ▸ h1, ?_, hc ▸ h3⟩
  rcases hiss with h | ⟨k, _, _, hk, _⟩
  · exact h.trans h2
  · rw [h2] at hk; cases hk

/-! ### which issuer is chosen -/

/-- The only freedom the property leaves is pinned down: after ANY operation sequence the issuer of every
    edge is the FIRST node in creation order (`g.nodes`) that has the certificate's issuer name and whose key
    verifies it, `nil` if there is none — whether the edge was linked by the direct search or by the
    dangling-edge fix-up.  (Implies `issuer_is_verifying_node` and `no_issuer_iff_no_verifying_node`.) -/
theorem issuer_is_first_verifying_node {V : Ver} {ops : List Op} {g : Graph}
    (hr : run V Graph.empty ops = .ok g) :
    ∀ e ∈ g.edges, e.issuer = firstVer V (g.nodes.map (·.key)) e.cert.iss e.cert.fp := by
  obtain ⟨g', hr', _, hfi⟩ := run_ind (P := fun _ g => FirstIss V g) (fun _ hinv hfi => addCert_first hinv hfi)
    (fun c hfi => firstIss_setRoot hfi c.fp) ops (H := []) (inv_empty V) (firstIss_empty V)
  cases hr.symm.trans hr'
  exact hfi

/-- "The PKI graph is determined by its certificate set": two histories with the same certificates and the
    same root certificates — any permutation, any number of duplicates, `AddCert c` before or after
    `AddRoot c` or not at all — give the same graph up to the choice among several verifying issuers. -/
theorem graph_determined_by_certificate_sets (V : Ver) (ops ops' : List Op) (hs : SameCerts ops ops')
    (hfp : FpInj ops) :
    ∃ g g', run V Graph.empty ops = .ok g ∧ run V Graph.empty ops' = .ok g' ∧ SameUpToIssuerChoice V g g' := by
  have hfp' : FpInj ops' := hfp.congrCerts hs
  obtain ⟨g, hr, hw, hh⟩ := graph_inv V ops hfp
  obtain ⟨g', hr', hw', hh'⟩ := graph_inv V ops' hfp'
  have hh2 : Hist ops g' := hh'.congrCerts hs.symm
  exact ⟨g, g', hr, hr', subGraph_of_hist hfp hw hh hw' hh2, subGraph_of_hist hfp hw' hh2 hw hh⟩

/-- any two insertion orders of the same certificates produce the same graph, except for which issuer
    is chosen when several nodes verify the same certificate -/
theorem graph_order_independent (V : Ver) (ops ops' : List Op) (hp : ops.Perm ops') (hfp : FpInj ops) :
    ∃ g g', run V Graph.empty ops = .ok g ∧ run V Graph.empty ops' = .ok g' ∧ SameUpToIssuerChoice V g g' :=
  graph_determined_by_certificate_sets V ops ops' (.of_mem fun _ => hp.mem_iff) hfp

/-- at most one node of the graph can verify each certificate -/
def Unambiguous (V : Ver) (g : Graph) : Prop :=
  ∀ e ∈ g.edges, ∀ n ∈ g.nodes, ∀ n' ∈ g.nodes, n.key.1 = e.cert.iss → n'.key.1 = e.cert.iss →
    V n.key e.cert.fp = true → V n'.key e.cert.fp = true → n.key = n'.key

/-- without ambiguity the two graphs have the same edges (issuer included) and the same adjacency sets -/
theorem graph_order_independent_exact (V : Ver) (ops ops' : List Op) (hp : ops.Perm ops') (hfp : FpInj ops)
    {g g' : Graph} (hr : run V Graph.empty ops = .ok g) (hr' : run V Graph.empty ops' = .ok g')
    (hu : Unambiguous V g) :
    (∀ e ∈ g.edges, ∃ e' ∈ g'.edges, e' = e) ∧
    (∀ n ∈ g.nodes, ∃ n' ∈ g'.nodes, n'.key = n.key ∧ (∀ k fp, pmem n' k fp ↔ pmem n k fp) ∧
      (∀ k fp, cmem n' k fp ↔ cmem n k fp)) ∧
    (∀ name fp, mmem g name fp ↔ mmem g' name fp) := by
  obtain ⟨g1, g1', h1, h1', hs, hs'⟩ := graph_order_independent V ops ops' hp hfp
  cases hr.symm.trans h1
  cases hr'.symm.trans h1'
  have hw := (inv_of_run hr).wf
  have hw' := (inv_of_run hr').wf
  have hedges : ∀ e ∈ g.edges, ∃ e' ∈ g'.edges, e' = e := by
    intro e he
    obtain ⟨e', he', hc, hch, hro, hiss⟩ := hs.edges e he
    refine ⟨e', he', edge_ext hc ?_ hch hro⟩
    rcases hiss with h | ⟨k, k', hne, hk, hk', hn, hn', hv, hv'⟩
    · exact h
    · -- two different verifying issuers: both are nodes of `g`, which has only one
      obtain ⟨_, _, n, hnn, hkn⟩ := hw.issuerSome e he k hk
      obtain ⟨_, _, n', hnn', hkn'⟩ := hw'.issuerSome e' he' k' hk'
      obtain ⟨n2, hn2, hk2⟩ := hs'.nodes n' hnn'
      subst hkn hkn'
      rw [← hk2] at hne hn' hv'
      exact absurd (hu e he n hnn n2 hn2 hn hn' hv hv') hne
  have hedges' : ∀ e' ∈ g'.edges, e' ∈ g.edges := by
    intro e' he'
    obtain ⟨e, he, hc, _⟩ := hs'.edges e' he'
    obtain ⟨e2, he2, h2⟩ := hedges e he
    rw [← h2, edge_eq_of_fp hw'.edgesNodup he2 he' (by rw [h2, hc])] at he
    exact he
  have hex : ∀ Q : Edge → Prop, (∃ e' ∈ g'.edges, Q e') ↔ ∃ e ∈ g.edges, Q e := fun Q =>
    ⟨fun ⟨e', he', h⟩ => ⟨e', hedges' e' he', h⟩, fun ⟨e, he, h⟩ =>
      have ⟨e', he', hee⟩ := hedges e he
      ⟨e', he', hee ▸ h⟩⟩
  refine ⟨hedges, fun n hn => ?_, fun name fp => ⟨hs.missing name fp, hs'.missing name fp⟩⟩
  obtain ⟨n', hn', hk⟩ := hs.nodes n hn
  refine ⟨n', hn', hk, fun k fp => ?_, fun k fp => ?_⟩
  · rw [hw'.parents n' hn' k fp, hw.parents n hn k fp, hk]
    exact hex _
  · rw [hw'.children n' hn' k fp, hw.children n hn k fp, hk]
    exact hex _

/-- … and if the two histories create the nodes in the same order, the graphs have exactly the same edges,
    issuers included (no ambiguity hypothesis). -/
theorem graph_determined_by_certificate_sets_and_node_order (V : Ver) (ops ops' : List Op)
    (hs : SameCerts ops ops') (hfp : FpInj ops) {g g' : Graph}
    (hr : run V Graph.empty ops = .ok g) (hr' : run V Graph.empty ops' = .ok g')
    (hord : g.nodes.map (·.key) = g'.nodes.map (·.key)) :
    (∀ e ∈ g.edges, e ∈ g'.edges) ∧ (∀ e ∈ g'.edges, e ∈ g.edges) := by
  obtain ⟨g1, g1', h1, h1', hsub, hsub'⟩ := graph_determined_by_certificate_sets V ops ops' hs hfp
  cases hr.symm.trans h1
  cases hr'.symm.trans h1'
  have hfi := issuer_is_first_verifying_node hr
  have hfi' := issuer_is_first_verifying_node hr'
  constructor
  · intro e he
    obtain ⟨e', he', hc, hch, hro, _⟩ := hsub.edges e he
    rw [← edge_ext hc (by rw [hfi e he, hfi' e' he', hc, hord]) hch hro]
    exact he'
  · intro e' he'
    obtain ⟨e, he, hc, hch, hro, _⟩ := hsub'.edges e' he'
    rw [← edge_ext hc (by rw [hfi e he, hfi' e' he', hc, hord]) hch hro]
    exact he

/-! ### the public observers -/

/-- `IsRoot(c)` ⇔ `c` was ever passed to `AddRoot` -/
theorem isRoot_iff {V : Ver} {ops : List Op} {g : Graph} (c : Cert) (hfp : FpInj (Op.add c :: ops))
    (hr : run V Graph.empty ops = .ok g) : isRoot g c = true ↔ Op.root c ∈ ops := by
  have hfp0 : FpInj ops := hfp.mono (fun o ho => List.mem_cons_of_mem _ ho)
  have hh := hist_of_run hfp0 hr
  unfold isRoot
  cases hf : findEdge g.edges c.fp with
  | none =>
    refine iff_of_false Bool.false_ne_true fun hin => ?_
    have := findEdge_isSome_iff.mpr ((hh.edges c.fp).mpr ⟨_, hin, rfl⟩)
    rw [hf] at this; cases this
  | some e =>
    obtain ⟨he, hfe⟩ := findEdge_some hf
    have : e.cert = c := hh.cert_eq hfp (fun _ => List.mem_cons_of_mem _) he (o := Op.add c) List.mem_cons_self hfe
    rw [roots_are_added_roots hfp0 hr e he, this]

/-- `FindEdge(fingerprint of c) != nil` ⇔ `c` was inserted (by `AddCert` or `AddRoot`) -/
theorem findEdgeOk_iff {V : Ver} {ops : List Op} {g : Graph} (c : Cert) (hfp : FpInj (Op.add c :: ops))
    (hr : run V Graph.empty ops = .ok g) : findEdgeOk g c = true ↔ ∃ op ∈ ops, op.cert = c := by
  have hh := hist_of_run (hfp.mono fun o ho => List.mem_cons_of_mem _ ho) hr
  unfold findEdgeOk
  rw [findEdge_isSome_iff, hh.edges c.fp]
  constructor
  · rintro ⟨o, ho, hfo⟩
    exact ⟨o, ho, hfp o (List.mem_cons_of_mem _ ho) (Op.add c) List.mem_cons_self hfo⟩
  · rintro ⟨o, ho, hc⟩
    exact ⟨o, ho, by rw [hc]⟩

/-- `FindNode(subject+key fingerprint of c) != nil` ⇔ some inserted certificate has the subject and key of `c` -/
theorem findNodeOk_iff {V : Ver} {ops : List Op} {g : Graph} (c : Cert) (hfp : FpInj ops)
    (hr : run V Graph.empty ops = .ok g) : findNodeOk g c = true ↔ ∃ op ∈ ops, op.cert.sk = c.sk := by
  unfold findNodeOk
  rw [findNode_isSome_iff, (hist_of_run hfp hr).nodes c.sk]

/-- `len(Nodes())` = number of distinct (subject, SPKI) pairs, `len(Edges())` = number of distinct certificates -/
theorem nodes_edges_count {V : Ver} {ops : List Op} {g : Graph} (hfp : FpInj ops)
    (hr : run V Graph.empty ops = .ok g) :
    nodesLen g = ((ops.map (·.cert.sk)).dedup).length ∧ edgesLen g = ((ops.map (·.cert.fp)).dedup).length := by
  have hh := hist_of_run hfp hr
  have hw := (inv_of_run hr).wf
  constructor
  · rw [nodesLen, ← List.length_map (f := (·.key))]
    exact length_eq_length_dedup hw.nodesNodup fun k => by rw [List.mem_map, hh.nodes k, List.mem_map]
  · rw [edgesLen, ← List.length_map (f := (·.cert.fp))]
    exact length_eq_length_dedup hw.edgesNodup fun fp => by rw [List.mem_map, hh.edges fp, List.mem_map]

/-! ### `AppendFromPEMErr` / `AppendFromPEM` -/

/-- For every graph, stream and `root` flag, `AppendFromPEMErr` is the `AddCert`/`AddRoot` sequence `pemOps` of
    the certificates of the stream (up to the first stretch of 64 KiB without a block), its first result the
    number of those certificates (duplicates counted), its second the number of unparsable blocks, its third
    non-nil exactly when the scanner gave up. -/
theorem appendFromPEMErr_is_run (V : Ver) (g : Graph) (items : List PemItem) (root : Bool) :
    appendFromPEMErr V g items root =
      match run V g (pemOps root items) with
      | .ok g' => .ok ⟨(pemCerts items).length, pemErrs items, pemTooLong items, g'⟩
      | _ => .panic := by
  unfold appendFromPEMErr
  rw [pemLoop_eq_run, Nat.zero_add, Nat.zero_add]
  rfl

/-- On a graph built by any operations `ops0`, `AppendFromPEMErr` never panics, and the graph it leaves is the
    graph of the history `ops0 ++ pemOps root items` — so every theorem above applies to it. -/
theorem appendFromPEMErr_spec (V : Ver) (ops0 : List Op) (items : List PemItem) (root : Bool) :
    ∃ g0 g, run V Graph.empty ops0 = .ok g0 ∧
      appendFromPEMErr V g0 items root = .ok ⟨(pemCerts items).length, pemErrs items, pemTooLong items, g⟩ ∧
      run V Graph.empty (ops0 ++ pemOps root items) = .ok g := by
  obtain ⟨g0, h0, hinv0⟩ := run_inv (V := V) ops0 (inv_empty V)
  obtain ⟨g, h1, _⟩ := run_inv (V := V) (pemOps root items) hinv0
  refine ⟨g0, g, h0, ?_, ?_⟩
  · rw [appendFromPEMErr_is_run, h1]
  · rw [run_append, h0]; exact h1

/-- the deprecated wrapper returns the same count and leaves the same graph -/
theorem appendFromPEM_spec (V : Ver) (g0 : Graph) (items : List PemItem) (root : Bool) (o : PemOut)
    (h : appendFromPEMErr V g0 items root = .ok o) : appendFromPEM V g0 items root = .ok (o.count, o.g) := by
  unfold appendFromPEM
  rw [h]

/-- with `root = true` the `AddCert` call in the loop is redundant: the stream acts like `AddRoot` of each of its
    certificates -/
theorem pem_root_is_addRoot (V : Ver) (items : List PemItem) : ∀ {g : Graph}, Inv V g →
    run V g (pemOps true items) = run V g ((pemCerts items).map Op.root) := by
  induction items with
  | nil => intro g _; rfl
  | cons it rest ih =>
    intro g hinv
    cases it with
    | junk => exact ih hinv
    | bad => exact ih hinv
    | big => rfl
    | cert c =>
      obtain ⟨g1, hadd, hinv1, _⟩ := addCert_spec hinv c
      obtain ⟨g2, hroot, hinv2⟩ := step_inv hinv (Op.root c)
      simp only [step] at hroot
      have h2 : addRoot V g1 c = .ok g2 := by rw [addRoot_after_addCert hinv hadd]; exact hroot
      simp only [pemOps, pemCerts, if_true, List.cons_append, List.nil_append, List.map_cons, run, step, hadd, h2, hroot]
      exact ih hinv2

/-- the order of the blocks in the stream (and junk, unparsable blocks, repetitions) does not matter: two streams
    with the same certificates, appended with the same `root` flag to graphs with the same certificates, give the
    same graph up to the choice among several verifying issuers -/
theorem pem_stream_order_independent (V : Ver) (ops0 : List Op) (items items' : List PemItem) (root : Bool)
    (hsame : ∀ c, c ∈ pemCerts items ↔ c ∈ pemCerts items')
    (hfp : FpInj (ops0 ++ pemOps root items)) :
    ∃ g0 o o', run V Graph.empty ops0 = .ok g0 ∧ appendFromPEMErr V g0 items root = .ok o ∧
      appendFromPEMErr V g0 items' root = .ok o' ∧ SameUpToIssuerChoice V o.g o'.g := by
  have hs : SameCerts (ops0 ++ pemOps root items) (ops0 ++ pemOps root items') :=
    .of_mem fun o => by
      rw [List.mem_append, List.mem_append, mem_pemOps, mem_pemOps]
      exact or_congr_right (exists_congr fun c => and_congr_left fun _ => hsame c)
  obtain ⟨g, g', hr, hr', hsim⟩ := graph_determined_by_certificate_sets V _ _ hs hfp
  obtain ⟨g0, g1, h0, h1, h2⟩ := appendFromPEMErr_spec V ops0 items root
  obtain ⟨g0', g1', h0', h1', h2'⟩ := appendFromPEMErr_spec V ops0 items' root
  rw [h0] at h0'; cases h0'
  rw [hr] at h2; cases h2
  rw [hr'] at h2'; cases h2'
  exact ⟨g0, _, _, h0, h1, h1', hsim⟩


/-! ### the hypotheses are satisfiable: a three-certificate chain inserted leaf first (two fix-ups) -/
namespace Ex
def r : Cert := { fp := 0, subj := 0, key := 0, iss := 0 }
def i : Cert := { fp := 1, subj := 1, key := 1, iss := 0 }
def l : Cert := { fp := 2, subj := 2, key := 2, iss := 1 }
/-- a second key for subject 0 that verifies `i` as well (two verifying nodes) -/
def r2 : Cert := { fp := 3, subj := 0, key := 9, iss := 0 }
def V : Ver := fun k fp => [((0, 0), 0), ((0, 0), 1), ((1, 1), 2), ((0, 9), 1), ((0, 0), 3)].contains (k, fp)
def ops : List Op := [.root r, .add i, .add l]
def ops' : List Op := [.add l, .add i, .add l, .root r]

example : FpInj ops := by unfold FpInj; decide +kernel
example : FpInj ops' := by unfold FpInj; decide +kernel
example : (ops ++ [Op.add l]).Perm ops' := by decide +kernel
/-- leaf first: `l` and `i` are registered in `missingIssuerNode` and fixed up when their issuers arrive -/
example : run V Graph.empty [Op.add l] =
    .ok { nodes := [⟨(2, 2), [], []⟩], edges := [⟨l, none, (2, 2), false⟩], missing := [(1, [2])] } := rfl
example : run V Graph.empty ops' = .ok
    { nodes := [⟨(2, 2), [], [((1, 1), [2])]⟩, ⟨(1, 1), [((2, 2), [2])], [((0, 0), [1])]⟩,
                ⟨(0, 0), [((0, 0), [0]), ((1, 1), [1])], [((0, 0), [0])]⟩],
      edges := [⟨l, some (1, 1), (2, 2), false⟩, ⟨i, some (0, 0), (1, 1), false⟩, ⟨r, some (0, 0), (0, 0), true⟩],
      missing := [] } := rfl
example : ∃ g, run V Graph.empty ops = .ok g ∧ Unambiguous V g := by
  refine ⟨_, rfl, ?_⟩
  unfold Unambiguous
  decide +kernel
/-- with `r2` both (0,0) and (0,9) verify `i`: the issuer of `i` depends on the order, nothing else does -/
example : ∃ g g', run V Graph.empty [Op.add r, Op.add r2, Op.add i] = .ok g ∧ run V Graph.empty [Op.add r2, Op.add i, Op.add r] = .ok g' ∧
    (∃ e ∈ g.edges, e.cert = i ∧ e.issuer = some (0, 0)) ∧ (∃ e ∈ g'.edges, e.cert = i ∧ e.issuer = some (0, 9)) := by
  refine ⟨_, _, rfl, rfl, ?_, ?_⟩ <;> decide +kernel
/-- first verifying node: with both (0,0) and (0,9) able to verify `i`, the issuer is whichever node was created first -/
example : firstVer V [(0, 9), (1, 1), (0, 0)] i.iss i.fp = some (0, 9) ∧ firstVer V [(0, 0), (0, 9), (1, 1)] i.iss i.fp = some (0, 0) := by
  decide +kernel
/-- same certificates, same roots, different multiplicities and forms -/
example : SameCerts ops [Op.add r, Op.add l, Op.root r, Op.add i, Op.add i] :=
  .of_lists (by decide +kernel) (by decide +kernel)
example : FpInj (Op.add r :: ops) := by unfold FpInj; decide +kernel
/-- same certificate sets and same node creation order (0,0) > (1,1) > (2,2): equal graphs -/
example : ∃ g g', run V Graph.empty ops = .ok g ∧ run V Graph.empty [Op.add r, Op.add i, Op.root r, Op.add l, Op.add i] = .ok g' ∧
    g.nodes.map (·.key) = g'.nodes.map (·.key) := ⟨_, _, rfl, rfl, by decide⟩
/-- a stream: junk, `i`, an unparsable block, `l`, `i` again, then 64 KiB of text, then `r` (never reached) -/
def stream : List PemItem := [.junk, .cert i, .bad, .cert l, .cert i, .big, .cert r]
example : appendFromPEMErr V Graph.empty stream false = .ok
    ⟨3, 1, true, { nodes := [⟨(1, 1), [((2, 2), [2])], []⟩, ⟨(2, 2), [], [((1, 1), [2])]⟩],
                   edges := [⟨i, none, (1, 1), false⟩, ⟨l, some (1, 1), (2, 2), false⟩], missing := [(0, [1])] }⟩ := rfl
example : FpInj ([Op.root r] ++ pemOps true stream) := by unfold FpInj; decide +kernel
example : ∀ c, c ∈ pemCerts stream ↔ c ∈ pemCerts [.cert l, .cert i] := by
  intro c; simp [pemCerts, stream]; tauto
example : Inv V Graph.empty := inv_empty V
example : ∃ o, appendFromPEMErr V Graph.empty stream true = .ok o ∧ isRoot o.g i = true ∧ isRoot o.g r = false :=
  ⟨_, rfl, by decide +kernel, by decide +kernel⟩
end Ex

end ZV.C10
