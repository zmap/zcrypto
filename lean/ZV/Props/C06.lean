import ZV.Proofs.C06Multi
import ZV.Proofs.C06Tbs
import ZV.Generated.C06
/-!
  C06 — certificate metadata is a faithful function of the DER bytes.
  All theorems are about `parseCert` / `Cert.meta` of `ZV.Model.C06`, the model of
  `x509.ParseCertificate` that T2 ties to the Go code on every accepted certificate of the stream.

  What is proved: for every accepted input — Raw fields are sub-slices, fingerprints hash them / the whole input,
  trailing bytes rejected, SelfSigned; CT invariance on the extension LIST (filter + re-encoding);
  parser ∘ canonical encoder (`parseTbs_encTbs`, `parseCert_encCert_encTbs`, `meta_encCert`);
  CT invariance at BYTE level (`noct_invariant_bytes`, `noct_parses`, …); which accepted certificates
  are canonical encodings (`accepted_canonical_iff`) and the CT theorem for those (`noct_invariant_accepted`);
  the bundle entry point `ParseCertificates` (`parseCerts_bundle`, `parseCerts_sound`); `ParseTBSCertificate`
  (`parseTBS_agrees_with_parseCert`), ValidityPeriod, and the T1 facts about the generated filter OIDs.
-/
namespace ZV.C06
open ZV ZV.Der

/-- **Raw fields are sub-slices at element boundaries.**  For every input the model accepts:
    `Raw` is the whole input; `RawTBSCertificate`, `RawIssuer`, `RawSubject`, `RawSubjectPublicKeyInfo`
    are `bs.extract i j` where `i` is the sum of the outer header lengths and of the full lengths of the
    preceding sibling elements (`offTbs`, `offIssuer`, `offSubject`, `offSPKI`) and `j - i` the element's own
    full length. -/
theorem raw_fields_are_subslices (bs : Bytes) (c : Cert) (h : parseCert bs = .ok c) :
    c.raw.full = bs ∧
    c.rawTBS = bs.extract c.offTbs (c.offTbs + c.rawTBS.length) ∧
    c.rawIssuer = bs.extract c.offIssuer (c.offIssuer + c.rawIssuer.length) ∧
    c.rawSubject = bs.extract c.offSubject (c.offSubject + c.rawSubject.length) ∧
    c.rawSPKI = bs.extract c.offSPKI (c.offSPKI + c.rawSPKI.length) := by
  obtain ⟨h0, hb, hb2, tail, after, l1, l2, t2, lay, hbs⟩ := parseCert_layout h
  -- the input as one left-nested concatenation; what follows a field is then regrouped one part at a time
  have e : bs = hb ++ hb2 ++ c.tbs.verRaw ++ c.tbs.serial.full ++ c.tbs.sigalg.full ++ c.tbs.issuer.full
      ++ c.tbs.validity.full ++ c.tbs.subject.full ++ c.tbs.spki.full ++ (tail ++ after) := by
    rw [hbs, t2, lay]
    simp only [List.append_assoc]
  have eSub := e.trans (List.append_assoc _ _ _)
  have eIss := (eSub.trans (List.append_assoc _ _ _)).trans (List.append_assoc _ _ _)
  refine ⟨h0, extract_of_split hbs l1, extract_of_split eIss ?_, extract_of_split eSub ?_, extract_of_split e ?_⟩
  · simp only [List.length_append, Cert.offIssuer, Cert.offTbsBody, l1, l2]
  · simp only [List.length_append, Cert.offSubject, Cert.offIssuer, Cert.offTbsBody, l1, l2]
  · simp only [List.length_append, Cert.offSPKI, Cert.offSubject, Cert.offIssuer, Cert.offTbsBody, l1, l2]

/-- **Fingerprints are the named hashes of those sub-slices of the input.** -/
theorem fingerprints_def (bs : Bytes) (c : Cert) (h : parseCert bs = .ok c) :
    c.meta.fpMD5 = Hash.md5 bs ∧ c.meta.fpSHA1 = Hash.sha1 bs ∧ c.meta.fpSHA256 = Hash.sha256 bs ∧
    c.meta.tbsFp = Hash.sha256 (bs.extract c.offTbs (c.offTbs + c.rawTBS.length)) ∧
    c.meta.spkiFp = Hash.sha256 (bs.extract c.offSPKI (c.offSPKI + c.rawSPKI.length)) ∧
    c.meta.spkiSubjectFp = Hash.sha256 (bs.extract c.offSPKI (c.offSPKI + c.rawSPKI.length)
                              ++ bs.extract c.offSubject (c.offSubject + c.rawSubject.length)) := by
  obtain ⟨h0, h1, _, h3, h4⟩ := raw_fields_are_subslices bs c h
  simp only [Cert.meta, h0]
  refine ⟨trivial, trivial, trivial, ?_, ?_, ?_⟩
  · rw [← h1]
  · rw [← h4]
  · rw [← h4, ← h3]

/-- **The accepted input is determined by `Raw`** (so also by what the three certificate fingerprints hash): two
    accepted byte strings with the same `Raw` are the same byte string.  In particular `der ++ suffix` with a
    non-empty suffix is never accepted with the `Raw` of `der` (trailing bytes, white space included, are not
    silently dropped). -/
theorem raw_determines_input (a b : Bytes) (c d : Cert) (ha : parseCert a = .ok c) (hb : parseCert b = .ok d)
    (h : c.raw.full = d.raw.full) : a = b := by
  rw [← (raw_fields_are_subslices a c ha).1, ← (raw_fields_are_subslices b d hb).1]
  exact h

theorem suffix_not_dropped (der suffix : Bytes) (c d : Cert) (h1 : parseCert der = .ok c)
    (h2 : parseCert (der ++ suffix) = .ok d) (hs : suffix ≠ []) : d.raw.full ≠ c.raw.full := by
  intro h
  have := raw_determines_input _ _ _ _ h2 h1 h
  exact hs (List.append_right_eq_self.mp this)

/-- `Version` is the encoded version plus one (on Go's 64-bit int; the only wrapping value is MaxInt64). -/
theorem version_def (c : Cert) (h : c.tbs.version ≠ 9223372036854775807) :
    c.meta.version = c.tbs.version + 1 := by
  show versionPlusOne c.tbs.version = _
  unfold versionPlusOne
  rw [if_neg h]

/-- `Version` wraps exactly at MaxInt64 (Go's `int` addition). -/
theorem version_wraps (c : Cert) (h : c.tbs.version = 9223372036854775807) :
    c.meta.version = -9223372036854775808 := by
  show versionPlusOne c.tbs.version = _
  rw [h]; rfl

/-- `SelfSigned` ⇔ issuer bytes = subject bytes ∧ the signature verifies under the certificate's own key. -/
theorem selfsigned_iff (c : Cert) (verified : Bool) :
    selfSigned c.meta verified = true ↔ (c.rawIssuer = c.rawSubject ∧ verified = true) := by
  have e : c.meta.issuerEqSubject = (c.rawSubject == c.rawIssuer) := rfl
  unfold selfSigned
  rw [e, Bool.and_eq_true, beq_iff_eq]
  constructor
  · intro h; exact ⟨h.1.symm, h.2⟩
  · intro h; exact ⟨h.1.symm, h.2⟩

/-- **The certificate fingerprints are hashes of the ENTIRE accepted input.**  Whatever byte string `bs`
    the parser accepts, `Raw` is `bs` (all of it, nothing stripped) and FingerprintMD5 / FingerprintSHA1 /
    FingerprintSHA256 are `md5 bs`, `sha1 bs`, `sha256 bs`. -/
theorem fingerprints_cover_input (bs : Bytes) (c : Cert) (h : parseCert bs = .ok c) :
    c.raw.full = bs ∧ c.raw.full.length = bs.length ∧
    c.meta.fpMD5 = Hash.md5 bs ∧ c.meta.fpSHA1 = Hash.sha1 bs ∧ c.meta.fpSHA256 = Hash.sha256 bs := by
  have h0 := (parseCert_layout h).1
  simp only [Cert.meta, h0]
  exact ⟨trivial, trivial, trivial, trivial, trivial⟩

/-- the same for an input assembled as prefix ‖ DER ‖ suffix (the shape of the T2 `wrap` lines): if it is
    accepted at all, the fingerprints hash all three parts. -/
theorem fingerprints_cover_wrapped (p der s : Bytes) (c : Cert) (h : parseCert (p ++ der ++ s) = .ok c) :
    c.raw.full = p ++ der ++ s ∧ c.meta.fpMD5 = Hash.md5 (p ++ der ++ s) ∧
    c.meta.fpSHA1 = Hash.sha1 (p ++ der ++ s) ∧ c.meta.fpSHA256 = Hash.sha256 (p ++ der ++ s) := by
  obtain ⟨a, _, b, c', d⟩ := fingerprints_cover_input _ c h
  exact ⟨a, b, c', d⟩

/-- **Trailing bytes are rejected, not dropped**: an accepted certificate followed by ANY non-empty suffix
    (white space, zero bytes, a second certificate, …) is an error.  (Stronger than `suffix_not_dropped`.) -/
theorem trailing_rejected (der suffix : Bytes) (c : Cert) (h : parseCert der = .ok c) (hs : suffix ≠ []) :
    parseCert (der ++ suffix) = .err := by
  unfold parseCert
  rw [someElem_field_append (parseCert_inv h).1 suffix, Res.ok_bind, if_pos (by simpa using hs)]

/-- `SelfSigned` ⇔ the issuer slice of the INPUT equals its subject slice ∧ the signature verifies. -/
theorem selfsigned_bytes (bs : Bytes) (c : Cert) (h : parseCert bs = .ok c) (verified : Bool) :
    selfSigned c.meta verified = true ↔
      (bs.extract c.offIssuer (c.offIssuer + c.rawIssuer.length)
        = bs.extract c.offSubject (c.offSubject + c.rawSubject.length) ∧ verified = true) := by
  obtain ⟨_, _, h2, h3, _⟩ := raw_fields_are_subslices bs c h
  rw [selfsigned_iff, ← h2, ← h3]

/-- inserting an element the filter drops does not change the filtered list — at ANY position. -/
theorem filter_insertAt {α} (p : α → Bool) (x : α) (hx : p x = false) (i : Nat) (l : List α) :
    (insertAt i x l).filter p = l.filter p := by
  unfold insertAt
  rw [List.filter_append, List.filter_cons, hx]
  simp only [Bool.false_eq_true, if_false]
  rw [← List.filter_append, List.take_append_drop]

/-- **CT invariance on the filter + re-encoding.**  Inserting a CT poison or SCT-list extension at any
    position `i` of the extension list (also `i` beyond the end ⇒ appended; also into the empty list) leaves
    the no-CT TBS encoding — hence `FingerprintNoCT` — unchanged.  The re-encoding always emits the `[3]`
    wrapper (`A3 02 30 00` when nothing is left), which is what makes the empty case agree. -/
theorem noct_invariant (pre : Bytes) (exts : List Ext) (ct : Ext) (hct : isCT ct = true) (i : Nat) :
    noCTBytes pre (insertAt i ct exts) = noCTBytes pre exts ∧
    Hash.sha256 (noCTBytes pre (insertAt i ct exts)) = Hash.sha256 (noCTBytes pre exts) := by
  have h : (insertAt i ct exts).filter notCT = exts.filter notCT :=
    filter_insertAt notCT ct (by simp [notCT, hct]) i exts
  simp [noCTBytes, h]

/-- a list and the list with all CT extensions removed have the same no-CT encoding. -/
theorem noct_remove (pre : Bytes) (exts : List Ext) :
    noCTBytes pre (exts.filter notCT) = noCTBytes pre exts := by
  simp [noCTBytes, List.filter_filter]

/-- a certificate that carries only CT extensions and one that carries none have the same no-CT encoding,
    and it ends in the empty extensions field `A3 02 30 00`. -/
theorem noct_only_ct (pre : Bytes) (exts : List Ext) (h : ∀ x ∈ exts, isCT x = true) :
    noCTBytes pre exts = noCTBytes pre [] ∧
    noCTBytes pre [] = writeTLV 0x30 (pre ++ [0xA3, 0x02, 0x30, 0x00]) := by
  have : exts.filter notCT = [] := by
    rw [List.filter_eq_nil_iff]; intro x hx; simp [notCT, h x hx]
  constructor
  · simp [noCTBytes, this]
  · simp [noCTBytes, extsFlat, writeTLV, encLen]

example : isCT ⟨[], oidPoison, true, [5, 0]⟩ = true := by decide +kernel
example : isCT ⟨[], oidSCTList, false, [4, 2, 0, 0]⟩ = true := by decide +kernel

/-! ## The parser on canonically encoded certificates -/

/-- **`parseTbs ∘ encTbs`.**  For all field encodings that are single elements of the expected tags
    (`wfFields`: decidable — strict-DER header, exact length, tag/class/constructed bit as `parseField` wants
    them, version fits int64, serial minimal, unique ids valid BIT STRINGs), every list of extensions each of
    which is one SEQUENCE element that `parseExt` decodes to itself (`wfExt`), and total size < 2^31, the TBS
    contents `version? ‖ serial ‖ sigalg ‖ issuer ‖ validity ‖ subject ‖ spki ‖ uid1? ‖ uid2? ‖ [3]{SEQ{exts}}?`
    are parsed back to exactly these fields, `pre` = everything before the `[3]` wrapper, and `exts`. -/
theorem parseTbs_encTbs (f : TbsFields) (exts : List Ext) (hf : wfFields f = true)
    (hx : exts.all wfExt = true) (hl : (encTbsBody f exts).length < 2147483648) :
    parseTbs (encTbsBody f exts) =
      .ok ⟨verInt f.version, encVersion f.version, elemAt f.serial, elemAt f.sigalg, elemAt f.issuer,
           elemAt f.validity, elemAt f.subject, elemAt f.spki, encTbsPre f, exts⟩ :=
  parseTbs_encTbsBody f exts hf (by simpa using hx) hl

/-- **`parseCert ∘ encCert ∘ encTbs`**: the certificate assembled from well-formed pieces is accepted and
    decoded to exactly those pieces. -/
theorem parseCert_encCert_encTbs (f : TbsFields) (exts : List Ext) (sa sv : Bytes)
    (h : wfCert f exts sa sv = true) :
    parseCert (encCert (encTbs f exts) sa sv) =
      .ok ⟨elemOf 0x30 (encTbs f exts ++ sa ++ sv), elemOf 0x30 (encTbsBody f exts),
           ⟨verInt f.version, encVersion f.version, elemAt f.serial, elemAt f.sigalg, elemAt f.issuer,
            elemAt f.validity, elemAt f.subject, elemAt f.spki, encTbsPre f, exts⟩,
           elemAt sa, elemAt sv⟩ := by
  obtain ⟨hf, hx, hs, hl⟩ := (wfCert_iff f exts sa sv).mp h
  exact parseCert_encCert f exts sa sv hf hx hs hl

/-- **The metadata of a canonically encoded certificate, as a function of what was encoded**: every Raw field
    is the corresponding encoder argument, every fingerprint the hash of it, Version the encoded integer + 1,
    the no-CT bytes the re-encoding of the encoder's own `pre` and the filtered extension list, and
    SelfSigned ⇔ issuer encoding = subject encoding ∧ verified. -/
theorem meta_encCert (f : TbsFields) (exts : List Ext) (sa sv : Bytes) (h : wfCert f exts sa sv = true) :
    ∃ c, parseCert (encCert (encTbs f exts) sa sv) = .ok c ∧
      c.raw.full = encCert (encTbs f exts) sa sv ∧ c.rawTBS = encTbs f exts ∧
      c.rawIssuer = f.issuer ∧ c.rawSubject = f.subject ∧ c.rawSPKI = f.spki ∧
      c.tbs.exts = exts ∧ c.tbs.pre = encTbsPre f ∧
      c.meta.version = versionPlusOne (verInt f.version) ∧
      c.meta.tbsFp = Hash.sha256 (encTbs f exts) ∧ c.meta.spkiFp = Hash.sha256 f.spki ∧
      c.meta.spkiSubjectFp = Hash.sha256 (f.spki ++ f.subject) ∧
      c.noCT = noCTBytes (encTbsPre f) exts ∧ c.meta.noCTFp = Hash.sha256 (noCTBytes (encTbsPre f) exts) ∧
      (∀ verified, selfSigned c.meta verified = true ↔ (f.issuer = f.subject ∧ verified = true)) := by
  refine ⟨_, parseCert_encCert_encTbs f exts sa sv h, ?_⟩
  obtain ⟨hf, _, _, _⟩ := (wfCert_iff f exts sa sv).mp h
  obtain ⟨_, _, _, _, hiss, _, hsub, hspki, _, _⟩ := (wfFields_iff f).mp hf
  have e1 := isElem_full hiss
  have e2 := isElem_full hsub
  have e3 := isElem_full hspki
  refine ⟨rfl, rfl, e1, e2, e3, rfl, rfl, rfl, rfl, ?_, ?_, rfl, rfl, ?_⟩
  · show Hash.sha256 (elemAt f.spki).full = _
    rw [e3]
  · show Hash.sha256 ((elemAt f.spki).full ++ (elemAt f.subject).full) = _
    rw [e3, e2]
  · intro verified
    rw [selfsigned_iff]
    show ((elemAt f.issuer).full = (elemAt f.subject).full ∧ _) ↔ _
    rw [e1, e2]

/-- **Edge cases of the `[3] EXPLICIT` field** (zcrypto 51a5052 semantics), after any well-formed fields:
    a zero-length wrapper `A3 00` is an error; a wrapper announcing content with nothing after it (`A3 02`) is an
    error ("explicit tag has no child"); a wrapper whose content is not a SEQUENCE (`A3 02 05 00`) is NOT an error —
    the field takes its default (no extensions), nothing is consumed (`pre` is unchanged) and the bytes are
    ignored as trailing data; the empty SEQUENCE `A3 02 30 00` is accepted with no extensions. -/
theorem explicit_field_edge_cases (f : TbsFields) (hf : wfFields f = true) (hl : (encTbsPre f).length < 2147483648) :
    parseTbs (encTbsPre f ++ [0xA3, 0x00]) = .err ∧
    parseTbs (encTbsPre f ++ [0xA3, 0x02]) = .err ∧
    parseTbs (encTbsPre f ++ [0xA3, 0x02, 0x05, 0x00]) =
      .ok ⟨verInt f.version, encVersion f.version, elemAt f.serial, elemAt f.sigalg, elemAt f.issuer,
           elemAt f.validity, elemAt f.subject, elemAt f.spki, encTbsPre f, []⟩ ∧
    parseTbs (encTbsPre f ++ [0xA3, 0x02, 0x30, 0x00]) =
      .ok ⟨verInt f.version, encVersion f.version, elemAt f.serial, elemAt f.sigalg, elemAt f.issuer,
           elemAt f.validity, elemAt f.subject, elemAt f.spki, encTbsPre f, []⟩ := by
  have sw : ∀ (k : Nat) (n : UInt8) (r : Bytes), n.toNat < 128 → k ≠ 3 → startsWithout k (0xA3 :: n :: r) := by
    intro k n r hn hk
    refine Or.inr ⟨⟨2, true, 3, n.toNat⟩, r, ?_, ?_⟩
    · simp [readHdr, readLen, hn]
    · simp; omega
  refine ⟨?_, ?_, ?_, ?_⟩
  · rw [parseTbs_tail f _ hf hl (sw 1 0 [] (by decide) (by decide)) (sw 2 0 [] (by decide) (by decide))]
    rfl
  · rw [parseTbs_tail f _ hf hl (sw 1 2 [] (by decide) (by decide)) (sw 2 2 [] (by decide) (by decide))]
    rfl
  · rw [parseTbs_tail f _ hf hl (sw 1 2 _ (by decide) (by decide)) (sw 2 2 _ (by decide) (by decide))]
    rfl
  · rw [parseTbs_tail f _ hf hl (sw 1 2 _ (by decide) (by decide)) (sw 2 2 _ (by decide) (by decide))]
    rfl

/-! ## CT invariance at BYTE level -/

/-- **End-to-end CT invariance.**  Take any canonically encoded certificate
    `encCert (encTbs f exts) sa sv` and any well-formed CT extension `ct` (poison or SCT list: `isCT`), insert its
    encoding at ANY position `i` of the extension list (also beyond the end ⇒ appended, also into the EMPTY list,
    where the `[3]` wrapper appears in the bytes) and re-assemble the certificate.  Both byte strings are accepted
    by `parseCert`, the parsed extension lists are `exts` and `insertAt i ct exts`, and the byte string
    `FingerprintNoCT` hashes — hence the fingerprint — is the same for both. -/
theorem noct_invariant_bytes (f : TbsFields) (exts : List Ext) (ct : Ext) (i : Nat) (sa sv : Bytes)
    (h : wfCert f (insertAt i ct exts) sa sv = true) (hct : isCT ct = true) :
    ∃ c c', parseCert (encCert (encTbs f exts) sa sv) = .ok c ∧
      parseCert (encCert (encTbs f (insertAt i ct exts)) sa sv) = .ok c' ∧
      c.tbs.exts = exts ∧ c'.tbs.exts = insertAt i ct exts ∧
      c'.noCT = c.noCT ∧ c'.meta.noCTFp = c.meta.noCTFp := by
  obtain ⟨hf, hx, hs, hl⟩ := (wfCert_iff _ _ _ _).mp h
  have hx0 : ∀ x ∈ exts, wfExt x = true := fun x hm => hx x (mem_insertAt.mpr (.inr hm))
  have hl0 := Nat.lt_of_le_of_lt (encCert_size_mono f i ct exts sa sv) hl
  have h0 : wfCert f exts sa sv = true := (wfCert_iff _ _ _ _).mpr ⟨hf, hx0, hs, hl0⟩
  obtain ⟨c, pc, _, _, _, _, _, xc, _, _, _, _, _, nc, fc, _⟩ := meta_encCert f exts sa sv h0
  obtain ⟨c', pc', _, _, _, _, _, xc', _, _, _, _, _, nc', fc', _⟩ := meta_encCert f (insertAt i ct exts) sa sv h
  have hn := noct_invariant (encTbsPre f) exts ct hct i
  exact ⟨c, c', pc, pc', xc, xc', by rw [nc, nc', hn.1], by rw [fc, fc', hn.1]⟩

/-- the `wfCert` hypothesis of `noct_invariant_bytes`, from the base certificate: it suffices that the base is
    well-formed, the CT extension is, and the LARGER certificate stays below 2^31 octets. -/
theorem wfCert_insertAt (f : TbsFields) (exts : List Ext) (ct : Ext) (i : Nat) (sa sv : Bytes)
    (h : wfCert f exts sa sv = true) (hw : wfExt ct = true)
    (hl : (encTbs f (insertAt i ct exts) ++ sa ++ sv).length < 2147483648) :
    wfCert f (insertAt i ct exts) sa sv = true := by
  obtain ⟨hf, hx, hs, _⟩ := (wfCert_iff _ _ _ _).mp h
  refine (wfCert_iff _ _ _ _).mpr ⟨hf, ?_, hs, hl⟩
  intro x hm
  rcases mem_insertAt.mp hm with rfl | hm
  · exact hw
  · exact hx x hm

/-- **What the no-CT bytes are.**  For a canonically encoded certificate they are the canonical TBS encoding
    of the same fields with the CT extensions removed and the `[3]` field always written:
    `encTbs {f with wrapEmpty := true} (exts.filter notCT)`.  So they equal `encTbs f (exts.filter notCT)` — the TBS
    of the CT-free twin — whenever a non-CT extension remains or `f` writes the empty field anyway, and they end
    in `A3 02 30 00` when nothing remains (the one case where a twin encoded WITHOUT the field differs). -/
theorem noct_is_encTbs_filtered (f : TbsFields) (exts : List Ext) :
    noCTBytes (encTbsPre f) exts = encTbs { f with wrapEmpty := true } (exts.filter notCT) ∧
    ((exts.filter notCT ≠ [] ∨ f.wrapEmpty = true) → noCTBytes (encTbsPre f) exts = encTbs f (exts.filter notCT)) ∧
    (exts.filter notCT = [] → noCTBytes (encTbsPre f) exts = writeTLV 0x30 (encTbsPre f ++ [0xA3, 0x02, 0x30, 0x00])) := by
  refine ⟨?_, ?_, ?_⟩
  · simp only [noCTBytes, encTbs, encTbsBody, encExtsField_wraps (Or.inr rfl : _ ∨ true = true)]
    rfl
  · intro hne
    simp only [noCTBytes, encTbs, encTbsBody, encExtsField_wraps hne]
  · intro he
    simp [noCTBytes, he, extsFlat, writeTLV, encLen]

/-- **The no-CT bytes are themselves a TBS**: a SEQUENCE whose contents `parseTbs` accepts, decoding to the
    SAME fields and `pre`, and to exactly the extension list with the CT extensions removed (`[]` included, read
    back from `A3 02 30 00`).  Hence re-deriving the no-CT bytes from them gives the same bytes (idempotence). -/
theorem noct_parses (f : TbsFields) (exts : List Ext) (hf : wfFields f = true) (hx : exts.all wfExt = true)
    (hl : (noCTBytes (encTbsPre f) exts).length < 2147483648) :
    ∃ body, noCTBytes (encTbsPre f) exts = writeTLV 0x30 body ∧
      parseTbs body = .ok ⟨verInt f.version, encVersion f.version, elemAt f.serial, elemAt f.sigalg,
        elemAt f.issuer, elemAt f.validity, elemAt f.subject, elemAt f.spki, encTbsPre f, exts.filter notCT⟩ ∧
      noCTBytes (encTbsPre f) (exts.filter notCT) = noCTBytes (encTbsPre f) exts := by
  refine ⟨encTbsPre f ++ writeTLV 0xA3 (writeTLV 0x30 (extsFlat (exts.filter notCT))), rfl, ?_, noct_remove _ _⟩
  apply parseTbs_wrapped f _ hf
  · intro x hm
    have hx' : ∀ x ∈ exts, wfExt x = true := by simpa using hx
    exact hx' x (List.mem_filter.mp hm).1
  · have := length_le_writeTLV 0x30 (encTbsPre f ++ writeTLV 0xA3 (writeTLV 0x30 (extsFlat (exts.filter notCT))))
    unfold noCTBytes at hl
    omega

/-- so a canonically encoded certificate without CT extensions whose `[3]` field is present (at least one
    extension, or the empty field `A3 02 30 00` as `CreateCertificate` writes it) has
    `FingerprintNoCT = sha256 RawTBSCertificate`. -/
theorem noct_eq_tbs (f : TbsFields) (exts : List Ext) (sa sv : Bytes) (h : wfCert f exts sa sv = true)
    (hne : exts ≠ [] ∨ f.wrapEmpty = true) (hno : ∀ x ∈ exts, isCT x = false) :
    ∃ c, parseCert (encCert (encTbs f exts) sa sv) = .ok c ∧ c.noCT = c.rawTBS ∧ c.meta.noCTFp = c.meta.tbsFp := by
  obtain ⟨c, pc, _, rt, _, _, _, _, _, _, tf, _, _, nc, fc, _⟩ := meta_encCert f exts sa sv h
  have hfil : exts.filter notCT = exts := by
    rw [List.filter_eq_self]; intro x hx; simp [notCT, hno x hx]
  have := (noct_is_encTbs_filtered f exts).2.1 (by rw [hfil]; exact hne)
  rw [hfil] at this
  exact ⟨c, pc, by rw [nc, rt, this], by rw [fc, tf, this]⟩

/-- a canonically written CT extension (any criticality, any value below the size bound) is a well-formed CT
    extension — the `ct` of `noct_invariant_bytes` ranges over all of these (and over every other encoding
    `parseExt` accepts with one of the two OIDs).  2147483000 is 2^31 − 648: room for the OID, the BOOLEAN and the headers. -/
theorem ct_ext_wf (critical : Bool) (value : Bytes) (hl : value.length < 2147483000) :
    wfExt (mkExt oidPoison critical value) = true ∧ isCT (mkExt oidPoison critical value) = true ∧
    wfExt (mkExt oidSCTList critical value) = true ∧ isCT (mkExt oidSCTList critical value) = true := by
  have b1 := (encLen_length value.length).2
  have hb : ∀ oid : Bytes, oid.length = 10 → (extBody oid critical value).length < 2147483648 := by
    intro oid ho
    have b0 := (encLen_length 10).2
    have b2 := (encLen_length 1).2
    unfold extBody
    cases critical <;>
    · simp only [List.length_append, writeTLV_length, if_true, Bool.false_eq_true, if_false, List.length_nil,
        List.length_singleton, ho]
      omega
  exact ⟨wfExt_mkExt _ _ _ validOID_poison (hb _ rfl), isCT_mkExt_poison _ _,
         wfExt_mkExt _ _ _ validOID_sctList (hb _ rfl), isCT_mkExt_sctList _ _⟩

/-! ## Which accepted certificates are canonically encoded -/

/-- **The two outer headers of every accepted certificate are canonical DER**: the input is `30 len body` and
    RawTBSCertificate is `30 len body` with the minimal length field `encLen` writes (no alternative length
    encodings are accepted), both bodies shorter than 2^31. -/
theorem accepted_outer_canonical (bs : Bytes) (c : Cert) (h : parseCert bs = .ok c) :
    bs = writeTLV 0x30 c.raw.body ∧ c.rawTBS = writeTLV 0x30 c.tbsE.body ∧
    c.raw.body.length < 2147483648 ∧ c.tbsE.body.length < 2147483648 := by
  obtain ⟨hc, _, _, _, _, htbsE, _⟩ := parseCert_inv h
  obtain ⟨c1, ci, ca⟩ := someElem_inv hc
  obtain ⟨_, ti, ta⟩ := someElem_inv htbsE
  obtain ⟨cc, cl⟩ := seq_canonical ci
  obtain ⟨tc, tl⟩ := seq_canonical ti
  rw [ca] at cc cl
  rw [ta] at tc tl
  rw [List.append_nil] at c1
  exact ⟨by rw [c1]; exact cc, tc, cl, tl⟩

/-- **Exactly the accepted certificates of canonical shape are images of the encoder.**  `bs` is accepted with
    `Cert.shapeOK` (decidable on the parse result: no trailing elements after the signature, TBS contents = the
    consumed fields followed by the canonical `[3]` field of the parsed extension list, `[0]` wrapper of
    consistent length) **iff** `bs = encCert (encTbs f exts) sigalg sig` for arguments satisfying `wfCert`. -/
theorem accepted_canonical_iff (bs : Bytes) :
    (∃ c, parseCert bs = .ok c ∧ c.shapeOK = true) ↔
    (∃ f exts sa sv, wfCert f exts sa sv = true ∧ bs = encCert (encTbs f exts) sa sv) := by
  constructor
  · rintro ⟨c, h, hs⟩
    obtain ⟨f, hw, hb, _⟩ := accepted_is_encoded h hs
    exact ⟨f, _, _, _, hw, hb⟩
  · rintro ⟨f, exts, sa, sv, hw, hb⟩
    rw [hb]
    exact shapeOK_encCert f exts sa sv hw

/-- **CT invariance for accepted certificates.**  Let `bs` be ANY accepted input of canonical shape, with parse
    result `c`.  Then `bs` is `encCert (encTbs f c.exts) c.sigalg c.sigval` for some field encodings `f`, and for
    every well-formed CT extension `ct` and position `i` the re-assembled certificate with `ct` inserted at `i`
    (size still < 2^31) is accepted, has extension list `insertAt i ct c.exts`, the same Raw issuer / subject /
    SPKI, and the SAME no-CT bytes and FingerprintNoCT as `bs`. -/
theorem noct_invariant_accepted (bs : Bytes) (c : Cert) (h : parseCert bs = .ok c) (hs : c.shapeOK = true)
    (ct : Ext) (i : Nat) (hw : wfExt ct = true) (hct : isCT ct = true) :
    ∃ f, bs = encCert (encTbs f c.tbs.exts) c.sigalg.full c.sigval.full ∧
      ((encTbs f (insertAt i ct c.tbs.exts) ++ c.sigalg.full ++ c.sigval.full).length < 2147483648 →
        ∃ c', parseCert (encCert (encTbs f (insertAt i ct c.tbs.exts)) c.sigalg.full c.sigval.full) = .ok c' ∧
          c'.tbs.exts = insertAt i ct c.tbs.exts ∧
          c'.rawIssuer = c.rawIssuer ∧ c'.rawSubject = c.rawSubject ∧ c'.rawSPKI = c.rawSPKI ∧
          c'.noCT = c.noCT ∧ c'.meta.noCTFp = c.meta.noCTFp) := by
  obtain ⟨f, hwf, hb, hpre, _, _, hi, _, hsu, hsp⟩ := accepted_is_encoded h hs
  refine ⟨f, hb, ?_⟩
  intro hl
  have hwf' := wfCert_insertAt f c.tbs.exts ct i _ _ hwf hw hl
  obtain ⟨c', pc', _, _, ri, rs, rp, xc', _, _, _, _, _, nc', fc', _⟩ :=
    meta_encCert f (insertAt i ct c.tbs.exts) _ _ hwf'
  have hn := noct_invariant (encTbsPre f) c.tbs.exts ct hct i
  have e1 : c.noCT = noCTBytes (encTbsPre f) c.tbs.exts := by rw [Cert.noCT, hpre]
  have e2 : c.meta.noCTFp = Hash.sha256 (noCTBytes (encTbsPre f) c.tbs.exts) := by
    show Hash.sha256 (noCTBytes c.tbs.pre c.tbs.exts) = _
    rw [hpre]
  refine ⟨c', pc', xc', ?_, ?_, ?_, by rw [nc', e1, hn.1], by rw [fc', e2, hn.1]⟩
  · rw [ri, hi]; rfl
  · rw [rs, hsu]; rfl
  · rw [rp, hsp]; rfl

/-! ### the hypotheses are satisfiable -/

/-- a small v3 certificate skeleton: version 2, serial 1, empty SEQUENCEs for the unparsed fields, a subject
    unique id, one basicConstraints extension -/
def exFields : TbsFields :=
  { version := some [0x02, 0x01, 0x02], serial := [0x02, 0x01, 0x01], sigalg := [0x30, 0x00],
    issuer := [0x30, 0x00], validity := [0x30, 0x00], subject := [0x30, 0x00], spki := [0x30, 0x00],
    issuerUID := none, subjectUID := some [0x82, 0x02, 0x00, 0x55], wrapEmpty := false }
def exBC : Ext := mkExt [0x55, 0x1d, 0x13] true [0x30, 0x00]
def exPoison : Ext := mkExt oidPoison true [0x05, 0x00]
def exSCT : Ext := mkExt oidSCTList false [0x04, 0x02, 0x00, 0x00]

example : wfCert exFields [exBC] [0x30, 0x00] [0x03, 0x02, 0x00, 0x01] = true := by decide +kernel
example : wfCert exFields (insertAt 0 exPoison [exBC]) [0x30, 0x00] [0x03, 0x02, 0x00, 0x01] = true := by decide +kernel
example : wfCert exFields (insertAt 5 exSCT [exBC]) [0x30, 0x00] [0x03, 0x02, 0x00, 0x01] = true := by decide +kernel
/-- the empty extension list: the `[3]` wrapper appears only in the variant -/
example : wfCert exFields (insertAt 0 exPoison []) [0x30, 0x00] [0x03, 0x02, 0x00, 0x01] = true := by decide +kernel
example : encExtsField false [] = [] ∧ encExtsField false (insertAt 0 exPoison []) ≠ [] := by decide +kernel
/-- … and the variant where the base certificate carries the empty field `A3 02 30 00` -/
example : wfCert { exFields with wrapEmpty := true } (insertAt 0 exSCT []) [0x30, 0x00] [0x03, 0x02, 0x00, 0x01] = true ∧
    encExtsField true [] = [0xA3, 0x02, 0x30, 0x00] := by decide +kernel
example : isCT exPoison = true ∧ isCT exSCT = true ∧ isCT exBC = false := by decide +kernel
example : wfFields exFields = true ∧ [exBC].all wfExt = true ∧ (encTbsBody exFields [exBC]).length < 2147483648 := by
  decide +kernel
example : ∃ c, parseCert (encCert (encTbs exFields [exBC]) [0x30, 0x00] [0x03, 0x02, 0x00, 0x01]) = .ok c :=
  ⟨_, parseCert_encCert_encTbs _ _ _ _ (by decide +kernel)⟩
example : (noCTBytes (encTbsPre exFields) [exPoison, exBC, exSCT]).length < 2147483648 := by decide +kernel
example : [exPoison, exBC, exSCT].filter notCT = [exBC] ∧ [exPoison, exSCT].filter notCT = [] := by decide +kernel
example : ∃ c, parseCert (encCert (encTbs exFields [exBC]) [0x30, 0x00] [0x03, 0x02, 0x00, 0x01]) = .ok c ∧
    c.shapeOK = true := shapeOK_encCert _ _ _ _ (by decide +kernel)
example : wfExt exPoison = true ∧ wfExt exSCT = true := by decide +kernel
example : (encTbsPre exFields).length < 2147483648 := by decide +kernel
example : [exBC] ≠ [] ∧ (∀ x ∈ [exBC], isCT x = false) := by decide +kernel
-- `hl` of `ct_ext_wf`
example : ([0x05, 0x00] : Bytes).length < 2147483000 := by decide +kernel
example : (encTbs exFields (insertAt 0 exPoison [exBC]) ++ [0x30, 0x00] ++ [0x03, 0x02, 0x00, 0x01]).length < 2147483648 := by
  decide +kernel
/-- the byte-level CT theorem, instantiated: no extensions at all vs. a lone poison extension -/
example : ∃ c c', parseCert (encCert (encTbs exFields []) [0x30, 0x00] [0x03, 0x02, 0x00, 0x01]) = .ok c ∧
    parseCert (encCert (encTbs exFields (insertAt 0 exPoison [])) [0x30, 0x00] [0x03, 0x02, 0x00, 0x01]) = .ok c' ∧
    c'.noCT = c.noCT := by
  obtain ⟨c, c', h1, h2, _, _, h3, _⟩ :=
    noct_invariant_bytes exFields [] exPoison 0 [0x30, 0x00] [0x03, 0x02, 0x00, 0x01] (by decide +kernel) (by decide +kernel)
  exact ⟨c, c', h1, h2, h3⟩
-- `hs` of `trailing_rejected` and `suffix_not_dropped`
example : ([0x30, 0x00] : Bytes) ≠ [] := by decide +kernel


/-! ## The bundle entry point `ParseCertificates`

`parseCerts` (ZV.Model.C06Multi) is the model of `x509.ParseCertificates`; T2 compares it with the Go function on every
`bundle` line.  The theorems say that a bundle is parsed certificate by certificate, each exactly as `ParseCertificate`
parses it on its own bytes: nothing carries over from one certificate of a bundle to the next, and the position in the
bundle is irrelevant. -/

theorem parseCert_iff_head (bs : Bytes) (c : Cert) :
    parseCert bs = .ok c ↔ parseCertHead bs = .ok (c, []) :=
  parseCert_iff_elem.trans parseCertHead_iff.symm

theorem parseCertHead_append (der rest : Bytes) (c : Cert) (h : parseCert der = .ok c) :
    parseCertHead (der ++ rest) = .ok (c, rest) := by
  obtain ⟨hc, hx⟩ := parseCert_iff_elem.mp h
  exact parseCertHead_iff.mpr ⟨someElem_field_append hc rest, hx⟩

theorem parseCerts_nil : parseCerts [] = .ok [] := rfl

theorem parseCerts_cons (der rest : Bytes) (c : Cert) (h : parseCert der = .ok c) :
    parseCerts (der ++ rest) = (parseCerts rest).bind fun cs => .ok (c :: cs) := by
  have hh := parseCertHead_append der rest c h
  have hlt := parseCertHead_rest_lt hh
  unfold parseCerts
  cases hl : (der ++ rest).length with
  | zero => omega
  | succ n =>
    have hne : der ++ rest ≠ [] := fun e => by rw [e] at hl; cases hl
    simp only [parseCertsFuel, List.isEmpty_iff, hne, if_false, hh, Res.ok_bind]
    rw [parseCertsFuel_fuel n rest.length rest (by omega) (Nat.le_refl _)]


/-- what the head parser returns is a certificate that `ParseCertificate` accepts on its own bytes, and the input is
    those bytes followed by the rest -/
theorem parseCertHead_sound {bs : Bytes} {c : Cert} {rest : Bytes} (h : parseCertHead bs = .ok (c, rest)) :
    bs = c.raw.full ++ rest ∧ parseCert c.raw.full = .ok c := by
  obtain ⟨hc, hx⟩ := parseCertHead_iff.mp h
  exact ⟨(someElem_inv hc).1, parseCert_iff_elem.mpr ⟨someElem_field_full false hc, hx⟩⟩

/-- **A bundle parses to the list of the individual parses.**  If every `dᵢ` is accepted by `ParseCertificate` with
    result `cᵢ`, then `ParseCertificates (d₁ ‖ … ‖ dₙ)` is accepted with exactly `[c₁, …, cₙ]` — for every n, every
    order, every mixture of certificates (with / without version, unique ids, extensions). -/
theorem parseCerts_bundle : ∀ (ps : List (Bytes × Cert)), (∀ p ∈ ps, parseCert p.1 = .ok p.2) →
    parseCerts (ps.map (·.1)).flatten = .ok (ps.map (·.2)) := by
  intro ps
  induction ps with
  | nil => intro _; exact parseCerts_nil
  | cons p tl ih =>
    intro h
    rw [List.map_cons, List.flatten_cons, parseCerts_cons _ _ _ (h p (List.mem_cons_self ..)),
      ih (fun q hq => h q (List.mem_cons_of_mem _ hq))]
    rfl

/-- a single certificate through the bundle entry point -/
theorem parseCerts_single (der : Bytes) (c : Cert) (h : parseCert der = .ok c) : parseCerts der = .ok [c] := by
  have := parseCerts_bundle [(der, c)] (by simpa using h)
  simpa using this

theorem parseCertsFuel_sound : ∀ (n : Nat) (bs : Bytes) (cs : List Cert), parseCertsFuel n bs = .ok cs →
    bs = (cs.map (·.raw.full)).flatten ∧ ∀ c ∈ cs, parseCert c.raw.full = .ok c := by
  intro n
  induction n with
  | zero =>
    intro bs cs h
    cases bs with
    | nil =>
      rw [parseCertsFuel_nil] at h
      cases h
      exact ⟨rfl, by simp⟩
    | cons _ _ =>
      rw [parseCertsFuel, if_neg (by simp)] at h
      cases h
  | succ n ih =>
    intro bs cs h
    cases bs with
    | nil =>
      rw [parseCertsFuel_nil] at h
      cases h
      exact ⟨rfl, by simp⟩
    | cons b t =>
      rw [parseCertsFuel, if_neg (by simp)] at h
      simp only [Res.bind_ok] at h
      obtain ⟨⟨c, rest⟩, hh, cs', hrec, h⟩ := h
      cases h
      obtain ⟨hbs, hc⟩ := parseCertHead_sound hh
      obtain ⟨hr, hall⟩ := ih rest cs' hrec
      refine ⟨?_, List.forall_mem_cons.mpr ⟨hc, hall⟩⟩
      rw [hbs, List.map_cons, List.flatten_cons, ← hr]

/-- **Converse.**  Whatever `ParseCertificates` accepts is the concatenation of the `Raw` fields of the certificates it
    returns, and each returned certificate is what `ParseCertificate` returns for its own `Raw` bytes — so all
    metadata of a certificate in a bundle (`Cert.meta`: Raw fields, fingerprints, Version, no-CT bytes,
    issuer==subject) is `(parseCert Raw).meta`, a function of that certificate's bytes alone. -/
theorem parseCerts_sound (bs : Bytes) (cs : List Cert) (h : parseCerts bs = .ok cs) :
    bs = (cs.map (·.raw.full)).flatten ∧ ∀ c ∈ cs, parseCert c.raw.full = .ok c :=
  parseCertsFuel_sound _ _ _ h

/-- position independence: a certificate `der` (accepted alone with result `c`) placed after any accepted bundle `pre`
    and before any accepted bundle `post` comes out as the same `c` — whatever precedes or follows it. -/
theorem bundle_position_independent (pre post : List (Bytes × Cert)) (der : Bytes) (c : Cert)
    (hpre : ∀ p ∈ pre, parseCert p.1 = .ok p.2) (h : parseCert der = .ok c)
    (hpost : ∀ p ∈ post, parseCert p.1 = .ok p.2) :
    parseCerts ((pre.map (·.1)).flatten ++ der ++ (post.map (·.1)).flatten)
      = .ok (pre.map (·.2) ++ c :: post.map (·.2)) := by
  have := parseCerts_bundle (pre ++ (der, c) :: post) (by
    intro p hp
    rcases List.mem_append.mp hp with hp | hp
    · exact hpre p hp
    · cases hp with
      | head => exact h
      | tail _ hm => exact hpost p hm)
  simpa using this

example : ∃ cs, parseCerts (encCert (encTbs exFields [exBC]) [0x30, 0x00] [0x03, 0x02, 0x00, 0x01] ++
      encCert (encTbs exFields []) [0x30, 0x00] [0x03, 0x02, 0x00, 0x01]) = .ok cs ∧ cs.length = 2 := by
  have ha := parseCert_encCert_encTbs exFields [exBC] [0x30, 0x00] [0x03, 0x02, 0x00, 0x01] (by decide +kernel)
  have hb := parseCert_encCert_encTbs exFields [] [0x30, 0x00] [0x03, 0x02, 0x00, 0x01] (by decide +kernel)
  exact ⟨[_, _], by rw [parseCerts_cons _ _ _ ha, parseCerts_single _ _ hb]; rfl, rfl⟩

/-! ## `ParseTBSCertificate`, Validity / ValidityPeriod, the inner AlgorithmIdentifier, generated OIDs -/

/-- **`ParseTBSCertificate ∘ RawTBSCertificate`.**  For EVERY certificate `ParseCertificate` accepts,
    `ParseTBSCertificate` accepts its `RawTBSCertificate` and decodes exactly the same TBS element and the same
    `tbsCertificate` (all fields, extension list, consumed prefix): both entry points share `parseTbs`. -/
theorem parseTbsCert_of_parseCert (bs : Bytes) (c : Cert) (h : parseCert bs = .ok c) :
    parseTbsCert c.rawTBS = .ok (c.tbsE, c.tbs) := by
  obtain ⟨_, _, _, _, _, htbsE, htbs, _⟩ := parseCert_inv h
  unfold parseTbsCert Cert.rawTBS
  rw [someElem_field_full false htbsE, Res.ok_bind, if_neg (by simp), htbs, Res.ok_bind]

/-- **What `ParseTBSCertificate` reports is what `ParseCertificate` reports for the TBS-derived fields**, stated on
    the INPUT bytes: for every accepted `bs`, the slice `bs[offTbs, offTbs+len)` is accepted by
    `ParseTBSCertificate`, and the `certificate` value it builds (`Raw = RawTBSCertificate = that slice`) has the same
    RawIssuer / RawSubject / RawSubjectPublicKeyInfo, Version, SPKI / TBS / no-CT / SPKI-subject fingerprints,
    issuer = subject bit, NotBefore / NotAfter / ValidityPeriod / SignatureAlgorithmOID (`tbsInfo`); its three
    certificate fingerprints are the hashes of the TBS slice (so its SHA-256 is the TBSCertificateFingerprint). -/
theorem parseTBS_agrees_with_parseCert (bs : Bytes) (c : Cert) (h : parseCert bs = .ok c) :
    parseTbsCert (bs.extract c.offTbs (c.offTbs + c.rawTBS.length)) = .ok (c.tbsE, c.tbs) ∧
    (let x := tbsAsCert c.tbsE c.tbs
     x.raw.full = c.rawTBS ∧ x.rawTBS = c.rawTBS ∧ x.rawIssuer = c.rawIssuer ∧ x.rawSubject = c.rawSubject ∧
     x.rawSPKI = c.rawSPKI ∧ x.meta.version = c.meta.version ∧ x.meta.spkiFp = c.meta.spkiFp ∧
     x.meta.tbsFp = c.meta.tbsFp ∧ x.meta.noCTFp = c.meta.noCTFp ∧ x.meta.spkiSubjectFp = c.meta.spkiSubjectFp ∧
     x.meta.issuerEqSubject = c.meta.issuerEqSubject ∧ tbsInfo x.tbs = tbsInfo c.tbs ∧
     x.meta.fpMD5 = Hash.md5 c.rawTBS ∧ x.meta.fpSHA1 = Hash.sha1 c.rawTBS ∧ x.meta.fpSHA256 = c.meta.tbsFp) := by
  obtain ⟨_, h1, _⟩ := raw_fields_are_subslices bs c h
  rw [← h1]
  exact ⟨parseTbsCert_of_parseCert bs c h, rfl, rfl, rfl, rfl, rfl, rfl, rfl, rfl, rfl, rfl, rfl, rfl, rfl, rfl, rfl⟩

/-- the offsets `ParseTBSCertificate`'s raw fields have inside ITS `Raw` are the certificate's offsets shifted by the
    offset of the TBS inside the certificate -/
theorem tbs_offsets_shift (c : Cert) :
    c.offIssuer = c.offTbs + tbsOffIssuer c.tbsE c.tbs ∧ c.offSubject = c.offTbs + tbsOffSubject c.tbsE c.tbs ∧
    c.offSPKI = c.offTbs + tbsOffSPKI c.tbsE c.tbs := by
  simp only [Cert.offIssuer, Cert.offSubject, Cert.offSPKI, Cert.offTbsBody, Cert.offTbs, tbsOffIssuer, tbsOffSubject,
    tbsOffSPKI]
  omega

/-- `ParseTBSCertificate` rejects an accepted TBS followed by any non-empty suffix. -/
theorem parseTbsCert_trailing_rejected (t suffix : Bytes) (e : Elem) (tbs : Tbs) (h : parseTbsCert t = .ok (e, tbs))
    (hs : suffix ≠ []) : parseTbsCert (t ++ suffix) = .err := by
  unfold parseTbsCert
  rw [someElem_field_append (parseTbsCert_inv h).1 suffix, Res.ok_bind, if_pos (by simpa using hs)]

/-- the hypothesis of the `parseTbsCert` theorems is satisfiable: the TBS of the example certificate is accepted -/
example : ∃ e tbs, parseTbsCert (encTbs exFields [exBC]) = .ok (e, tbs) := by
  obtain ⟨c, hc, _, ht, _⟩ := meta_encCert exFields [exBC] [0x30, 0x00] [0x03, 0x02, 0x00, 0x01] (by decide +kernel)
  rw [← ht]
  exact ⟨_, _, parseTbsCert_of_parseCert _ c hc⟩

/-- `Raw` of `ParseTBSCertificate`'s result is its whole input. -/
theorem parseTbsCert_raw (t : Bytes) (e : Elem) (tbs : Tbs) (h : parseTbsCert t = .ok (e, tbs)) :
    (tbsAsCert e tbs).raw.full = t ∧ (tbsAsCert e tbs).rawTBS = t := by
  have := (someElem_inv (parseTbsCert_inv h).1).1
  rw [List.append_nil] at this
  exact ⟨this.symm, this.symm⟩

/-! ### ValidityPeriod = NotAfter − NotBefore in seconds, saturating like `time.Duration` -/

/-- **ValidityPeriod, exact range.**  For whole-second times (every strict DER time) whose distance fits a
    `Duration` (|Δ| ≤ 9223372036 s ≈ 292 years), `ValidityPeriod = NotAfter.Unix() − NotBefore.Unix()` (negative when
    the certificate ends before it begins). -/
theorem validityPeriod_exact (nb na : Time.GoTime) (h0 : nb.nsec = 0) (h1 : na.nsec = 0)
    (hlo : -9223372036 ≤ na.unix - nb.unix) (hhi : na.unix - nb.unix ≤ 9223372036) :
    validityPeriod nb na = na.unix - nb.unix := by
  rw [validityPeriod_sec nb na h0 h1, if_neg (by omega), if_neg (by omega)]

/-- **ValidityPeriod saturates** beyond ±292 years (`Time.Sub` returns `maxDuration` / `minDuration`). -/
theorem validityPeriod_saturates (nb na : Time.GoTime) (h0 : nb.nsec = 0) (h1 : na.nsec = 0) :
    (na.unix - nb.unix > 9223372036 → validityPeriod nb na = 9223372036) ∧
    (na.unix - nb.unix < -9223372036 → validityPeriod nb na = -9223372036) := by
  rw [validityPeriod_sec nb na h0 h1]
  exact ⟨fun h => if_pos h, fun h => by rw [if_neg (by omega), if_pos h]⟩

/-- for ALL pairs of times the reported period lies in [−9223372036, 9223372036] -/
theorem validityPeriod_bounded (nb na : Time.GoTime) :
    -9223372036 ≤ validityPeriod nb na ∧ validityPeriod nb na ≤ 9223372036 := by
  have hc : minDuration ≤ timeSub na nb ∧ timeSub na nb ≤ maxDuration := by
    simp only [timeSub]
    generalize (na.unix - nb.unix) * 1000000000 + ((na.nsec : Int) - (nb.nsec : Int)) = d
    by_cases h1 : d > maxDuration
    · rw [if_pos h1]; decide
    · rw [if_neg h1]
      by_cases h2 : d < minDuration
      · rw [if_pos h2]; decide
      · rw [if_neg h2]; exact ⟨Int.not_lt.mp h2, Int.not_lt.mp h1⟩
  simp only [validityPeriod]
  generalize timeSub na nb = c at hc
  unfold minDuration maxDuration at hc
  by_cases h : c ≥ 0
  · rw [if_pos h]; omega
  · rw [if_neg h]; omega

example : validityPeriod ⟨0, 0, 0⟩ ⟨86400, 0, 0⟩ = 86400 := by decide +kernel
example : validityPeriod ⟨-62167219200, 0, 0⟩ ⟨253402300799, 0, 0⟩ = 9223372036 := by decide +kernel
example : validityPeriod ⟨253402300799, 0, 0⟩ ⟨-62167219200, 0, 0⟩ = -9223372036 := by decide +kernel
example : (-9223372036 : Int) ≤ (86400 : Int) - 0 ∧ (86400 : Int) - 0 ≤ 9223372036 := by decide +kernel

/-- `tbsInfo` reads NotBefore / NotAfter / ValidityPeriod off the Validity element and the OID off the INNER
    AlgorithmIdentifier, and nothing else: two certificates with the same two elements report the same values. -/
theorem tbsInfo_depends_on (a b : Tbs) (hv : a.validity = b.validity) (hs : a.sigalg = b.sigalg) :
    tbsInfo a = tbsInfo b := by
  unfold tbsInfo; rw [hv, hs]

/-- the period reported with an accepted certificate is the saturating difference of the two reported times -/
theorem tbsInfo_period (tbs : Tbs) (i : TbsInfo) (h : tbsInfo tbs = .ok i) :
    -9223372036 ≤ i.period ∧ i.period ≤ 9223372036 ∧
    ∃ nb na, parseValidity tbs.validity.body = .ok (nb, na) ∧ i.notBefore = nb.unix ∧ i.notAfter = na.unix ∧
      i.period = validityPeriod nb na := by
  simp only [tbsInfo, Res.bind_ok] at h
  obtain ⟨⟨nb, na⟩, hv, _, _, h⟩ := h
  cases h
  exact ⟨(validityPeriod_bounded nb na).1, (validityPeriod_bounded nb na).2, nb, na, hv, rfl, rfl, rfl⟩

/-! ### T1: the filter OIDs and the source of SignatureAlgorithmOID, over the generated definitions -/

/-- the identifiers `parseCertificate`'s filter loop skips are, in order, the CT poison and the SCT list OID the model
    uses (`isCT`), as DER contents octets — re-checked whenever the zcrypto tree changes. -/
theorem ctFilter_generated : ZV.Generated.C06.ctFilter.map (·.2.2) = [oidPoison, oidSCTList] := by decide +kernel

theorem isCT_generated (x : Ext) : isCT x = (ZV.Generated.C06.ctFilter.map (·.2.2)).contains x.oid := by
  rw [ctFilter_generated]
  simp only [isCT, List.contains, List.elem]
  cases x.oid == oidPoison <;> cases x.oid == oidSCTList <;> rfl

/-- arcs and contents octets of every generated row agree (the model's OID decoder on the octets gives the arcs,
    the shared encoder on the arcs gives the octets) -/
theorem ctFilter_rows_consistent :
    ∀ r ∈ ZV.Generated.C06.ctFilter, parseOID r.2.2 = .ok r.2.1 ∧ encOID r.2.1 = some r.2.2 := by decide +kernel

/-- `SignatureAlgorithmOID` is assigned from the INNER AlgorithmIdentifier (what `tbsInfo` models). -/
theorem sigAlgOID_source_generated :
    ZV.Generated.C06.sigAlgOIDSource = "in.TBSCertificate.SignatureAlgorithm.Algorithm" := rfl

end ZV.C06
