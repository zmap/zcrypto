import ZV.Generated.C22
import ZV.Proofs.C22Der
import ZV.Props.C18
import ZV.Proofs.C22Any
/-!
  C22 — distinguished names round-trip through RDN sequences.

  Objects (ZV.Model.C22): `toRDN : Name → Option RDNSeq` models `Name.ToRDNSequence` (`none` = nil result),
  `fill : Option RDNSeq → Name` models `var n Name; n.FillFromRDNSequence(&seq)`, `emit` is the field part of
  `ToRDNSequence` (all `appendRDNs` calls, then the ExtraNames loop).  Strings are arbitrary byte strings.

  1. T1 — the model's dispatch / emission tables ARE the ones in pkix.go (`*_matches_source`, by evaluation
     over the tables `ZV.Generated.C22` extracts from the working tree with go/ast).
  2. `fill_to` — Name → sequence → Name returns every emitted field, for all names (no hypothesis on values).
  3. `to_of_fill_original` — sequence → Name → sequence is the identity for ALL sequences (OriginalRDNS short-cut),
     nil and empty included.
  4. `to_of_fill_canonical` / `emit_canonical` / `canonical_iff` — with the short-cut disabled, re-emission from the
     fields reproduces the sequence exactly for the decidable class `Canonical`, and for no other sequence.

  Theorems 2–4 are about the pure conversions, which preserve order: equality is exact (lists, not multisets).

  5. The DER leg (`rdnseq_der_roundtrip`, `name_der_roundtrip`, `name_der_marshal_ok`, `name_string_choice`): the Go type
     `pkix.RDNSequence` is the schema term `rdnSchema` = SEQUENCE OF (SET OF SEQUENCE {OID, string}) of the deep-embedded
     model of encoding/asn1 (ZV.Model.C18; `interface{}` is represented by the string kind, see ZV.Model.C22Der), and
     the statements are COROLLARIES of the C18 theorem `unmarshal_marshal_equiv` instantiated at that schema, composed
     with `fill_to`.  Only the order of the members inside one multi-valued RDN may change (SET OF is sorted by
     encoding): every slice field comes back as a multiset (`List.Perm`), the scalars and the order of the RDNs exactly.
     The model pipeline is tied to the real `asn1.Marshal` / `asn1.Unmarshal` / `FillFromRDNSequence` by the T2 stream
     `c22 d` (bytes, decoded sequence, filled Name, membership in the domain `seqOK`).
  6. The parse direction (`any_arm_matches_source`, `any_string`, `any_string_tags`, `any_other`, `any_reads_marshal_choice`,
     `fill_any_sequence`, `parsed_name_roundtrip`): names parsed from DER that `asn1.Marshal` did not write go through the ANY
     arm of `parseField` (ZV.Model.C22Any: `anyOf`, `unmarshalAny`); which elements become Go strings and reach a field,
     and that the filled Name converts back to the parsed sequence.
-/
namespace ZV.C22

/-! ### T1: the tables of the model equal the tables of pkix.go -/

/-- the `[]string` / `string` fields of struct `Name` are exactly the model's `Field` / `Scalar` (same order). -/
theorem name_fields_match_source :
    Gen.nameSliceFields = Field.all.map Field.goName ∧ Gen.nameScalarFields = Scalar.all.map Scalar.goName :=
  ⟨rfl, rfl⟩

/-- the guard in front of the switch is `len(t) == 4 && t[0] == 2 && t[1] == 5 && t[2] == 4`, the switch is on `t[3]`. -/
theorem fill_guard_matches_source :
    Gen.fillPrefixLen = fillPrefixLen ∧ Gen.fillPrefix = fillPrefix ∧ Gen.fillGuardOther = [] ∧
    Gen.fillSwitchIndex = fillPrefix.length := by decide +kernel

/-- every `case k:` arm of `FillFromRDNSequence` (key, statements, order) equals the model's `fillSwitch`. -/
theorem fill_switch_matches_source :
    Gen.fillSwitch = fillSwitch.map (fun r => (r.1, r.2.map Act.goName)) := by decide +kernel

/-- every `else if t.Equal(oidX)` arm (resolved OID, statements, order) equals the model's `fillChain`. -/
theorem fill_chain_matches_source :
    Gen.fillChain = fillChain.map (fun r => (r.1, r.2.map Act.goName)) := by decide +kernel

/-- the statement list of `ToRDNSequence` — OriginalRDNS short-cut first, then the `appendRDNs` calls with their
    field, OID, guard and order, then the ExtraNames loop, then `return ret` — equals the model's. -/
theorem emit_order_matches_source : Gen.emitOrder = toRDNShape := rfl

/-- every emission row's OID dispatches (in `FillFromRDNSequence`) back to that row's own field and to no other
    row's field, and no two rows share an OID: the two tables are mutually inverse on the emitted fields. -/
theorem tables_inverse : rowsOK emitRows = true ∧ oidsDistinct emitRows = true := ⟨emitRows_ok, emitRows_distinct⟩

/-! ### Name → sequence → Name -/

/-- **fill ∘ toRDN.**  For every Name `n` whose `OriginalRDNS` is nil (so that `ToRDNSequence` emits from the
    fields), `m = fill (toRDN n)` satisfies: every slice field holds exactly what was emitted of it
    (`emittedView`: the 13 emitted slice fields unchanged — whatever the values, empty strings and duplicates
    included —, `CommonNames = [CommonName]` / `SerialNumbers = [SerialNumber]` when that scalar is non-empty and
    `[]` otherwise, `GivenName = Surname = []` because `ToRDNSequence` does not emit them) followed by the string
    values of the `ExtraNames` entries whose type dispatches to that field; each scalar is the last `ExtraNames`
    string value of its type ("last one wins"), `n`'s own scalar if there is none (an empty scalar is not emitted
    and comes back empty); `Names` is the flattened sequence; `ExtraNames` is empty; `OriginalRDNS` is the
    sequence.  No hypothesis on the values is needed. -/
theorem fill_to (n : Name) (h : n.originalRDNS = none) :
    (∀ f, (fill (toRDN n)).get f = emittedView n f ++ n.extraNames.flatMap (valsFor f)) ∧
    (∀ s, (fill (toRDN n)).getS s = n.extraNames.foldl (stepS s) (n.getS s)) ∧
    (fill (toRDN n)).names = (emit n).flatten ∧
    (fill (toRDN n)).extraNames = [] ∧
    (fill (toRDN n)).originalRDNS = toRDN n := by
  have ht : flat (toRDN n) = (emit n).flatten := by rw [toRDN_of_none n h, flat_nilIfEmpty]
  refine ⟨fun f => ?_, fun s => ?_, ?_, (fill_rest _).2.1, (fill_rest _).2.2⟩
  · rw [fill_get, ht, emit_view]
  · rw [fill_getS, ht, emit_scalar]
  · rw [(fill_rest _).1, ht]

/-- without `ExtraNames` the emitted fields round-trip exactly (field by field, in order). -/
theorem fill_to_no_extra (n : Name) (h : n.originalRDNS = none) (hx : n.extraNames = []) :
    (∀ f, (fill (toRDN n)).get f = emittedView n f) ∧
    (fill (toRDN n)).commonName = n.commonName ∧ (fill (toRDN n)).serialNumber = n.serialNumber := by
  obtain ⟨hf, hs, _⟩ := fill_to n h
  rw [hx] at hf hs
  exact ⟨fun f => (hf f).trans (List.append_nil _), hs .commonName, hs .serialNumber⟩

/-- the same, spelled out field by field (the first sentence of the property on the pure functions). -/
theorem fill_to_fields (n : Name) (h : n.originalRDNS = none) (hx : n.extraNames = []) :
    (fill (toRDN n)).country = n.country ∧ (fill (toRDN n)).organization = n.organization ∧
    (fill (toRDN n)).organizationalUnit = n.organizationalUnit ∧ (fill (toRDN n)).locality = n.locality ∧
    (fill (toRDN n)).province = n.province ∧ (fill (toRDN n)).streetAddress = n.streetAddress ∧
    (fill (toRDN n)).postalCode = n.postalCode ∧ (fill (toRDN n)).domainComponent = n.domainComponent ∧
    (fill (toRDN n)).emailAddress = n.emailAddress ∧ (fill (toRDN n)).organizationIDs = n.organizationIDs ∧
    (fill (toRDN n)).jurisdictionLocality = n.jurisdictionLocality ∧
    (fill (toRDN n)).jurisdictionProvince = n.jurisdictionProvince ∧
    (fill (toRDN n)).jurisdictionCountry = n.jurisdictionCountry ∧
    (fill (toRDN n)).commonName = n.commonName ∧ (fill (toRDN n)).serialNumber = n.serialNumber ∧
    (fill (toRDN n)).commonNames = (if n.commonName.length > 0 then [n.commonName] else []) ∧
    (fill (toRDN n)).serialNumbers = (if n.serialNumber.length > 0 then [n.serialNumber] else []) ∧
    (fill (toRDN n)).givenName = [] ∧ (fill (toRDN n)).surname = [] := by
  obtain ⟨hf, hcn, hsn⟩ := fill_to_no_extra n h hx
  exact ⟨hf .country, hf .organization, hf .organizationalUnit, hf .locality, hf .province, hf .streetAddress,
    hf .postalCode, hf .domainComponent, hf .emailAddress, hf .organizationIDs, hf .jurisdictionLocality,
    hf .jurisdictionProvince, hf .jurisdictionCountry, hcn, hsn, hf .commonNames, hf .serialNumbers,
    hf .givenName, hf .surname⟩

/-- with `ExtraNames`: an entry of a dispatched type lands in that type's field after the emitted values, and the
    last CommonName-typed entry overrides the scalar (concrete instance of `fill_to`). -/
example :
    let n : Name := { commonName := [0x61], country := [[0x55]],
                      extraNames := [⟨oidCountry, .str [0x56]⟩, ⟨oidCommonName, .str [0x62]⟩, ⟨oidCountry, .other 2 [1]⟩] }
    (fill (toRDN n)).country = [[0x55], [0x56]] ∧ (fill (toRDN n)).commonName = [0x62] ∧
    (fill (toRDN n)).commonNames = [[0x61], [0x62]] := by decide +kernel

/-- the hypotheses are satisfiable with non-trivial values: multi-valued field, empty string member, duplicate,
    invalid UTF-8, a non-emitted field. -/
example :
    let n : Name := { commonName := [0x61], country := [[0x55, 0x53], [], [0x55, 0x53]],
                      organization := [[0xff, 0xfe]], givenName := [[0x62]] }
    n.originalRDNS = none ∧ n.extraNames = [] ∧
    (fill (toRDN n)).country = n.country ∧ (fill (toRDN n)).commonNames = [[0x61]] ∧
    (fill (toRDN n)).givenName = [] := by decide +kernel

/-! ### sequence → Name → sequence -/

/-- **toRDN ∘ fill, as the code runs.**  For EVERY sequence — any OIDs, any values (strings or not), empty RDNs,
    repeated types, the non-nil empty sequence, and nil — `ToRDNSequence` of the Name filled from it is that
    sequence.  (`some s`: `OriginalRDNS` is non-nil and returned as is; `none`: `OriginalRDNS` is nil, the code falls
    through to the fields, which are all empty, and returns nil.) -/
theorem to_of_fill_original (seq : Option RDNSeq) : toRDN (fill seq) = seq := by
  cases seq with
  | none => rfl
  | some s => simp [toRDN, (fill_rest (some s)).2.2]

/-- the same when filling into an already populated Name (non-nil sequence). -/
theorem to_of_fillInto_original (n : Name) (s : RDNSeq) : toRDN (fillInto n (some s)) = some s := by
  have : (fillInto n (some s)).originalRDNS = some s := by
    rw [fillInto_eq, (fillFlat_rest _ _).2.2]
  simp [toRDN, this]

/-- **toRDN ∘ fill without the short-cut.**  If `seq` is `Canonical` — its RDNs follow the emission order of
    `ToRDNSequence`, each emitted attribute type at most once, every RDN non-empty with all members of that one
    type and string-valued, the CommonName / SerialNumber RDNs single-valued with a non-empty value; empty-string
    members of the other RDNs are allowed — then `ToRDNSequence` of the filled Name with `OriginalRDNS` reset to
    nil, i.e. re-emission from the FIELDS, gives back `seq` exactly (nil for the empty sequence: a slice built by
    `append` from nil stays nil when nothing is appended). -/
theorem to_of_fill_canonical (seq : RDNSeq) (h : Canonical seq = true) :
    toRDN { fill (some seq) with originalRDNS := none } = nilIfEmpty seq := by
  show nilIfEmpty (reemit seq) = nilIfEmpty seq
  rw [reemit_canonical seq h]

/-- in particular a non-empty canonical sequence comes back as itself. -/
theorem to_of_fill_canonical_nonempty (seq : RDNSeq) (h : Canonical seq = true) (hne : seq ≠ []) :
    toRDN { fill (some seq) with originalRDNS := none } = some seq := by
  rw [to_of_fill_canonical seq h]
  cases seq with
  | nil => exact absurd rfl hne
  | cons _ _ => rfl

/-- conversely, whatever `ToRDNSequence` emits from the fields of a Name without `ExtraNames` is `Canonical`. -/
theorem emit_canonical (n : Name) (hx : n.extraNames = []) : Canonical (emit n) = true := by
  rw [emit_eq, hx]
  simpa [Canonical] using emitL_canon emitRows tables_inverse.2 n

/-- so `Canonical` is EXACTLY the domain on which re-emission from the fields (`reemit seq` =
    `emit { fill (some seq) with originalRDNS := none }`) is the identity. -/
theorem canonical_iff (seq : RDNSeq) : Canonical seq = true ↔ reemit seq = seq := by
  constructor
  · exact reemit_canonical seq
  · intro h
    rw [← h]
    unfold reemit
    exact emit_canonical _ (fill_rest (some seq)).2.1

/-- `Canonical` is satisfiable by a non-trivial sequence (CN, a 2-valued O with an empty member, C, serialNumber) … -/
example : Canonical [[mkATV oidCommonName [0x61]], [mkATV oidOrganization [0x41], mkATV oidOrganization []],
    [mkATV oidCountry [0x55, 0x53]], [mkATV oidSerialNumber [0x31]]] = true := by decide +kernel
/-- … and rejects: wrong order, a repeated type, an empty CN, a non-string member, an unknown type, an empty RDN. -/
example : Canonical [[mkATV oidCountry [0x55]], [mkATV oidCommonName [0x61]]] = false := by decide +kernel
example : Canonical [[mkATV oidCountry [0x55]], [mkATV oidCountry [0x56]]] = false := by decide +kernel
example : Canonical [[mkATV oidCommonName []]] = false := by decide +kernel
example : Canonical [[⟨oidCountry, .other 2 [1]⟩]] = false := by decide +kernel
example : Canonical [[mkATV [2, 5, 4, 12] [0x61]]] = false := by decide +kernel
example : Canonical [[]] = false := by decide +kernel

/-! ### the DER leg: Name → ToRDNSequence → asn1.Marshal → asn1.Unmarshal → FillFromRDNSequence -/

/-- **the Printable/UTF8 choice.**  For a value that is valid UTF-8 `makeField` writes a PrintableString (tag 19) or a
    UTF8String (tag 12) — PrintableString exactly when every byte is printable ASCII other than `*` and `&` — and
    whichever it picks, the strict decoder reads the content back as the same Go string. -/
theorem name_string_choice (s : Bytes) (h : C18.utf8Valid s = true) :
    ∃ t, stringChoice s = some t ∧ (t = 19 ∨ t = 12) ∧ readBack t s = .ok (.bytes s) ∧
      (t = 19 ↔ s.all (fun b => decide (b.toNat < 128) && C18.isPrintable b false false) = true) := by
  by_cases hp : s.all (fun b => decide (b.toNat < 128) && C18.isPrintable b false false) = true
  · have h1 : stringChoice s = some 19 := by rw [stringChoice_eq, if_pos hp]
    exact ⟨19, h1, Or.inl rfl, readBack_choice s 19 h1, ⟨fun _ => hp, fun _ => rfl⟩⟩
  · have h1 : stringChoice s = some 12 := by rw [stringChoice_eq, if_neg hp, if_pos h]
    exact ⟨12, h1, Or.inr rfl, readBack_choice s 12 h1, ⟨fun hc => by omega, fun hq => absurd hq hp⟩⟩

example : stringChoice [0x55, 0x53] = some 19 ∧ stringChoice [0x2a] = some 12 ∧ stringChoice [0xc3, 0xa9] = some 12 ∧
    stringChoice [0xff] = none := by decide +kernel

/-- **pkix.RDNSequence round-trips through DER** (instance of C18 `unmarshal_marshal_equiv` at `rdnSchema`).
    For every sequence of the decidable domain `seqOK` (every value a Go string, valid UTF-8; every attribute type an
    OBJECT IDENTIFIER the codec carries: ≥ 2 arcs, first ≤ 2, second < 40 unless the first is 2, sub-identifiers < 2^31) — nil,
    empty, empty RDNs, multi-valued RDNs, repeated and unknown types included — strict `asn1.Unmarshal` of
    `asn1.Marshal(seq)` followed by any `rest` returns exactly `rest` and a sequence with the same number of RDNs in the
    same order, each RDN a permutation of the original one (`RdnPerm`), and that sequence marshals to the same bytes. -/
theorem rdnseq_der_roundtrip (seq : Option RDNSeq) (hok : seqOK (orNil seq) = true) (der rest : Bytes)
    (hm : marshalSeq seq = .ok der) (hl : der.length < 2147483648) :
    ∃ seq', unmarshalSeq (der ++ rest) = .ok (seq', rest) ∧ RdnPerm (orNil seq) seq' ∧
      marshalSeq (some seq') = .ok der := by
  obtain ⟨v', h1, h2, h3⟩ := C18.unmarshal_marshal_equiv rdnSchema {} (seqToVal seq) der rest (inDomain_seq seq hok) hm hl
    (fun ho => by rw [C18.omitted_false _ {} _ rfl rfl] at ho; cases ho)
  have hall := veq_elems seq v' h2
  simp only [seqOK, List.all_eq_true] at hok
  refine ⟨valToSeq v', by simp [unmarshalSeq, h1], ?_, remarshal (orNil seq) v' der hok hall h3⟩
  rw [valToSeq, velems_eq]
  exact rdnPerm_of_elems _ _ hok hall

/-- the hypotheses are satisfiable, and `RdnPerm` is not equality: the two-valued RDN `C=US + C=DE` is in the domain, Marshal
    succeeds on it, and the DER encoding (members sorted: `DE` first) decodes to the PERMUTED RDN -/
example : seqOK [[mkATV oidCountry [0x55, 0x53], mkATV oidCountry [0x44, 0x45]]] = true ∧
    (∃ der, marshalSeq (some [[mkATV oidCountry [0x55, 0x53], mkATV oidCountry [0x44, 0x45]]]) = .ok der) ∧
    unmarshalSeq [0x30, 0x18, 0x31, 0x16, 0x30, 0x09, 0x06, 0x03, 0x55, 0x04, 0x06, 0x13, 0x02, 0x44, 0x45,
           0x30, 0x09, 0x06, 0x03, 0x55, 0x04, 0x06, 0x13, 0x02, 0x55, 0x53] =
      .ok ([[mkATV oidCountry [0x44, 0x45], mkATV oidCountry [0x55, 0x53]]], []) :=
  ⟨by decide +kernel, marshalSeq_ok _ (by decide +kernel), by decide +kernel⟩

/-- **Marshal never fails on the domain**: `asn1.Marshal(n.ToRDNSequence())` succeeds for every Name whose emitted values
    are valid UTF-8 (and whose `ExtraNames` are string-valued with encodable types). -/
theorem name_der_marshal_ok (n : Name) (h : n.originalRDNS = none) (hok : seqOK (emit n) = true) :
    ∃ der, marshalSeq (toRDN n) = .ok der := by
  apply marshalSeq_ok
  rw [orNil_toRDN n h]
  exact hok

/-- **C22, DER leg: Name → ToRDNSequence → Marshal → Unmarshal → FillFromRDNSequence.**  For every Name `n` with nil
    `OriginalRDNS` whose emitted sequence is in the domain (`seqOK (emit n)`: the values of the 13 emitted slice fields, of
    CommonName / SerialNumber and of `ExtraNames` are valid UTF-8 strings, `ExtraNames` types are encodable OIDs; no bound on
    the number of values, empty strings and duplicates allowed), with `der = Marshal(ToRDNSequence(n))` (< 2^31 bytes):
    strict `Unmarshal(der)` consumes everything and yields a sequence `seq'` that is `ToRDNSequence(n)` with the members
    of each RDN permuted (DER sorts SET OF), and `m = FillFromRDNSequence(seq')` satisfies
    * every slice field of `m` is, AS A MULTISET, what `fill_to` says the pure conversion returns (the emitted values of
      that field followed by the `ExtraNames` values dispatched to it);
    * each scalar (`CommonName`, `SerialNumber`) is EXACTLY the pure conversion's (the attribute types that set a scalar
      only ever stand alone in their RDN, so sorting cannot reorder them);
    * `Names` is a permutation of the flattened sequence, `ExtraNames` is empty, and `ToRDNSequence(m)` is `seq'`
      (which re-marshals to `der`, see `rdnseq_der_roundtrip`). -/
theorem name_der_roundtrip (n : Name) (h : n.originalRDNS = none) (hok : seqOK (emit n) = true) (der : Bytes)
    (hm : marshalSeq (toRDN n) = .ok der) (hl : der.length < 2147483648) :
    ∃ seq', unmarshalSeq der = .ok (seq', []) ∧ RdnPerm (emit n) seq' ∧ marshalSeq (some seq') = .ok der ∧
      (∀ f, ((fill (some seq')).get f).Perm (emittedView n f ++ n.extraNames.flatMap (valsFor f))) ∧
      (∀ s, (fill (some seq')).getS s = n.extraNames.foldl (stepS s) (n.getS s)) ∧
      (fill (some seq')).names.Perm (emit n).flatten ∧ (fill (some seq')).extraNames = [] ∧
      toRDN (fill (some seq')) = some seq' := by
  have he := orNil_toRDN n h
  obtain ⟨seq', h1, h2, h3⟩ := rdnseq_der_roundtrip (toRDN n) (by rw [he]; exact hok) der [] hm hl
  rw [List.append_nil] at h1
  rw [he] at h2
  obtain ⟨f1, f2, f3, f4, _⟩ := fill_rdnPerm (emit n) seq' h2 (fun sc => emit_multi_no_scalar n sc)
  exact ⟨seq', h1, h2, h3, fun f => emit_view n f ▸ f1 f, fun s => (f2 s).trans (emit_scalar n s), f3, f4,
    to_of_fill_original (some seq')⟩

/-- the hypotheses are satisfiable by a Name with a three-valued field whose DER order differs from the field order,
    a UTF-8 value, an empty value, a duplicate and an ExtraNames entry; outside the domain: invalid UTF-8, a non-string. -/
example :
    let n : Name := { commonName := [0x61], country := [[0x55, 0x53], [0x44, 0x45], [0x55, 0x53]],
                      organization := [[0xc3, 0xa9], []], extraNames := [⟨[2, 5, 4, 12], .str [0x78]⟩] }
    n.originalRDNS = none ∧ seqOK (emit n) = true := by decide +kernel
example : seqOK (emit { organization := [[0xff, 0xfe]] }) = false ∧
    seqOK (emit { extraNames := [⟨oidCountry, .other 2 [1]⟩] }) = false ∧
    seqOK (emit { extraNames := [⟨[1, 40], .str []⟩] }) = false := by decide +kernel

/-! ### the parse direction: a Name filled from a sequence PARSED from arbitrary DER (the ANY arm of `parseField`) -/

/-- T1: the type switch of the ANY arm of `parseField` (encoding/asn1/asn1.go) — its guard `!t.isCompound && t.class ==
    ClassUniversal`, every `case TagX:` with the content parser it calls, the order, the empty `default:` — is the model's
    `anyTable` / `anyOf`. -/
theorem any_arm_matches_source :
    Gen.anyArm = anyTable.map (fun r => (r.1, r.2.goName)) ∧
    Gen.anyGuard = ["!t.isCompound", "t.class == ClassUniversal"] ∧ Gen.classUniversal = 0 ∧ Gen.anyDefault = [] :=
  ⟨rfl, rfl, rfl, rfl⟩

/-- **which elements become Go strings** (and hence reach a Name field).  If the ANY arm stores a Go string for an element,
    the element is primitive, of the universal class, its tag is one of PrintableString 19, NumericString 18, IA5String 22,
    T61String 20, UTF8String 12, BMPString 30, and the string is the content octets unchanged — except for BMPString, where
    it is the UTF-8 transcription of the UTF-16 content with one trailing NUL code unit stripped. -/
theorem any_string (cls tag : Nat) (comp : Bool) (inner s : Bytes) (h : anyOf cls tag comp inner = .ok (.str s)) :
    cls = 0 ∧ comp = false ∧ tag ∈ [19, 18, 22, 20, 12, 30] ∧ (tag ≠ 30 → s = inner) ∧
    (tag = 30 → s = C18.utf16ToUtf8 (C18.stripTerm (C18.pairs16 inner))) := by
  unfold anyOf at h
  split at h
  · rename_i hc
    simp only [Bool.and_eq_true, Bool.not_eq_true', beq_iff_eq] at hc
    cases hl : lookupAny tag anyTable with
    | none => rw [hl] at h; cases h
    | some p =>
      rw [hl] at h
      simp only at h
      have hm := lookupAny_mem tag p anyTable hl
      have hs : p.isString = true := Bool.eq_true_of_not_eq_false fun hq => runAny_nonstring p hq inner s h
      obtain ⟨c1, c2⟩ := runAny_content p inner s h
      have table : ∀ r ∈ anyTable, r.2.isString = true → r.1 ∈ [19, 18, 22, 20, 12, 30] ∧ (r.1 = 30 ↔ r.2 = .bmp) := by
        decide +kernel
      obtain ⟨h1, h2⟩ := table _ hm hs
      exact ⟨hc.2, hc.1, h1, fun hne => c1 fun hb => hne (h2.2 hb), fun he => c2 (h2.1 he)⟩
  · cases h

/-- conversely an element with one of those six tags (universal, primitive) is never stored as anything but a string: the arm
    fails (content outside the character set, odd BMP length, invalid UTF-8) or yields a Go string. -/
theorem any_string_tags (tag : Nat) (ht : tag ∈ [19, 18, 22, 20, 12, 30]) (inner : Bytes) (t : Nat) (raw : Bytes) :
    anyOf 0 tag false inner ≠ .ok (.other t raw) := by
  have table : ∀ u ∈ [19, 18, 22, 20, 12, 30], (lookupAny u anyTable).any AnyP.isString = true := by decide +kernel
  have hs := table tag ht
  unfold anyOf
  cases hl : lookupAny tag anyTable with
  | none => rw [hl] at hs; cases hs
  | some p => rw [hl] at hs; exact runAny_string p hs inner t raw

/-- an element that is constructed, not of the universal class, or of any other tag than the twelve of the table leaves
    the interface nil (`nilVal`, which the T2 stream prints as `o5.`): it is kept in `Names` / `OriginalRDNS` and reaches no field. -/
theorem any_other (cls tag : Nat) (comp : Bool) (inner : Bytes)
    (h : comp = true ∨ cls ≠ 0 ∨ tag ∉ anyTable.map (·.1)) : anyOf cls tag comp inner = .ok nilVal := by
  unfold anyOf
  split
  · rename_i hc
    simp only [Bool.and_eq_true, Bool.not_eq_true', beq_iff_eq] at hc
    rcases h with h | h | h
    · rw [hc.1] at h; cases h
    · exact absurd hc.2 h
    · cases hl : lookupAny tag anyTable with
      | none => rfl
      | some p =>
        exfalso; apply h
        exact List.mem_map.mpr ⟨(tag, p), lookupAny_mem tag p anyTable hl, rfl⟩
  · rfl

example : anyOf 0 27 false [0x41] = .ok nilVal ∧ anyOf 2 19 false [0x41] = .ok nilVal ∧ anyOf 0 19 true [0x41] = .ok nilVal ∧
    anyOf 0 22 false [0x61, 0x40, 0x62] = .ok (.str [0x61, 0x40, 0x62]) ∧ anyOf 0 22 false [0xe9] = .err ∧
    anyOf 0 30 false [0x00, 0x41, 0x00, 0x00] = .ok (.str [0x41]) ∧ anyOf 0 2 false [0x01, 0x00] = .ok (.other 2 [0, 0, 0, 0, 0, 0, 1, 0]) := by
  decide +kernel

/-- **the ANY arm reads back what Marshal writes**: for whichever kind `makeField` picks for a string value
    (`stringChoice`, see `name_string_choice`), the ANY arm stores exactly that Go string. -/
theorem any_reads_marshal_choice (s : Bytes) (t : Nat) (h : stringChoice s = some t) :
    anyOf 0 t false s = .ok (.str s) := by
  have hr := readBack_choice s t h
  rcases stringChoice_inv s t h with ⟨rfl, _⟩ | ⟨rfl, _⟩
  · show strRes (readBack 19 s) = _
    rw [hr]
    rfl
  · show strRes (readBack 12 s) = _
    rw [hr]
    rfl

example : stringChoice [0x55, 0x53] = some 19 ∧ stringChoice [0xc3, 0xa9] = some 12 := by decide +kernel

/-- **FillFromRDNSequence of ANY sequence** (no hypothesis: unknown types, non-string values, empty RDNs, mixed RDNs,
    repeated types): every slice field is the list of the string values whose type dispatches to it, in document order;
    each scalar is the last string value of its type (empty if none); a non-string value reaches no field; `Names` is the
    flattened sequence; `ToRDNSequence` gives the sequence back. -/
theorem fill_any_sequence (seq : RDNSeq) :
    (∀ f, (fill (some seq)).get f = seq.flatten.flatMap (valsFor f)) ∧
    (∀ s, (fill (some seq)).getS s = seq.flatten.foldl (stepS s) []) ∧
    (∀ f t tag raw, valsFor f ⟨t, .other tag raw⟩ = []) ∧
    (fill (some seq)).names = seq.flatten ∧ (fill (some seq)).extraNames = [] ∧
    toRDN (fill (some seq)) = some seq := by
  exact ⟨fill_get _, fill_getS _, fun _ _ _ _ => rfl, (fill_rest _).1, (fill_rest _).2.1, to_of_fill_original (some seq)⟩

/-- **C22, second sentence, on parsed input.**  For EVERY byte string `der` that strict `asn1.Unmarshal` accepts as a
    `pkix.RDNSequence` (`unmarshalAny`: any string type, non-string values, unknown tags, trailing bytes `rest`), the Name
    filled from the parsed sequence converts back to exactly that sequence, `Names` lists every parsed attribute in
    document order, and every slice field is the list of the parsed string values of its attribute type in document order. -/
theorem parsed_name_roundtrip (der rest : Bytes) (seq : RDNSeq) (_h : unmarshalAny der = .ok (seq, rest)) :
    toRDN (fill (some seq)) = some seq ∧ (fill (some seq)).names = seq.flatten ∧
    (∀ f, (fill (some seq)).get f = seq.flatten.flatMap (valsFor f)) ∧
    (∀ s, (fill (some seq)).getS s = seq.flatten.foldl (stepS s) []) := by
  obtain ⟨h1, h2, _, h4, _, h6⟩ := fill_any_sequence seq
  exact ⟨h6, h4, h1, h2⟩

/-- the hypothesis is satisfiable by a name `asn1.Marshal` would not write: `emailAddress = IA5String "a@b"`; the value lands in
    `EmailAddress` -/
example :
    unmarshalAny [0x30, 0x14, 0x31, 0x12, 0x30, 0x10, 0x06, 0x09, 0x2a, 0x86, 0x48, 0x86, 0xf7, 0x0d, 0x01, 0x09, 0x01,
                  0x16, 0x03, 0x61, 0x40, 0x62] = .ok ([[mkATV oidDNEmailAddress [0x61, 0x40, 0x62]]], []) ∧
    (fill (some [[mkATV oidDNEmailAddress [0x61, 0x40, 0x62]]])).emailAddress = [[0x61, 0x40, 0x62]] := by decide +kernel

end ZV.C22
