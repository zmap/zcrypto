import ZV.Proofs.C24
import ZV.Proofs.C24Pref
/-!
  C24 — TLS endpoints negotiate correctly (version, suite, ALPN, downgrade sentinel).

  The tables (`Gen.*`) are regenerated from tls/common.go and tls/cipher_suites.go on every run, so the
  `decide` theorems below, and those that rest on them (highest shared version, usability with the server's key,
  no adjacent inversion), are re-checked against the code's current rows; the others hold for every
  configuration AND every content of the tables.

  The assembled function `negotiate` is covered completely: `negotiate_done_iff` / `negotiate_fail_iff` /
  `negotiate_unmodelled_iff` characterise its three results; `negotiate_version`, `negotiate_suite_sound`,
  `negotiate_suite_preference`, `negotiate_alpn_sound`, `negotiate_canary` are the clauses of the property for a
  completed handshake; `negotiate_completes_12` / `negotiate_completes_13` are the liveness clause on the model.
  That a REAL handshake completes exactly when (and with what) `negotiate` says is what the correspondence stream
  `c24 neg` establishes with real handshakes; that tie is not a theorem.
-/
namespace ZV.C24
open Gen

/-! ### version selection -/

/-- the library's version table is strictly descending (highest first) -/
theorem supportedVersions_desc : supportedVersions.Pairwise (· > ·) := by decide

/-- and contains exactly TLS 1.0 – 1.3 -/
theorem supportedVersions_are : supportedVersions = [VersionTLS13, VersionTLS12, VersionTLS11, VersionTLS10] := by decide

/-- **highest shared version**: whatever the four bounds, the version the server selects from the
    client's list is supported by both and no higher version is shared -/
theorem version_is_max_shared (cmin cmax smin smax v : Nat)
    (h : mutualVersion (configVersions supportedVersions smin smax) (configVersions supportedVersions cmin cmax) = some v) :
    v ∈ configVersions supportedVersions cmin cmax ∧ v ∈ configVersions supportedVersions smin smax ∧
    ∀ w, w ∈ configVersions supportedVersions cmin cmax → w ∈ configVersions supportedVersions smin smax → w ≤ v := by
  unfold mutualVersion at h
  have hmem := List.mem_of_find?_eq_some h
  have hp := List.find?_some h
  refine ⟨hmem, by simpa using hp, ?_⟩
  intro w hwc hws
  exact find?_desc_max (supportedVersions_desc.sublist List.filter_sublist) h w hwc (by simpa using hws)

/-- no version is selected exactly when none is shared -/
theorem version_none_iff (cmin cmax smin smax : Nat) :
    mutualVersion (configVersions supportedVersions smin smax) (configVersions supportedVersions cmin cmax) = none ↔
    ∀ w, w ∈ configVersions supportedVersions cmin cmax → w ∉ configVersions supportedVersions smin smax := by
  unfold mutualVersion
  rw [List.find?_eq_none]
  simp

/-! ### suite selection -/

/-- `selectCipherSuite` returns the FIRST id of the preference list that is implemented, passes the
    usability filter and is in the other side's list — "a suite both enabled, chosen by the documented
    preference rule" -/
theorem select_first_qualifying (ids sup : List Nat) (ok : SuiteRow → Bool) (r : SuiteRow)
    (h : selectCipherSuite ids sup ok = some r) :
    ∃ pre post, ids = pre ++ r.id :: post ∧ lookup implemented r.id = some r ∧ ok r = true ∧ sup.contains r.id = true ∧
      ∀ x ∈ pre, ∀ rx, lookup implemented x = some rx → (ok rx && sup.contains x) = false := by
  rw [selectCipherSuite_eq, Option.bind_eq_some_iff] at h
  obtain ⟨id, hf, hl⟩ := h
  obtain rfl := lookup_id hl
  obtain ⟨pre, post, he, hq, hpre⟩ := find?_first hf
  rw [hl, Option.any_some, Bool.and_eq_true] at hq
  refine ⟨pre, post, he, hl, hq.2, hq.1, fun x hx rx hrx => ?_⟩
  have := hpre x hx
  rwa [hrx, Option.any_some, Bool.and_comm] at this

/-- **a selected suite is usable with the server's key** — for every row of the code's current
    `implementedCipherSuites` table, every key type, every negotiated version: if the server-side filter
    `cipherSuiteOk` lets the suite through, its key exchange fits the key (in particular no DSS suite,
    D17) and TLS 1.2-only suites are not chosen below TLS 1.2. -/
theorem suite_usable_with_key :
    ∀ r ∈ implemented, lookup implemented r.id = some r →
      ∀ key ∈ [KeyType.rsa, .ecdsa, .ed25519], ∀ v ∈ supportedVersions, ∀ e ∈ [true, false],
      cipherSuiteOk (facts v key e) r = true →
        kaFitsKey r.ka key e = true ∧ (hasFlag r.flags flagTLS12 = true → v ≥ VersionTLS12) := by
  intro r _ hl key _ v _ e _ h
  rw [cipherSuiteOk_facts hl, Bool.and_eq_true] at h
  refine ⟨h.1, fun ht => ?_⟩
  simpa [ht] using h.2

/-- and conversely every implemented suite whose key exchange fits the key is let through (so the
    liveness clause is not lost) -/
theorem usable_suite_is_ok :
    ∀ r ∈ implemented, lookup implemented r.id = some r →
      ∀ key ∈ [KeyType.rsa, .ecdsa, .ed25519], ∀ v ∈ supportedVersions, ∀ e ∈ [true, false],
      kaFitsKey r.ka key e = true → (hasFlag r.flags flagTLS12 = true → v ≥ VersionTLS12) →
        cipherSuiteOk (facts v key e) r = true := by
  intro r _ hl key _ v _ e _ hk hv
  rw [cipherSuiteOk_facts hl, hk, Bool.true_and]
  cases ht : hasFlag r.flags flagTLS12 with
  | false => simp
  | true => simpa using hv ht

/-- the flag bits of every EFFECTIVE row (the first row with its id: the one `cipherSuiteByID` finds) agree
    with its key-exchange constructor -/
theorem table_flags_consistent :
    ∀ r ∈ implemented, lookup implemented r.id = some r →
      (hasFlag r.flags flagECDHE = (r.ka == "ecdhe-rsa" || r.ka == "ecdhe-ecdsa")) ∧
      (hasFlag r.flags flagECSign = (r.ka == "ecdhe-ecdsa")) ∧
      (hasFlag r.flags flagDSS = (r.ka == "dhe-dss")) :=
  fun r hr hl => (row_kinds r hr hl).2

/-- every suite a client advertises without `ForceSuites` is implemented, with the same row -/
theorem advertised_are_implemented : ∀ r ∈ cipherSuites, lookup implemented r.id = some r := by decide +kernel

/-- the default lists only name implemented suites / TLS 1.3 suites -/
theorem defaults_known :
    (∀ id ∈ defaultCipherSuites, (lookup cipherSuites id).isSome = true) ∧
    (∀ id ∈ defaultCipherSuitesTLS13, isTLS13Suite id = true) ∧
    (∀ id ∈ cipherSuitesTLS13, id ∈ defaultCipherSuitesTLS13) := by decide +kernel

/-- `deprioritizeAES` only reorders -/
theorem deprio_perm (l r : List Nat) (h : deprio l = some r) : r.Perm l :=
  (deprio_moved h).1

/-! ### deprioritizeAES: what the insertion sort does to the order -/
/-- no id is in both tables behind the comparator (so `less` is a strict partial order); re-checked against the
    code's current `aesgcmCiphers` / `nonAESGCMAEADCiphers` maps -/
theorem aead_tables_disjoint : ∀ id ∈ nonAESGCMAEADCiphers, isAESGCM id = false := by decide

theorem nonAEAD_not_aesgcm (x : Nat) (h : nonAESGCMAEAD x = true) : isAESGCM x = false :=
  aead_tables_disjoint x (by simpa [nonAESGCMAEAD] using h)

/-- the comparator handed to sort.SliceStable, in words: `a` is a non-AES-GCM AEAD id and `b` an AES-GCM id -/
theorem less_iff (a b : Nat) : less a b = true ↔ a ∈ nonAESGCMAEADCiphers ∧ b ∈ aesgcmCiphers := by
  simp [less, nonAESGCMAEAD, isAESGCM]

/-- it is irreflexive, asymmetric and has no chains of length 2 (transitivity holds vacuously); incomparability is
    NOT transitive, which is why the result below is stated pairwise and not as "sorted" -/
theorem less_strict_partial_order :
    (∀ a, less a a = false) ∧ (∀ a b, less a b = true → less b a = false) ∧
    (∀ a b c, less a b = true → less b c = true → False) := by
  refine ⟨fun a => ?_, fun a b h => less_flip_false nonAEAD_not_aesgcm h, fun a b c h1 h2 => ?_⟩
  · cases h : nonAESGCMAEAD a with
    | false => simp [less, h]
    | true => simp [less, h, nonAEAD_not_aesgcm a h]
  · simp only [less, Bool.and_eq_true] at h1 h2
    have := nonAEAD_not_aesgcm b h2.1
    rw [h1.2] at this
    exact absurd this (by simp)

/-- inside the model exactly up to 20 ids (the lengths for which sort.SliceStable is one insertion sort) -/
theorem deprio_some_iff (l : List Nat) : (deprio l).isSome = true ↔ l.length ≤ 20 := by
  unfold deprio; split <;> simp [*]

theorem deprio_length (l r : List Nat) (h : deprio l = some r) : l.length ≤ 20 ∧ r.length = l.length :=
  ⟨(deprio_eq_some.mp h).1, (deprio_moved h).1.length_eq⟩

/-- **stability**: two ids whose later one is not `less` than the earlier one keep their order — in particular equal
    keys (any two ids of the same class, duplicates included) are never swapped.  `[a, b] <+ l` = some occurrence of `a`
    stands before some occurrence of `b` -/
theorem deprio_stable (l r : List Nat) (h : deprio l = some r) (a b : Nat)
    (hab : [a, b].Sublist l) (hn : less b a = false) : [a, b].Sublist r :=
  (deprio_moved h).2.1 a b hab hn

/-- **the only thing it moves**: if `a` stands before `b` in the result but did not in the input, then `a` is a
    non-AES-GCM AEAD id and `b` an AES-GCM id -/
theorem deprio_moves_only_less (l r : List Nat) (h : deprio l = some r) (a b : Nat)
    (hab : [a, b].Sublist r) : [a, b].Sublist l ∨ less a b = true :=
  (deprio_moved h).2.2 a b hab

/-- the result has no adjacent pair in the wrong order (an AES-GCM id immediately followed by a non-AES-GCM AEAD id);
    for NON-adjacent pairs this can fail (see the example below: the comparator is not a weak order), exactly as the
    Go comment says ("rearranging ADJACENT AEAD ciphers") -/
theorem deprio_no_adjacent_inversion (l r : List Nat) (h : deprio l = some r) (pre post : List Nat) (p q : Nat)
    (hr : r = pre ++ p :: q :: post) : less q p = false := by
  have hadj := insertionSortRev_adj nonAEAD_not_aesgcm [] l trivial
  have he : insertionSortRev [] l = post.reverse ++ q :: p :: pre.reverse := by
    have := congrArg List.reverse ((deprio_eq_some.mp h).2.symm.trans hr)
    simpa using this
  rw [he] at hadj
  exact AdjRev_at _ _ _ _ hadj

/-- a list without such an adjacent pair is left alone -/
theorem deprio_fixed (l : List Nat) (hlen : l.length ≤ 20)
    (h : ∀ pre p q post, l = pre ++ p :: q :: post → less q p = false) : deprio l = some l :=
  deprio_eq_some.mpr ⟨hlen, by rw [insertionSortRev_fixed l [] h]; simp⟩

/-- `deprioritizeAES` is idempotent -/
theorem deprio_idem (l r : List Nat) (h : deprio l = some r) : deprio r = some r := by
  obtain ⟨h1, h2⟩ := deprio_length l r h
  exact deprio_fixed r (by omega) (fun pre p q post he => deprio_no_adjacent_inversion l r h pre post p q he)

/-! ### ALPN -/
theorem alpn_rule (protos pref : List Nat) (p : Nat) (h : mutualProtocol protos pref = some p) :
    p ∈ protos ∧ ∃ pre post, pref = pre ++ p :: post ∧ ∀ x ∈ pre, x ∉ protos := by
  unfold mutualProtocol at h
  obtain ⟨pre, post, hl, hv, hpre⟩ := find?_first h
  exact ⟨by simpa using hv, pre, post, hl, fun x hx => by simpa using hpre x hx⟩

/-! ### downgrade sentinel -/
theorem canary_iff (srvMax v : Nat) :
    serverCanary srvMax v ≠ .none ↔ (srvMax ≥ VersionTLS12 ∧ v < srvMax) := by
  unfold serverCanary
  by_cases h1 : srvMax ≥ VersionTLS12 <;> by_cases h2 : v < srvMax <;> simp [h1, h2] <;> split <;> simp

theorem canary_kind (srvMax v : Nat) (h : serverCanary srvMax v ≠ .none) :
    serverCanary srvMax v = (if v = VersionTLS12 then .c12 else .c11) := by
  unfold serverCanary at h ⊢
  split at h
  next hc => rw [if_pos hc]; simp
  next => exact absurd rfl h

/-- "a client supporting the higher version aborts": for all versions of the table, when the server
    could have gone higher (so the sentinel is present) and the client's maximum (TLS 1.2 or 1.3) is
    above the negotiated version, the client's check fires. -/
theorem client_aborts_on_canary :
    ∀ cliMax ∈ supportedVersions, ∀ srvMax ∈ supportedVersions, ∀ v ∈ supportedVersions,
      cliMax ≥ VersionTLS12 → v < cliMax → v < srvMax → srvMax ≥ VersionTLS12 →
        clientAborts cliMax v (serverCanary srvMax v) = true := by
  decide +kernel

/-- and never without a sentinel -/
theorem client_no_abort_without_canary (cliMax v : Nat) : clientAborts cliMax v .none = false := by
  simp [clientAborts]

/-! ### effective preference lists -/

/-- the pair (preference list, other side's list) that `pickCipherSuite` hands to `selectCipherSuite` -/
def prefLists12 (offer : List Nat) (srvSuites : Option (List Nat)) (prefer : Bool) : Option (List Nat × List Nat) :=
  let srv := srvSuites.getD defaultCipherSuites
  if prefer then
    if srvSuites.isNone && !aesgcmPreferred offer then (deprio srv).map (fun p => (p, offer))
    else some (srv, offer)
  else
    if !hasAESGCMHardwareSupport then (deprio offer).map (fun p => (p, srv))
    else some (offer, srv)

/-- the same pair in the TLS 1.3 server (`mutualCipherSuiteTLS13`) -/
def prefLists13 (offer : List Nat) (prefer : Bool) : Option (List Nat × List Nat) :=
  if prefer then
    if !aesgcmPreferred offer then (deprio defaultCipherSuitesTLS13).map (fun p => (p, offer))
    else some (defaultCipherSuitesTLS13, offer)
  else
    if !hasAESGCMHardwareSupport then (deprio offer).map (fun p => (p, defaultCipherSuitesTLS13))
    else some (offer, defaultCipherSuitesTLS13)

/-- `pickCipherSuite` is `selectCipherSuite` over that pair (definitional: re-checked whenever the model changes) -/
theorem pickCipherSuite_eq (offer : List Nat) (ss : Option (List Nat)) (prefer : Bool) (f : Facts) :
    pickCipherSuite offer ss prefer f =
      match prefLists12 offer ss prefer with
      | none => .unmodelled
      | some (pref, sup) =>
        match selectCipherSuite pref sup (cipherSuiteOk f) with
        | some r => .suite r
        | none => .noSuite := rfl

theorem pickTLS13_eq (offer : List Nat) (prefer : Bool) :
    pickTLS13 offer prefer =
      match prefLists13 offer prefer with
      | none => none
      | some (pref, sup) => some (pref.find? (fun id => sup.contains id && isTLS13Suite id)) := rfl

/-- which lists these are: the preference list is the server's list (`PreferServerCipherSuites`) or the client's
    offer, as configured or after `deprioritizeAES`; the other list is the other side's, untouched -/
theorem prefLists12_cases (offer : List Nat) (ss : Option (List Nat)) (prefer : Bool) (pref sup : List Nat)
    (h : prefLists12 offer ss prefer = some (pref, sup)) :
    (prefer = true ∧ sup = offer ∧
      (pref = ss.getD defaultCipherSuites ∨
       (ss = none ∧ aesgcmPreferred offer = false ∧ deprio defaultCipherSuites = some pref))) ∨
    (prefer = false ∧ sup = ss.getD defaultCipherSuites ∧
      (pref = offer ∨ (hasAESGCMHardwareSupport = false ∧ deprio offer = some pref))) := by
  rcases prefLists_cases h with ⟨hp, hs, hc⟩ | h'
  · refine Or.inl ⟨hp, hs, hc.imp_right fun ⟨hd, hdep⟩ => ?_⟩
    simp only [Bool.and_eq_true, Option.isNone_iff_eq_none, Bool.not_eq_true'] at hd
    obtain ⟨rfl, ha⟩ := hd
    exact ⟨rfl, ha, hdep⟩
  · exact Or.inr h'

theorem prefLists13_cases (offer : List Nat) (prefer : Bool) (pref sup : List Nat)
    (h : prefLists13 offer prefer = some (pref, sup)) :
    (prefer = true ∧ sup = offer ∧
      (pref = defaultCipherSuitesTLS13 ∨
       (aesgcmPreferred offer = false ∧ deprio defaultCipherSuitesTLS13 = some pref))) ∨
    (prefer = false ∧ sup = defaultCipherSuitesTLS13 ∧
      (pref = offer ∨ (hasAESGCMHardwareSupport = false ∧ deprio offer = some pref))) := by
  rcases prefLists_cases h with ⟨hp, hs, hc⟩ | h'
  · exact Or.inl ⟨hp, hs, hc.imp_right fun ⟨hd, hdep⟩ => ⟨by simpa using hd, hdep⟩⟩
  · exact Or.inr h'

/-- in every case: a reordering of one side's list, and the other side's list -/
theorem prefLists12_perm (offer : List Nat) (ss : Option (List Nat)) (prefer : Bool) (pref sup : List Nat)
    (h : prefLists12 offer ss prefer = some (pref, sup)) :
    pref.Perm (if prefer then ss.getD defaultCipherSuites else offer) ∧
    sup = (if prefer then offer else ss.getD defaultCipherSuites) :=
  prefLists_perm h

theorem prefLists13_perm (offer : List Nat) (prefer : Bool) (pref sup : List Nat)
    (h : prefLists13 offer prefer = some (pref, sup)) :
    pref.Perm (if prefer then defaultCipherSuitesTLS13 else offer) ∧
    sup = (if prefer then offer else defaultCipherSuitesTLS13) :=
  prefLists_perm h

/-- the lists are outside the model exactly when `deprioritizeAES` is applied to more than 20 ids -/
theorem prefLists12_none_iff (offer : List Nat) (ss : Option (List Nat)) (prefer : Bool) :
    prefLists12 offer ss prefer = none ↔
      (if prefer then ss = none ∧ aesgcmPreferred offer = false ∧ defaultCipherSuites.length > 20
       else hasAESGCMHardwareSupport = false ∧ offer.length > 20) := by
  refine (prefLists_none_iff (srv := ss.getD defaultCipherSuites) (d := ss.isNone && !aesgcmPreferred offer)).trans ?_
  cases prefer
  · exact Iff.rfl
  · cases ss <;> simp

theorem prefLists13_none_iff (offer : List Nat) (prefer : Bool) :
    prefLists13 offer prefer = none ↔
      (if prefer then aesgcmPreferred offer = false ∧ defaultCipherSuitesTLS13.length > 20
       else hasAESGCMHardwareSupport = false ∧ offer.length > 20) := by
  refine (prefLists_none_iff (d := !aesgcmPreferred offer)).trans ?_
  cases prefer
  · exact Iff.rfl
  · simp

/-- **a suite picked by the TLS ≤ 1.2 server is enabled on both sides and usable** -/
theorem pick_suite_sound (offer : List Nat) (ss : Option (List Nat)) (prefer : Bool) (f : Facts) (r : SuiteRow)
    (h : pickCipherSuite offer ss prefer f = .suite r) :
    r.id ∈ offer ∧ r.id ∈ ss.getD defaultCipherSuites ∧ lookup implemented r.id = some r ∧ cipherSuiteOk f r = true := by
  obtain ⟨pref, sup, hl, hsel⟩ := pick_suite_iff.mp h
  obtain ⟨pre, post, he, h1, h2, h3, _⟩ := select_first_qualifying _ _ _ _ hsel
  obtain ⟨ho, hs⟩ := (prefLists_mem hl r.id).mp ⟨by rw [he]; simp, by simpa using h3⟩
  exact ⟨ho, hs, h1, h2⟩

/-- **… and it is the FIRST qualifying id of the effective preference list** -/
theorem pick_suite_first (offer : List Nat) (ss : Option (List Nat)) (prefer : Bool) (f : Facts) (r : SuiteRow)
    (h : pickCipherSuite offer ss prefer f = .suite r) :
    ∃ pref sup pre post, prefLists12 offer ss prefer = some (pref, sup) ∧ pref = pre ++ r.id :: post ∧
      ∀ x ∈ pre, ∀ rx, lookup implemented x = some rx → (cipherSuiteOk f rx && sup.contains x) = false := by
  obtain ⟨pref, sup, hl, hsel⟩ := pick_suite_iff.mp h
  obtain ⟨pre, post, he, _, _, _, h4⟩ := select_first_qualifying _ _ _ _ hsel
  exact ⟨pref, sup, pre, post, hl, he, h4⟩

/-- **no suite** exactly when (the lists are inside the model and) no id enabled on both sides is implemented and
    passes the server's usability filter — independent of all ordering -/
theorem pick_noSuite_iff (offer : List Nat) (ss : Option (List Nat)) (prefer : Bool) (f : Facts) :
    pickCipherSuite offer ss prefer f = .noSuite ↔
      prefLists12 offer ss prefer ≠ none ∧
      ∀ x ∈ offer, x ∈ ss.getD defaultCipherSuites → ∀ rx, lookup implemented x = some rx → cipherSuiteOk f rx = false := by
  rw [pickCipherSuite_eq]
  cases hl : prefLists12 offer ss prefer with
  | none => simp
  | some p =>
    simp only [ne_eq, reduceCtorEq, not_false_eq_true, true_and, ← Option.any_eq_false]
    refine Iff.trans ?_ (selectCipherSuite_eq_none.trans (prefLists_find_none hl _))
    split <;> simp [*]

theorem pick_unmodelled_iff (offer : List Nat) (ss : Option (List Nat)) (prefer : Bool) (f : Facts) :
    pickCipherSuite offer ss prefer f = .unmodelled ↔ prefLists12 offer ss prefer = none := by
  rw [pickCipherSuite_eq]
  rcases prefLists12 offer ss prefer with _ | ⟨pref, sup⟩
  · simp
  · dsimp only
    split <;> simp

/-- **TLS 1.3**: the selected suite is offered by the client, is in the server's TLS 1.3 list and is a TLS 1.3 suite -/
theorem pick13_sound (offer : List Nat) (prefer : Bool) (id : Nat) (h : pickTLS13 offer prefer = some (some id)) :
    id ∈ offer ∧ id ∈ defaultCipherSuitesTLS13 ∧ isTLS13Suite id = true := by
  rw [pickTLS13_eq_map, Option.map_eq_some_iff] at h
  obtain ⟨⟨pref, sup⟩, hl, hf⟩ := h
  have hq := List.find?_some hf
  simp only [Bool.and_eq_true, List.contains_iff_mem] at hq
  obtain ⟨ho, hs⟩ := (prefLists_mem hl id).mp ⟨List.mem_of_find?_eq_some hf, hq.1⟩
  exact ⟨ho, hs, hq.2⟩

/-- … and it is the first such id of the effective preference list -/
theorem pick13_first (offer : List Nat) (prefer : Bool) (id : Nat) (h : pickTLS13 offer prefer = some (some id)) :
    ∃ pref sup pre post, prefLists13 offer prefer = some (pref, sup) ∧ pref = pre ++ id :: post ∧
      ∀ x ∈ pre, (sup.contains x && isTLS13Suite x) = false := by
  rw [pickTLS13_eq_map, Option.map_eq_some_iff] at h
  obtain ⟨⟨pref, sup⟩, hl, hf⟩ := h
  obtain ⟨pre, post, he, _, hpre⟩ := find?_first hf
  exact ⟨pref, sup, pre, post, hl, he, hpre⟩

/-- no TLS 1.3 suite exactly when none is shared (independent of all ordering) -/
theorem pick13_none_iff (offer : List Nat) (prefer : Bool) :
    pickTLS13 offer prefer = some none ↔
      prefLists13 offer prefer ≠ none ∧ ∀ x ∈ offer, x ∈ defaultCipherSuitesTLS13 → isTLS13Suite x = false := by
  rw [pickTLS13_eq]
  cases hl : prefLists13 offer prefer with
  | none => simp
  | some p =>
    simp only [ne_eq, reduceCtorEq, not_false_eq_true, true_and, Option.some.injEq]
    exact prefLists_find_none hl _

/-! ### the assembled negotiation: suite, ALPN, sentinel, failure, liveness -/
/-- `negotiate`, restated with the names of its inputs (`cvOf`, `offerOf`, … in `ZV.Proofs.C24`) -/
theorem negotiate_eq (c : Client) (s : Server) : negotiate c s =
    if (cvOf c).isEmpty then .fail else
    match mutualVersion (svOf s) (cvOf c) with
    | none => .fail
    | some v =>
      if v == VersionTLS13 then
        if scsvBad c s v then .fail else
        match pickTLS13 (offerOf c) s.prefer with
        | none => .unmodelled
        | some none => .fail
        | some (some id) =>
          if (curvesOf s.curves).any (fun g => (curvesOf c.curves).contains g) then
            .done { vers := v, suite := id, alpn := alpnOf c s, canary := .none }
          else .fail
      else
        match pickCipherSuite (offerOf c) s.suites s.prefer (factsOf c s v) with
        | .unmodelled => .unmodelled
        | .noSuite => .fail
        | .suite r =>
          if scsvBad c s v then .fail else
          if !exchangeWorks r s.key v then .fail else
          if clientAborts (maxSupported (cvOf c)) v (sentinelOf s v) then .fail
          else .done { vers := v, suite := r.id, alpn := alpnOf c s, canary := sentinelOf s v } := rfl

/-- **when and with what a negotiation completes** — every field of the outcome, both protocol generations -/
theorem negotiate_done_iff (c : Client) (s : Server) (o : Outcome) :
    negotiate c s = .done o ↔
      ∃ v, mutualVersion (svOf s) (cvOf c) = some v ∧ o.vers = v ∧ o.alpn = alpnOf c s ∧
        (if v = VersionTLS13 then
           scsvBad c s v = false ∧ pickTLS13 (offerOf c) s.prefer = some (some o.suite) ∧
           (curvesOf s.curves).any (fun g => (curvesOf c.curves).contains g) = true ∧ o.canary = .none
         else
           ∃ r, pickCipherSuite (offerOf c) s.suites s.prefer (factsOf c s v) = .suite r ∧ scsvBad c s v = false ∧
             exchangeWorks r s.key v = true ∧ clientAborts (maxSupported (cvOf c)) v (sentinelOf s v) = false ∧
             o.suite = r.id ∧ o.canary = sentinelOf s v) := by
  rw [negotiate_eq]
  obtain ⟨ov, os, oa, oc⟩ := o
  cases hv : mutualVersion (svOf s) (cvOf c) with
  | none => simp only [ite_self, reduceCtorEq, false_and, exists_false]
  | some v =>
    simp only [mutualVersion_nonempty hv, Bool.false_eq_true, if_false, Option.some.injEq, exists_eq_left']
    generalize scsvBad c s v = sb
    by_cases h13 : v = VersionTLS13
    · subst h13
      simp only [beq_self_eq_true, if_true]
      generalize pickTLS13 (offerOf c) s.prefer = p13
      generalize (curvesOf s.curves).any (fun g => (curvesOf c.curves).contains g) = cu
      cases sb with
      | true => simp
      | false =>
        rcases p13 with _ | _ | id
        · simp
        · simp
        · cases cu with
          | false => simp
          | true =>
            simp
            constructor <;> (rintro ⟨rfl, rfl, rfl, rfl⟩; simp)
    · have hb : (v == VersionTLS13) = false := by simpa using h13
      simp only [hb, Bool.false_eq_true, if_false, h13]
      generalize pickCipherSuite (offerOf c) s.suites s.prefer (factsOf c s v) = pk
      cases pk with
      | unmodelled => simp
      | noSuite => simp
      | suite r =>
        simp only [Pick.suite.injEq, exists_eq_left']
        generalize exchangeWorks r s.key v = ex
        generalize clientAborts (maxSupported (cvOf c)) v (sentinelOf s v) = ab
        cases sb with
        | true => simp
        | false =>
          cases ex with
          | false => simp
          | true =>
            cases ab with
            | true => simp
            | false =>
              simp
              constructor <;> (rintro ⟨rfl, rfl, rfl, rfl⟩; simp)

/-- **when a negotiation fails** (complete characterisation, both protocol generations):
    no shared version; or
    * TLS 1.3: TLS_FALLBACK_SCSV misuse ∨ no shared TLS 1.3 suite ∨ no shared group;
    * TLS ≤ 1.2: no id enabled on both sides that is implemented and usable with the server's key/curves/version ∨
      for the selected suite: SCSV misuse ∨ its key exchange cannot be carried out (DSS; Ed25519 below TLS 1.2) ∨ the
      client's downgrade check fires (only possible with a forged ServerRandom: `negotiate_abort_only_forged`) -/
theorem negotiate_fail_iff (c : Client) (s : Server) :
    negotiate c s = .fail ↔
      (∀ w, w ∈ cvOf c → w ∉ svOf s) ∨
      ∃ v, mutualVersion (svOf s) (cvOf c) = some v ∧
        (if v = VersionTLS13 then
           scsvBad c s v = true ∨
           (prefLists13 (offerOf c) s.prefer ≠ none ∧
             ∀ x ∈ offerOf c, x ∈ defaultCipherSuitesTLS13 → isTLS13Suite x = false) ∨
           ((∃ id, pickTLS13 (offerOf c) s.prefer = some (some id)) ∧
             (curvesOf s.curves).any (fun g => (curvesOf c.curves).contains g) = false)
         else
           (prefLists12 (offerOf c) s.suites s.prefer ≠ none ∧
             ∀ x ∈ offerOf c, x ∈ s.suites.getD defaultCipherSuites →
               ∀ rx, lookup implemented x = some rx → cipherSuiteOk (factsOf c s v) rx = false) ∨
           ∃ r, pickCipherSuite (offerOf c) s.suites s.prefer (factsOf c s v) = .suite r ∧
             (scsvBad c s v = true ∨ exchangeWorks r s.key v = false ∨
              clientAborts (maxSupported (cvOf c)) v (sentinelOf s v) = true)) := by
  rw [negotiate_eq, ← version_none_iff, ← pick13_none_iff]
  cases hv : mutualVersion (svOf s) (cvOf c) with
  | none => simp only [ite_self, true_or]
  | some v =>
    simp only [mutualVersion_nonempty hv, Bool.false_eq_true, if_false, Option.some.injEq, exists_eq_left',
      reduceCtorEq, false_or, ← pick_noSuite_iff]
    generalize scsvBad c s v = sb
    by_cases h13 : v = VersionTLS13
    · subst h13
      simp only [beq_self_eq_true, if_true]
      generalize pickTLS13 (offerOf c) s.prefer = p13
      generalize (curvesOf s.curves).any (fun g => (curvesOf c.curves).contains g) = cu
      cases sb <;> cases cu <;> rcases p13 with _ | _ | id <;> simp
    · have hb : (v == VersionTLS13) = false := by simpa using h13
      simp only [hb, Bool.false_eq_true, if_false, h13]
      generalize pickCipherSuite (offerOf c) s.suites s.prefer (factsOf c s v) = pk
      cases pk with
      | unmodelled => simp
      | noSuite => simp
      | suite r =>
        simp only [Pick.suite.injEq, exists_eq_left', reduceCtorEq, false_or]
        generalize exchangeWorks r s.key v = ex
        cases sb <;> cases ex <;> simp

/-- where the model itself gives up: exactly when `deprioritizeAES` would have to sort more than 20 ids -/
theorem negotiate_unmodelled_iff (c : Client) (s : Server) :
    negotiate c s = .unmodelled ↔
      ∃ v, mutualVersion (svOf s) (cvOf c) = some v ∧
        (if v = VersionTLS13 then scsvBad c s v = false ∧ prefLists13 (offerOf c) s.prefer = none
         else prefLists12 (offerOf c) s.suites s.prefer = none) := by
  rw [negotiate_eq]
  cases hv : mutualVersion (svOf s) (cvOf c) with
  | none => simp only [ite_self, reduceCtorEq, false_and, exists_false]
  | some v =>
    simp only [mutualVersion_nonempty hv, Bool.false_eq_true, if_false, Option.some.injEq, exists_eq_left',
      ← pick_unmodelled_iff _ _ _ (factsOf c s v)]
    generalize scsvBad c s v = sb
    by_cases h13 : v = VersionTLS13
    · subst h13
      simp only [beq_self_eq_true, if_true, pickTLS13_eq]
      generalize prefLists13 (offerOf c) s.prefer = pl
      generalize (curvesOf s.curves).any (fun g => (curvesOf c.curves).contains g) = cu
      rcases pl with _ | ⟨pref, sup⟩
      · cases sb <;> simp
      · simp only
        generalize List.find? (fun id => sup.contains id && isTLS13Suite id) pref = fd
        cases sb <;> cases cu <;> cases fd <;> simp
    · have hb : (v == VersionTLS13) = false := by simpa using h13
      simp only [hb, Bool.false_eq_true, if_false, h13]
      generalize pickCipherSuite (offerOf c) s.suites s.prefer (factsOf c s v) = pk
      cases pk with
      | unmodelled => simp
      | noSuite => simp
      | suite r =>
        simp only [reduceCtorEq, iff_false]
        generalize exchangeWorks r s.key v = ex
        generalize clientAborts (maxSupported (cvOf c)) v (sentinelOf s v) = ab
        cases sb <;> cases ex <;> cases ab <;> simp

/-- **(0) the negotiated version is the highest shared one** -/
theorem negotiate_version (c : Client) (s : Server) (o : Outcome) (h : negotiate c s = .done o) :
    o.vers ∈ configVersions supportedVersions c.minV c.maxV ∧ o.vers ∈ configVersions supportedVersions s.minV s.maxV ∧
    ∀ w, w ∈ configVersions supportedVersions c.minV c.maxV → w ∈ configVersions supportedVersions s.minV s.maxV → w ≤ o.vers := by
  obtain ⟨v, hv, hvers, _⟩ := (negotiate_done_iff c s o).mp h
  rw [hvers]
  exact version_is_max_shared _ _ _ _ v hv

/-- **(1) the negotiated suite is enabled on both sides and usable**: it is in the client's ClientHello list; for
    TLS ≤ 1.2 it is in the server's configured-or-default list, implemented (`cipherSuiteByID` finds the row whose id
    it is), passes `cipherSuiteOk` for the server's key, the shared curves and the negotiated version, and its key
    exchange can be carried out; for TLS 1.3 it is in `defaultCipherSuitesTLS13` and a TLS 1.3 suite -/
theorem negotiate_suite_sound (c : Client) (s : Server) (o : Outcome) (h : negotiate c s = .done o) :
    o.suite ∈ offerOf c ∧
    (if o.vers = VersionTLS13 then o.suite ∈ defaultCipherSuitesTLS13 ∧ isTLS13Suite o.suite = true
     else o.suite ∈ s.suites.getD defaultCipherSuites ∧
       ∃ r, lookup implemented o.suite = some r ∧ r.id = o.suite ∧ cipherSuiteOk (factsOf c s o.vers) r = true ∧
         exchangeWorks r s.key o.vers = true) := by
  obtain ⟨v, _, rfl, _, hrest⟩ := (negotiate_done_iff c s o).mp h
  by_cases h13 : o.vers = VersionTLS13
  · rw [if_pos h13] at hrest ⊢
    exact pick13_sound _ _ _ hrest.2.1
  · rw [if_neg h13] at hrest ⊢
    obtain ⟨r, hp, _, hex, _, hid, _⟩ := hrest
    obtain ⟨h1, h2, h3, h4⟩ := pick_suite_sound _ _ _ _ _ hp
    rw [hid]
    exact ⟨h1, h2, r, h3, rfl, h4, hex⟩

/-- **(2) chosen by the documented preference rule**: the suite is the FIRST qualifying id of the effective
    preference list `pref` — the client's offer, or the server's list under PreferServerCipherSuites, as configured or
    after the `deprioritizeAES` the code applies (`prefLists12_cases` / `prefLists13_cases` say which) — where
    qualifying means: in the other side's list `sup` and (≤ 1.2) implemented + `cipherSuiteOk`, (1.3) a TLS 1.3 suite -/
theorem negotiate_suite_preference (c : Client) (s : Server) (o : Outcome) (h : negotiate c s = .done o) :
    ∃ pref sup pre post, pref = pre ++ o.suite :: post ∧
      (if o.vers = VersionTLS13 then
         prefLists13 (offerOf c) s.prefer = some (pref, sup) ∧
         ∀ x ∈ pre, (sup.contains x && isTLS13Suite x) = false
       else
         prefLists12 (offerOf c) s.suites s.prefer = some (pref, sup) ∧
         ∀ x ∈ pre, ∀ rx, lookup implemented x = some rx →
           (cipherSuiteOk (factsOf c s o.vers) rx && sup.contains x) = false) := by
  obtain ⟨v, _, rfl, _, hrest⟩ := (negotiate_done_iff c s o).mp h
  by_cases h13 : o.vers = VersionTLS13
  · rw [if_pos h13] at hrest
    obtain ⟨pref, sup, pre, post, hl, he, hpre⟩ := pick13_first _ _ _ hrest.2.1
    exact ⟨pref, sup, pre, post, he, by rw [if_pos h13]; exact ⟨hl, hpre⟩⟩
  · rw [if_neg h13] at hrest
    obtain ⟨r, hp, _, _, _, hid, _⟩ := hrest
    obtain ⟨pref, sup, pre, post, hl, he, hpre⟩ := pick_suite_first _ _ _ _ _ hp
    exact ⟨pref, sup, pre, post, hid ▸ he, by rw [if_neg h13]; exact ⟨hl, hpre⟩⟩

/-- **(3a) ALPN**: the outcome's protocol is exactly `mutualProtocol` of the two lists (none when the client sent no
    extension): a protocol the client listed, and the first of the SERVER's list that the client lists -/
theorem negotiate_alpn_sound (c : Client) (s : Server) (o : Outcome) (h : negotiate c s = .done o) :
    o.alpn = (if c.alpn.isEmpty then none else mutualProtocol c.alpn s.alpn) ∧
    ∀ p, o.alpn = some p → p ∈ c.alpn ∧ ∃ pre post, s.alpn = pre ++ p :: post ∧ ∀ x ∈ pre, x ∉ c.alpn := by
  obtain ⟨v, _, _, hal, _⟩ := (negotiate_done_iff c s o).mp h
  refine ⟨hal, fun p hp => ?_⟩
  rw [hal] at hp
  simp only [alpnOf] at hp
  split at hp
  · simp at hp
  · exact alpn_rule _ _ _ hp

/-- **(3b) sentinel**: the outcome's sentinel is exactly what the server's rule `serverCanary` puts into a TLS ≤ 1.2
    ServerHello (or the forged ServerRandom value), none for TLS 1.3, and a completed negotiation never carries a
    sentinel the client's check would reject -/
theorem negotiate_canary (c : Client) (s : Server) (o : Outcome) (h : negotiate c s = .done o) :
    o.canary = (if o.vers = VersionTLS13 then .none else sentinelOf s o.vers) ∧
    clientAborts (maxSupported (cvOf c)) o.vers o.canary = false := by
  obtain ⟨v, _, rfl, _, hrest⟩ := (negotiate_done_iff c s o).mp h
  by_cases h13 : o.vers = VersionTLS13
  · rw [if_pos h13] at hrest ⊢
    rw [hrest.2.2.2]
    exact ⟨rfl, client_no_abort_without_canary _ _⟩
  · rw [if_neg h13] at hrest ⊢
    obtain ⟨r, _, _, _, hab, _, hc⟩ := hrest
    rw [hc]
    exact ⟨rfl, hab⟩

/-- **the server's own sentinel never makes the client of the negotiated connection abort**: the selected version is
    the highest shared one, so the sentinel is only present when the CLIENT's maximum is the negotiated version -/
theorem honest_sentinel_no_abort (cmin cmax smin smax v : Nat)
    (h : mutualVersion (configVersions supportedVersions smin smax) (configVersions supportedVersions cmin cmax) = some v) :
    clientAborts (maxSupported (configVersions supportedVersions cmin cmax)) v
      (serverCanary (maxSupported (configVersions supportedVersions smin smax)) v) = false := by
  obtain ⟨hvc, hvs, hmax⟩ := version_is_max_shared cmin cmax smin smax v h
  cases hab : clientAborts _ v (serverCanary _ v) with
  | false => rfl
  | true =>
    exfalso
    obtain ⟨hlt, hne⟩ := clientAborts_lt hab
    have hs := ((canary_iff _ _).mp hne).2
    have hcm := maxSupported_mem hvc
    have hsm := maxSupported_mem hvs
    by_cases hle : maxSupported (configVersions supportedVersions cmin cmax) ≤ maxSupported (configVersions supportedVersions smin smax)
    · have := hmax _ hcm (configVersions_convex _ _ _ v _ _ hvs hsm (mem_configVersions.mp hcm).1 (Nat.le_of_lt hlt) hle)
      omega
    · have := hmax _ (configVersions_convex _ _ _ v _ _ hvc hcm (mem_configVersions.mp hsm).1 (Nat.le_of_lt hs) (by omega)) hsm
      omega

/-- a suite that passed `cipherSuiteOk` (hence not DSS — table fact) can carry out its key exchange unless the key is
    Ed25519 and the version is below TLS 1.2 -/
theorem exchangeWorks_of_ok (r : SuiteRow) (f : Facts) (key : KeyType) (v : Nat)
    (hl : lookup implemented r.id = some r) (hok : cipherSuiteOk f r = true)
    (hed : ¬(key = .ed25519 ∧ v < VersionTLS12)) : exchangeWorks r key v = true := by
  have hdss := (table_flags_consistent r (List.mem_of_find?_eq_some hl) hl).2.2
  simp only [cipherSuiteOk, Bool.and_eq_true, Bool.not_eq_true', hdss] at hok
  simp only [exchangeWorks, hok.1.2, Bool.false_eq_true, if_false]
  exact if_neg (by simpa using hed)

/-- with fresh server randomness the client's downgrade check never fails a negotiation -/
theorem negotiate_abort_only_forged (c : Client) (s : Server) (v : Nat) (hr : s.rand = .none)
    (hv : mutualVersion (svOf s) (cvOf c) = some v) :
    clientAborts (maxSupported (cvOf c)) v (sentinelOf s v) = false := by
  have := honest_sentinel_no_abort c.minV c.maxV s.minV s.maxV v hv
  simpa only [sentinelOf, hr] using this

/-- **liveness, TLS ≤ 1.2** (the model-level half of "configurations that share a version and an implemented suite
    usable with the server's key complete the handshake"): highest shared version `v` ≤ 1.2, an id enabled on both sides
    that is implemented and passes `cipherSuiteOk`, no SCSV misuse, an honest ServerRandom, not (Ed25519 key below
    TLS 1.2), ≤ 20 ids to deprioritise — then the negotiation completes, at `v` -/
theorem negotiate_completes_12 (c : Client) (s : Server) (v : Nat)
    (hv : mutualVersion (svOf s) (cvOf c) = some v) (h13 : v ≠ VersionTLS13)
    (hshare : ∃ x ∈ offerOf c, x ∈ s.suites.getD defaultCipherSuites ∧
       ∃ rx, lookup implemented x = some rx ∧ cipherSuiteOk (factsOf c s v) rx = true)
    (hed : ¬(s.key = .ed25519 ∧ v < VersionTLS12))
    (hscsv : scsvBad c s v = false) (hr : s.rand = .none)
    (hm : prefLists12 (offerOf c) s.suites s.prefer ≠ none) :
    ∃ o, negotiate c s = .done o ∧ o.vers = v := by
  obtain ⟨r, hp⟩ : ∃ r, pickCipherSuite (offerOf c) s.suites s.prefer (factsOf c s v) = .suite r := by
    cases hp : pickCipherSuite (offerOf c) s.suites s.prefer (factsOf c s v) with
    | suite r => exact ⟨r, rfl⟩
    | unmodelled => exact absurd ((pick_unmodelled_iff _ _ _ _).mp hp) hm
    | noSuite =>
      obtain ⟨x, hx, hs, rx, hl, hok⟩ := hshare
      rw [((pick_noSuite_iff _ _ _ _).mp hp).2 x hx hs rx hl] at hok
      cases hok
  obtain ⟨_, _, hl, hok⟩ := pick_suite_sound _ _ _ _ _ hp
  refine ⟨⟨v, r.id, alpnOf c s, sentinelOf s v⟩, (negotiate_done_iff c s _).mpr ⟨v, hv, rfl, rfl, ?_⟩, rfl⟩
  rw [if_neg h13]
  exact ⟨r, hp, hscsv, exchangeWorks_of_ok r _ s.key v hl hok hed, negotiate_abort_only_forged c s v hr hv, rfl, rfl⟩

/-- **liveness, TLS 1.3**: a shared TLS 1.3 suite and a shared group suffice -/
theorem negotiate_completes_13 (c : Client) (s : Server)
    (hv : mutualVersion (svOf s) (cvOf c) = some VersionTLS13)
    (hshare : ∃ x ∈ offerOf c, x ∈ defaultCipherSuitesTLS13 ∧ isTLS13Suite x = true)
    (hcurve : (curvesOf s.curves).any (fun g => (curvesOf c.curves).contains g) = true)
    (hscsv : scsvBad c s VersionTLS13 = false)
    (hm : prefLists13 (offerOf c) s.prefer ≠ none) :
    ∃ o, negotiate c s = .done o ∧ o.vers = VersionTLS13 := by
  obtain ⟨id, hp⟩ : ∃ id, pickTLS13 (offerOf c) s.prefer = some (some id) := by
    cases hp : pickTLS13 (offerOf c) s.prefer with
    | none =>
      rw [pickTLS13_eq_map, Option.map_eq_none_iff] at hp
      exact absurd hp hm
    | some x =>
      cases x with
      | some id => exact ⟨id, rfl⟩
      | none =>
        obtain ⟨x, hx, hs, h3⟩ := hshare
        rw [((pick13_none_iff _ _).mp hp).2 x hx hs] at h3
        cases h3
  refine ⟨⟨VersionTLS13, id, alpnOf c s, .none⟩, (negotiate_done_iff c s _).mpr ⟨_, hv, rfl, rfl, ?_⟩, rfl⟩
  rw [if_pos rfl]
  exact ⟨hscsv, hp, hcurve, rfl⟩

/-! ### resumption across configuration changes

  `connect` is `negotiate` with the resumption decision of `loadSession` / `checkForResumption` in place; the client's
  cache content and BOTH configurations are arbitrary (in particular: changed since the session was established). -/

/-- the client presents a session only if its CURRENT configuration has the cache, still supports the session's
    version and still offers its suite (TLS 1.3: some suite with the same hash) -/
theorem loadSession_some (cv offer : List Nat) (u : Bool) (cache : Option Sess) (se : Sess)
    (h : loadSession cv offer u cache = some se) :
    u = true ∧ cache = some se ∧ se.vers ∈ cv ∧
    (se.vers ≠ VersionTLS13 → se.suite ∈ offer) ∧
    (se.vers = VersionTLS13 → ∃ id ∈ offer, isTLS13Suite id = true ∧ sameHash id se.suite = true) := by
  unfold loadSession at h
  cases u with
  | false => simp at h
  | true =>
    cases cache with
    | none => simp at h
    | some s0 =>
      by_cases h13 : s0.vers = VersionTLS13
      · simp [h13] at h
        obtain ⟨hv, _, hany, rfl⟩ := h
        exact ⟨rfl, rfl, h13 ▸ hv, fun hne => absurd h13 hne, fun _ => hany⟩
      · simp [h13] at h
        obtain ⟨hv, ⟨ho, _⟩, rfl⟩ := h
        exact ⟨rfl, rfl, hv, fun _ => ho, fun he => absurd he h13⟩

/-- **TLS ≤ 1.2 server**: a ticket is resumed only when it opens under a key the server lists NOW, for the version
    negotiated NOW, with a suite the client offers NOW and the server's CURRENT configuration enables and can use with
    its CURRENT key -/
theorem checkResume12_sound (v : Nat) (offer : List Nat) (srv : Option (List Nat)) (f : Facts)
    (tk : Option (List Nat)) (p : Option Sess) (r : SuiteRow) (old : Bool)
    (h : checkResume12 v offer srv f tk p = some (r, old)) :
    ∃ se ks, p = some se ∧ tk = some ks ∧ se.key ∈ ks ∧ se.vers = v ∧ v ≠ VersionTLS13 ∧ r.id = se.suite ∧
      se.suite ∈ offer ∧ se.suite ∈ srv.getD defaultCipherSuites ∧
      lookup implemented se.suite = some r ∧ cipherSuiteOk f r = true ∧ old = (ks.head? != some se.key) := by
  unfold checkResume12 at h
  split at h
  · rename_i ks se
    simp [Option.ite_none_left_eq_some] at h
    obtain ⟨h13, hk, rfl, ho, hsel⟩ := h
    cases hs : selectCipherSuite [se.suite] (srv.getD defaultCipherSuites) (cipherSuiteOk f) with
    | none => rw [hs] at hsel; cases hsel
    | some r' =>
      rw [hs] at hsel
      cases hsel
      obtain ⟨pre, post, he, h1, h2, h3, _⟩ := select_first_qualifying _ _ _ _ hs
      have hid : r.id = se.suite := List.mem_singleton.mp (by rw [he]; simp)
      rw [hid] at h1 h3
      exact ⟨se, ks, rfl, rfl, hk, rfl, h13, hid, ho, by simpa using h3, h1, h2, rfl⟩
  · cases h

/-- **TLS 1.3 server**: a PSK is accepted only when it opens under a current key and was issued under a suite with
    the hash of the suite selected NOW -/
theorem checkResume13_sound (suite : Nat) (m : Bool) (tk : Option (List Nat)) (p : Option Sess)
    (h : checkResume13 suite m tk p = true) :
    ∃ se ks, p = some se ∧ tk = some ks ∧ m = true ∧ se.key ∈ ks ∧ se.vers = VersionTLS13 ∧ sameHash se.suite suite = true := by
  unfold checkResume13 at h
  split at h
  · rename_i ks se
    simp only [Bool.and_eq_true] at h
    exact ⟨se, ks, rfl, rfl, h.1.1.1.1, by simpa using h.1.1.2, by simpa using h.1.1.1.2, h.2⟩
  · simp at h

/-- without a presented session (no cache in the client's configuration, empty cache, or a session the client's
    current configuration no longer fits) the connection is exactly the full negotiation -/
theorem connect_not_presented (k : Conn) (cache : Option Sess)
    (h : loadSession (configVersions supportedVersions k.c.minV k.c.maxV)
          (clientOffer (configVersions supportedVersions k.c.minV k.c.maxV) k.c.suites k.c.force) k.useCache cache = none) :
    (connect k cache).res = negotiate k.c k.s ∧ (connect k cache).resumed = false := by
  rcases connect_cases k cache with ⟨v, r, old, _, _, hr, _⟩ | ⟨hres, hresumed⟩
  · obtain ⟨se, _, hp, _⟩ := checkResume12_sound _ _ _ _ _ _ _ _ hr
    cases h.symm.trans hp
  · refine ⟨hres, Bool.eq_false_iff.mpr fun hh => ?_⟩
    obtain ⟨o, _, _, hc⟩ := hresumed.mp hh
    obtain ⟨se, _, hp, _⟩ := checkResume13_sound _ _ _ _ hc
    cases h.symm.trans hp

/-- **fallback, never failure**: whatever the client's cache holds, if the two CURRENT configurations can complete a
    full handshake then the connection completes, at the same (highest shared) version — a session that cannot be
    resumed costs a full handshake, not the connection -/
theorem connect_never_blocks (k : Conn) (cache : Option Sess) (o : Outcome) (h : negotiate k.c k.s = .done o) :
    ∃ o', (connect k cache).res = .done o' ∧ o'.vers = o.vers ∧ o'.alpn = o.alpn ∧ o'.canary = o.canary ∧
      ((connect k cache).resumed = false → o' = o) := by
  rcases connect_cases k cache with ⟨v, r, old, hv, h13, _, hresumed, hres⟩ | ⟨hres, _⟩
  · obtain ⟨v', hv', hvers, halpn, hrest⟩ := (negotiate_done_iff k.c k.s o).mp h
    obtain rfl : v' = v := Option.some.inj (hv'.symm.trans hv)
    rw [if_neg h13] at hrest
    obtain ⟨_, _, _, _, hab, _, hcan⟩ := hrest
    rw [hab] at hres hresumed
    exact ⟨_, hres, hvers.symm, halpn.symm, hcan.symm, fun hf => nomatch hresumed.symm.trans hf⟩
  · exact ⟨o, hres.trans h, rfl, rfl, rfl, fun _ => rfl⟩

/-- **a resumed connection is consistent with BOTH current configurations and with the original session**: if the
    connection resumes then it completes, the client's current configuration uses the cache, the cached session was
    sealed under a key the server lists now, it has the version negotiated now, and
    * TLS ≤ 1.2: its suite is the connection's suite, the client offers it now and the server's current configuration
      enables it;
    * TLS 1.3: it was issued under a suite with the same hash as the suite selected now. -/
theorem connect_resumed_sound (k : Conn) (cache : Option Sess) (h : (connect k cache).resumed = true) :
    ∃ o se ks, (connect k cache).res = .done o ∧ cache = some se ∧ k.useCache = true ∧ k.tkeys = some ks ∧ se.key ∈ ks ∧
      se.vers = o.vers ∧
      (if o.vers = VersionTLS13 then sameHash se.suite o.suite = true
       else se.suite = o.suite ∧
            o.suite ∈ clientOffer (configVersions supportedVersions k.c.minV k.c.maxV) k.c.suites k.c.force ∧
            o.suite ∈ k.s.suites.getD defaultCipherSuites) := by
  rcases connect_cases k cache with ⟨v, r, old, _, h13, hr, hresumed, hres⟩ | ⟨hres, hresumed⟩
  · obtain ⟨se, ks, hp, htk, hk, hv, _, hid, hoff, hsrv, _⟩ := checkResume12_sound _ _ _ _ _ _ _ _ hr
    obtain ⟨hu, hcache, _⟩ := loadSession_some _ _ _ _ _ hp
    rw [hresumed, Bool.not_eq_true'] at h
    rw [h] at hres
    refine ⟨_, se, ks, hres, hcache, hu, htk, hk, hv, ?_⟩
    rw [if_neg h13, hid]
    exact ⟨rfl, hoff, hsrv⟩
  · obtain ⟨o, hn, h13, hc⟩ := hresumed.mp h
    obtain ⟨se, ks, hp, htk, _, hk, hv, hh⟩ := checkResume13_sound _ _ _ _ hc
    obtain ⟨hu, hcache, _⟩ := loadSession_some _ _ _ _ _ hp
    exact ⟨o, se, ks, hres.trans hn, hcache, hu, htk, hk, hv.trans h13.symm, by rw [if_pos h13]; exact hh⟩

/-- **a connection that does not resume IS the full negotiation** (when that is inside the model), whatever the cache
    holds: every `negotiate_*` theorem above transfers to non-resumed connections of a sequence -/
theorem connect_full_is_negotiate (k : Conn) (cache : Option Sess) (hr : (connect k cache).resumed = false)
    (hm : negotiate k.c k.s ≠ .unmodelled) : (connect k cache).res = negotiate k.c k.s := by
  cases hn : negotiate k.c k.s with
  | done o =>
    obtain ⟨o', hres, _, _, _, heq⟩ := connect_never_blocks k cache o hn
    rw [hres, heq hr]
  | unmodelled => exact absurd hn hm
  | fail =>
    rcases connect_cases k cache with ⟨v, r, old, _, _, _, hresumed, hres⟩ | ⟨hres, _⟩
    · rw [hresumed, Bool.not_eq_false'] at hr
      rw [hres, if_pos hr]
    · exact hres.trans hn

/-! ### non-vacuity -/
example : negotiate { minV := 0, maxV := 771, suites := some [50, 47], force := true, curves := none, alpn := [] }
    { minV := 0, maxV := 0, suites := none, prefer := false, curves := none, alpn := [], key := .rsa, rand := .none }
    = .done { vers := 771, suite := 47, alpn := none, canary := .c12 } := by decide +kernel

/-- a TLS 1.2 client (cache on) against a server with ticket key 0 -/
def exConn (cs ss : List Nat) (tk : Option (List Nat)) : Conn :=
  { c := { minV := 0, maxV := 771, suites := some cs, force := false, curves := none, alpn := [] },
    s := { minV := 0, maxV := 771, suites := some ss, prefer := false, curves := none, alpn := [], key := .rsa, rand := .none },
    useCache := true, tkeys := tk }
def exConn13 (cs : List Nat) : Conn :=
  { c := { minV := 0, maxV := 0, suites := some cs, force := false, curves := none, alpn := [] },
    s := { minV := 0, maxV := 0, suites := none, prefer := false, curves := none, alpn := [], key := .rsa, rand := .none },
    useCache := true, tkeys := some [0] }
-- unchanged configurations: the second connection resumes (hypothesis of `connect_resumed_sound` is satisfiable)
example : (runSeq none [exConn [49199, 47] [49199, 47] (some [0]), exConn [49199, 47] [49199, 47] (some [0])]).map
    (fun o => (o.res, o.resumed, o.ev)) =
    [(.done { vers := 771, suite := 49199, alpn := none, canary := .none }, false, .put),
     (.done { vers := 771, suite := 49199, alpn := none, canary := .none }, true, .keep)] := by decide +kernel
-- the server's configuration drops the session's suite: full handshake with the remaining suite, not a failure
example : (runSeq none [exConn [49199, 47] [49199, 47] (some [0]), exConn [49199, 47] [47] (some [0])]).map
    (fun o => (o.res, o.resumed, o.ev)) =
    [(.done { vers := 771, suite := 49199, alpn := none, canary := .none }, false, .put),
     (.done { vers := 771, suite := 47, alpn := none, canary := .none }, false, .put)] := by decide +kernel
-- rotated ticket keys: resumed under the old key, re-issued under the new one
example : (runSeq none [exConn [47] [47] (some [0]), exConn [47] [47] (some [1, 0]), exConn [47] [47] (some [1])]).map
    (fun o => (o.resumed, o.ev)) = [(false, .put), (true, .put), (true, .keep)] := by decide +kernel
-- TLS 1.3: the client now puts a SHA-384 suite first; the SHA-256 PSK is skipped and a full handshake follows
example : (runSeq none [exConn13 [4865], exConn13 [4866, 4865], exConn13 [4866, 4865]]).map
    (fun o => (o.res, o.resumed)) =
    [(.done { vers := 772, suite := 4865, alpn := none, canary := .none }, false),
     (.done { vers := 772, suite := 4866, alpn := none, canary := .none }, false),
     (.done { vers := 772, suite := 4866, alpn := none, canary := .none }, true)] := by decide +kernel
example : checkResume13 4866 true (some [0]) (some { vers := 772, suite := 4866, key := 0 }) = true := by decide +kernel
example : (checkResume12 771 [47] (some [47]) (facts 771 .rsa true) (some [1, 0]) (some { vers := 771, suite := 47, key := 0 })).isSome = true := by decide +kernel
example : (loadSession [772, 771] [47, 4865] true (some { vers := 772, suite := 4867, key := 0 })).isSome = true := by decide +kernel
example : mutualVersion (configVersions supportedVersions 770 0) (configVersions supportedVersions 0 771) = some 771 := by decide +kernel

/-! non-vacuity of the negotiation / deprioritisation theorems -/
def exC (maxV : Nat) (suites : List Nat) : Client :=
  { minV := 0, maxV := maxV, suites := some suites, force := false, curves := none, alpn := [7, 9] }
def exS (maxV : Nat) (prefer : Bool) (rand : Canary) : Server :=
  { minV := 0, maxV := maxV, suites := none, prefer := prefer, curves := none, alpn := [9, 7], key := .rsa, rand := rand }
-- TLS 1.3, client preference (ALPN follows the SERVER's order)
example : negotiate (exC 0 [47, 4865]) (exS 0 false .none) =
    .done { vers := 772, suite := 4865, alpn := some 9, canary := .none } := by decide +kernel
-- TLS 1.2 with PreferServerCipherSuites: the server's (deprioritised default) list decides; the server could have
-- gone higher, so the sentinel is present, and the TLS 1.2 client does not reject it
example : negotiate (exC 771 [47, 49199]) (exS 0 true .none) =
    .done { vers := 771, suite := 49199, alpn := some 9, canary := .c12 } := by decide +kernel
-- the failure causes of `negotiate_fail_iff`: no shared version / no shared usable suite (ECDSA suite, RSA key) /
-- FALLBACK_SCSV although the server supports more / a forged sentinel makes a TLS 1.3 client abort
example : negotiate { exC 770 [47] with minV := 769 } { exS 0 false .none with minV := 771 } = .fail := by decide +kernel
example : negotiate (exC 771 [49195]) (exS 0 false .none) = .fail := by decide +kernel
example : negotiate { exC 771 [47, 22016] with force := true } (exS 0 false .none) = .fail := by decide +kernel
example : negotiate (exC 0 [47]) (exS 771 false .c12) = .fail ∧
    negotiate (exC 0 [47]) (exS 771 false .none) = .done { vers := 771, suite := 47, alpn := some 9, canary := .none } := by decide +kernel
-- where the model gives up (only when this machine has no AES-GCM hardware support: then the offer is deprioritised)
example : hasAESGCMHardwareSupport = false →
    negotiate { exC 771 (List.replicate 21 47) with force := true } (exS 771 false .none) = .unmodelled := by decide +kernel
-- hypotheses of the liveness theorems
example : ∃ o, negotiate (exC 771 [49195, 47]) (exS 0 false .none) = .done o ∧ o.vers = 771 :=
  negotiate_completes_12 _ _ 771 (by decide) (by decide) ⟨47, by decide, by decide,
    { id := 47, flags := 0, ka := "rsa", kind := "cbc", keyLen := 16, macLen := 20, ivLen := 16 }, by decide, by decide⟩
    (by decide) (by decide) rfl (by decide)
example : ∃ o, negotiate (exC 0 [47, 4866]) (exS 0 true .none) = .done o ∧ o.vers = 772 :=
  negotiate_completes_13 _ _ (by decide) ⟨4866, by decide, by decide, by decide⟩ (by decide) (by decide) (by decide)
-- the preference lists and the two picks
example : prefLists12 [47, 49199] (some [49199, 47]) true = some ([49199, 47], [47, 49199]) := by decide +kernel
example : (prefLists13 [4865, 4867] true).isSome = true := by decide +kernel
example : (match pickCipherSuite [53, 47] (some [47, 53]) true (facts 771 .rsa true) with | .suite r => r.id == 47 | _ => false) = true := by decide +kernel
example : pickTLS13 [4866, 4865] true = some (some 4865) ∨ pickTLS13 [4866, 4865] true = some (some 4866) := by decide +kernel
example : pickCipherSuite [49195] none false (facts 771 .rsa true) = .noSuite := by decide +kernel
-- deprioritizeAES: ChaCha20 moves in front of an ADJACENT AES-GCM id …
example : deprio [49199, 52392, 47] = some [52392, 49199, 47] := by decide +kernel
-- … but not across an id of neither class: the result is not "all non-AES-GCM AEAD ids before all AES-GCM ids"
-- (`less 52392 49199` holds, the pair keeps its order) — the documented "adjacent" behaviour, no inversion is ADJACENT
example : deprio [49199, 47, 52392] = some [49199, 47, 52392] ∧ less 52392 49199 = true := by decide +kernel
example : [49199, 47].Sublist [49199, 52392, 47] ∧ less 47 49199 = false := by decide +kernel
-- a connection that presents a session but does not resume it (hypotheses of `connect_full_is_negotiate`)
example : (connect (exConn [49199, 47] [47] (some [0])) (some { vers := 771, suite := 49199, key := 0 })).resumed = false ∧
    negotiate (exConn [49199, 47] [47] (some [0])).c (exConn [49199, 47] [47] (some [0])).s ≠ .unmodelled := by decide +kernel

/-! ### one listener Config, `GetConfigForClient` per connection (`c24 lsn`)

  `readClientHello` takes the ticket keys from `originalConfig.ticketKeys(configForClient)`: whatever Config the
  callback returns, as long as it sets no keys of its own the LISTENER's keys serve the connection — so tickets issued on
  one connection decrypt on the next although every connection may get a brand-new Config. -/

/-- **the documented rule, first half**: a callback that is unset, returns nil, returns a fresh Clone of the listener's
    Config or returns any other Config WITHOUT ticket settings leaves the listener's own keys in use — explicit ones,
    or its one auto-managed key -/
theorem hook_keeps_listener_keys (l : KeyCfg) (h : Hook) :
    ticketKeys l (forClientCfg l h none) = ownKeys l := by
  cases h with
  | clone =>
    simp only [forClientCfg, ticketKeys, ownKeys]
    cases l.disabled <;> cases l.keys.isEmpty <;> rfl
  | _ => rfl

/-- **second half**: explicit keys on the returned Config (tickets not disabled on it) are the connection's keys,
    whatever the listener's Config says -/
theorem hook_explicit_keys_win (l m : KeyCfg) (hd : m.disabled = false) (hk : m.keys.isEmpty = false) :
    ticketKeys l (forClientCfg l .fresh (some m)) = m.keys := by
  simp [forClientCfg, ticketKeys, hd, hk]

/-- the same for keys set on a Clone of a listener Config that does not disable tickets -/
theorem hook_clone_keys_win (l m : KeyCfg) (hl : l.disabled = false) (hd : m.disabled = false) (hk : m.keys.isEmpty = false) :
    ticketKeys l (forClientCfg l .clone (some m)) = m.keys := by
  simp [forClientCfg, ticketKeys, hl, hd, hk]

/-- a returned Config that disables tickets: no keys, and the flag in force says so -/
theorem hook_disabled (l m : KeyCfg) (h : Hook) (hh : h = .clone ∨ h = .fresh) (hd : m.disabled = true) :
    ticketKeys l (forClientCfg l h (some m)) = [] ∧ inForceDisabled l (forClientCfg l h (some m)) = true := by
  rcases hh with rfl | rfl <;> simp [forClientCfg, ticketKeys, inForceDisabled, hd]

/-- the connection a step amounts to does not depend on HOW the listener's Config stays in force: callback unset,
    returning nil, or returning a fresh Clone -/
theorem lstepConn_unset_nil_clone (ls : Server) (lk : KeyCfg) (st : LStep) (h : Hook)
    (hh : h = .unset ∨ h = .retNil ∨ h = .clone) :
    lstepConn ls lk { st with hook := h, pk := none } = lstepConn ls lk { st with hook := .unset, pk := none } := by
  have hk := hook_keeps_listener_keys lk
  rcases hh with rfl | rfl | rfl
  · rfl
  · rfl
  · have h1 := hk .clone
    have h2 := hk .unset
    simp only [lstepConn, h1, h2]
    simp [forClientCfg, inForceDisabled]

/-- … nor on whether a per-client Config with the listener's server fields and no ticket settings is returned instead,
    when the listener's Config has tickets on -/
theorem lstepConn_fresh_same (ls : Server) (lk : KeyCfg) (st : LStep) (hs : st.s = ls) (hl : lk.disabled = false) :
    lstepConn ls lk { st with hook := .fresh, pk := none } = lstepConn ls lk { st with hook := .unset, pk := none } := by
  have h1 := hook_keeps_listener_keys lk .fresh
  have h2 := hook_keeps_listener_keys lk .unset
  simp only [lstepConn, h1, h2]
  simp [forClientCfg, inForceDisabled, hs, hl]

/-- with tickets disabled, or enabled with at least one key, a listener connection IS `connect` (every `connect_*`
    theorem above transfers) -/
theorem lconnect_eq_connect (k : LConn) (cache : Option Sess) (h : k.disabled = true ∨ k.keys ≠ []) :
    lconnect k cache = connect { c := k.c, s := k.s, useCache := k.useCache,
                                 tkeys := if k.disabled then none else some k.keys } cache := by
  unfold lconnect
  cases hd : k.disabled
  · rcases h with h | h
    · simp [hd] at h
    · cases hk : k.keys with
      | nil => exact absurd hk h
      | cons a as => simp
  · simp

/-- tickets enabled but no key (listener Config disables tickets, the per-client Config does not and brings none):
    nothing resumes, and a client that asks for tickets (session cache configured) never gets a completed handshake —
    the code as it is (finding F-C24-tickets-on-without-keys) -/
theorem lconnect_no_keys (k : LConn) (cache : Option Sess) (hd : k.disabled = false) (hk : k.keys = []) :
    (lconnect k cache).resumed = false ∧ (k.useCache = true → ∀ o, (lconnect k cache).res ≠ .done o) := by
  have hr : (connect { c := k.c, s := k.s, useCache := k.useCache, tkeys := none } cache).resumed = false := by
    cases hres : (connect { c := k.c, s := k.s, useCache := k.useCache, tkeys := none } cache).resumed
    · rfl
    · obtain ⟨_, _, ks, _, _, _, htk, _⟩ := connect_resumed_sound _ _ hres
      simp at htk
  unfold lconnect
  simp only [hd, hk, Bool.false_eq_true, if_false]
  generalize connect { c := k.c, s := k.s, useCache := k.useCache, tkeys := none } cache = o at hr ⊢
  cases hres : o.res with
  | done r => cases k.useCache <;> simp [hr]
  | fail => simp [hr, hres]
  | unmodelled => simp [hr, hres]

/-- a listener with auto-managed keys whose callback returns a fresh Clone per connection (TLS 1.2, then TLS 1.3) -/
def exLStep (maxV : Nat) (cs : List Nat) (h : Hook) (pk : Option KeyCfg) : LStep :=
  { c := { minV := 0, maxV := maxV, suites := some cs, force := false, curves := none, alpn := [] },
    s := { minV := 0, maxV := 0, suites := none, prefer := false, curves := none, alpn := [], key := .rsa, rand := .none },
    useCache := true, hook := h, pk := pk }
def exAuto : KeyCfg := { disabled := false, keys := [] }
-- every connection after the first resumes, whatever mixture of callbacks keeps the listener's keys in use
example : ((runLsn (exLStep 771 [47] .unset none).s exAuto none
    [exLStep 771 [47] .clone none, exLStep 771 [47] .clone none, exLStep 771 [47] .fresh none, exLStep 771 [47] .retNil none]).map
    (fun o => o.resumed)) = [false, true, true, true] := by decide +kernel
example : ((runLsn (exLStep 0 [4865] .unset none).s exAuto none
    [exLStep 0 [4865] .fresh none, exLStep 0 [4865] .clone none, exLStep 0 [4865] .unset none]).map
    (fun o => o.resumed)) = [false, true, true] := by decide +kernel
-- keys of its own on the returned Config: a ticket sealed under the listener's key is not accepted there
example : ((runLsn (exLStep 771 [47] .unset none).s exAuto none
    [exLStep 771 [47] .clone none, exLStep 771 [47] .fresh (some { disabled := false, keys := [3] }),
     exLStep 771 [47] .fresh (some { disabled := false, keys := [3] })]).map
    (fun o => o.resumed)) = [false, false, true] := by decide +kernel
-- hypotheses of `lconnect_no_keys` / `hook_disabled` / `hook_explicit_keys_win` are satisfiable
example : (lstepConn (exLStep 771 [47] .unset none).s { disabled := true, keys := [] } (exLStep 771 [47] .fresh none)).disabled = false ∧
    (lstepConn (exLStep 771 [47] .unset none).s { disabled := true, keys := [] } (exLStep 771 [47] .fresh none)).keys = [] := by decide +kernel
example : (lconnect (lstepConn (exLStep 771 [47] .unset none).s { disabled := true, keys := [] } (exLStep 771 [47] .fresh none)) none).res = .fail := by decide +kernel
example : ({ disabled := true, keys := [] } : KeyCfg).disabled = true ∧ ({ disabled := false, keys := [3] } : KeyCfg).keys.isEmpty = false := by decide +kernel

end ZV.C24
