import ZV.Proofs.C25
import ZV.Proofs.C25Read
import ZV.Generated.C25
/-!
  C25 — TLS application data arrives intact or not at all: theorems about the model `ZV.Model.C25`
  of tls/conn.go (extractPadding, halfConn.encrypt/decrypt, maxPayloadSizeForWrite, writeRecordLocked,
  readRecordOrCCS) and tls/cipher_suites.go (nonce wrappers, tls10MAC). Cryptographic primitives are
  parameters; their laws (`StreamLaws`, `CbcLaws`, `AeadLaws`, `MacLaws`) are hypotheses, and every
  hypothesis is shown satisfiable by the toy primitives the correspondence check runs with.
-/
namespace ZV.C25

/-! ### record sizing -/

theorem growPayload_le (pb pkt : Int) : (growPayload pb pkt).1 ≤ 2 ^ 14 := by
  unfold growPayload maxPlaintext
  split
  · simp
  · simp only []
    split
    · simp
    · simp only []; omega

/-- no record produced by the write path carries more than 2^14 plaintext bytes: the size chosen by
    `maxPayloadSizeForWrite` never exceeds `maxPlaintext`, whatever the connection state. -/
theorem maxPayload_le_2_14 {σ} (c : Conn σ) (typ : UInt8) :
    (maxPayloadSizeForWrite c typ).1 ≤ 2 ^ 14 := by
  unfold maxPayloadSizeForWrite
  split
  · simp [maxPlaintext]
  · split
    · simp [maxPlaintext]
    · exact growPayload_le _ _

/-! ### extractPadding -/

theorem extractPadding_nil : extractPadding [] = (0, 0) := rfl

theorem padding_spec (p : Bytes) (hlen : p.length ≤ 2^31) :
    extractPadding p =
      match p.getLast? with
      | none => (0, 0)
      | some n => if validPadding p n then (n.toNat + 1, 255) else (1, 0) := by
  cases h : p.getLast? with
  | none =>
    have : p = [] := List.getLast?_eq_none_iff.mp h
    subst this; rfl
  | some n =>
    obtain ⟨q, rfl⟩ := List.getLast?_eq_some_iff.mp h
    exact extractPadding_concat q n (by rwa [List.length_append] at hlen)

theorem padding_iff (p : Bytes) (hlen : p.length ≤ 2^31) (k : Nat) :
    extractPadding p = (k + 1, 255) ↔
      k < 256 ∧ k + 1 ≤ p.length ∧ ∀ b ∈ p.drop (p.length - (k + 1)), b.toNat = k := by
  rw [padding_spec p hlen]
  cases h : p.getLast? with
  | none =>
    have : p = [] := List.getLast?_eq_none_iff.mp h
    subst this
    simp
  | some n =>
    obtain ⟨q, rfl⟩ := List.getLast?_eq_some_iff.mp h
    -- the last byte lies in every non-empty suffix
    have hmem : k + 1 ≤ (q ++ [n]).length → n ∈ (q ++ [n]).drop ((q ++ [n]).length - (k + 1)) := fun h2 => by
      rw [List.length_append, List.length_singleton] at h2 ⊢
      rw [List.drop_append_of_le_length (by omega)]
      simp
    simp only
    constructor
    · intro e
      split at e
      · rename_i hv
        cases e
        exact ⟨n.toNat_lt, hv.1, fun b hb => by rw [hv.2 b hb]⟩
      · simp at e
    · rintro ⟨_, h2, h3⟩
      have hk := h3 n (hmem h2)
      rw [if_pos ⟨by omega, fun b hb => UInt8.toNat_inj.mp (by rw [h3 b (hk ▸ hb), hk])⟩, hk]

/-! ### sequence numbers -/

/-- `incSeq` adds one to the big-endian value and keeps the length; -/
theorem incSeq_ok (seq seq' : Bytes) (h : incSeq seq = .ok seq') :
    beNat seq' = beNat seq + 1 ∧ seq'.length = seq.length := by
  unfold incSeq at h
  cases hr : incSeqRev seq.reverse with
  | none => simp [hr] at h
  | some r =>
    simp only [hr, Res.ok.injEq] at h
    subst h
    obtain ⟨h1, h2⟩ := incSeqRev_some _ _ hr
    simp [beNat, h1, h2]

/-- … and panics exactly on the all-ones sequence number (never wraps silently, never errs). -/
theorem incSeq_panic_iff (seq : Bytes) : incSeq seq = .panic ↔ ∀ b ∈ seq, b = 255 := by
  unfold incSeq
  cases hr : incSeqRev seq.reverse with
  | none => simp only [true_iff]; intro b hb; exact (incSeqRev_none _).mp hr b (List.mem_reverse.mpr hb)
  | some r =>
    simp only [reduceCtorEq, false_iff]
    intro hall
    have := (incSeqRev_none seq.reverse).mpr (fun b hb => hall b (List.mem_reverse.mp hb))
    rw [this] at hr; simp at hr

/-! ### AEAD nonces and additional data -/

/-- prefix-nonce construction (TLS 1.2 AES-GCM): `fixed[0:4] ‖ seq` — distinct sequence numbers give
    distinct nonces. -/
theorem nonce_injective_prefix (fixed s s' : Bytes) (hf : fixed.length = 12) (hs : s.length = 8)
    (hs' : s'.length = 8) (e : prefixNonce fixed s = prefixNonce fixed s') : s = s' := by
  rw [prefixNonce_eq fixed s hf hs, prefixNonce_eq fixed s' hf hs'] at e
  exact List.append_cancel_left e

/-- xor-nonce construction (ChaCha20-Poly1305, TLS 1.3): `iv ⊕ (0⁴ ‖ seq)` — distinct sequence numbers
    give distinct nonces. -/
theorem nonce_injective_xor (mask s s' : Bytes) (hm : mask.length = 12) (hs : s.length = 8)
    (hs' : s'.length = 8) (e : xorNonce mask s = xorNonce mask s') : s = s' := by
  unfold xorNonce at e
  exact xorInto_inj _ s s' (by simp [hm, hs]) (by simp [hm, hs']) (List.append_cancel_left e)

/-- additional data / MAC input header of TLS ≤ 1.2: `seq ‖ type ‖ version ‖ length` is 13 bytes and
    determines each of its fields. -/
theorem ad_layout (seq seq' : Bytes) (t v1 v2 t' v1' v2' : UInt8) (n n' : Int)
    (hs : seq.length = 8) (hs' : seq'.length = 8) :
    (seq ++ [t, v1, v2] ++ be16 n).length = 13 ∧
    (seq ++ [t, v1, v2] ++ be16 n = seq' ++ [t', v1', v2'] ++ be16 n' →
      seq = seq' ∧ t = t' ∧ v1 = v1' ∧ v2 = v2' ∧ be16 n = be16 n') := by
  constructor
  · simp [be16, hs]
  · intro e
    rw [List.append_assoc, List.append_assoc] at e
    have h := List.append_inj e (by rw [hs, hs'])
    obtain ⟨h1, h2⟩ := h
    simp only [List.cons_append, List.nil_append, List.cons.injEq] at h2
    exact ⟨h1, h2.1, h2.2.1, h2.2.2.1, h2.2.2.2⟩

/-! ### decrypt ∘ encrypt = id, per protection mode (laws `StreamLaws`, `CbcLaws`, `AeadLaws`, `MacLaws`:
    see ZV.Proofs.C25; each is proved there for the toy primitives — `toy_stream_laws`, `toy_cbc_laws`
    (from `toy_block_laws` via `cbcOf_laws`: CBC over ANY invertible block function), `toy_prefix_laws`,
    `toy_xor_laws`, `hmac_sha1_laws`) -/

/-- **stream cipher + MAC**: what `encrypt` writes at sequence number `seq` and stream state `st`,
    `decrypt` at the same sequence number and state returns unchanged, with the same content type;
    afterwards both sides hold the same incremented sequence number and stream state. -/
theorem decrypt_encrypt_stream {σ} (xor : σ → Bytes → Bytes × σ) (mac : Mac)
    (hx : StreamLaws xor) (hm : MacLaws mac)
    (v : Nat) (hv : v ≠ VersionTLS13) (st : σ) (seq seq' : Bytes) (hs : incSeq seq = .ok seq')
    (typ v1 v2 : UInt8) (p rand : Bytes) :
    ∃ rec st',
      encrypt ⟨v, .stream xor mac, st, seq⟩ ([typ, v1, v2] ++ be16 p.length) p rand
        = .ok (rec, ⟨v, .stream xor mac, st', seq'⟩, rand) ∧
      decrypt ⟨v, .stream xor mac, st, seq⟩ rec = .ok (p, typ, ⟨v, .stream xor mac, st', seq'⟩) := by
  let m := mac.sum (seq ++ [typ, v1, v2, UInt8.ofNat (p.length / 256), UInt8.ofNat p.length] ++ p)
  refine ⟨[typ, v1, v2] ++ be16 ((xor st p).1 ++ (xor (xor st p).2 m).1).length ++
      ((xor st p).1 ++ (xor (xor st p).2 m).1), (xor (xor st p).2 m).2, ?_, ?_⟩
  · simp only [be16_nat, encrypt, List.cons_append, List.nil_append, tls10MAC, finishEncrypt, hs]
    rfl
  · have hdec : xor st ((xor st p).1 ++ (xor (xor st p).2 m).1) = (p ++ m, (xor (xor st p).2 m).2) := by
      rw [hx.append, hx.invol]
      simp only
      rw [hx.invol]
    have hv' : (v == VersionTLS13) = false := decide_eq_false hv
    simp only [be16_nat, decrypt, List.cons_append, List.nil_append, hv', Bool.false_and,
      Bool.false_eq_true, if_false, hdec, decrypt13_other v hv]
    have := decryptMac_ok mac hm seq [typ, v1, v2] p []
    simp only [List.append_nil, List.length_nil, be16_nat, List.cons_append, List.nil_append] at this
    rw [this]
    simp only [hs]

/-- **AEAD, TLS ≤ 1.2** (prefix-nonce AES-GCM with its explicit nonce, xor-nonce ChaCha20): `decrypt`
    at the same sequence number returns what `encrypt` was given. -/
theorem decrypt_encrypt_aead12 {σ} (a : Aead) (ha : AeadLaws a) (v : Nat) (hv : v ≠ VersionTLS13) (st : σ)
    (seq seq' : Bytes) (hs : incSeq seq = .ok seq') (typ v1 v2 : UInt8) (p rand : Bytes)
    (hr : a.explicitNonceLen < 16 ∨ a.explicitNonceLen ≤ rand.length) :
    ∃ rec rand',
      encrypt ⟨v, .aead a, st, seq⟩ ([typ, v1, v2] ++ be16 p.length) p rand
        = .ok (rec, ⟨v, .aead a, st, seq'⟩, rand') ∧
      decrypt ⟨v, .aead a, st, seq⟩ rec = .ok (p, typ, ⟨v, .aead a, st, seq'⟩) := by
  obtain ⟨rand', he⟩ := encrypt_aead12_eq a v hv st seq seq' hs typ v1 v2
    (UInt8.ofNat (p.length / 256)) (UInt8.ofNat p.length) p rand hr
  rw [be16_nat p.length]
  refine ⟨_, rand', he, ?_⟩
  rw [be16_nat]
  exact decrypt_aead_sealed a ha v st seq seq' hs typ v1 v2 _ _ (fun e => hv e.1) p _
    (aeadExplicitNonce_length a seq rand hr) _ (if_neg (by simpa using hv)).symm typ p (decrypt13_other v hv typ p)

/-- **TLS 1.3** (xor-nonce AEAD, inner content type, outer type application_data, record length in the
    additional data): `decrypt` at the same sequence number returns the payload and the inner type. -/
theorem decrypt_encrypt_tls13 {σ} (a : Aead) (ha : AeadLaws a) (he : a.explicitNonceLen = 0) (st : σ)
    (seq seq' : Bytes) (hs : incSeq seq = .ok seq') (typ v1 v2 : UInt8) (ht : typ ≠ 0)
    (p rand : Bytes) (hp : p.length ≤ maxPlaintext) :
    ∃ rec,
      encrypt ⟨VersionTLS13, .aead a, st, seq⟩ ([typ, v1, v2] ++ be16 p.length) p rand
        = .ok (rec, ⟨VersionTLS13, .aead a, st, seq'⟩, rand) ∧
      rec.head? = some recordTypeApplicationData ∧
      decrypt ⟨VersionTLS13, .aead a, st, seq⟩ rec = .ok (p, typ, ⟨VersionTLS13, .aead a, st, seq'⟩) := by
  have hcast : ((p.length : Int) + 1 + (a.overhead : Int)) = ((p.length + 1 + a.overhead : Nat) : Int) := by
    push_cast; rfl
  rw [be16_nat p.length]
  refine ⟨_, encrypt_tls13_eq a he st seq seq' hs typ v1 v2 _ _ p rand _ rfl, rfl, ?_⟩
  · simp only [hcast, be16_nat, List.cons_append, List.nil_append]
    simp only [ha.seal_length, List.length_append, List.length_cons, List.length_nil, Nat.zero_add]
    exact decrypt_aead_sealed a ha _ st seq seq' hs _ v1 v2 _ _ (by decide) (p ++ [typ]) [] he.symm _ (if_pos rfl).symm
      typ p (decrypt13_inner typ ht p hp)

/-- **CBC + MAC, TLS 1.0 / SSL 3.0 record format (implicit IV)**: the chaining value left by the
    previous record is the IV; reader and writer in the same chaining state `st` and at the same
    sequence number ⇒ `decrypt (encrypt p) = p`, and both end in the same chaining state again. -/
theorem decrypt_encrypt_cbc10 {σ} (enc dec : Cbc σ) (ok : σ → Prop) (hc : CbcLaws enc dec ok) (mac : Mac)
    (hm : MacLaws mac) (hbs : 0 < enc.blockSize) (hbs' : enc.blockSize ≤ 256)
    (v : Nat) (hv : v < VersionTLS11) (st : σ) (hok : ok st) (seq seq' : Bytes) (hs : incSeq seq = .ok seq')
    (typ v1 v2 : UInt8) (p rand : Bytes) (hlen : p.length + mac.size + 256 ≤ 2^31) :
    ∃ rec st',
      encrypt ⟨v, .cbc enc mac, st, seq⟩ ([typ, v1, v2] ++ be16 p.length) p rand
        = .ok (rec, ⟨v, .cbc enc mac, st', seq'⟩, rand) ∧ ok st' ∧
      decrypt ⟨v, .cbc dec mac, st, seq⟩ rec = .ok (p, typ, ⟨v, .cbc dec mac, st', seq'⟩) := by
  have hv11 : ¬ (v ≥ VersionTLS11) := Nat.not_le.mpr hv
  obtain ⟨rec, st', h1, h2, -, h4⟩ := decrypt_encrypt_cbc enc dec ok hc mac hm hbs hbs' v
    (fun e => by rw [e] at hv; exact absurd hv (by decide)) st (fun _ => hok) seq seq' hs typ v1 v2 p rand
    (fun h => absurd h hv11) hlen
  rw [if_neg hv11] at h1
  exact ⟨rec, st', h1, h2, h4⟩

/-- **CBC + MAC, TLS ≥ 1.1 (explicit IV)**: the IV is one block read from `rand` and sent in front
    of the ciphertext; the reader installs it with `SetIV`, so only the sequence number has to agree. -/
theorem decrypt_encrypt_cbc11 {σ} (enc dec : Cbc σ) (ok : σ → Prop) (hc : CbcLaws enc dec ok) (mac : Mac)
    (hm : MacLaws mac) (hbs : 0 < enc.blockSize) (hbs' : enc.blockSize ≤ 256)
    (v : Nat) (hv : v ≥ VersionTLS11) (hv13 : v ≠ VersionTLS13) (st : σ) (seq seq' : Bytes)
    (hs : incSeq seq = .ok seq') (typ v1 v2 : UInt8) (p rand : Bytes) (hrand : enc.blockSize ≤ rand.length)
    (hlen : p.length + mac.size + 256 ≤ 2^31) :
    ∃ rec st',
      encrypt ⟨v, .cbc enc mac, st, seq⟩ ([typ, v1, v2] ++ be16 p.length) p rand
        = .ok (rec, ⟨v, .cbc enc mac, st', seq'⟩, rand.drop enc.blockSize) ∧
      (rec.drop 5).take enc.blockSize = rand.take enc.blockSize ∧
      decrypt ⟨v, .cbc dec mac, st, seq⟩ rec = .ok (p, typ, ⟨v, .cbc dec mac, st', seq'⟩) := by
  obtain ⟨rec, st', h1, -, h3, h4⟩ := decrypt_encrypt_cbc enc dec ok hc mac hm hbs hbs' v hv13 st
    (fun h => absurd hv (Nat.not_le.mpr h)) seq seq' hs typ v1 v2 p rand (fun _ => hrand) hlen
  rw [if_pos hv] at h1
  exact ⟨rec, st', h1, h3 hv, h4⟩

/-! ### fragmentation (writeRecordLocked) and the read-side length check -/

theorem writeLoop_spec {σ} (c : Conn σ) (typ : UInt8) (data rand : Bytes) (n : Nat) (acc facc : List Bytes) :
    ∀ (w : WriteOut σ), writeLoop c typ data rand n acc facc = .ok w →
    ∃ fs, w.frags = facc.reverse ++ fs ∧ fs.flatten = data ∧ (∀ f ∈ fs, 1 ≤ f.length ∧ f.length ≤ 2 ^ 14) ∧
      w.n = n + data.length ∧ w.records.length = acc.length + fs.length := by
  fun_induction writeLoop c typ data rand n acc facc
  case case1 =>  -- nothing left to write
    intro w h
    cases h
    exact ⟨[], by simp⟩
  case case2 =>  -- `maxPayload ≤ 0`: panic
    intro w h
    cases h
  -- one record of `m` bytes encrypted, the loop goes on with `data.drop m`
  case case3 hd tl maxPayload pkts hmp hm vers rec hc' rand' sent m hdr henc ih =>
    intro w h
    simp only [hdr, m, vers, dite_eq_ite] at henc
    simp only [henc] at h
    obtain ⟨fs, h1, h2, h3, h4, h5⟩ := ih w h
    have hmax : (maxPayload, pkts).1 ≤ 2 ^ 14 := hmp ▸ maxPayload_le_2_14 _ typ
    obtain ⟨hm1, hm2, hm3⟩ : 1 ≤ m ∧ m ≤ 2 ^ 14 ∧ m ≤ (hd :: tl).length := by
      simp only [m, List.length_cons, dite_eq_ite]
      split <;> omega
    refine ⟨(hd :: tl).take m :: fs, by rw [h1]; simp, by rw [List.flatten_cons, h2, List.take_append_drop],
      List.forall_mem_cons.mpr ⟨by rw [List.length_take_of_le hm3]; exact ⟨hm1, hm2⟩, h3⟩, ?_, ?_⟩
    · rw [h4, List.length_drop, Nat.add_assoc, Nat.add_sub_of_le hm3]
    · rw [h5, List.length_cons, List.length_cons, Nat.add_assoc, Nat.add_comm 1]
  case case4 henc | case5 henc =>  -- `encrypt` fails or panics
    intro w h
    simp +zetaDelta only [dite_eq_ite] at henc
    simp only [henc] at h
    cases h

/-- **fragment_concat / fragment_le**: whatever `Write` hands to `writeRecordLocked`, the plaintext
    fragments the loop encrypts concatenate to exactly the input, each is non-empty and at most 2^14
    bytes, one record is produced per fragment, and the returned count is the input length. -/
theorem fragment_concat_le {σ} (c : Conn σ) (typ : UInt8) (data rand : Bytes) (w : WriteOut σ)
    (h : writeRecordLocked c typ data rand = .ok w) :
    w.frags.flatten = data ∧ (∀ f ∈ w.frags, 1 ≤ f.length ∧ f.length ≤ 2 ^ 14) ∧
      w.n = data.length ∧ w.records.length = w.frags.length := by
  obtain ⟨fs, h1, h2, h3, h4, h5⟩ := writeLoop_spec c typ data rand 0 [] [] w (writeRecordLocked_ok h)
  rw [List.reverse_nil, List.nil_append] at h1
  rw [h1]
  exact ⟨h2, h3, by omega, by simpa using h5⟩

theorem fragment_concat {σ} (c : Conn σ) (typ : UInt8) (data rand : Bytes) (w : WriteOut σ)
    (h : writeRecordLocked c typ data rand = .ok w) : w.frags.flatten = data :=
  (fragment_concat_le c typ data rand w h).1

theorem fragment_le {σ} (c : Conn σ) (typ : UInt8) (data rand : Bytes) (w : WriteOut σ)
    (h : writeRecordLocked c typ data rand = .ok w) : ∀ f ∈ w.frags, 1 ≤ f.length ∧ f.length ≤ 2 ^ 14 :=
  (fragment_concat_le c typ data rand w h).2.1

/-- **record-length check on the read path**: whatever bytes arrive, application data handed to the
    caller by one `readRecordOrCCS` call is non-empty and at most 2^14 bytes. -/
theorem read_le_2_14 {σ} (c : Conn σ) (raw : Bytes) (input : Bytes) (c' : Conn σ) (rest : Bytes) :
    readRecord c raw = .data input c' rest → 1 ≤ input.length ∧ input.length ≤ 2 ^ 14 := by
  fun_induction readRecord c raw
  -- an ignored record (warning alert, TLS 1.3 change_cipher_spec, empty application data): the answer is that of
  -- the retried call
  case case13 retry ih | case18 retry _ _ _ _ _ ih | case21 retry _ _ _ _ _ ih =>
    intro h
    simp only [retry] at h
    split at h
    · cases h
    · exact ih h
  -- the one `.data` answer: non-empty application data
  case case22 hmax _ _ _ _ _ _ _ _ _ hpos _ =>
    intro h
    injection h with h
    subst h
    exact ⟨Nat.pos_of_ne_zero (by simpa using hpos), Nat.le_of_not_gt hmax⟩
  all_goals exact nofun

/-! ### an accepted record that is not the honest one is a MAC / AEAD forgery -/

/-- the MAC input `seq ‖ type ‖ version ‖ length ‖ payload` determines every field -/
theorem mac_input_injective (s s2 : Bytes) (hs : s.length = 8) (hs2 : s2.length = 8)
    (t v1 v2 t2 w1 w2 : UInt8) (p p2 : Bytes)
    (e : s ++ ([t, v1, v2] ++ be16 p.length) ++ p = s2 ++ ([t2, w1, w2] ++ be16 p2.length) ++ p2) :
    s = s2 ∧ t = t2 ∧ v1 = w1 ∧ v2 = w2 ∧ p = p2 := by
  simp only [List.append_assoc] at e
  obtain ⟨h1, h2⟩ := List.append_inj e (by rw [hs, hs2])
  simp only [be16, List.cons_append, List.nil_append, List.cons.injEq] at h2
  exact ⟨h1, h2.1, h2.2.1, h2.2.2.1, h2.2.2.2.2.2⟩

/-- **tamper_needs_forgery, stream cipher + MAC.** If `decrypt` at sequence number `seq` accepts a
    record — any record: modified, replayed, reordered, injected — then (a) the content type is the
    header's, (b) the decrypted payload is `p' ‖ tag ‖ …` where `p'` is exactly what is delivered and
    `tag` is the MAC over `seq ‖ type ‖ version ‖ len(p') ‖ p'`; and (c) that MAC input coincides with
    the MAC input of an honest `encrypt` call (sequence number `s2`, type `t2`, payload `p2`) only if
    `s2 = seq`, `t2 = typ` and `p2 = p'`. So delivering anything else than the record written at this
    very sequence number needs a valid tag on an input the writer never authenticated. -/
theorem tamper_needs_forgery_stream {σ} (xor : σ → Bytes → Bytes × σ) (mac : Mac)
    (v : Nat) (hv : v ≠ VersionTLS13) (st : σ) (seq : Bytes) (hsq : seq.length = 8)
    (typ v1 v2 l1 l2 : UInt8) (payload p' : Bytes) (t' : UInt8) (hc' : HalfConn σ)
    (h : decrypt ⟨v, .stream xor mac, st, seq⟩ (typ :: v1 :: v2 :: l1 :: l2 :: payload) = .ok (p', t', hc')) :
    t' = typ ∧
    (xor st payload).1.take p'.length = p' ∧
    ((xor st payload).1.drop p'.length).take mac.size
      = mac.sum (seq ++ ([typ, v1, v2] ++ be16 p'.length) ++ p') ∧
    ∀ (s2 : Bytes) (t2 w1 w2 : UInt8) (p2 : Bytes), s2.length = 8 →
      s2 ++ ([t2, w1, w2] ++ be16 p2.length) ++ p2 = seq ++ ([typ, v1, v2] ++ be16 p'.length) ++ p' →
      s2 = seq ∧ t2 = typ ∧ w1 = v1 ∧ w2 = v2 ∧ p2 = p' := by
  obtain ⟨ht, hm⟩ := decrypt_accepted h fun e => hv e.1
  obtain ⟨a1, -, a3, -⟩ := decryptMac_accept mac seq [typ, v1, v2] _ 0 255 p' hm
  exact ⟨ht, a1.symm, a3, fun s2 t2 w1 w2 p2 hs2 e => mac_input_injective s2 seq hs2 hsq t2 w1 w2 typ v1 v2 p2 p' e⟩

/-- **tamper_needs_forgery, CBC + MAC** (implicit or explicit IV): an accepted record decrypts to
    `p' ‖ tag ‖ padding` with `tag = MAC(seq ‖ type ‖ version ‖ len(p') ‖ p')` for exactly the delivered
    `p'` and with `extractPadding` reporting good padding; the MAC input equals an honest one only for
    the same sequence number, type and payload. -/
theorem tamper_needs_forgery_cbc {σ} (c : Cbc σ) (mac : Mac)
    (v : Nat) (hv : v ≠ VersionTLS13) (st : σ) (seq : Bytes) (hsq : seq.length = 8)
    (typ v1 v2 l1 l2 : UInt8) (payload p' : Bytes) (t' : UInt8) (hc' : HalfConn σ)
    (h : decrypt ⟨v, .cbc c mac, st, seq⟩ (typ :: v1 :: v2 :: l1 :: l2 :: payload) = .ok (p', t', hc')) :
    t' = typ ∧
    (cbcDecrypted c v st payload).take p'.length = p' ∧
    ((cbcDecrypted c v st payload).drop p'.length).take mac.size
      = mac.sum (seq ++ ([typ, v1, v2] ++ be16 p'.length) ++ p') ∧
    (extractPadding (cbcDecrypted c v st payload)).2.toNat % 2 = 1 ∧
    ∀ (s2 : Bytes) (t2 w1 w2 : UInt8) (p2 : Bytes), s2.length = 8 →
      s2 ++ ([t2, w1, w2] ++ be16 p2.length) ++ p2 = seq ++ ([typ, v1, v2] ++ be16 p'.length) ++ p' →
      s2 = seq ∧ t2 = typ ∧ w1 = v1 ∧ w2 = v2 ∧ p2 = p' := by
  obtain ⟨ht, hm⟩ := decrypt_accepted h fun e => hv e.1
  obtain ⟨a1, -, a3, a4⟩ := decryptMac_accept mac seq [typ, v1, v2] _ _ _ p' hm
  exact ⟨ht, a1.symm, a3, a4, fun s2 t2 w1 w2 p2 hs2 e => mac_input_injective s2 seq hs2 hsq t2 w1 w2 typ v1 v2 p2 p' e⟩

/-- **tamper_needs_forgery, AEAD in TLS ≤ 1.2.** If `decrypt` at sequence number `seq` accepts a
    record whose header length field matches its payload (as `readRecordOrCCS` guarantees), then `Open`
    succeeded on the triple (nonce, ciphertext, additional data) determined by `seq` and the record; and
    that triple coincides with the triple sealed by ANY honest `encrypt` call — any sequence number `s2`,
    type, version bytes, payload, randomness — only if `s2 = seq` and the honest record is bit for bit
    the accepted one. Hence a modified, dropped, duplicated or reordered record that is accepted is a
    ciphertext forgery against the AEAD: a valid (nonce, ciphertext, AD) never produced by `Seal`. -/
theorem tamper_needs_forgery_aead12 {σ} (a : Aead) (v : Nat) (hv : v ≠ VersionTLS13) (st : σ) (seq : Bytes)
    (hsq : seq.length = 8) (typ v1 v2 l1 l2 : UInt8) (payload p' : Bytes) (t' : UInt8) (hc' : HalfConn σ)
    (hl : [l1, l2] = be16 payload.length)
    (h : decrypt ⟨v, .aead a, st, seq⟩ (typ :: v1 :: v2 :: l1 :: l2 :: payload) = .ok (p', t', hc')) :
    t' = typ ∧
    a.openFn (readerNonce a seq payload) (payload.drop a.explicitNonceLen) (readerAD12 a seq typ v1 v2 payload)
      = some p' ∧
    ∀ (st2 : σ) (s2 s2' : Bytes) (t2 w1 w2 : UInt8) (p2 rand2 : Bytes), s2.length = 8 →
      incSeq s2 = .ok s2' → (a.explicitNonceLen < 16 ∨ a.explicitNonceLen ≤ rand2.length) →
      ∀ rec2 hc2 rand2',
      encrypt ⟨v, .aead a, st2, s2⟩ ([t2, w1, w2] ++ be16 p2.length) p2 rand2 = .ok (rec2, hc2, rand2') →
      (readerNonce a seq payload, payload.drop a.explicitNonceLen, readerAD12 a seq typ v1 v2 payload) =
        ((if (aeadExplicitNonce a s2 rand2).length == 0 then s2 else aeadExplicitNonce a s2 rand2),
         a.sealFn (if (aeadExplicitNonce a s2 rand2).length == 0 then s2 else aeadExplicitNonce a s2 rand2) p2
           (s2 ++ [t2, w1, w2, UInt8.ofNat (p2.length / 256), UInt8.ofNat p2.length]),
         s2 ++ [t2, w1, w2, UInt8.ofNat (p2.length / 256), UInt8.ofNat p2.length]) →
      s2 = seq ∧ rec2 = typ :: v1 :: v2 :: l1 :: l2 :: payload := by
  obtain ⟨a2, inner, a3, h13⟩ := decrypt_accepted h fun e => hv e.1
  rw [decrypt13_other v hv] at h13
  cases h13
  rw [if_neg (by simpa using hv)] at a3
  refine ⟨rfl, a3, ?_⟩
  intro st2 s2 s2' t2 w1 w2 p2 rand2 hs2 hinc hr rec2 hc2 rand2' henc htriple
  obtain ⟨rand3, heq⟩ := encrypt_aead12_eq a v hv st2 s2 s2' hinc t2 w1 w2
    (UInt8.ofNat (p2.length / 256)) (UInt8.ofNat p2.length) p2 rand2 hr
  rw [be16_nat] at henc
  simp only [List.cons_append, List.nil_append] at henc heq
  rw [heq] at henc
  simp only [Res.ok.injEq, Prod.mk.injEq] at henc
  obtain ⟨hrec, _, _⟩ := henc
  simp only [Prod.mk.injEq] at htriple
  obtain ⟨hn, hct, had⟩ := htriple
  have hen2 := aeadExplicitNonce_length a s2 rand2 hr
  generalize aeadExplicitNonce a s2 rand2 = en2 at *
  -- additional data: sequence number, type, version
  obtain ⟨hs, ht, hw1, hw2, -⟩ := (ad_layout seq s2 typ v1 v2 t2 w1 w2 _ p2.length hsq hs2).2
    (had.trans (by rw [be16_nat, List.append_assoc]; rfl))
  -- explicit nonce
  have hen : payload.take a.explicitNonceLen = en2 := by
    unfold readerNonce at hn
    by_cases h0 : a.explicitNonceLen = 0
    · rw [h0]; rw [h0] at hen2
      simp [List.eq_nil_of_length_eq_zero hen2]
    · have l1' : (payload.take a.explicitNonceLen).length = a.explicitNonceLen := by
        rw [List.length_take]; omega
      have b1 : ((payload.take a.explicitNonceLen).length == 0) = false := by
        rw [l1']; exact beq_false_of_ne h0
      have b2 : (en2.length == 0) = false := by rw [hen2]; exact beq_false_of_ne h0
      rw [b1, b2] at hn
      simpa using hn
  refine ⟨hs.symm, ?_⟩
  rw [← hrec, ← hct, ← hen, List.take_append_drop, ← ht, ← hw1, ← hw2]
  have : be16 (payload.length : Nat) = [l1, l2] := hl.symm
  simp only [this, List.cons_append, List.nil_append]

/-- what the TLS 1.3 inner-plaintext scan returns: the inner plaintext is `p' ‖ t' ‖ 0…0` with
    `t' ≠ 0`, or it is empty (then the outer type and no data are returned). -/
theorem decrypt13_spec (typ : UInt8) (inner p' : Bytes) (t' : UInt8)
    (h : decrypt13 VersionTLS13 typ inner = .ok (t', p')) :
    typ = recordTypeApplicationData ∧ inner.length ≤ maxPlaintext + 1 ∧
    ((inner = [] ∧ p' = [] ∧ t' = typ) ∨ (t' ≠ 0 ∧ ∃ k, inner = p' ++ [t'] ++ List.replicate k 0)) := by
  unfold decrypt13 at h
  simp only [beq_self_eq_true, if_true] at h
  obtain ⟨htyp, h⟩ := guard_ok h
  obtain ⟨hlen, h⟩ := guard_ok h
  refine ⟨by simpa using htyp, by omega, ?_⟩
  split at h
  · simp only [Res.ok.injEq, Prod.mk.injEq] at h
    exact .inl ⟨rfl, h.2.symm, h.1.symm⟩
  · split at h
    · cases h
    · rename_i t rest hs
      simp only [Res.ok.injEq, Prod.mk.injEq] at h
      obtain ⟨h1, h2⟩ := h
      subst h1; subst h2
      obtain ⟨hne, k, hk⟩ := strip13Rev_spec _ _ _ hs
      exact .inr ⟨hne, k, by simpa using congrArg List.reverse hk⟩

/-- **tamper_needs_forgery, TLS 1.3.** An accepted protected record (outer type ≠ change_cipher_spec,
    which TLS 1.3 passes through unauthenticated for middlebox compatibility and `readRecordOrCCS`
    then drops) has outer type application_data, `Open` succeeded under nonce = sequence number and
    additional data = the record header, and the inner plaintext is `p' ‖ t' ‖ 0…0`. The (nonce,
    ciphertext, AD) triple equals the one sealed by an honest `encrypt` at sequence number `s2` only if
    `s2 = seq` and the honest record is bit for bit the accepted one. -/
theorem tamper_needs_forgery_tls13 {σ} (a : Aead) (he : a.explicitNonceLen = 0) (st : σ) (seq : Bytes)
    (typ v1 v2 l1 l2 : UInt8) (hccs : typ ≠ recordTypeChangeCipherSpec)
    (payload p' : Bytes) (t' : UInt8) (hc' : HalfConn σ) (hl : [l1, l2] = be16 payload.length)
    (h : decrypt ⟨VersionTLS13, .aead a, st, seq⟩ (typ :: v1 :: v2 :: l1 :: l2 :: payload) = .ok (p', t', hc')) :
    typ = recordTypeApplicationData ∧
    (∃ inner, a.openFn seq payload [typ, v1, v2, l1, l2] = some inner ∧
      ((inner = [] ∧ p' = [] ∧ t' = typ) ∨ (t' ≠ 0 ∧ ∃ k, inner = p' ++ [t'] ++ List.replicate k 0))) ∧
    ∀ (st2 : σ) (s2 s2' : Bytes) (t2 w1 w2 : UInt8) (p2 rand2 : Bytes), incSeq s2 = .ok s2' →
      ∀ rec2 hc2 rand2',
      encrypt ⟨VersionTLS13, .aead a, st2, s2⟩ ([t2, w1, w2] ++ be16 p2.length) p2 rand2 = .ok (rec2, hc2, rand2') →
      (seq, payload, [typ, v1, v2, l1, l2]) =
        (s2, a.sealFn s2 (p2 ++ [t2])
              ([recordTypeApplicationData, w1, w2] ++ be16 ((p2.length : Int) + 1 + a.overhead)),
         [recordTypeApplicationData, w1, w2] ++ be16 ((p2.length : Int) + 1 + a.overhead)) →
      s2 = seq ∧ rec2 = typ :: v1 :: v2 :: l1 :: l2 :: payload := by
  obtain ⟨-, inner, hopen, hd13⟩ := decrypt_accepted h fun e => hccs e.2
  obtain ⟨b1, -, b3⟩ := decrypt13_spec typ inner _ _ hd13
  refine ⟨b1, ⟨inner, by simpa [readerNonce, he] using hopen, b3⟩, ?_⟩
  intro st2 s2 s2' t2 w1 w2 p2 rand2 hinc rec2 hc2 rand2' henc htriple
  simp only [be16_nat, List.cons_append, List.nil_append,
    encrypt_tls13_eq a he st2 s2 s2' hinc t2 w1 w2 _ _ p2 rand2 _ rfl, Res.ok.injEq, Prod.mk.injEq] at henc
  obtain ⟨hrec, _, _⟩ := henc
  simp only [Prod.mk.injEq, List.cons_append, List.nil_append] at htriple
  obtain ⟨hs, hct, hhdr⟩ := htriple
  refine ⟨hs.symm, ?_⟩
  rw [← hrec, ← hct]
  simp only [List.cons.injEq] at hhdr
  obtain ⟨e1, e2, e3, _⟩ := hhdr
  rw [be16_nat] at hl
  simp only [List.cons.injEq, and_true] at hl
  rw [← b1, ← e2, ← e3, ← hl.1, ← hl.2]

/-! ### transport segmentation (readFromUntil / atLeastReader), for ALL segmentations -/

/-- **no byte lost, duplicated or reordered by readFromUntil**, whatever chunks the transport's `Read`
    returns (any sizes, empty reads included): it either returns with at least `n` bytes buffered and
    `rawInput ++ (transport still to come)` unchanged, or it has moved the whole transport into
    `rawInput` and reports io.ErrUnexpectedEOF — exactly when fewer than `n` bytes exist in total. -/
theorem transport_no_loss (raw : Bytes) (n : Nat) (chunks : List Bytes) :
    (∃ raw' cs', readFromUntil raw n chunks = (raw', cs', none) ∧
        raw' ++ cs'.flatten = raw ++ chunks.flatten ∧ n ≤ raw'.length) ∨
    (readFromUntil raw n chunks = (raw ++ chunks.flatten, [], some .unexpectedEOF) ∧
        (raw ++ chunks.flatten).length < n) :=
  readFromUntil_cases raw n chunks

/-- **record framing is a function of the byte stream alone**: the record `fetch` cuts off (or the
    error it reports) is the one `fetchS` computes from `rawInput ++ transport` without any transport. -/
theorem fetch_chunking_independent {σ} (c : Conn σ) (raw : Bytes) (chunks : List Bytes) :
    absF (fetch c raw chunks) = fetchS c (raw ++ chunks.flatten) :=
  fetch_eq_fetchS c raw chunks

/-- **one readRecordOrCCS call, any two segmentations of the same bytes** (same connection state, same
    `rawInput ++ transport`): same result — delivered data / handshake / cipher change / error class —
    and again the same connection state and the same bytes to come. -/
theorem readRecordOrCCS_chunking_independent {σ} (a b : RState σ) (e : Bool) (hc : a.core = b.core)
    (ht : a.raw ++ a.chunks.flatten = b.raw ++ b.chunks.flatten) :
    (readRecordOrCCS a e = none ∧ readRecordOrCCS b e = none) ∨
    (∃ a' b' o, readRecordOrCCS a e = some (a', o) ∧ readRecordOrCCS b e = some (b', o) ∧ a'.core = b'.core ∧
      (a'.core.inErr = none → a'.raw ++ a'.chunks.flatten = b'.raw ++ b'.chunks.flatten)) :=
  readLoop_sim e (maxUselessRecords + 1) a b ⟨hc, fun _ => ht⟩

/-- **the central statement, read side: for ANY split of the byte stream into transport reads** the
    application data delivered by any number `n` of `readRecord` calls (the loop of `Conn.Read`) and the
    error that ends it are those obtained with all bytes in memory. -/
theorem read_chunking_independent {σ} (n : Nat) (k : RCore σ) (raw : Bytes) (chunks : List Bytes) :
    readAll n ⟨k, raw, chunks⟩ = readAll n ⟨k, raw ++ chunks.flatten, []⟩ :=
  readAll_sim n _ _ ⟨rfl, fun _ => by simp⟩

/-- … in particular any two segmentations of the same stream deliver the same. -/
theorem read_any_two_chunkings {σ} (n : Nat) (k : RCore σ) (cs cs' : List Bytes) (h : cs.flatten = cs'.flatten) :
    readAll n ⟨k, [], cs⟩ = readAll n ⟨k, [], cs'⟩ := by
  rw [read_chunking_independent, read_chunking_independent n k [] cs', h]

/-! ### what is delivered, and what an authentication failure does -/

/-- **nothing is delivered from a record that fails authentication**: if `decrypt` rejects the record
    (MAC, padding, AEAD tag, length, TLS 1.3 inner plaintext), readRecordOrCCS delivers nothing, sends the
    alert `decryptAlert` names and stores the error. -/
theorem reject_delivers_nothing {σ} (k : RCore σ) (e : Bool) (r : Bytes) (h : decrypt k.c.hc r = .err) :
    process k e r = .done { k with inErr := some (.localAlert (decryptAlert k.c.hc r)) }
      (.err (.localAlert (decryptAlert k.c.hc r))) := by
  simp only [process, h, failStep]

/-- **delivered data is exactly the plaintext of a record `decrypt` accepted** at the current read
    state, of inner type application_data, after the handshake, 1 to 2^14 bytes long — so by the
    `tamper_needs_forgery_*` theorems it is the data of the honest record at this sequence number, or a
    MAC/AEAD forgery. -/
theorem delivered_is_authenticated {σ} (k k' : RCore σ) (e : Bool) (r d : Bytes)
    (h : process k e r = .done k' (.data d)) :
    e = false ∧ k.c.handshakeComplete = true ∧
    (∃ hc', decrypt k.c.hc r = .ok (d, recordTypeApplicationData, hc') ∧ k'.c.hc = hc') ∧
    1 ≤ d.length ∧ d.length ≤ 2 ^ 14 ∧ k'.input = d :=
  show Processed k e r (.done k' (.data d)) from h ▸ process_processed k e r

/-- **errors are sticky**: every error readRecordOrCCS reports is stored in `c.in.err` … -/
theorem error_is_stored {σ} (k k' : RCore σ) (e : Bool) (r : Bytes) (er : ErrK)
    (h : process k e r = .done k' (.err er)) : k'.inErr = some er :=
  show Processed k e r (.done k' (.err er)) from h ▸ process_processed k e r

/-- … and with a stored error every later call returns it without touching the transport or the state. -/
theorem stored_error_returned {σ} (s : RState σ) (e : Bool) (er : ErrK) (h : s.core.inErr = some er) :
    readRecordOrCCS s e = some (s, .err er) := by
  simp [readRecordOrCCS, readLoop, readStep, h]

/-- a call with undelivered application data is refused -/
theorem pending_input_refused {σ} (s : RState σ) (e : Bool) (h : s.core.inErr = none) (hi : s.core.input ≠ []) :
    ∃ s', readRecordOrCCS s e = some (s', .err .pendingInput) := by
  have : (s.core.input.length != 0) = true := by
    cases hl : s.core.input with
    | nil => exact absurd hl hi
    | cons _ _ => simp
  simp [readRecordOrCCS, readLoop, readStep, h, this]

/-! ### which alert for which failure -/

/-- below TLS 1.3 every failure of `decrypt` is reported as bad_record_mac: a short record, bad CBC
    padding and a bad MAC are indistinguishable by the alert. -/
theorem decryptAlert_le12 {σ} (hc : HalfConn σ) (r : Bytes) (hv : hc.version ≠ VersionTLS13) :
    decryptAlert hc r = alertBadRecordMAC :=
  decryptAlert_cases hc r (· = alertBadRecordMAC) rfl fun t p h => absurd (decrypt13_other _ hv t p) (h _)

/-- in every version the alert of a failing decrypt is one of bad_record_mac, unexpected_message,
    record_overflow -/
theorem decryptAlert_mem {σ} (hc : HalfConn σ) (r : Bytes) :
    decryptAlert hc r = alertBadRecordMAC ∨ decryptAlert hc r = alertUnexpectedMessage ∨
      decryptAlert hc r = alertRecordOverflow := by
  refine decryptAlert_cases hc r (fun a => a = alertBadRecordMAC ∨ a = alertUnexpectedMessage ∨ a = alertRecordOverflow)
    (.inl rfl) fun t p _ => .inr ?_
  unfold decrypt13Alert
  split
  · left; rfl
  · split
    · right; rfl
    · left; rfl

/-- T1: the model's constants are the ones in the tree (tls/common.go, tls/conn.go, tls/alert.go),
    re-extracted on every run -/
theorem constants_match_tree :
    maxPlaintext = Gen.maxPlaintext ∧ maxCiphertext = Gen.maxCiphertext ∧
    maxCiphertextTLS13 = Gen.maxCiphertextTLS13 ∧ recordHeaderLen = Gen.recordHeaderLen ∧
    maxUselessRecords = Gen.maxUselessRecords ∧ tcpMSSEstimate = Gen.tcpMSSEstimate ∧
    recordSizeBoostThreshold = Gen.recordSizeBoostThreshold ∧
    recordTypeChangeCipherSpec.toNat = Gen.recordTypeChangeCipherSpec ∧ recordTypeAlert.toNat = Gen.recordTypeAlert ∧
    recordTypeHandshake.toNat = Gen.recordTypeHandshake ∧ recordTypeApplicationData.toNat = Gen.recordTypeApplicationData ∧
    VersionTLS10 = Gen.versionTLS10 ∧ VersionTLS11 = Gen.versionTLS11 ∧ VersionTLS12 = Gen.versionTLS12 ∧
    VersionTLS13 = Gen.versionTLS13 := by decide

/-- T1: the alert numbers the model uses are the values of the named constants of tls/alert.go -/
theorem alerts_match_tree :
    Gen.alertValue "AlertCloseNotify" = some alertCloseNotify ∧
    Gen.alertValue "AlertUnexpectedMessage" = some alertUnexpectedMessage ∧
    Gen.alertValue "AlertBadRecordMAC" = some alertBadRecordMAC ∧
    Gen.alertValue "AlertRecordOverflow" = some alertRecordOverflow ∧
    Gen.alertValue "AlertDecodeError" = some alertDecodeError ∧
    Gen.alertValue "AlertProtocolVersion" = some alertProtocolVersion ∧
    Gen.alertValue "AlertInternalError" = some alertInternalError ∧
    Gen.alertLevelWarning = alertLevelWarning.toNat ∧ Gen.alertLevelError = alertLevelError.toNat := by decide +kernel

/-- T1 (go/ast): the alerts named at the `sendAlert` / `return …, Alert…` sites of readRecordOrCCS,
    retryReadRecord, decrypt and changeCipherSpec in the tree are, site by site in source order, the ones
    the model sends there. -/
theorem alert_sites_match_tree :
    Gen.alertSites "readRecordOrCCS" =
      ["AlertProtocolVersion", "AlertProtocolVersion", "AlertRecordOverflow", "err", "AlertRecordOverflow",
       "AlertUnexpectedMessage", "AlertUnexpectedMessage", "AlertUnexpectedMessage", "AlertUnexpectedMessage",
       "AlertUnexpectedMessage", "AlertDecodeError", "AlertUnexpectedMessage", "AlertUnexpectedMessage", "err",
       "AlertUnexpectedMessage", "AlertUnexpectedMessage"] ∧
    Gen.alertSites "retryReadRecord" = ["AlertUnexpectedMessage"] ∧
    Gen.alertSites "decrypt" =
      ["AlertBadRecordMAC", "AlertBadRecordMAC", "AlertBadRecordMAC", "AlertUnexpectedMessage", "AlertRecordOverflow",
       "AlertUnexpectedMessage", "AlertBadRecordMAC", "AlertBadRecordMAC"] ∧
    Gen.alertSites "changeCipherSpec" = ["AlertInternalError"] := by decide +kernel

/-! ### the cipher change (read side and write side) and the retry bound -/

/-- `halfConn.changeCipherSpec`: only below TLS 1.3 and with a pending cipher; the sequence number
    restarts at zero (same length), the pending cipher and its state are installed. -/
theorem changeCipherSpec_resets_seq {σ} (hc hc2 : HalfConn σ) (next : Option (Cipher σ × σ))
    (h : changeCipherSpec hc next = some hc2) :
    (∀ b ∈ hc2.seq, b = 0) ∧ hc2.seq.length = hc.seq.length ∧ hc.version ≠ VersionTLS13 ∧
    hc2.version = hc.version ∧ ∃ st, next = some (hc2.cipher, st) ∧ hc2.st = st := by
  unfold changeCipherSpec at h
  split at h
  · cases h
  · cases h
  · rename_i ci st hnn
    split at h
    · cases h
    · rename_i hv
      cases h
      refine ⟨?_, by simp, by simpa using hv, rfl, st, rfl, rfl⟩
      intro b hb
      simp at hb
      exact hb.2.symm

/-- **read side**: a cipher change happens only when it is expected, below TLS 1.3, on an accepted
    record of type change_cipher_spec with body `[1]`; afterwards the pending cipher is consumed and the
    read sequence number is zero. -/
theorem read_cipher_change {σ} (k k' : RCore σ) (e : Bool) (r : Bytes) (h : process k e r = .done k' .ccs) :
    e = true ∧ k.c.vers ≠ VersionTLS13 ∧ k'.next = none ∧ (∀ b ∈ k'.c.hc.seq, b = 0) ∧
    ∃ d hc', decrypt k.c.hc r = .ok (d, recordTypeChangeCipherSpec, hc') ∧ d = [1] ∧
      changeCipherSpec hc' k.next = some k'.c.hc := by
  obtain ⟨h1, h2, h3, hc', h4, h5⟩ : Processed k e r (.done k' .ccs) := h ▸ process_processed k e r
  exact ⟨h1, h2, h3, (changeCipherSpec_resets_seq _ _ _ h5).1, [1], hc', h4, rfl, h5⟩

/-- **limit on consecutive non-advancing records**: every dropped record (warning alert, empty
    application data, TLS 1.3 change_cipher_spec) increments `retryCount`, and the count never exceeds
    `maxUselessRecords` = 16 … -/
theorem ignored_record_counts {σ} (k k' : RCore σ) (e : Bool) (r : Bytes) (h : process k e r = .retry k') :
    k'.c.retryCount = k.c.retryCount + 1 ∧ k'.c.retryCount ≤ 16 :=
  show Processed k e r (.retry k') from h ▸ process_processed k e r

theorem readStep_retry_counts {σ} (s s' : RState σ) (e : Bool) (h : readStep s e = .retry s') :
    s'.core.c.retryCount = s.core.c.retryCount + 1 ∧ s'.core.c.retryCount ≤ 16 := by
  unfold readStep at h
  split at h
  · cases h
  · split at h
    · cases h
    · split at h
      · cases h
      · rename_i rec rest cs hf
        cases hp : process s.core e rec with
        | done k o => rw [hp] at h; cases h
        | retry k => rw [hp] at h; cases h; exact ignored_record_counts _ _ _ _ hp
        | panic => rw [hp] at h; cases h

/-- … hence the fuel of `readLoop` is never the reason for its result: any two amounts of fuel that
    cover the remaining `maxUselessRecords + 1 - retryCount` passes give the same result
    (`readRecordOrCCS` uses `maxUselessRecords + 1`). -/
theorem readLoop_fuel {σ} (e : Bool) (f1 : Nat) : ∀ (f2 : Nat) (s : RState σ), 1 ≤ f1 → 1 ≤ f2 →
    17 ≤ f1 + s.core.c.retryCount → 17 ≤ f2 + s.core.c.retryCount → readLoop e f1 s = readLoop e f2 s := by
  induction f1 with
  | zero => intro f2 s h; omega
  | succ n ih =>
    intro f2 s _ h2 h3 h4
    cases f2 with
    | zero => omega
    | succ m =>
      unfold readLoop
      cases hs : readStep s e with
      | done s' o => rfl
      | panic => rfl
      | retry s' =>
        simp only []
        obtain ⟨r1, r2⟩ := readStep_retry_counts s s' e hs
        exact ih m s' (by omega) (by omega) (by omega) (by omega)

/-- **write side** (`writeRecordLocked` with a pending cipher): the fragments still concatenate to the
    input; after a ChangeCipherSpec record below TLS 1.3 the pending cipher is installed with sequence
    number zero, and if none is pending an internal_error alert `[2, 80]` is what goes out. -/
theorem write_cipher_change {σ} (c : Conn σ) (next : Option (Cipher σ × σ)) (typ : UInt8) (data rand : Bytes)
    (we : WriteEnd σ) (h : writeRecordLockedN c next typ data rand = .ok we) :
    match we with
    | .plain w => writeLoop c typ data rand 0 [] [] = .ok w ∧
        ¬ (typ = recordTypeChangeCipherSpec ∧ c.vers ≠ VersionTLS13)
    | .switched w => typ = recordTypeChangeCipherSpec ∧ c.vers ≠ VersionTLS13 ∧ w.frags.flatten = data ∧
        (∀ b ∈ w.conn.hc.seq, b = 0) ∧ ∃ st, next = some (w.conn.hc.cipher, st) ∧ w.conn.hc.st = st
    | .ccsFailed w al => typ = recordTypeChangeCipherSpec ∧ c.vers ≠ VersionTLS13 ∧ w.frags.flatten = data ∧
        changeCipherSpec w.conn.hc next = none ∧
        al = writeLoop w.conn recordTypeAlert [2, 80] w.rand 0 [] [] := by
  have hiff : (typ == recordTypeChangeCipherSpec && c.vers != VersionTLS13) = true ↔
      typ = recordTypeChangeCipherSpec ∧ c.vers ≠ VersionTLS13 := by simp
  unfold writeRecordLockedN at h
  split at h
  · rename_i w hw
    obtain ⟨fs, h1, h2, -⟩ := writeLoop_spec c typ data rand 0 [] [] w hw
    rw [List.reverse_nil, List.nil_append] at h1
    rw [← h1] at h2
    split at h
    · rename_i hcond
      split at h
      · rename_i hcs
        cases h
        obtain ⟨a1, -, -, -, a5⟩ := changeCipherSpec_resets_seq _ _ _ hcs
        exact ⟨(hiff.mp hcond).1, (hiff.mp hcond).2, h2, a1, a5⟩
      · rename_i hcs
        cases h
        exact ⟨(hiff.mp hcond).1, (hiff.mp hcond).2, h2, hcs, rfl⟩
    · rename_i hcond
      cases h
      exact ⟨hw, mt hiff.mpr hcond⟩
  · cases h
  · cases h

/-- **Conn.Write, including the TLS 1.0 1/n-1 split**: however `Write` cuts its argument into
    `writeRecordLocked` calls, the plaintext fragments concatenate to exactly the argument, each is 1 to
    2^14 bytes, the returned count is the argument's length; and when the split applies (TLS 1.0, block
    cipher, more than one byte, mitigation not disabled) the first record carries exactly one byte. -/
theorem connWrite_spec {σ} (c : Conn σ) (dis : Bool) (b rand : Bytes) (n : Nat) (w1 : Option (WriteOut σ))
    (w2 : WriteOut σ) (h : connWrite c dis b rand = .ok (n, w1, w2)) :
    n = b.length ∧
    ((match w1 with | some w => w.frags | none => []) ++ w2.frags).flatten = b ∧
    (∀ f ∈ (match w1 with | some w => w.frags | none => []) ++ w2.frags, 1 ≤ f.length ∧ f.length ≤ 2 ^ 14) ∧
    ((b.length > 1 ∧ c.vers = VersionTLS10 ∧ dis = false ∧ isCbc c.hc.cipher = true) →
      ∃ w, w1 = some w ∧ w.frags = [b.take 1]) := by
  unfold connWrite at h
  split at h
  · rename_i hcond
    have hb : 1 < b.length := by simp at hcond; exact hcond.1.1.1
    split at h
    · rename_i x1 h1
      split at h
      · rename_i x2 h2
        cases h
        obtain ⟨a1, a2, -⟩ := fragment_concat_le _ _ _ _ _ h1
        obtain ⟨b1, b2, b3, -⟩ := fragment_concat_le _ _ _ _ _ h2
        refine ⟨by rw [b3, List.length_drop, Nat.sub_add_cancel (Nat.le_of_lt hb)], by rw [List.flatten_append, a1, b1, List.take_append_drop],
          fun f hf => (List.mem_append.mp hf).elim (a2 f) (b2 f), fun _ => ⟨x1, rfl, ?_⟩⟩
        -- non-empty fragments that concatenate to a single byte are a single fragment
        have hl : x1.frags.flatten.length = 1 := by rw [a1, List.length_take]; omega
        match hfr : x1.frags with
        | [] => rw [hfr] at hl; cases hl
        | [f] => rw [hfr] at a1; simpa using a1
        | f :: g :: tl =>
          rw [hfr] at hl a2
          have := (a2 f (by simp)).1
          have := (a2 g (by simp)).1
          simp only [List.flatten_cons, List.length_append] at hl
          omega
      · cases h
      · cases h
    · cases h
    · cases h
  · rename_i hcond
    split at h
    · rename_i x h1
      cases h
      obtain ⟨a1, a2, a3, -⟩ := fragment_concat_le _ _ _ _ _ h1
      exact ⟨a3, a1, a2, fun ⟨c1, c2, c3, c4⟩ => absurd (by simp [c1, c2, c3, c4]) hcond⟩
    · cases h
    · cases h


section examples
open Toy
/-! ### the hypotheses are satisfiable: instantiation with the toy primitives of the correspondence check -/

def seq0 : Bytes := [0, 0, 0, 0, 0, 0, 1, 255]
def seq1 : Bytes := [0, 0, 0, 0, 0, 0, 2, 0]
example : incSeq seq0 = .ok seq1 := by decide
example : incSeq [255, 255, 255, 255, 255, 255, 255, 255] = .panic := by decide
example : beNat seq0 = 511 ∧ beNat seq1 = 512 := by decide

example : extractPadding [7, 7, 2, 2, 2] = (3, 255) ∧ extractPadding [7, 7, 2, 1, 2] = (1, 0) ∧
    extractPadding [9] = (1, 0) ∧ extractPadding [0] = (1, 255) := by decide

/-- stream + MAC round trip, hypotheses instantiated: toy XOR stream, HMAC-SHA1 -/
example := decrypt_encrypt_stream (streamXor [1, 2, 3]) (hmacMac ZV.Hash.HashAlg.sha1 [9]) (toy_stream_laws _)
    (hmac_sha1_laws _) 0x0303 (by decide) ⟨5, []⟩ seq0 seq1 (by decide) 23 3 3 [10, 20, 30] []

/-- AEAD TLS 1.2 round trip: real prefix-nonce wrapper around the toy AEAD -/
example := decrypt_encrypt_aead12 (σ := St)
    (prefixNonceAEAD (toyAead [1, 2] 16) [1, 2, 3, 4, 0, 0, 0, 0, 0, 0, 0, 0]) (toy_prefix_laws _ _ _)
    0x0303 (by decide) ⟨0, []⟩ seq0 seq1 (by decide) 23 3 3 [10, 20] [] (Or.inl (by decide))

/-- TLS 1.3 round trip: real xor-nonce wrapper around the toy AEAD -/
example := decrypt_encrypt_tls13 (σ := St)
    (xorNonceAEAD (toyAead [1, 2] 16) [1, 2, 3, 4, 5, 6, 7, 8, 9, 10, 11, 12]) (toy_xor_laws _ _ _) rfl
    ⟨0, []⟩ seq0 seq1 (by decide) 23 3 3 (by decide) [10, 20] [] (by decide)

/-- CBC round trips with the toy block cipher in (model) CBC mode, HMAC-SHA1 -/
example := decrypt_encrypt_cbc10 (toyCbc [1, 2, 3, 4, 5, 6, 7, 8] false) (toyCbc [1, 2, 3, 4, 5, 6, 7, 8] true) _
    (toy_cbc_laws _ (by decide)) (hmacMac ZV.Hash.HashAlg.sha1 [9]) (hmac_sha1_laws _) (by decide) (by decide)
    0x0301 (by decide) ⟨0, [8, 7, 6, 5, 4, 3, 2, 1]⟩ (by decide) seq0 seq1 (by decide) 23 3 1 [10, 20] [] (by decide)

example := decrypt_encrypt_cbc11 (toyCbc [1, 2, 3, 4, 5, 6, 7, 8] false) (toyCbc [1, 2, 3, 4, 5, 6, 7, 8] true) _
    (toy_cbc_laws _ (by decide)) (hmacMac ZV.Hash.HashAlg.sha1 [9]) (hmac_sha1_laws _) (by decide) (by decide)
    0x0303 (by decide) (by decide) ⟨0, []⟩ seq0 seq1 (by decide) 23 3 3 [10, 20] (List.replicate 8 7)
    (by decide) (by decide)

/-- the acceptance hypothesis of the tamper theorems is satisfiable (identity stream, empty MAC) -/
example : decrypt (σ := Unit) ⟨0x0303, .stream (fun s b => (b, s)) ⟨0, fun _ => []⟩, (), seq0⟩ [23, 3, 3, 0, 1, 42]
    = .ok ([42], 23, ⟨0x0303, .stream (fun s b => (b, s)) ⟨0, fun _ => []⟩, (), seq1⟩) := rfl

/-- transport theorems instantiated: a 9-byte stream in three chunks (one empty), header then body -/
example : readFromUntil [] 5 [[23, 3], [], [3, 0, 1, 42], [9]] = ([23, 3, 3, 0, 1, 42], [[9]], none) := by decide
example : readFromUntil [23] 5 [[3, 3]] = ([23, 3, 3], [], some .unexpectedEOF) := by decide
def plainConn : Conn Unit :=
  { vers := 0x0303, haveVers := true, handshakeComplete := true, dynamicRecordSizingDisabled := false,
    buffering := false, bytesSent := 0, packetsSent := 0, retryCount := 0,
    hc := ⟨0x0303, .stream (fun s b => (b, s)) ⟨0, fun _ => []⟩, (), seq0⟩, hand := [] }
example : absF (fetch plainConn [] [[23, 3], [], [3, 0, 1, 42], [9]]) = .record [23, 3, 3, 0, 1, 42] [9] := by
  rw [fetch_chunking_independent]; decide
/-- `delivered_is_authenticated` / `read_cipher_change` / `ignored_record_counts`: hypotheses satisfiable -/
example : (match process ⟨plainConn, none, none, []⟩ false [23, 3, 3, 0, 1, 42] with
    | .done _ (.data d) => d == [42] | _ => false) = true := by decide
example : (match process ⟨plainConn, some (.stream (fun s b => (b, s)) ⟨0, fun _ => []⟩, ()), none, []⟩ true
    [20, 3, 3, 0, 1, 1] with | .done k .ccs => k.c.hc.seq == [0, 0, 0, 0, 0, 0, 0, 0] | _ => false) = true := by decide
example : (match process ⟨plainConn, none, none, []⟩ false [23, 3, 3, 0, 0] with
    | .retry k => k.c.retryCount == 1 | _ => false) = true := by decide
example : decrypt plainConn.hc [23, 3, 3, 0, 0] ≠ .err := nofun
/-- `reject_delivers_nothing`: a rejected record exists (MAC of one byte that does not match) -/
example : decrypt (σ := Unit) ⟨0x0303, .stream (fun s b => (b, s)) ⟨1, fun _ => [7]⟩, (), seq0⟩ [23, 3, 3, 0, 2, 42, 8]
    = .err := rfl
example : changeCipherSpec (σ := Unit) ⟨0x0303, .null, (), seq0⟩ (some (.stream (fun s b => (b, s)) ⟨0, fun _ => []⟩, ()))
    ≠ none := nofun

end examples

end ZV.C25
