import ZV.Proofs.C26
import ZV.Proofs.C26Vectors
import ZV.Generated.C26
/-!
# C26 — TLS key derivation matches the RFC definitions

`ZV.Model.C26` has two halves: the Go code function by function (`pHash` with its buffer-filling loop,
`prf10`, `prf12`, `keysFromMasterSecret`, `ekmFromMasterSecret`, `expandLabel` with the cryptobyte
builder, …) and, independently, the RFC texts (`RFC.P_hash`, `RFC.PRF10`, `RFC.HkdfLabel`,
`RFC.HKDF_Expand_Label`, `RFC.TLS_Exporter`, …).  The theorems below say the first half computes the
second, FOR EVERY HASH FUNCTION: the primitives are arbitrary functions, the only hypothesis is that an
HMAC has a fixed positive output length.
-/
namespace ZV.C26
open RFC

/-- a toy MAC with 2-byte output, to show the hypotheses are satisfiable and the statements non-trivial -/
def toyHmac : Hmac := fun k m => [UInt8.ofNat (k.length + m.length), (k ++ m).foldl (· + ·) 7]

example : FixedLen toyHmac 2 := ⟨by decide, fun _ _ => rfl⟩
example : pHash toyHmac 5 [1, 2] [3] = [5, 29, 5, 43, 5] := by decide +kernel
example : (P_hash toyHmac [1, 2] [3] 3).take 5 = [5, 29, 5, 43, 5] := by decide +kernel
example : (P_hash toyHmac [1, 2] [3] 7).take 5 = [5, 29, 5, 43, 5] := by decide +kernel

/-- The buffer-filling loop of `pHash` returns exactly the first `n` bytes of the RFC's
`P_hash(secret, seed) = HMAC(secret, A(1)+seed) + HMAC(secret, A(2)+seed) + …`, for every output
length `n` (any number `K` of RFC blocks covering `n` bytes). -/
theorem pHash_eq_rfc {hmac : Hmac} {L : Nat} (hm : FixedLen hmac L) (n : Nat) (secret seed : Bytes)
    (K : Nat) (hK : n ≤ K * L) :
    pHash hmac n secret seed = (P_hash hmac secret seed K).take n :=
  pHash_eq_take hm n secret seed K hK

/-- `pHash` fills the whole buffer: the output has the requested length. -/
theorem pHash_fills {hmac : Hmac} {L : Nat} (hm : FixedLen hmac L) (n : Nat) (secret seed : Bytes) :
    (pHash hmac n secret seed).length = n := by
  have hn : n ≤ n * L := Nat.le_mul_of_pos_right n hm.1
  rw [pHash_eq_take hm n secret seed n hn, List.length_take, P_hash_length hm.2]
  omega

/-- the number of blocks is irrelevant as long as they cover `n` bytes, so "the first `n` bytes of
P_hash" is well defined -/
theorem P_hash_take_indep {hmac : Hmac} {L : Nat} (hm : FixedLen hmac L) (secret seed : Bytes)
    (n k1 k2 : Nat) (h1 : n ≤ k1 * L) (h2 : n ≤ k2 * L) :
    (P_hash hmac secret seed k1).take n = (P_hash hmac secret seed k2).take n :=
  P_hash_take_eq hm.2 secret seed n k1 k2 h1 h2

/-- `splitPreMasterSecret` is the RFC 2246 split: both halves have `ceil(len/2)` bytes, S1 is a prefix,
S2 a suffix (they share the middle byte when the length is odd). -/
theorem split_is_rfc (secret : Bytes) :
    splitPreMasterSecret secret = (S1 secret, S2 secret)
    ∧ (S1 secret).length = (secret.length + 1) / 2 ∧ (S2 secret).length = (secret.length + 1) / 2 := by
  have half : ceilHalf secret.length = (secret.length + 1) / 2 :=
    Nat.sub_eq_of_eq_add (by omega)
  have le : ceilHalf secret.length ≤ secret.length := Nat.sub_le _ _
  exact ⟨split_eq_rfc secret, half ▸ List.length_take_of_le le,
    by rw [S2, List.length_drop, Nat.sub_sub_self le, half]⟩

/-- TLS 1.0/1.1: `prf10` = `P_MD5(S1, label+seed) XOR P_SHA-1(S2, label+seed)`, first `n` bytes. -/
theorem prf10_eq_rfc (P : Prims) {L1 L2 : Nat} (h1 : FixedLen P.hmacMD5 L1) (h2 : FixedLen P.hmacSHA1 L2)
    (n : Nat) (secret label seed : Bytes) (k1 k2 : Nat) (hk1 : n ≤ k1 * L1) (hk2 : n ≤ k2 * L2) :
    prf10 P n secret label seed = PRF10 P.hmacMD5 P.hmacSHA1 secret label seed k1 k2 n :=
  prf10_eq_take P h1 h2 n secret label seed k1 k2 hk1 hk2

/-- TLS 1.2: `prf12(hash)` = `P_hash(secret, label+seed)`, first `n` bytes. -/
theorem prf12_eq_rfc {hmac : Hmac} {L : Nat} (hm : FixedLen hmac L) (n : Nat) (secret label seed : Bytes)
    (K : Nat) (hK : n ≤ K * L) :
    prf12 hmac n secret label seed = PRF12 hmac secret label seed K n :=
  pHash_eq_rfc hm n secret (label ++ seed) K hK

/-- every PRF output has the requested length -/
theorem prf10_length (P : Prims) {L1 L2 : Nat} (h1 : FixedLen P.hmacMD5 L1) (h2 : FixedLen P.hmacSHA1 L2)
    (n : Nat) (secret label seed : Bytes) : (prf10 P n secret label seed).length = n := by
  unfold prf10 xorInto
  simp [pHash_fills h1, pHash_fills h2]

theorem prf12_length {hmac : Hmac} {L : Nat} (hm : FixedLen hmac L) (n : Nat) (secret label seed : Bytes) :
    (prf12 hmac n secret label seed).length = n := pHash_fills hm n secret _

/-- version dispatch: TLS 1.0/1.1 → the MD5/SHA-1 PRF; TLS 1.2 → P_SHA384 for the `_SHA384` suites and
P_SHA256 otherwise; anything else is a panic (never a silently wrong PRF). -/
theorem prf_dispatch (P : Prims) (version : Nat) (sha384 : Bool) :
    prfAndHashForVersion P version sha384 =
      if version = 0x0301 ∨ version = 0x0302 then .ok (prf10 P, .none)
      else if version = 0x0303 then
        (if sha384 then .ok (prf12 P.hmacSHA384, .sha384) else .ok (prf12 P.hmacSHA256, .sha256))
      else .panic := rfl

/-- RFC 5246 §8.1: `master_secret = PRF(pre_master_secret, "master secret", ClientHello.random +
ServerHello.random)[0..47]` (TLS 1.2, SHA-256 suites; every version and suite: `master_eq_rfc_all`). -/
theorem master_eq_rfc (P : Prims) {L : Nat} (hm : FixedLen P.hmacSHA256 L) (pms cr sr : Bytes) (K : Nat)
    (hK : 48 ≤ K * L) :
    masterFromPreMasterSecret P 0x0303 false pms cr sr
      = .ok (PRF12 P.hmacSHA256 pms (ascii "master secret") (cr ++ sr) K 48) := by
  rw [master_eq_prfCall, prfCall_tls12, prf12_eq_rfc hm 48 pms _ _ K hK]

theorem master_eq_rfc_tls10 (P : Prims) {L1 L2 : Nat} (h1 : FixedLen P.hmacMD5 L1) (h2 : FixedLen P.hmacSHA1 L2)
    (pms cr sr : Bytes) (k1 k2 : Nat) (hk1 : 48 ≤ k1 * L1) (hk2 : 48 ≤ k2 * L2) :
    masterFromPreMasterSecret P 0x0301 true pms cr sr
      = .ok (PRF10 P.hmacMD5 P.hmacSHA1 pms (ascii "master secret") (cr ++ sr) k1 k2 48) := by
  rw [master_eq_prfCall, prfCall_tls10 P _ (.inl rfl), prf10_eq_rfc P h1 h2 48 pms _ _ k1 k2 hk1 hk2]

/-- Key-block splitting: whenever the key block is the concatenation of six strings of lengths
`macLen, macLen, keyLen, keyLen, ivLen, ivLen`, the six slices taken by `keysFromMasterSecret` are exactly
these consecutive segments, in the RFC 5246 §6.3 order (client MAC, server MAC, client key, server key,
client IV, server IV). -/
theorem keyblock_split (p1 p2 p3 p4 p5 p6 : Bytes) (macLen keyLen ivLen : Nat)
    (h1 : p1.length = macLen) (h2 : p2.length = macLen) (h3 : p3.length = keyLen)
    (h4 : p4.length = keyLen) (h5 : p5.length = ivLen) (h6 : p6.length = ivLen) :
    sliceKeys (p1 ++ (p2 ++ (p3 ++ (p4 ++ (p5 ++ p6))))) macLen keyLen ivLen = ⟨p1, p2, p3, p4, p5, p6⟩ := by
  subst h1
  unfold sliceKeys
  simp only [List.take_left', List.drop_left', h2, h3, h4, h5]
  rw [List.take_of_length_le (by omega)]

example : sliceKeys [1, 2, 3, 4, 5, 6, 7, 8] 1 2 1 = ⟨[1], [2], [3, 4], [5, 6], [7], [8]⟩ := by decide +kernel

/-- … and conversely the slices always partition the key block (nothing lost, nothing reordered) and have
the requested lengths, for a key block of the length the code asks the PRF for. -/
theorem keyblock_partition (km : Bytes) (macLen keyLen ivLen : Nat)
    (hlen : km.length = 2 * macLen + 2 * keyLen + 2 * ivLen) :
    let k := sliceKeys km macLen keyLen ivLen
    k.clientMAC ++ k.serverMAC ++ k.clientKey ++ k.serverKey ++ k.clientIV ++ k.serverIV = km
    ∧ k.clientMAC.length = macLen ∧ k.serverMAC.length = macLen
    ∧ k.clientKey.length = keyLen ∧ k.serverKey.length = keyLen
    ∧ k.clientIV.length = ivLen ∧ k.serverIV.length = ivLen := by
  -- cut `km` into its six segments; `keyblock_split` then says what the slices are
  have cut (l : Bytes) (a b : Nat) (h : l.length = a + b) : ∃ p q, l = p ++ q ∧ p.length = a ∧ q.length = b :=
    ⟨l.take a, l.drop a, (List.take_append_drop a l).symm, List.length_take_of_le (h ▸ Nat.le_add_right a b),
      by rw [List.length_drop, h, Nat.add_sub_cancel_left]⟩
  simp only [Nat.two_mul, Nat.add_assoc] at hlen
  obtain ⟨p1, r, rfl, h1, hr⟩ := cut km _ _ hlen
  obtain ⟨p2, r, rfl, h2, hr⟩ := cut r _ _ hr
  obtain ⟨p3, r, rfl, h3, hr⟩ := cut r _ _ hr
  obtain ⟨p4, r, rfl, h4, hr⟩ := cut r _ _ hr
  obtain ⟨p5, p6, rfl, h5, h6⟩ := cut r _ _ hr
  rw [keyblock_split p1 p2 p3 p4 p5 p6 macLen keyLen ivLen h1 h2 h3 h4 h5 h6]
  exact ⟨by simp only [List.append_assoc], h1, h2, h3, h4, h5, h6⟩

/-- RFC 5246 §6.3: `key_block = PRF(master_secret, "key expansion", server_random + client_random)` of
length `2·mac + 2·key + 2·iv`, then sliced (TLS 1.2, SHA-256 suites). -/
theorem keys_eq_rfc (P : Prims) {L : Nat} (hm : FixedLen P.hmacSHA256 L) (ms cr sr : Bytes)
    (macLen keyLen ivLen K : Nat) (hK : 2 * macLen + 2 * keyLen + 2 * ivLen ≤ K * L) :
    keysFromMasterSecret P 0x0303 false ms cr sr macLen keyLen ivLen
      = .ok (sliceKeys (PRF12 P.hmacSHA256 ms (ascii "key expansion") (sr ++ cr) K
              (2 * macLen + 2 * keyLen + 2 * ivLen)) macLen keyLen ivLen) := by
  rw [keys_eq_prfCall, prfCall_tls12, prf12_eq_rfc hm _ ms _ _ K hK]
  rfl

example : FixedPrims ⟨toyHmac, toyHmac, toyHmac, toyHmac, id, id, id, id⟩ :=
  ⟨⟨2, by decide, fun _ _ => rfl⟩, ⟨2, by decide, fun _ _ => rfl⟩, ⟨2, by decide, fun _ _ => rfl⟩, ⟨2, by decide, fun _ _ => rfl⟩⟩

/-- For EVERY version and suite flag for which a PRF exists: the PRF selected by `prfForVersion` returns
exactly the requested number of bytes. -/
theorem prfForVersion_length (P : Prims) (hP : FixedPrims P) (version : Nat) (sha384 : Bool)
    (prf : Nat → Bytes → Bytes → Bytes → Bytes) (h : prfForVersion P version sha384 = .ok prf)
    (n : Nat) (secret label seed : Bytes) : (prf n secret label seed).length = n := by
  obtain ⟨⟨L1, h1⟩, ⟨L2, h2⟩, ⟨L3, h3⟩, ⟨L4, h4⟩⟩ := hP
  unfold prfForVersion prfAndHashForVersion at h
  by_cases hv : version = VersionTLS10 ∨ version = VersionTLS11
  · rw [if_pos hv] at h; cases h
    exact prf10_length P h1 h2 n secret label seed
  · rw [if_neg hv] at h
    by_cases hv2 : version = VersionTLS12
    · rw [if_pos hv2] at h
      cases sha384 <;> cases h
      · exact prf12_length h3 n secret label seed
      · exact prf12_length h4 n secret label seed
    · rw [if_neg hv2] at h; cases h

/-- For EVERY version, suite flag and length triple: whenever `keysFromMasterSecret` returns keys, the six
parts have exactly the requested lengths and their concatenation is the PRF key block
`PRF(master_secret, "key expansion", server_random + client_random)` of length `2·mac + 2·key + 2·iv`. -/
theorem keys_partition_all_versions (P : Prims) (hP : FixedPrims P) (version : Nat) (sha384 : Bool)
    (ms cr sr : Bytes) (macLen keyLen ivLen : Nat) (k : Keys)
    (h : keysFromMasterSecret P version sha384 ms cr sr macLen keyLen ivLen = .ok k) :
    ∃ prf, prfForVersion P version sha384 = .ok prf
      ∧ k.clientMAC ++ k.serverMAC ++ k.clientKey ++ k.serverKey ++ k.clientIV ++ k.serverIV
          = prf (2 * macLen + 2 * keyLen + 2 * ivLen) ms keyExpansionLabel (sr ++ cr)
      ∧ k.clientMAC.length = macLen ∧ k.serverMAC.length = macLen
      ∧ k.clientKey.length = keyLen ∧ k.serverKey.length = keyLen
      ∧ k.clientIV.length = ivLen ∧ k.serverIV.length = ivLen := by
  rw [keys_eq_prfCall, prfCall] at h
  cases hp : prfForVersion P version sha384 with
  | ok prf =>
    rw [hp] at h
    cases h
    exact ⟨prf, rfl, keyblock_partition _ macLen keyLen ivLen (prfForVersion_length P hP version sha384 prf hp ..)⟩
  | err =>
    rw [hp] at h
    cases h
  | panic =>
    rw [hp] at h
    cases h

/-- RFC 5246 §7.4.9 / RFC 2246 §7.4.9: `verify_data = PRF(master_secret, finished_label,
Hash(handshake_messages))[0..11]`, with `MD5(..) + SHA-1(..)` before TLS 1.2. -/
theorem finished_eq_rfc_tls12 (P : Prims) {L : Nat} (hm : FixedLen P.hmacSHA256 L) (ms msgs : Bytes) (K : Nat)
    (hK : 12 ≤ K * L) :
    clientSum P 0x0303 false ms msgs
        = .ok (PRF12 P.hmacSHA256 ms (ascii "client finished") (P.sha256 msgs) K 12)
    ∧ serverSum P 0x0303 false ms msgs
        = .ok (PRF12 P.hmacSHA256 ms (ascii "server finished") (P.sha256 msgs) K 12) := by
  simp only [clientSum, serverSum, finishedVerify_eq_prfCall, prfCall_tls12, prf12_eq_rfc hm 12 ms _ _ K hK]
  exact ⟨rfl, rfl⟩

theorem finished_eq_rfc_tls10 (P : Prims) {L1 L2 : Nat} (h1 : FixedLen P.hmacMD5 L1) (h2 : FixedLen P.hmacSHA1 L2)
    (ms msgs : Bytes) (k1 k2 : Nat) (hk1 : 12 ≤ k1 * L1) (hk2 : 12 ≤ k2 * L2) :
    clientSum P 0x0302 false ms msgs
        = .ok (PRF10 P.hmacMD5 P.hmacSHA1 ms (ascii "client finished") (P.md5 msgs ++ P.sha1 msgs) k1 k2 12)
    ∧ serverSum P 0x0302 false ms msgs
        = .ok (PRF10 P.hmacMD5 P.hmacSHA1 ms (ascii "server finished") (P.md5 msgs ++ P.sha1 msgs) k1 k2 12) := by
  simp only [clientSum, serverSum, finishedVerify_eq_prfCall, prfCall_tls10 P _ (.inr rfl),
    prf10_eq_rfc P h1 h2 12 ms _ _ k1 k2 hk1 hk2]
  exact ⟨rfl, rfl⟩

/-- RFC 5705 §4: for a non-reserved label and an encodable context the exporter is
`PRF(master_secret, label, client_random + server_random [+ uint16(len context) + context])[length]`
— the context is length-prefixed exactly when one is given (an empty context is not the same as none). -/
theorem exporter_eq_rfc (P : Prims) {L : Nat} (hm : FixedLen P.hmacSHA256 L) (ms cr sr label : Bytes)
    (context : Option Bytes) (length K : Nat) (hlabel : label ∉ ekmReserved)
    (hctx : ∀ c, context = some c → c.length < 65536) (hK : length ≤ K * L) :
    ekmFromMasterSecret P 0x0303 false ms cr sr label context length
      = .ok (PRF12 P.hmacSHA256 ms label (exporterSeed cr sr context) K length) := by
  rw [ekm_eq_prfCall P _ _ ms cr sr label context length hlabel hctx, prfCall_tls12, prf12_eq_rfc hm length ms label _ K hK]

example : (ascii "EXPORTER-x" : Bytes) ∉ ekmReserved := by
  unfold ekmReserved clientFinishedLabel serverFinishedLabel masterSecretLabel keyExpansionLabel
  repeat rw [ascii_ofList]
  decide +kernel

/-- the four labels of the TLS PRF itself are refused, as is a context that does not fit `uint16` -/
theorem exporter_refuses (P : Prims) (v : Nat) (f : Bool) (ms cr sr label : Bytes) (context : Option Bytes) (length : Nat) :
    (label ∈ ekmReserved → ekmFromMasterSecret P v f ms cr sr label context length = .err)
    ∧ (label ∉ ekmReserved → ∀ c, context = some c → 65536 ≤ c.length →
        ekmFromMasterSecret P v f ms cr sr label context length = .err) := by
  constructor
  · intro h; unfold ekmFromMasterSecret; rw [if_pos (by simpa using h)]
  · intro h c hc hlen; subst hc; unfold ekmFromMasterSecret; rw [if_neg (by simpa using h)]
    simp only; rw [if_pos (by omega)]

/-- the inputs HKDF-Expand-Label can encode: `"tls13 " + label` is an `opaque<7..255>`, the context an
`opaque<0..255>`, the length a `uint16` and at most `255·HashLen` (RFC 5869) -/
def ValidExpand (H : Hash13) (label context : Bytes) (length : Nat) : Prop :=
  label.length + 6 ≤ 255 ∧ context.length ≤ 255 ∧ length ≤ 255 * H.size ∧ length < 65536

example : ValidExpand ⟨fun _ _ => [], fun _ => [], 32⟩ (ascii "key") [] 16 := by
  unfold ValidExpand; decide

/-- HkdfLabel byte layout produced by the cryptobyte builder: two big-endian length bytes, one byte
`6 + |label|`, the ASCII bytes `tls13 `, the label, one byte `|context|`, the context; total length
`2 + 1 + 6 + |label| + 1 + |context|`; it is the RFC 8446 §7.1 `HkdfLabel` structure. -/
theorem hkdfLabel_layout (label context : Bytes) (length : Nat)
    (hl : label.length + 6 ≤ 255) (hc : context.length ≤ 255) (hn : length < 65536) :
    hkdfLabel label context length
      = some ([UInt8.ofNat (length / 256), UInt8.ofNat (length % 256), UInt8.ofNat (6 + label.length)]
              ++ [0x74, 0x6c, 0x73, 0x31, 0x33, 0x20] ++ label ++ [UInt8.ofNat context.length] ++ context)
    ∧ hkdfLabel label context length = some (HkdfLabel length label context)
    ∧ (HkdfLabel length label context).length = 10 + label.length + context.length := by
  have hp : (ascii "tls13 " : Bytes) = [0x74, 0x6c, 0x73, 0x31, 0x33, 0x20] := ascii_ofList _
  have hlen : (ascii "tls13 " ++ label).length = 6 + label.length := by rw [hp, List.length_append]; rfl
  have hrfc : hkdfLabel label context length = some (HkdfLabel length label context) := by
    rw [hkdfLabel_eq, if_neg (by omega)]
  refine ⟨?_, hrfc, ?_⟩
  · rw [hrfc]
    simp only [HkdfLabel, opaque8, RFC.uint16, hlen]
    simp only [hp, List.append_assoc, List.cons_append, List.nil_append]
  · simp only [HkdfLabel, opaque8, RFC.uint16, List.length_append, List.length_cons, hlen, List.length_nil]
    omega

/-- a label or context that does not fit its one-byte length prefix poisons the builder (the Go code then panics) -/
theorem hkdfLabel_none_iff (label context : Bytes) (length : Nat) :
    hkdfLabel label context length = none ↔ (255 < label.length + 6 ∨ 255 < context.length) := by
  rw [hkdfLabel_eq, ite_eq_left_iff]
  simp only [reduceCtorEq, imp_false, Classical.not_not]

/-- RFC 8446 §7.1: `expandLabel = HKDF-Expand-Label(Secret, Label, Context, Length)` on every encodable input … -/
theorem expandLabel_eq_rfc (H : Hash13) (secret label context : Bytes) (length : Nat)
    (hv : ValidExpand H label context length) :
    expandLabel H secret label context length = .ok (HKDF_Expand_Label H secret label context length) := by
  obtain ⟨hl, hc, hn, _⟩ := hv
  rw [expandLabel_eq, if_neg (by omega)]

/-- … and a panic (never a wrong or truncated secret) exactly on the inputs that cannot be encoded or
exceed the HKDF output limit. -/
theorem expandLabel_panics_iff (H : Hash13) (secret label context : Bytes) (length : Nat) :
    expandLabel H secret label context length = .panic
      ↔ (255 < label.length + 6 ∨ 255 < context.length ∨ 255 * H.size < length) := by
  rw [expandLabel_eq, ite_eq_left_iff]
  simp only [reduceCtorEq, imp_false, Classical.not_not]

/-- `Derive-Secret(Secret, Label, Messages) = HKDF-Expand-Label(Secret, Label, Transcript-Hash(Messages), Hash.length)`;
a `nil` transcript is the hash of the empty string. -/
theorem deriveSecret_eq_rfc (H : Hash13) (secret label : Bytes) (transcript : Option Bytes)
    (hh : ∀ m, (H.hash m).length = H.size) (hs : H.size ≤ 255) (hl : label.length + 6 ≤ 255) :
    deriveSecret H secret label transcript = .ok (Derive_Secret H secret label (transcript.getD [])) := by
  unfold deriveSecret Derive_Secret
  have hv : ∀ m, ValidExpand H label (H.hash m) H.size := by
    intro m
    exact ⟨hl, by rw [hh]; exact hs, Nat.le_mul_of_pos_left _ (by decide), by omega⟩
  cases transcript with
  | none => simpa using expandLabel_eq_rfc H secret label (H.hash []) H.size (hv [])
  | some m => simpa using expandLabel_eq_rfc H secret label (H.hash m) H.size (hv m)

/-- RFC 8446 §7.3: `trafficKey` = (`HKDF-Expand-Label(Secret, "key", "", key_length)`,
`HKDF-Expand-Label(Secret, "iv", "", 12)`). -/
theorem trafficKey_eq_rfc (H : Hash13) (keyLen : Nat) (secret : Bytes) (hk : keyLen ≤ 255 * H.size)
    (hk16 : keyLen < 65536) (hs : 12 ≤ 255 * H.size) :
    trafficKey H keyLen secret = .ok (write_key H secret keyLen, write_iv H secret 12) := by
  unfold trafficKey write_key write_iv
  rw [expandLabel_eq_rfc H secret keyLabel [] keyLen ⟨label_short, by decide, hk, hk16⟩]
  simp only [aeadNonceLength]
  rw [expandLabel_eq_rfc H secret ivLabel [] 12 ⟨label_short, by decide, hs, by decide⟩]
  rfl

/-- RFC 8446 §4.4.4: `verify_data = HMAC(HKDF-Expand-Label(BaseKey, "finished", "", Hash.length), Transcript-Hash)`. -/
theorem finished13_eq_rfc (H : Hash13) (baseKey msgs : Bytes) (hs : H.size < 65536) :
    finishedHash13 H baseKey msgs = .ok (verify_data13 H baseKey msgs) := by
  unfold finishedHash13 verify_data13
  rw [expandLabel_eq_rfc H baseKey finishedLabel [] H.size
    ⟨label_short, by decide, Nat.le_mul_of_pos_left _ (by decide), hs⟩]
  rfl

/-- RFC 8446 §7.5: `exportKeyingMaterial` = `TLS-Exporter(label, context_value, key_length)` with
`exporter_master_secret = Derive-Secret(Master Secret, "exp master", transcript)`. -/
theorem exporter13_eq_rfc (H : Hash13) (masterSecret msgs label context : Bytes) (length : Nat)
    (hh : ∀ m, (H.hash m).length = H.size) (hs : H.size ≤ 255) (hl : label.length + 6 ≤ 255)
    (hn : length ≤ 255 * H.size) (hn16 : length < 65536) :
    exportKeyingMaterial H masterSecret msgs label context length
      = .ok (TLS_Exporter H masterSecret msgs label context length) := by
  unfold exportKeyingMaterial TLS_Exporter
  rw [deriveSecret_eq_rfc H masterSecret exporterLabel (some msgs) hh hs label_short]
  simp only [Option.getD]
  rw [deriveSecret_eq_rfc H _ label none hh hs hl]
  simp only [Option.getD]
  rw [expandLabel_eq_rfc H _ exporterExpandLabel (H.hash context) length
    ⟨label_short, by rw [hh]; exact hs, hn, hn16⟩]
  rfl

/-- For EVERY version and suite flag: `prfForVersion` selects exactly the PRF the RFC of that version defines
(RFC 2246 §5 for 1.0/1.1, RFC 5246 §5 with SHA-256 / SHA-384 for 1.2) and panics exactly for the versions that have none. -/
theorem prfForVersion_spec (P : Prims) (hP : FixedPrims P) (v : Nat) (f : Bool) :
    (∃ prf, prfForVersion P v f = .ok prf ∧ ∀ n s l sd, RFC.PRF P v f s l sd n = some (prf n s l sd))
    ∨ (prfForVersion P v f = .panic ∧ ∀ n s l sd, RFC.PRF P v f s l sd n = none) :=
  prfForVersion_rfc P v f hP

/-- RFC 2246 / 5246 §8.1 for EVERY version and suite: `master_secret = PRF(pre_master_secret, "master secret",
ClientHello.random + ServerHello.random)[0..47]`. -/
theorem master_eq_rfc_all (P : Prims) (hP : FixedPrims P) (v : Nat) (f : Bool) (pms cr sr : Bytes) :
    masterFromPreMasterSecret P v f pms cr sr
      = ofOpt (RFC.PRF P v f pms (ascii "master secret") (cr ++ sr) 48) := by
  rw [master_eq_prfCall, prfCall_eq_rfc P v f hP]

/-- RFC 2246 / 5246 §6.3 for EVERY version, suite flag and length triple: the keys are the slices of
`PRF(master_secret, "key expansion", server_random + client_random)` of length `2·mac + 2·key + 2·iv`. -/
theorem keys_eq_rfc_all (P : Prims) (hP : FixedPrims P) (v : Nat) (f : Bool) (ms cr sr : Bytes) (mac key iv : Nat) :
    keysFromMasterSecret P v f ms cr sr mac key iv
      = (ofOpt (RFC.PRF P v f ms (ascii "key expansion") (sr ++ cr) (2 * mac + 2 * key + 2 * iv))).map
          (fun kb => sliceKeys kb mac key iv) := by
  rw [keys_eq_prfCall, prfCall_eq_rfc P v f hP]

/-- the handshake hash `finishedHash.Sum` for EVERY version: MD5 ‖ SHA-1 before TLS 1.2, the suite's PRF hash in TLS 1.2 -/
theorem finishedSum_eq_rfc (P : Prims) (v : Nat) (f : Bool) (msgs : Bytes)
    (hv : v = 0x0301 ∨ v = 0x0302 ∨ v = 0x0303) :
    finishedSum P v f msgs = .ok (RFC.Handshake_Hash P v f msgs) := by
  rcases hv with h | h | h <;> subst h <;> cases f <;>
    simp [finishedSum, prfAndHashForVersion, VersionTLS10, VersionTLS11, VersionTLS12, RFC.Handshake_Hash]

/-- RFC 2246 / 5246 §7.4.9 for EVERY version and suite: `verify_data = PRF(master_secret, finished_label,
Hash(handshake_messages))[0..11]`, label "client finished" for `clientSum`, "server finished" for `serverSum`. -/
theorem finished_eq_rfc_all (P : Prims) (hP : FixedPrims P) (v : Nat) (f : Bool) (ms msgs : Bytes)
    (hv : v = 0x0301 ∨ v = 0x0302 ∨ v = 0x0303) :
    clientSum P v f ms msgs
        = ofOpt (RFC.PRF P v f ms (ascii "client finished") (RFC.Handshake_Hash P v f msgs) 12)
    ∧ serverSum P v f ms msgs
        = ofOpt (RFC.PRF P v f ms (ascii "server finished") (RFC.Handshake_Hash P v f msgs) 12) := by
  simp only [clientSum, serverSum, finishedVerify_eq_prfCall, prfCall_eq_rfc P v f hP]
  exact ⟨rfl, rfl⟩

example : (0x0302 : Nat) = 0x0301 ∨ (0x0302 : Nat) = 0x0302 ∨ (0x0302 : Nat) = 0x0303 := by decide

/-- outside TLS 1.0–1.2 there is no Finished computation: the code panics (never a made-up verify_data) -/
theorem finished_panics_other_versions (P : Prims) (v : Nat) (f : Bool) (ms msgs : Bytes)
    (hv : ¬ (v = 0x0301 ∨ v = 0x0302 ∨ v = 0x0303)) :
    clientSum P v f ms msgs = .panic ∧ serverSum P v f ms msgs = .panic := by
  simp only [clientSum, serverSum, finishedVerify_eq_prfCall, prfCall_other P f hv, and_self]

/-- RFC 5705 §4 for EVERY version and suite -/
theorem exporter_eq_rfc_all (P : Prims) (hP : FixedPrims P) (v : Nat) (f : Bool) (ms cr sr label : Bytes)
    (context : Option Bytes) (length : Nat) (hlabel : label ∉ ekmReserved)
    (hctx : ∀ c, context = some c → c.length < 65536) :
    ekmFromMasterSecret P v f ms cr sr label context length
      = ofOpt (RFC.PRF P v f ms label (exporterSeed cr sr context) length) := by
  rw [ekm_eq_prfCall P v f ms cr sr label context length hlabel hctx, prfCall_eq_rfc P v f hP]

/-- (MAC key, cipher key, fixed IV) lengths of the key block per suite, from the RFCs that define the suites:
RC4_128_SHA 20/16/0 (RFC 2246, 4492), 3DES_EDE_CBC_SHA 20/24/8, AES_128/256_CBC_SHA 20/16|32/16 (RFC 3268, 4492),
AES_*_CBC_SHA256 32/·/16 (RFC 5246, 5289), AES_*_GCM 0/16|32/4 (RFC 5288, 5289: salt = 4-byte implicit nonce),
CHACHA20_POLY1305 0/32/12 (RFC 7905). -/
def rfcSuiteLens (id : Nat) : Option (Nat × Nat × Nat) :=
  if [0x0005, 0x0066, 0xC007, 0xC011].contains id then some (20, 16, 0)
  else if [0x000A, 0x0013, 0x0016, 0xC008, 0xC012].contains id then some (20, 24, 8)
  else if [0x002F, 0x0032, 0x0033, 0xC009, 0xC013].contains id then some (20, 16, 16)
  else if [0x0035, 0x0038, 0x0039, 0xC00A, 0xC014].contains id then some (20, 32, 16)
  else if [0x003C, 0x0040, 0x0067, 0xC023, 0xC027].contains id then some (32, 16, 16)
  else if [0x003D, 0x006A, 0x006B].contains id then some (32, 32, 16)
  else if [0x009C, 0x009E, 0x00A2, 0xC02B, 0xC02F].contains id then some (0, 16, 4)
  else if [0x009D, 0x009F, 0x00A3, 0xC02C, 0xC030].contains id then some (0, 32, 4)
  else if [0xCCA8, 0xCCA9, 0xCCAA].contains id then some (0, 32, 12)
  else none

/-- T1: EVERY row of `implementedCipherSuites` carries the RFC's key-block lengths and the RFC's PRF hash flag,
and the flag column agrees with the `suites` dump -/
theorem suite_lengths_eq_rfc :
    (∀ row ∈ ZV.Generated.C26.suiteRows,
      rfcSuiteLens row.1 = some (row.2.1, row.2.2.1, row.2.2.2.1) ∧ row.2.2.2.2 = rfcSHA384Suites.contains row.1)
    ∧ ZV.Generated.C26.suiteRows.map (fun r => (r.1, r.2.2.2.2)) = ZV.Generated.C26.suites := by decide +kernel

/-- T1: the handshake passes the suite's own three lengths, in the order (macLen, keyLen, ivLen), and the hello randoms
in the order (client, server) on both sides -/
theorem key_calls_eq : ZV.Generated.C26.keyCalls = [
    ("handshake_client.go", "doFullHandshake", "master:c.vers,hs.suite,hs.preMasterSecret,hs.hello.random,hs.serverHello.random"),
    ("handshake_client.go", "establishKeys", "c.vers,hs.suite,hs.masterSecret,hs.hello.random,hs.serverHello.random,hs.suite.macLen,hs.suite.keyLen,hs.suite.ivLen"),
    ("handshake_server.go", "doFullHandshake", "master:c.vers,hs.suite,hs.preMasterSecret,hs.clientHello.random,hs.hello.random"),
    ("handshake_server.go", "establishKeys", "c.vers,hs.suite,hs.masterSecret,hs.clientHello.random,hs.hello.random,hs.suite.macLen,hs.suite.keyLen,hs.suite.ivLen")] := rfl

/-- For EVERY suite of the generated table, every version and all secrets: whenever `establishKeys` produces keys, the
six parts have the RFC lengths of that suite, and their concatenation (client MAC, server MAC, client key, server key,
client IV, server IV) is exactly the RFC key block `PRF(master_secret, "key expansion", server_random + client_random)`
of length `2·mac + 2·key + 2·iv` — nothing lost, nothing reordered, nothing beyond the block. -/
theorem keys_partition_every_suite (P : Prims) (hP : FixedPrims P) (version : Nat)
    (row : Nat × Nat × Nat × Nat × Bool) (hrow : row ∈ ZV.Generated.C26.suiteRows)
    (ms cr sr : Bytes) (k : Keys) (h : establishKeys P version row ms cr sr = .ok k) :
    rfcSuiteLens row.1 = some (k.clientMAC.length, k.clientKey.length, k.clientIV.length)
    ∧ k.serverMAC.length = k.clientMAC.length ∧ k.serverKey.length = k.clientKey.length
    ∧ k.serverIV.length = k.clientIV.length
    ∧ RFC.PRF P version row.2.2.2.2 ms (ascii "key expansion") (sr ++ cr)
        (2 * row.2.1 + 2 * row.2.2.1 + 2 * row.2.2.2.1)
      = some (k.clientMAC ++ k.serverMAC ++ k.clientKey ++ k.serverKey ++ k.clientIV ++ k.serverIV) := by
  unfold establishKeys at h
  obtain ⟨prf, hp, hcat, l1, l2, l3, l4, l5, l6⟩ :=
    keys_partition_all_versions P hP version row.2.2.2.2 ms cr sr row.2.1 row.2.2.1 row.2.2.2.1 k h
  have hrfc := (suite_lengths_eq_rfc.1 row hrow).1
  refine ⟨by rw [l1, l3, l5]; exact hrfc, by rw [l1, l2], by rw [l3, l4], by rw [l5, l6], ?_⟩
  rcases prfForVersion_spec P hP version row.2.2.2.2 with ⟨prf', hp', hr⟩ | ⟨hp', _⟩
  · rw [hp] at hp'; cases hp'
    rw [hr, hcat]; rfl
  · rw [hp] at hp'; cases hp'

example : ((0xC02F, 0, 16, 4, false) : Nat × Nat × Nat × Nat × Bool) ∈ ZV.Generated.C26.suiteRows := by decide +kernel

/-- T1: who reads which table. Key derivation only ever sees rows obtained through `cipherSuiteByID`
(`mutualCipherSuite`, `selectCipherSuite`, `aesgcmPreferred`), which ranges over `implementedCipherSuites`;
`cipherSuites` is read by `makeClientHello` and the default suite list (id and flags only). -/
theorem suite_table_uses_eq : ZV.Generated.C26.suiteTableUses = [
    ("cipher_suites.go", "selectCipherSuite", "call:cipherSuiteByID"),
    ("cipher_suites.go", "mutualCipherSuite", "call:cipherSuiteByID"),
    ("cipher_suites.go", "cipherSuiteByID", "implementedCipherSuites"),
    ("common.go", "initDefaultCipherSuites", "cipherSuites"),
    ("common.go", "initDefaultCipherSuites", "cipherSuites"),
    ("common.go", "aesgcmPreferred", "call:cipherSuiteByID"),
    ("handshake_client.go", "marshal", "implementedCipherSuites"),
    ("handshake_client.go", "makeClientHello", "cipherSuites"),
    ("handshake_client.go", "loadSession", "call:mutualCipherSuite"),
    ("handshake_client.go", "pickCipherSuite", "call:mutualCipherSuite")] := rfl

/-- T1: how the two tables relate, exactly.
(1) `cipherSuites` is, row for row and with the full flags word, the PREFIX of `implementedCipherSuites`; hence for
every advertised id the first match `cipherSuiteByID` returns IS the advertised row.
(2) `implementedCipherSuites` lists some ids a second time further down (rows that `cipherSuiteByID` can never return);
any two rows with the same id, in either table, have identical (macLen, keyLen, ivLen) and identical SHA-384 flag — i.e.
the same key-derivation shape — and their flags words differ at most in the bits
suiteECSign (2), suiteDefaultOff (16), suiteECDSA (32), suiteNoDTLS (64) (mask 114, disjoint from suiteSHA384).
So they do NOT agree on the full flags word (e.g. 0xC007: 19 in the first listing, 97 in the second), but they agree on
everything key derivation reads. -/
theorem suite_tables_agree :
    ZV.Generated.C26.tableImplemented.take ZV.Generated.C26.tableAdvertised.length = ZV.Generated.C26.tableAdvertised
    ∧ (∀ r ∈ ZV.Generated.C26.tableAdvertised, cipherSuiteByID ZV.Generated.C26.tableImplemented r.1 = some r)
    ∧ (∀ r ∈ ZV.Generated.C26.tableAdvertised ++ ZV.Generated.C26.tableImplemented,
       ∀ r' ∈ ZV.Generated.C26.tableAdvertised ++ ZV.Generated.C26.tableImplemented, r.1 = r'.1 →
        rowKeyShape ZV.Generated.C26.suiteSHA384Bit r = rowKeyShape ZV.Generated.C26.suiteSHA384Bit r'
        ∧ r.2.2.2.2 ||| 114 = r'.2.2.2.2 ||| 114)
    ∧ 114 &&& ZV.Generated.C26.suiteSHA384Bit = 0 := by
  open ZV.Generated.C26 in
  -- every row agrees with the first row of its id, so any two rows of one id agree
  have first : ∀ r ∈ tableAdvertised ++ tableImplemented,
      (cipherSuiteByID (tableAdvertised ++ tableImplemented) r.1).map (rowKeyShape suiteSHA384Bit)
        = some (rowKeyShape suiteSHA384Bit r)
      ∧ (cipherSuiteByID (tableAdvertised ++ tableImplemented) r.1).map (·.2.2.2.2 ||| 114)
        = some (r.2.2.2.2 ||| 114) := by decide +kernel
  refine ⟨by decide +kernel, by decide +kernel, fun r hr r' hr' e => ?_, by decide +kernel⟩
  have h := first r hr
  rw [e] at h
  exact ⟨Option.some.inj (h.1.symm.trans (first r' hr').1), Option.some.inj (h.2.symm.trans (first r' hr').2)⟩

/-- T1: the key-derivation view of the full-flags dump is the `suiteRows` table the theorems above speak about
(with the tree's own `suiteSHA384` bit), and the advertised table has the RFC lengths as well -/
theorem suite_tables_shape :
    ZV.Generated.C26.tableImplemented.map (rowKeyShape ZV.Generated.C26.suiteSHA384Bit) = ZV.Generated.C26.suiteRows
    ∧ (∀ r ∈ ZV.Generated.C26.tableAdvertised,
        rfcSuiteLens r.1 = some (r.2.1, r.2.2.1, r.2.2.2.1)
        ∧ rowSHA384 ZV.Generated.C26.suiteSHA384Bit r = rfcSHA384Suites.contains r.1) := by
  have shape : ZV.Generated.C26.tableImplemented.map (rowKeyShape ZV.Generated.C26.suiteSHA384Bit)
      = ZV.Generated.C26.suiteRows := by decide +kernel
  -- an advertised row is an implemented row (`suite_tables_agree`), and those carry the RFC values (`suite_lengths_eq_rfc`)
  refine ⟨shape, fun r hr => suite_lengths_eq_rfc.1 (rowKeyShape ZV.Generated.C26.suiteSHA384Bit r) ?_⟩
  rw [← suite_tables_agree.1] at hr
  rw [← shape]
  exact List.mem_map_of_mem (List.mem_of_mem_take hr)

/-- `cipherSuiteByID` over ANY table returns a row of that table with the requested id -/
theorem cipherSuiteByID_spec (table : List SuiteRow) (id : Nat) (r : SuiteRow)
    (h : cipherSuiteByID table id = some r) : r ∈ table ∧ r.1 = id := by
  unfold cipherSuiteByID at h
  exact ⟨List.mem_of_find?_eq_some h, by simpa using List.find?_some h⟩

theorem mutualCipherSuite_spec (table : List SuiteRow) (have_ : List Nat) (want : Nat) (r : SuiteRow)
    (h : mutualCipherSuite table have_ want = some r) : want ∈ have_ ∧ r ∈ table ∧ r.1 = want := by
  unfold mutualCipherSuite at h
  by_cases hc : have_.contains want = true
  · rw [if_pos hc] at h
    exact ⟨by simpa using hc, cipherSuiteByID_spec table want r h⟩
  · rw [if_neg hc] at h; cases h

/-- Whatever suite the handshake obtains (`hs.suite = mutualCipherSuite(offered, chosen)` on the client,
`cipherSuiteByID` in `selectCipherSuite` on the server) from the table the tree actually reads: `establishKeys` with
that row yields keys of the suite's RFC lengths whose concatenation is the RFC key block, for every version and secret. -/
theorem keys_partition_looked_up_suite (P : Prims) (hP : FixedPrims P) (version : Nat) (have_ : List Nat) (want : Nat)
    (r : SuiteRow) (hr : mutualCipherSuite ZV.Generated.C26.tableImplemented have_ want = some r)
    (ms cr sr : Bytes) (k : Keys)
    (h : establishKeys P version (rowKeyShape ZV.Generated.C26.suiteSHA384Bit r) ms cr sr = .ok k) :
    rfcSuiteLens want = some (k.clientMAC.length, k.clientKey.length, k.clientIV.length)
    ∧ k.serverMAC.length = k.clientMAC.length ∧ k.serverKey.length = k.clientKey.length
    ∧ k.serverIV.length = k.clientIV.length
    ∧ RFC.PRF P version (rfcSHA384Suites.contains want) ms (ascii "key expansion") (sr ++ cr)
        (2 * k.clientMAC.length + 2 * k.clientKey.length + 2 * k.clientIV.length)
      = some (k.clientMAC ++ k.serverMAC ++ k.clientKey ++ k.serverKey ++ k.clientIV ++ k.serverIV) := by
  obtain ⟨_, hmem, hid⟩ := mutualCipherSuite_spec _ _ _ _ hr
  have hrow : rowKeyShape ZV.Generated.C26.suiteSHA384Bit r ∈ ZV.Generated.C26.suiteRows := by
    rw [← suite_tables_shape.1]; exact List.mem_map_of_mem hmem
  have hflag := (suite_lengths_eq_rfc.1 _ hrow).2
  have hlens := (suite_lengths_eq_rfc.1 _ hrow).1
  obtain ⟨a, b, c, d, e⟩ := keys_partition_every_suite P hP version _ hrow ms cr sr k h
  have hid' : (rowKeyShape ZV.Generated.C26.suiteSHA384Bit r).1 = want := hid
  rw [hid'] at a hflag hlens
  refine ⟨a, b, c, d, ?_⟩
  rw [a] at hlens
  simp only [Option.some.injEq, Prod.mk.injEq] at hlens
  rw [← hflag, hlens.1, hlens.2.1, hlens.2.2]
  exact e

example : mutualCipherSuite ZV.Generated.C26.tableImplemented [0x002F, 0xC02F] 0xC02F = some (0xC02F, 0, 16, 4, 5) := by
  decide +kernel

theorem uint8_ofNat_inj {a b : Nat} (ha : a < 256) (hb : b < 256) (h : UInt8.ofNat a = UInt8.ofNat b) : a = b :=
  (UInt8.toNat_ofNat_of_lt ha).symm.trans ((congrArg UInt8.toNat h).trans (UInt8.toNat_ofNat_of_lt hb))

/-- HkdfLabel is an injective encoding of (length, label, context) on the encodable domain: two HKDF-Expand-Label
calls get the same `info` string only if they agree on all three, so distinct labels (or the same label with distinct
contexts / lengths) can never collide. -/
theorem hkdfLabel_injective (l l' c c' : Bytes) (n n' : Nat) (x : Bytes) (hn : n < 65536) (hn' : n' < 65536)
    (h : hkdfLabel l c n = some x) (h' : hkdfLabel l' c' n' = some x) : l = l' ∧ c = c' ∧ n = n' := by
  have hb := not_or.mp (mt (hkdfLabel_none_iff l c n).mpr (h ▸ Option.some_ne_none x))
  have hb' := not_or.mp (mt (hkdfLabel_none_iff l' c' n').mpr (h' ▸ Option.some_ne_none x))
  have hl := Nat.not_lt.mp hb.1
  have hl' := Nat.not_lt.mp hb'.1
  have e := (hkdfLabel_layout l c n hl (Nat.not_lt.mp hb.2) hn).1
  have e' := (hkdfLabel_layout l' c' n' hl' (Nat.not_lt.mp hb'.2) hn').1
  rw [h] at e; rw [h'] at e'
  have := e.symm.trans e'
  simp only [Option.some.injEq, List.cons_append, List.nil_append, List.append_assoc, List.cons.injEq] at this
  obtain ⟨a1, a2, a3, _, _, _, _, _, _, rest⟩ := this
  have hll := Nat.add_left_cancel (uint8_ofNat_inj (Nat.add_comm .. ▸ Nat.lt_succ_of_le hl)
    (Nat.add_comm .. ▸ Nat.lt_succ_of_le hl') a3)
  have ⟨e1, e2⟩ := List.append_inj rest hll
  have h1 := uint8_ofNat_inj (Nat.div_lt_of_lt_mul hn) (Nat.div_lt_of_lt_mul hn') a1
  have h2 := uint8_ofNat_inj (Nat.mod_lt _ (by decide)) (Nat.mod_lt _ (by decide)) a2
  -- `n = 256 * (n / 256) + n % 256`, and both parts agree
  exact ⟨e1, (List.cons.inj e2).2, by rw [← Nat.div_add_mod n 256, h1, h2, Nat.div_add_mod]⟩

example : hkdfLabel (ascii "key") [] 16 ≠ hkdfLabel (ascii "iv") [] 16 := by decide +kernel

/-- the hash of a TLS 1.3 suite behaves like one: digests have `size ≤ 255` bytes, and HMAC zero-pads its key
(RFC 2104 §2), so the absent salt `nil` and the RFC's salt "0" (`size` zero bytes) are the same key -/
structure GoodHash13 (H : Hash13) : Prop where
  hh : ∀ m, (H.hash m).length = H.size
  hs : H.size ≤ 255
  hpad : ∀ m, H.hmac [] m = H.hmac (List.replicate H.size 0) m

example : GoodHash13 ⟨fun _ _ => [1], fun _ => [2], 1⟩ := ⟨fun _ => rfl, by decide, fun _ => rfl⟩

/-- the executable HMAC of the driver zero-pads its key -/
theorem real_hmac_pad (a : ZV.Hash.HashAlg) (h : a.outSize ≤ a.blockSize) (m : Bytes) :
    ZV.Hash.hmac a [] m = ZV.Hash.hmac a (List.replicate a.outSize 0) m := by
  have hk : ZV.Hash.hmacKeyBlock a [] = ZV.Hash.hmacKeyBlock a (List.replicate a.outSize 0) := by
    unfold ZV.Hash.hmacKeyBlock
    have h1 : ¬ (([] : Bytes).length > a.blockSize) := by simp
    have h2 : ¬ ((List.replicate a.outSize (0 : UInt8)).length > a.blockSize) := by simp; omega
    rw [if_neg h1, if_neg h2]
    simp only [List.length_nil, List.length_replicate, List.nil_append, List.replicate_append_replicate]
    congr 1; omega
  unfold ZV.Hash.hmac
  rw [hk]

/-- RFC 8446 §7.1: `Early Secret = HKDF-Extract(0, PSK or 0)` -/
theorem earlySecret_eq_rfc (H : Hash13) (hH : GoodHash13 H) (psk : Option Bytes) :
    earlySecret H psk = Early_Secret H psk := by
  unfold earlySecret extract Early_Secret HKDF_Extract zeros
  cases psk <;> simp [hH.hpad]

/-- RFC 8446 §4.6.1: the ticket PSK is `HKDF-Expand-Label(resumption_master_secret, "resumption", ticket_nonce, Hash.length)` -/
theorem ticketPSK_eq_rfc (H : Hash13) (hs : H.size < 65536) (res nonce : Bytes) (hn : nonce.length ≤ 255) :
    ticketPSK H res nonce = .ok (Ticket_PSK H res nonce) := by
  rw [ticketPSK_eq, if_neg (Nat.not_lt_of_le hn)]

/-- … and a nonce that does not fit `opaque ticket_nonce<0..255>` makes the code panic, never derive a wrong PSK -/
theorem ticketPSK_panics_iff (H : Hash13) (hs : 0 < H.size) (res nonce : Bytes) :
    ticketPSK H res nonce = .panic ↔ 255 < nonce.length := by
  rw [ticketPSK_eq, ite_eq_left_iff]
  simp only [reduceCtorEq, imp_false, Classical.not_not]

/-- RFC 8446 §4.2.11.2: the PSK binder of a resumed ClientHello -/
theorem pskBinder_eq_rfc (H : Hash13) (hH : GoodHash13 H) (psk truncatedHello : Bytes) :
    pskBinder H psk truncatedHello = .ok (PSK_Binder H psk truncatedHello) := by
  unfold pskBinder PSK_Binder
  rw [deriveSecret_eq_rfc H _ resumptionBinderLabel none hH.hh hH.hs label_short]
  simp only [Res.bind, Option.getD]
  rw [finished13_eq_rfc H _ _ (by have := hH.hs; omega), earlySecret_eq_rfc H hH]
  rfl

/-- RFC 8446 §7.1, the middle of the schedule exactly as `establishHandshakeKeys` / `sendServerParameters` wire it:
`Handshake Secret = HKDF-Extract(Derive-Secret(Early Secret, "derived", ""), (EC)DHE)`,
`client/server_handshake_traffic_secret = Derive-Secret(Handshake Secret, "c/s hs traffic", ClientHello…ServerHello)`,
`Master Secret = HKDF-Extract(Derive-Secret(Handshake Secret, "derived", ""), 0)` — for every early secret, share and transcript. -/
theorem establishHandshakeKeys_eq_rfc (H : Hash13) (hH : GoodHash13 H) (early sharedKey msgs : Bytes) :
    establishHandshakeKeys H early sharedKey msgs = .ok
      ⟨Derive_Secret H (Handshake_Secret H early sharedKey) (ascii "c hs traffic") msgs,
       Derive_Secret H (Handshake_Secret H early sharedKey) (ascii "s hs traffic") msgs,
       Master_Secret H (Handshake_Secret H early sharedKey)⟩ := by
  unfold establishHandshakeKeys
  have hd : (derivedLabel : Bytes).length + 6 ≤ 255 := label_short
  rw [deriveSecret_eq_rfc H early derivedLabel none hH.hh hH.hs hd]
  simp only [Res.bind]
  rw [deriveSecret_eq_rfc H _ clientHandshakeTrafficLabel (some msgs) hH.hh hH.hs label_short,
    deriveSecret_eq_rfc H _ serverHandshakeTrafficLabel (some msgs) hH.hh hH.hs label_short,
    deriveSecret_eq_rfc H _ derivedLabel none hH.hh hH.hs hd]
  rfl

/-- `client/server_application_traffic_secret_0 = Derive-Secret(Master Secret, "c/s ap traffic", ClientHello…server Finished)` -/
theorem applicationSecrets_eq_rfc (H : Hash13) (hH : GoodHash13 H) (master msgs : Bytes) :
    applicationSecrets H master msgs = .ok
      ⟨Derive_Secret H master (ascii "c ap traffic") msgs, Derive_Secret H master (ascii "s ap traffic") msgs⟩ := by
  unfold applicationSecrets
  rw [deriveSecret_eq_rfc H _ clientApplicationTrafficLabel (some msgs) hH.hh hH.hs label_short]
  simp only [Res.bind]
  rw [deriveSecret_eq_rfc H _ serverApplicationTrafficLabel (some msgs) hH.hh hH.hs label_short]
  rfl

/-- `resumption_master_secret = Derive-Secret(Master Secret, "res master", ClientHello…client Finished)` -/
theorem resumptionSecret_eq_rfc (H : Hash13) (hH : GoodHash13 H) (master msgs : Bytes) :
    resumptionSecret H master msgs = .ok (Derive_Secret H master (ascii "res master") msgs) := by
  unfold resumptionSecret
  rw [deriveSecret_eq_rfc H _ resumptionLabel (some msgs) hH.hh hH.hs label_short]
  rfl

/-- the whole chain of a resumed connection: ticket → PSK → early secret → handshake secrets, in RFC terms -/
theorem resumed_schedule_eq_rfc (H : Hash13) (hH : GoodHash13 H) (res nonce sharedKey msgs psk : Bytes)
    (hpsk : ticketPSK H res nonce = .ok psk) (hn : nonce.length ≤ 255) :
    psk = Ticket_PSK H res nonce
    ∧ establishHandshakeKeys H (earlySecret H (some psk)) sharedKey msgs = .ok
      ⟨Derive_Secret H (Handshake_Secret H (Early_Secret H (some (Ticket_PSK H res nonce))) sharedKey) (ascii "c hs traffic") msgs,
       Derive_Secret H (Handshake_Secret H (Early_Secret H (some (Ticket_PSK H res nonce))) sharedKey) (ascii "s hs traffic") msgs,
       Master_Secret H (Handshake_Secret H (Early_Secret H (some (Ticket_PSK H res nonce))) sharedKey)⟩ := by
  rw [ticketPSK_eq_rfc H (by have := hH.hs; omega) res nonce hn] at hpsk
  cases hpsk
  exact ⟨rfl, by rw [establishHandshakeKeys_eq_rfc H hH, earlySecret_eq_rfc H hH]⟩

example : ticketPSK ⟨fun _ _ => [1], fun _ => [2], 1⟩ [5] [6] = .ok [1] := by decide +kernel

/-- T1: the model's TLS 1.3 labels are the tree's label constants -/
theorem model_labels13 :
    [("resumptionBinderLabel", resumptionBinderLabel), ("clientHandshakeTrafficLabel", clientHandshakeTrafficLabel),
     ("serverHandshakeTrafficLabel", serverHandshakeTrafficLabel),
     ("clientApplicationTrafficLabel", clientApplicationTrafficLabel),
     ("serverApplicationTrafficLabel", serverApplicationTrafficLabel), ("exporterLabel", exporterLabel),
     ("resumptionLabel", resumptionLabel), ("trafficUpdateLabel", trafficUpdateLabel)].all
      (fun p => (ZV.Generated.C26.labels.map (fun q => (q.1, ascii q.2))).contains p) = true
    ∧ derivedLabel = ascii "derived" ∧ resumptionPskLabel = ascii "resumption"
    ∧ tls13Prefix = ascii "tls13 " ∧ ZV.Generated.C26.hkdfLabelPrefix = ["tls13 "] := by
  -- each constant is pointed at by its position in the (sorted) table: comparing the strings is slow in the kernel
  have at_ {k v} (i : Nat) (h : ZV.Generated.C26.labels[i]? = some (k, v)) :
      (ZV.Generated.C26.labels.map fun q => (q.1, ascii q.2)).contains (k, ascii v) = true :=
    List.contains_iff_mem.mpr (List.mem_map_of_mem (List.mem_of_getElem? h))
  simp only [List.all_cons, List.all_nil, Bool.and_true, Bool.and_eq_true]
  exact ⟨⟨at_ 6 rfl, at_ 2 rfl, at_ 10 rfl, at_ 0 rfl, at_ 8 rfl, at_ 3 rfl, at_ 7 rfl, at_ 11 rfl⟩, rfl, rfl, rfl, rfl⟩

/-- T1: the TLS 1.3 schedule as the handshake code wires it — every deriveSecret / expandLabel / extract / finishedHash
call of the handshake files with its label literal, in source order, is the RFC 8446 §7.1 / §4.2.11.2 / §4.6.1 / §7.2
sequence on both sides (a changed, swapped or dropped label re-checks this theorem) -/
theorem schedule_calls_eq_rfc : ZV.Generated.C26.scheduleCalls = [
  ("handshake_client.go", "loadSession", "expandLabel", "resumption"),
  ("handshake_client.go", "loadSession", "extract", "-"),
  ("handshake_client.go", "loadSession", "deriveSecret", "res binder"),
  ("handshake_client.go", "loadSession", "finishedHash", "-"),
  ("handshake_client_tls13.go", "processHelloRetryRequest", "finishedHash", "-"),
  ("handshake_client_tls13.go", "establishHandshakeKeys", "extract", "-"),
  ("handshake_client_tls13.go", "establishHandshakeKeys", "extract", "-"),
  ("handshake_client_tls13.go", "establishHandshakeKeys", "deriveSecret", "derived"),
  ("handshake_client_tls13.go", "establishHandshakeKeys", "deriveSecret", "c hs traffic"),
  ("handshake_client_tls13.go", "establishHandshakeKeys", "deriveSecret", "s hs traffic"),
  ("handshake_client_tls13.go", "establishHandshakeKeys", "extract", "-"),
  ("handshake_client_tls13.go", "establishHandshakeKeys", "deriveSecret", "derived"),
  ("handshake_client_tls13.go", "readServerFinished", "finishedHash", "-"),
  ("handshake_client_tls13.go", "readServerFinished", "deriveSecret", "c ap traffic"),
  ("handshake_client_tls13.go", "readServerFinished", "deriveSecret", "s ap traffic"),
  ("handshake_client_tls13.go", "readServerFinished", "exportKeyingMaterial", "-"),
  ("handshake_client_tls13.go", "sendClientFinished", "finishedHash", "-"),
  ("handshake_client_tls13.go", "sendClientFinished", "deriveSecret", "res master"),
  ("handshake_server_tls13.go", "checkForResumption", "expandLabel", "resumption"),
  ("handshake_server_tls13.go", "checkForResumption", "extract", "-"),
  ("handshake_server_tls13.go", "checkForResumption", "deriveSecret", "res binder"),
  ("handshake_server_tls13.go", "checkForResumption", "finishedHash", "-"),
  ("handshake_server_tls13.go", "sendServerParameters", "extract", "-"),
  ("handshake_server_tls13.go", "sendServerParameters", "extract", "-"),
  ("handshake_server_tls13.go", "sendServerParameters", "deriveSecret", "derived"),
  ("handshake_server_tls13.go", "sendServerParameters", "deriveSecret", "c hs traffic"),
  ("handshake_server_tls13.go", "sendServerParameters", "deriveSecret", "s hs traffic"),
  ("handshake_server_tls13.go", "sendServerFinished", "finishedHash", "-"),
  ("handshake_server_tls13.go", "sendServerFinished", "extract", "-"),
  ("handshake_server_tls13.go", "sendServerFinished", "deriveSecret", "derived"),
  ("handshake_server_tls13.go", "sendServerFinished", "deriveSecret", "c ap traffic"),
  ("handshake_server_tls13.go", "sendServerFinished", "deriveSecret", "s ap traffic"),
  ("handshake_server_tls13.go", "sendServerFinished", "exportKeyingMaterial", "-"),
  ("handshake_server_tls13.go", "sendSessionTickets", "finishedHash", "-"),
  ("handshake_server_tls13.go", "sendSessionTickets", "deriveSecret", "res master"),
  ("conn.go", "handleKeyUpdate", "nextTrafficSecret", "-"),
  ("conn.go", "handleKeyUpdate", "nextTrafficSecret", "-")] := rfl

/-- the label constants of tls/prf.go and tls/key_schedule.go are the RFC strings
(RFC 5246 §7.4.9, §8.1, §6.3; RFC 8446 §7.1, §7.2, §7.5, §4.2.11.2) -/
theorem labels_eq_rfc : ZV.Generated.C26.labels = [
    ("clientApplicationTrafficLabel", "c ap traffic"),
    ("clientFinishedLabel", "client finished"),
    ("clientHandshakeTrafficLabel", "c hs traffic"),
    ("exporterLabel", "exp master"),
    ("keyExpansionLabel", "key expansion"),
    ("masterSecretLabel", "master secret"),
    ("resumptionBinderLabel", "res binder"),
    ("resumptionLabel", "res master"),
    ("serverApplicationTrafficLabel", "s ap traffic"),
    ("serverFinishedLabel", "server finished"),
    ("serverHandshakeTrafficLabel", "s hs traffic"),
    ("trafficUpdateLabel", "traffic upd")] := rfl

/-- which label each key-schedule function passes to `expandLabel` / `deriveSecret`, the `"tls13 "` prefix,
the reserved exporter labels, and the Finished labels per side -/
theorem label_uses_eq_rfc :
    ZV.Generated.C26.labelCalls = [
      ("deriveSecret", "expandLabel", "<label>"),
      ("nextTrafficSecret", "expandLabel", "traffic upd"),
      ("trafficKey", "expandLabel", "key"),
      ("trafficKey", "expandLabel", "iv"),
      ("finishedHash", "expandLabel", "finished"),
      ("exportKeyingMaterial", "deriveSecret", "exp master"),
      ("exportKeyingMaterial", "deriveSecret", "<label>"),
      ("exportKeyingMaterial", "expandLabel", "exporter")]
    ∧ ZV.Generated.C26.hkdfLabelPrefix = ["tls13 "]
    ∧ ZV.Generated.C26.ekmReserved = ["client finished", "server finished", "master secret", "key expansion"]
    ∧ ZV.Generated.C26.prfLabelUses = [
      ("masterFromPreMasterSecret", "master secret"),
      ("keysFromMasterSecret", "key expansion"),
      ("clientSum", "client finished"),
      ("serverSum", "server finished")] := ⟨rfl, rfl, rfl, rfl⟩

/-- the model's label constants are the same strings (so the theorems above speak about the tree's labels) -/
theorem model_labels :
    masterSecretLabel = (ascii "master secret") ∧ keyExpansionLabel = (ascii "key expansion")
    ∧ clientFinishedLabel = (ascii "client finished") ∧ serverFinishedLabel = (ascii "server finished")
    ∧ trafficUpdateLabel = (ascii "traffic upd") ∧ exporterLabel = (ascii "exp master")
    ∧ ekmReserved = (ZV.Generated.C26.ekmReserved.map ascii) := ⟨rfl, rfl, rfl, rfl, rfl, rfl, rfl⟩

theorem lengths_eq_rfc : ZV.Generated.C26.lengths =
    [("aeadNonceLength", 12), ("finishedVerifyLength", 12), ("masterSecretLength", 48)]
    ∧ masterSecretLength = 48 ∧ finishedVerifyLength = 12 ∧ aeadNonceLength = 12 := ⟨rfl, rfl, rfl, rfl⟩

/-- every implemented TLS ≤ 1.2 suite carries the SHA-384 flag iff the RFCs (5288, 5289) define it with
the SHA-384 PRF -/
theorem suite_prf_hash_eq_rfc :
    ∀ row ∈ ZV.Generated.C26.suites, row.2 = rfcSHA384Suites.contains row.1 := by
  intro row h
  rw [← suite_lengths_eq_rfc.2] at h
  obtain ⟨r, hr, rfl⟩ := List.mem_map.1 h
  exact (suite_lengths_eq_rfc.1 r hr).2

/-- the TLS 1.3 suite table (AEAD key length, hash) is RFC 8446 B.4, no more, no less -/
theorem suites13_eq_rfc :
    (∀ row ∈ ZV.Generated.C26.suites13, row ∈ rfcSuites13)
    ∧ (∀ row ∈ rfcSuites13, row ∈ ZV.Generated.C26.suites13) := by decide +kernel

end ZV.C26
