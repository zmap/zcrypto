import ZV.Proofs.C27Sel
import ZV.Proofs.C27Accept
/-!
  C27 — TLS peers authenticate each other as configured: the property's sentences, proved for every configuration
  of the acceptance-decision model (all key exchanges × all `ClientAuthType`s × every combination of the abstract
  facts about what the peer presented).  The tie to the code is the T2/T3 scenario matrix of real handshakes.
-/
namespace ZV.C27

/-- With verification enabled the client accepts only a server whose chain verifies and which proves possession of
    the leaf key (for the signed key exchanges and TLS 1.3: by an intact signature). -/
theorem client_completes_implies (kex : Kex) (c : ServerCred) (h : clientAccepts false kex c = true) :
    c.chainOK = true ∧ c.keyMatches = true ∧ (kex ≠ .rsa → c.sigIntact = true) := by
  obtain ⟨hc, hp, _⟩ := (clientAccepts_iff false kex c).mp h
  exact ⟨hc.resolve_left Bool.false_ne_true, possession_sound hp (Or.inl rfl)⟩

/-- … and nothing more is required: a trusted, key-holding server with an intact signature is accepted. -/
theorem client_accepts_good (skip : Bool) (kex : Kex) : clientAccepts skip kex ⟨true, true, true⟩ = true := by
  cases skip <;> cases kex <;> rfl

/-- Each "bad" server scenario of the property (untrusted / expired / misnamed = chain does not verify; substituted
    key; corrupted signature) makes a verifying client refuse. -/
theorem bad_server_rejected (kex : Kex) (c : ServerCred)
    (hbad : c.chainOK = false ∨ c.keyMatches = false ∨ (kex ≠ .rsa ∧ c.sigIntact = false)) :
    clientAccepts false kex c = false := by
  refine Bool.eq_false_iff.mpr fun h => Bool.false_ne_true ?_
  obtain ⟨h1, h2, h3⟩ := client_completes_implies kex c h
  rcases hbad with hb | hb | ⟨hk, hb⟩
  · exact hb.symm.trans h1
  · exact hb.symm.trans h2
  · exact hb.symm.trans (h3 hk)

/-- InsecureSkipVerify drops the chain check but not the possession proof, except for DHE (as coded). -/
theorem skipverify_still_needs_possession (kex : Kex) (c : ServerCred) (hk : kex ≠ .dhe)
    (h : clientAccepts true kex c = true) : c.keyMatches = true :=
  (possession_sound ((clientAccepts_iff true kex c).mp h).2.1 (Or.inr hk)).1

/-- `clientauth_table`, first sentence: a server REQUIRING client certificates completes only with a client that
    presents a certificate and proves possession of its key. -/
theorem clientauth_required_possession (m : Mode) (o : ClientOffer) (hreq : requiresClientCert m = true)
    (h : serverAccepts m o = true) : o.hasCert = true ∧ o.cvValid = true := by
  rcases (serverAccepts_iff m o).mp h with rfl | ⟨h1, h2⟩
  · cases hreq
  · cases hc : o.hasCert with
    | false => rw [h1 hc] at hreq; cases hreq
    | true => exact ⟨rfl, (h2 hc).2⟩

/-- second sentence: when verification is requested (VerifyClientCertIfGiven, RequireAndVerifyClientCert) a presented
    certificate is accepted only if its chain verifies — and always only with a valid CertificateVerify. -/
theorem clientauth_verify_chain (m : Mode) (o : ClientOffer) (hm : m = .verifyIfGiven ∨ m = .requireAndVerify)
    (hc : o.hasCert = true) (h : serverAccepts m o = true) : o.chainOK = true ∧ o.cvValid = true := by
  rcases (serverAccepts_iff m o).mp h with rfl | ⟨_, h2⟩
  · rcases hm with hm | hm <;> cases hm
  · exact ⟨(h2 hc).1 (by rcases hm with rfl | rfl <;> decide), (h2 hc).2⟩

/-- in every mode a presented certificate needs a valid CertificateVerify (whenever certificates are requested) -/
theorem clientauth_cert_needs_cv (m : Mode) (o : ClientOffer) (hm : m ≠ .noClientCert) (hc : o.hasCert = true)
    (h : serverAccepts m o = true) : o.cvValid = true := by
  rcases (serverAccepts_iff m o).mp h with h0 | ⟨_, h2⟩
  · exact absurd h0 hm
  · exact (h2 hc).2

/-- the full decision table, mode by mode (completeness: nothing else is rejected) -/
theorem clientauth_table (o : ClientOffer) :
    serverAccepts .noClientCert o = true ∧
    serverAccepts .request o = (!o.hasCert || o.cvValid) ∧
    serverAccepts .requireAny o = (o.hasCert && o.cvValid) ∧
    serverAccepts .verifyIfGiven o = (!o.hasCert || (o.chainOK && o.cvValid)) ∧
    serverAccepts .requireAndVerify o = (o.hasCert && o.chainOK && o.cvValid) := by
  cases o with
  | mk a b d => cases a <;> cases b <;> cases d <;> decide

/-- RequireAndVerifyClientCert: the server side of a completed handshake has all three facts; and the server never
    completes unless the client also accepted the server. -/
theorem mutual_auth_complete (tls13 : Bool) (kex : Kex) (c : ServerCred) (o : ClientOffer)
    (h : (outcome tls13 (clientAccepts false kex c) (serverAccepts .requireAndVerify o)).2 = true) :
    c.chainOK = true ∧ c.keyMatches = true ∧ o.hasCert = true ∧ o.chainOK = true ∧ o.cvValid = true := by
  simp only [outcome, Bool.and_eq_true] at h
  obtain ⟨h1, h2, _⟩ := client_completes_implies kex c h.2
  obtain ⟨h3, h5⟩ := clientauth_required_possession _ o rfl h.1
  exact ⟨h1, h2, h3, (clientauth_verify_chain _ o (Or.inr rfl) h3 h.1).1, h5⟩

example : clientAccepts false .ecdhe ⟨true, true, true⟩ = true := rfl
example : serverAccepts .requireAndVerify ⟨true, true, true⟩ = true := rfl
example : requiresClientCert .requireAny = true := rfl

/-! ## resumption -/

/-- The guard of `loadSession`: a VERIFYING configuration offers a cached session only if that session carries verified
    chains, its leaf is not expired now and lists the configured ServerName. -/
theorem resumption_needs_verified_chains (s : Session) (notExpired named : Bool)
    (h : sessionUsable false s notExpired named = true) :
    s.hasVerifiedChains = true ∧ notExpired = true ∧ named = true := by
  cases s with
  | mk v => cases v <;> cases notExpired <;> cases named <;> simp_all [sessionUsable]

/-- A session made against a server whose chain did not verify for the configuration that made it (e.g. under
    InsecureSkipVerify) is never used by a verifying configuration: the second connection is decided exactly like a
    fresh one. -/
theorem unverified_session_not_resumed (kex : Kex) (first second : ChainFacts) (c : ServerCred)
    (h : (first.trusted && first.fresh) = false) :
    clientAcceptsWithCache false kex (some (sessionOf first)) second c = clientAccepts false kex c := by
  simp [clientAcceptsWithCache, sessionOf, sessionUsable, h]

/-- Soundness of client-side resumption for configurations that trust the same roots: whatever configuration (verifying
    or not, other name, other time) filled the cache, a verifying configuration completes the second connection only if
    the server's chain verifies for ITS roots, time and name.
    -- FULL: the same without `hroots`.  It does not hold for the code as it is: a session verified under OTHER roots is
    -- resumed (see `differently_rooted_session_is_resumed` below; reported as a finding, same behaviour as crypto/tls
    -- before the fix of CVE-2025-68121). -/
theorem resumed_session_sound_same_roots_partial (kex : Kex) (cached : Option ChainFacts) (second : ChainFacts)
    (km si : Bool) (hroots : ∀ f, cached = some f → f.trusted = true → second.trusted = true)
    (h : clientAcceptsWithCache false kex (cached.map sessionOf) second ⟨second.chainOK, km, si⟩ = true) :
    second.chainOK = true := by
  cases cached with
  | none => exact (client_completes_implies kex _ h).1
  | some f =>
    simp only [Option.map_some, clientAcceptsWithCache] at h
    split at h
    · rename_i hu
      obtain ⟨hv, hf, hn⟩ := resumption_needs_verified_chains _ _ _ hu
      have ht := hroots f rfl (Bool.and_eq_true_iff.mp hv).1
      simp only [ChainFacts.chainOK, ht, hf, hn, Bool.and_self]
    · exact (client_completes_implies kex _ h).1

/-- the code as it is: a session whose chain verified under the FIRST configuration's roots is resumed by a verifying
    configuration whose own roots do not contain the issuer (finding F-C27-resume-other-roots) -/
theorem differently_rooted_session_is_resumed (kex : Kex) :
    clientAcceptsWithCache false kex (some (sessionOf ⟨true, true, true⟩)) ⟨false, true, true⟩ ⟨false, true, true⟩ = true := by
  cases kex <;> rfl

/-- Server side: a resumed session never bypasses client-certificate verification — with VerifyClientCertIfGiven /
    RequireAndVerifyClientCert a ticket carrying client certificates is accepted only if they verify under the CURRENT
    configuration. -/
theorem server_resume_reverifies (m : Mode) (chainOKnow : Bool) (o : ClientOffer)
    (hm : m = .verifyIfGiven ∨ m = .requireAndVerify)
    (h : serverAcceptsWithTicket m (some true) chainOKnow o = true) : chainOKnow = true := by
  have hr : serverResumes m true = true := by rcases hm with rfl | rfl <;> rfl
  simp only [serverAcceptsWithTicket, hr, if_true] at h
  exact (clientauth_verify_chain m _ hm rfl h).1

/-- … and a ticket without client certificates is not resumed by a server that requires them: the full handshake
    decides. -/
theorem server_resume_required_cert (m : Mode) (chainOKnow : Bool) (o : ClientOffer) (hreq : requiresClientCert m = true) :
    serverAcceptsWithTicket m (some false) chainOKnow o = serverAccepts m o := by
  cases m <;> simp_all [serverAcceptsWithTicket, serverResumes, requiresClientCert]

example : sessionUsable false ⟨true⟩ true true = true := rfl
example : clientAcceptsWithCache false .tls13 (some (sessionOf ⟨true, true, false⟩)) ⟨true, true, true⟩ ⟨true, true, true⟩ = true := rfl
example : serverAcceptsWithTicket .requireAndVerify (some true) true ⟨true, true, true⟩ = true := rfl

/-! ## verification hooks (`VerifyPeerCertificate`, `VerifyConnection`) -/

/-- Permissive callbacks (absent, or installed and returning nil) change nothing: the decision is exactly the decision
    without them. -/
theorem client_permissive_hooks_same (vpc vc : Hook) (skip : Bool) (kex : Kex) (c : ServerCred)
    (hp : vpc.allows = true) (hc : vc.allows = true) :
    clientAcceptsH vpc vc skip kex c = clientAccepts skip kex c := by
  rw [clientAcceptsH_eq, hp, hc]
  rfl

/-- Whatever the callbacks return they only ever restrict: acceptance with hooks implies acceptance without. -/
theorem client_hooks_only_restrict (vpc vc : Hook) (skip : Bool) (kex : Kex) (c : ServerCred)
    (h : clientAcceptsH vpc vc skip kex c = true) : clientAccepts skip kex c = true := by
  rw [clientAcceptsH_eq] at h
  exact (Bool.and_eq_true_iff.mp h).2

/-- A verifying client refuses every bad server also with callbacks installed, whatever they return … -/
theorem bad_server_rejected_with_hooks (vpc vc : Hook) (kex : Kex) (c : ServerCred)
    (hbad : c.chainOK = false ∨ c.keyMatches = false ∨ (kex ≠ .rsa ∧ c.sigIntact = false)) :
    clientAcceptsH vpc vc false kex c = false := by
  refine Bool.eq_false_iff.mpr fun hh => Bool.false_ne_true ?_
  exact (bad_server_rejected kex c hbad).symm.trans (client_hooks_only_restrict vpc vc false kex c hh)

/-- … and when normal verification fails the callbacks are not even considered (the documented order). -/
theorem hooks_not_run_when_verification_fails (vpc vc : Hook) (c : ServerCred) (hbad : c.chainOK = false) :
    clientVpcRuns vpc false c = false ∧ clientVcRuns vpc vc false c = false := by
  simp [clientVpcRuns, clientVcRuns, hbad]

/-- A callback that returns an error aborts the client's handshake. -/
theorem client_rejecting_hook_aborts (vpc vc : Hook) (skip : Bool) (kex : Kex) (c : ServerCred)
    (h : vpc = .reject ∨ vc = .reject) : clientAcceptsH vpc vc skip kex c = false := by
  rw [clientAcceptsH_eq]
  rcases h with rfl | rfl
  · rfl
  · rw [show Hook.reject.allows = false from rfl, Bool.and_false, Bool.false_and]

/-- Server side: permissive callbacks leave the decision table of `processCertsFromClient` + CertificateVerify unchanged. -/
theorem server_permissive_hooks_same (vpc vc : Hook) (m : Mode) (o : ClientOffer)
    (hp : vpc.allows = true) (hc : vc.allows = true) : serverAcceptsH vpc vc m o = serverAccepts m o := by
  rw [serverAcceptsH_eq, hp, hc]
  rfl

/-- … and in general they only restrict. -/
theorem server_hooks_only_restrict (vpc vc : Hook) (m : Mode) (o : ClientOffer)
    (h : serverAcceptsH vpc vc m o = true) : serverAccepts m o = true := by
  rw [serverAcceptsH_eq] at h
  exact (Bool.and_eq_true_iff.mp h).2

/-- the two client-authentication sentences with callbacks installed (corollaries) -/
theorem clientauth_with_hooks (vpc vc : Hook) (m : Mode) (o : ClientOffer) (h : serverAcceptsH vpc vc m o = true) :
    (requiresClientCert m = true → o.hasCert = true ∧ o.cvValid = true) ∧
    ((m = .verifyIfGiven ∨ m = .requireAndVerify) → o.hasCert = true → o.chainOK = true ∧ o.cvValid = true) :=
  have h0 := server_hooks_only_restrict vpc vc m o h
  ⟨fun hr => clientauth_required_possession m o hr h0, fun hm hc => clientauth_verify_chain m o hm hc h0⟩

/-- the server's `VerifyPeerCertificate` is reached only when the certificate checks passed: never with a presented
    chain that does not verify under a verifying policy, never without a certificate under a requiring one -/
theorem server_hook_not_reached_when_checks_fail (m : Mode) (o : ClientOffer) :
    ((m = .verifyIfGiven ∨ m = .requireAndVerify) → o.hasCert = true → o.chainOK = false → serverCertChecksPass m o = false) ∧
    (requiresClientCert m = true → o.hasCert = false → serverCertChecksPass m o = false) := by
  unfold serverCertChecksPass
  refine ⟨fun hm hc hch => ?_, fun hreq hc => ?_⟩
  · have h3 : decide (m.toNat ≥ 3) = true := by rcases hm with rfl | rfl <;> rfl
    rw [h3, hc, hch]
    exact Bool.and_false _
  · rw [hreq, hc]
    simp

/-- a rejecting server callback aborts: `VerifyConnection` in every mode, `VerifyPeerCertificate` whenever certificates are requested -/
theorem server_rejecting_hook_aborts (vpc vc : Hook) (m : Mode) (o : ClientOffer)
    (h : vc = .reject ∨ (vpc = .reject ∧ m ≠ .noClientCert)) : serverAcceptsH vpc vc m o = false := by
  rw [serverAcceptsH_eq]
  rcases h with rfl | ⟨rfl, hm⟩
  · rfl
  · simp [Hook.allows, hm]

example : clientAcceptsH .permit .permit false .tls13 ⟨true, true, true⟩ = true := rfl
example : Hook.allows .permit = true ∧ Hook.allows .absent = true := ⟨rfl, rfl⟩
example : serverAcceptsH .permit .permit .requireAndVerify ⟨true, true, true⟩ = true := rfl
example : requiresClientCert .requireAny = true ∧ (⟨false, false, false⟩ : ClientOffer).hasCert = false := ⟨rfl, rfl⟩
example : (⟨false, true, true⟩ : ServerCred).chainOK = false := rfl

/-! ## which certificate the server presents (`Config.getCertificate`, `BuildNameToCertificate`) -/

/-- Without a `GetCertificate` callback the choice is the static one; a callback is not even consulted when certificates
    are configured and the client sent no ServerName. -/
theorem getCertificate_hook_not_consulted (hook : GetCertHook) (ncerts : Nat) (n2c : Option NameMap) (sup : List Bool)
    (name : List Char) (h : hook = .absent ∨ (ncerts > 0 ∧ name = [])) :
    getCertificate hook ncerts n2c sup name = selectStatic ncerts n2c sup name := by
  rcases h with rfl | ⟨h1, rfl⟩
  · simp [getCertificate]
  · simp [getCertificate, Nat.ne_of_gt h1]

/-- A consulted callback that returns a certificate (an error) decides; one that returns (nil, nil) changes nothing. -/
theorem getCertificate_hook_consulted (hook : GetCertHook) (ncerts : Nat) (n2c : Option NameMap) (sup : List Bool)
    (name : List Char) (h : ncerts = 0 ∨ name ≠ []) :
    getCertificate hook ncerts n2c sup name =
      match hook with
      | .retCert => .hookCert
      | .retErr => .hookErr
      | _ => selectStatic ncerts n2c sup name := by
  cases hook <;> simp [getCertificate, h.imp_right List.length_pos_iff.mpr]

/-- `errNoCertificates` exactly when nothing is configured. -/
theorem selectStatic_noCerts_iff (ncerts : Nat) (n2c : Option NameMap) (sup : List Bool) (name : List Char) :
    selectStatic ncerts n2c sup name = .noCerts ↔ ncerts = 0 := by
  match ncerts with
  | 0 => exact iff_of_true rfl rfl
  | 1 => exact ⟨nofun, nofun⟩
  | n + 2 =>
    rw [selectStatic_of_two_le (Nat.le_add_left 2 n)]
    exact ⟨nofun, nofun⟩

/-- One certificate: it is presented whatever the client asks for. -/
theorem single_certificate_always_presented (n2c : Option NameMap) (sup : List Bool) (name : List Char) :
    selectStatic 1 n2c sup name = .cert 0 := by
  simp [selectStatic]

/-- The choice depends on the ServerName only through its lower-case form. -/
theorem selection_case_insensitive (ncerts : Nat) (n2c : Option NameMap) (sup : List Bool) (a b : List Char)
    (h : lowerName a = lowerName b) : selectStatic ncerts n2c sup a = selectStatic ncerts n2c sup b := by
  simp [selectStatic, h]

/-- `NameToCertificate` wins: an entry for the lower-cased ServerName is returned … -/
theorem exact_name_entry_wins (ncerts : Nat) (m : NameMap) (sup : List Bool) (name : List Char) (i : Nat)
    (hn : ncerts ≥ 2) (h : m.lookup (lowerName name) = some i) : selectStatic ncerts (some m) sup name = .cert i := by
  simp [selectStatic_of_two_le hn, nameEntry, h]

/-- … otherwise, for a non-empty name, the entry for the name with its first label replaced by `*`. -/
theorem wildcard_entry_next (ncerts : Nat) (m : NameMap) (sup : List Bool) (name : List Char) (i : Nat)
    (hn : ncerts ≥ 2) (hne : name ≠ []) (h : m.lookup (lowerName name) = none)
    (hw : m.lookup (wildcardName (lowerName name)) = some i) : selectStatic ncerts (some m) sup name = .cert i := by
  have hl : (lowerName name).length > 0 := by
    rw [lowerName, List.length_map]
    exact List.length_pos_iff.mpr hne
  simp [selectStatic_of_two_le hn, nameEntry, h, hl, hw]

/-- No usable map entry: the FIRST certificate the client supports (`SupportsCertificate`), else the first certificate. -/
theorem first_supported_else_first (ncerts : Nat) (n2c : Option NameMap) (sup : List Bool) (name : List Char)
    (hn : ncerts ≥ 2)
    (hmap : n2c = none ∨ ∃ m, n2c = some m ∧ m.lookup (lowerName name) = none ∧
      (name = [] ∨ m.lookup (wildcardName (lowerName name)) = none)) :
    (∃ i, selectStatic ncerts n2c sup name = .cert i ∧ sup[i]? = some true ∧ ∀ j, j < i → sup[j]? = some false) ∨
    (selectStatic ncerts n2c sup name = .cert 0 ∧ ∀ b ∈ sup, b = false) := by
  have he : nameEntry n2c (lowerName name) = none := by
    rcases hmap with rfl | ⟨m, rfl, he, rfl | hw⟩
    · rfl
    · simp only [nameEntry, he]
      rfl
    · simp only [nameEntry, he, hw, ite_self]
  rw [selectStatic_of_two_le hn, he]
  cases hf : firstTrue sup with
  | some i => exact Or.inl ⟨i, rfl, firstTrue_some sup i hf⟩
  | none => exact Or.inr ⟨rfl, (firstTrue_eq_none sup).mp hf⟩

/-- Whatever is selected is one of the configured certificates (no out-of-range index), provided the map points at
    configured certificates. -/
theorem selected_is_configured (ncerts : Nat) (n2c : Option NameMap) (sup : List Bool) (name : List Char) (i : Nat)
    (hlen : sup.length = ncerts) (hm : ∀ m k j, n2c = some m → m.lookup k = some j → j < ncerts)
    (h : selectStatic ncerts n2c sup name = .cert i) : i < ncerts := by
  match ncerts with
  | 0 => cases h
  | 1 =>
    cases h
    exact Nat.one_pos
  | n + 2 =>
    rw [selectStatic_of_two_le (Nat.le_add_left 2 n)] at h
    cases h
    cases he : nameEntry n2c (lowerName name) with
    | some j =>
      obtain ⟨m, k, hm', hk⟩ := nameEntry_some he
      exact hm m k j hm' hk
    | none =>
      cases hf : firstTrue sup with
      | some k => exact hlen ▸ firstTrue_lt sup k hf
      | none => exact Nat.succ_pos _

/-- `BuildNameToCertificate`: a name is mapped to the LAST certificate that contributes it (its DNS SANs, or its
    CommonName when it has no SANs; a leaf that does not parse contributes nothing), and to nothing if none does. -/
theorem build_maps_name_to_last_listing (certs : List LeafNames) (k : List Char) :
    (buildNameToCertificate certs).lookup k = lastListing 0 certs k := by
  rw [buildNameToCertificate, lookup_buildFrom]
  cases lastListing 0 certs k <;> simp [NameMap.lookup]

example : selectStatic 2 (some [("a.test".toList, 1)]) [true, false] "A.Test".toList = .cert 1 := by
  repeat rw [String.toList_ofList]
  decide +kernel
example : selectStatic 3 (some [("*.a.test".toList, 2)]) [false, true, false] "x.a.test".toList = .cert 2 := by
  repeat rw [String.toList_ofList]
  decide +kernel
example : selectStatic 3 none [false, true, true] "b.test".toList = .cert 1 := by decide +kernel
example : (buildNameToCertificate [⟨true, "cn".toList, []⟩, ⟨true, "x".toList, ["cn".toList]⟩]).lookup "cn".toList = some 1 := by decide +kernel

/-! ## which certificate the client offers (`getClientCertificate`, `CertificateRequestInfo.SupportsCertificate`,
    `selectSignatureScheme`, `signatureSchemesForCertificate`, `certificateRequestInfoFromMsg`) -/

/-- The scheme chosen is one the certificate can use and one the peer offered — or, when a TLS 1.2 peer offered none, one
    of the two SHA-1 defaults of RFC 5246. -/
theorem selected_scheme_sound (vers : Nat) (c : ClientCert) (peer : List Nat) (s : Nat)
    (h : selectSignatureScheme vers c peer = some s) :
    s ∈ signatureSchemesForCertificate vers c ∧
    (s ∈ peer ∨ (peer = [] ∧ vers = Gen.versionTLS12 ∧ (s = Gen.pkcs1WithSHA1 ∨ s = Gen.ecdsaWithSHA1))) := by
  simp only [selectSignatureScheme] at h
  by_cases h0 : (signatureSchemesForCertificate vers c).length = 0
  · rw [if_pos h0] at h
    cases h
  · rw [if_neg h0] at h
    have hs := List.find?_some h
    have hm := List.mem_of_find?_eq_some h
    refine ⟨(isSupported_iff _ _).mp hs, ?_⟩
    by_cases hp : peer.length = 0 ∧ vers = Gen.versionTLS12
    · rw [if_pos hp] at hm
      exact Or.inr ⟨List.length_eq_zero_iff.mp hp.1, hp.2, by simpa using hm⟩
    · rw [if_neg hp] at hm
      exact Or.inl hm

/-- … and it is the peer's FIRST acceptable one (peer preference order). -/
theorem selected_scheme_peer_preference (vers : Nat) (c : ClientCert) (peer : List Nat) (s : Nat) (hp : peer ≠ [])
    (h : selectSignatureScheme vers c peer = some s) :
    peer.find? (fun x => isSupported x (signatureSchemesForCertificate vers c)) = some s := by
  simp only [selectSignatureScheme] at h
  by_cases h0 : (signatureSchemesForCertificate vers c).length = 0
  · rw [if_pos h0] at h
    cases h
  · rwa [if_neg h0, if_neg fun hh => hp (List.length_eq_zero_iff.mp hh.1)] at h

/-- `Certificate.SupportedSignatureAlgorithms`, when set, bounds what the certificate signs with. -/
theorem schemes_respect_supported_algorithms (vers : Nat) (c : ClientCert) (l : List Nat) (s : Nat) (hl : c.ssa = some l)
    (h : s ∈ signatureSchemesForCertificate vers c) : s ∈ l :=
  let ⟨_, _, _, h3⟩ := mem_signatureSchemes h
  h3 l hl

/-- An RSA key signs only with a row of `rsaSignatureSchemes` (the table of the tree) whose modulus bound and version bound
    it meets. -/
theorem rsa_scheme_from_table (vers n : Nat) (ssa : Option (List Nat)) (iss : List (Option Nat)) (s : Nat)
    (h : s ∈ signatureSchemesForCertificate vers ⟨.rsa n, ssa, iss⟩) :
    ∃ minB maxV, (s, minB, maxV) ∈ Gen.rsaSignatureSchemes ∧ n ≥ minB ∧ vers ≤ maxV := by
  obtain ⟨algs, hk, hs, _⟩ := mem_signatureSchemes h
  cases hk
  exact mem_rsaSchemes n vers s _ hs

/-- the table row check behind `tls13_rsa_only_pss` (over the generated tables) -/
theorem rsa_table_tls13_rows_are_pss :
    ∀ row ∈ Gen.rsaSignatureSchemes, Gen.versionTLS13 ≤ row.2.2 → sigTypeOf row.1 Gen.sigTypeTable = some Gen.signatureRSAPSS := by
  decide +kernel

/-- TLS 1.3: an RSA certificate signs with RSA-PSS only (PKCS #1 v1.5 is gone), whatever its size and
    SupportedSignatureAlgorithms. -/
theorem tls13_rsa_only_pss (n : Nat) (ssa : Option (List Nat)) (iss : List (Option Nat)) (s : Nat)
    (h : s ∈ signatureSchemesForCertificate Gen.versionTLS13 ⟨.rsa n, ssa, iss⟩) :
    sigTypeOf s Gen.sigTypeTable = some Gen.signatureRSAPSS := by
  obtain ⟨minB, maxV, hrow, _, hv⟩ := rsa_scheme_from_table _ n ssa iss s h
  exact rsa_table_tls13_rows_are_pss (s, minB, maxV) hrow hv

/-- TLS 1.3: an ECDSA certificate signs only with the scheme of ITS curve; a curve outside P-256/384/521 with none. -/
theorem tls13_ecdsa_bound_to_curve (curve : Nat) (ssa : Option (List Nat)) (iss : List (Option Nat)) (s : Nat)
    (h : s ∈ signatureSchemesForCertificate Gen.versionTLS13 ⟨.ecdsa curve, ssa, iss⟩) :
    (curve = 256 ∧ s = Gen.ecdsaWithP256AndSHA256) ∨ (curve = 384 ∧ s = Gen.ecdsaWithP384AndSHA384) ∨
    (curve = 521 ∧ s = Gen.ecdsaWithP521AndSHA512) := by
  obtain ⟨algs, hk, hs, _⟩ := mem_signatureSchemes h
  rw [keySchemes, if_neg (not_not_intro rfl)] at hk
  by_cases h1 : curve = 256
  · rw [if_pos h1] at hk
    cases hk
    exact Or.inl ⟨h1, List.mem_singleton.mp hs⟩
  rw [if_neg h1] at hk
  by_cases h2 : curve = 384
  · rw [if_pos h2] at hk
    cases hk
    exact Or.inr (Or.inl ⟨h2, List.mem_singleton.mp hs⟩)
  rw [if_neg h2] at hk
  by_cases h3 : curve = 521
  · rw [if_pos h3] at hk
    cases hk
    exact Or.inr (Or.inr ⟨h3, List.mem_singleton.mp hs⟩)
  rw [if_neg h3] at hk
  cases hk

/-- A key that is not a `crypto.Signer`, or a signer of an unknown kind, is never offered. -/
theorem unusable_key_never_selected (vers : Nat) (c : ClientCert) (peer : List Nat)
    (hk : c.key = .notSigner ∨ c.key = .otherSigner) : selectSignatureScheme vers c peer = none := by
  rcases hk with hk | hk <;> simp [selectSignatureScheme, signatureSchemesForCertificate, keySchemes, hk]

/-- What the client sends in answer to a CertificateRequest: the FIRST configured chain the request supports … -/
theorem client_sends_first_supported (vers : Nat) (schemes cas : List Nat) (certs : List ClientCert) (i : Nat)
    (h : getClientCertificate vers schemes cas certs = some i) :
    (∃ c, certs[i]? = some c ∧ criSupports vers schemes cas c = true) ∧
    ∀ j, j < i → ∃ c, certs[j]? = some c ∧ criSupports vers schemes cas c = false := by
  rw [getClientCertificate_eq] at h
  simpa only [List.getElem?_map, Option.map_eq_some_iff] using firstTrue_some _ i h

/-- … and an empty Certificate message exactly when the request supports none of them. -/
theorem client_sends_none_iff (vers : Nat) (schemes cas : List Nat) (certs : List ClientCert) :
    getClientCertificate vers schemes cas certs = none ↔ ∀ c ∈ certs, criSupports vers schemes cas c = false := by
  rw [getClientCertificate_eq, firstTrue_eq_none, List.forall_mem_map]

/-- A chain the request supports can be signed for with a scheme the server listed, and — when the server named CAs — has
    an element issued by one of them, every element before it parsing.  (So a certificate from a CA the server did not
    name is withheld: the fact the hk stream's descriptor mapping uses.) -/
theorem supported_chain_facts (vers : Nat) (schemes cas : List Nat) (c : ClientCert)
    (h : criSupports vers schemes cas c = true) :
    (∃ s, selectSignatureScheme vers c schemes = some s) ∧ (cas = [] ∨ ∃ ca, ca ∈ cas ∧ some ca ∈ c.issuers) := by
  simp only [criSupports] at h
  cases hs : selectSignatureScheme vers c schemes with
  | none => simp [hs] at h
  | some s =>
    simp only [hs] at h
    refine ⟨⟨s, rfl⟩, ?_⟩
    by_cases hc : cas.length = 0
    · exact Or.inl (List.length_eq_zero_iff.mp hc)
    · simp only [hc, if_false] at h
      exact Or.inr (chainAcceptable_sound cas c.issuers h)

/-- The certificate actually sent therefore has these facts (corollary for the handshake: `hasCert` of the decision model
    is true only for such a chain). -/
theorem sent_certificate_acceptable (vers : Nat) (schemes cas : List Nat) (certs : List ClientCert) (i : Nat)
    (h : getClientCertificate vers schemes cas certs = some i) :
    ∃ c, certs[i]? = some c ∧ (∃ s, selectSignatureScheme vers c schemes = some s) ∧
      (cas = [] ∨ ∃ ca, ca ∈ cas ∧ some ca ∈ c.issuers) := by
  obtain ⟨⟨c, hc, hsup⟩, _⟩ := client_sends_first_supported vers schemes cas certs i h
  exact ⟨c, hc, supported_chain_facts vers schemes cas c hsup⟩

/-- TLS 1.2 CertificateRequest: the schemes handed to selection are among those the server sent, each of a family its
    certificate_types allow (`typeAndHashFromSignatureScheme` of the tree). -/
theorem cri_schemes_filtered (types algs : List Nat) (s : Nat) (h : s ∈ criSchemes types true algs) :
    s ∈ algs ∧ ∃ t, sigTypeOf s Gen.sigTypeTable = some t ∧
      (((t = Gen.signatureECDSA ∨ t = Gen.signatureEd25519) ∧ types.any (· == Gen.certTypeECDSASign) = true) ∨
       ((t = Gen.signatureRSAPSS ∨ t = Gen.signaturePKCS1v15) ∧ types.any (· == Gen.certTypeRSASign) = true)) := by
  simp only [criSchemes, Bool.not_true, Bool.false_eq_true, if_false] at h
  exact mem_filterSchemes _ _ algs s h

/-- Before TLS 1.2 the made-up list holds PKCS #1 v1.5 / ECDSA schemes only, again by certificate type. -/
theorem cri_schemes_legacy (types algs : List Nat) (s : Nat) (h : s ∈ criSchemes types false algs) :
    (sigTypeOf s Gen.sigTypeTable = some Gen.signaturePKCS1v15 ∧ types.any (· == Gen.certTypeRSASign) = true) ∨
    (sigTypeOf s Gen.sigTypeTable = some Gen.signatureECDSA ∧ types.any (· == Gen.certTypeECDSASign) = true) := by
  have hE : ∀ x ∈ [Gen.ecdsaWithP256AndSHA256, Gen.ecdsaWithP384AndSHA384, Gen.ecdsaWithP521AndSHA512],
      sigTypeOf x Gen.sigTypeTable = some Gen.signatureECDSA := by decide +kernel
  have hR : ∀ x ∈ [Gen.pkcs1WithSHA256, Gen.pkcs1WithSHA384, Gen.pkcs1WithSHA512, Gen.pkcs1WithSHA1],
      sigTypeOf x Gen.sigTypeTable = some Gen.signaturePKCS1v15 := by decide +kernel
  rw [criSchemes, Bool.not_false, if_pos rfl] at h
  cases hr : types.any (· == Gen.certTypeRSASign) <;> cases he : types.any (· == Gen.certTypeECDSASign) <;>
    rw [hr, he] at h
  · cases h
  · exact Or.inr ⟨hE s h, rfl⟩
  · exact Or.inl ⟨hR s h, rfl⟩
  · rcases (List.mem_append (s := [_, _, _])).mp h with h' | h'
    · exact Or.inr ⟨hE s h', rfl⟩
    · exact Or.inl ⟨hR s h', rfl⟩

example : selectSignatureScheme Gen.versionTLS12 ⟨.rsa 256, none, []⟩ [Gen.ed25519, 0x0804, 0x0401] = some 0x0804 := by decide +kernel
example : getClientCertificate Gen.versionTLS12 [0x0403] [7] [⟨.ecdsa 256, none, [some 3]⟩, ⟨.ecdsa 256, none, [some 5, some 7]⟩] = some 1 := by decide +kernel
example : criSupports Gen.versionTLS13 [0x0804] [] ⟨.rsa 256, none, []⟩ = true := by decide +kernel
example : 0x0403 ∈ criSchemes [64] true [0x0401, 0x0403] := by decide +kernel
example : 0x0401 ∈ criSchemes [1] false [] := by decide +kernel
example : 0x0804 ∈ signatureSchemesForCertificate Gen.versionTLS13 ⟨.rsa 256, none, []⟩ := by decide +kernel
example : 0x0403 ∈ signatureSchemesForCertificate Gen.versionTLS13 ⟨.ecdsa 256, some [0x0403], []⟩ := by decide +kernel

/-! ## the ClientAuth policy (`processCertsFromClient`) -/

/-- `requiresClientCert` of the tree (run on ClientAuthType 0..7) is the model's, and the model's numeric form agrees with
    the one on `Mode`. -/
theorem requiresClientCert_table : ∀ row ∈ Gen.requiresClientCertTable, requiresClientCertN row.1 = row.2 := by decide

theorem requiresClientCert_agrees (m : Mode) : requiresClientCertN m.toNat = requiresClientCert m := by
  cases m <;> decide

/-- T1: every row of the decision table of the REAL `processCertsFromClient` (5 ClientAuthTypes x 8 certificate kinds:
    alert or acceptance, len(peerCertificates), verifiedChains set) is the model's value … -/
theorem policy_table_is_model : ∀ row ∈ Gen.clientAuthTable,
    (presentedOfKind row.2.1).map (fun p => processCerts row.1 p .absent) =
      some ⟨if row.2.2.1 = 0 then none else some row.2.2.1, row.2.2.2.1, decide (row.2.2.2.2 > 0), false⟩ := by
  decide +kernel

/-- … and the table is complete: all 40 (policy, kind) pairs, each once. -/
theorem policy_table_complete :
    Gen.clientAuthTable.map (fun r => (r.1, r.2.1)) =
      (List.range 5).flatMap (fun m => (List.range 8).map (fun k => (m, k))) := by
  decide +kernel

/-- A policy that REQUIRES a certificate never accepts an empty Certificate message (any ClientAuthType value, any
    callback). -/
theorem policy_required_needs_certificate (m : Nat) (p : Presented) (vpc : Hook) (hreq : requiresClientCertN m = true)
    (h : (processCerts m p vpc).alert = none) : p.count > 0 := by
  rw [processCerts_alert_none] at h
  refine Nat.pos_of_ne_zero fun hc => ?_
  rw [Presented.passes, if_pos hc, hreq] at h
  cases h.1

/-- A VERIFYING policy (ClientAuthType >= VerifyClientCertIfGiven) accepts a presented certificate only if the chain
    verifies (ClientCAs, configured time, ExtKeyUsageClientAuth), and then records the verified chains. -/
theorem policy_verifying_needs_chain (m : Nat) (p : Presented) (vpc : Hook) (hm : m ≥ Gen.verifyClientCertIfGiven)
    (hc : p.count > 0) (h : (processCerts m p vpc).alert = none) :
    p.parses = true ∧ p.verifies = true ∧ p.keyKnown = true ∧ (processCerts m p vpc).chains = true ∧
      (processCerts m p vpc).peers = p.count := by
  have hp := (processCerts_alert_none.mp h).1
  rw [processCerts_of_passes hp]
  rw [Presented.passes, if_neg (Nat.ne_of_gt hc)] at hp
  exact ⟨hp.1, hp.2.1 (decide_eq_true hm), hp.2.2, by simp [hc, hm], rfl⟩

/-- A non-verifying policy never looks at the chain: the outcome does not depend on whether it verifies. -/
theorem policy_nonverifying_ignores_chain (m : Nat) (cnt : Nat) (pa kk v1 v2 : Bool) (vpc : Hook)
    (hm : m < Gen.verifyClientCertIfGiven) :
    processCerts m ⟨cnt, pa, v1, kk⟩ vpc = processCerts m ⟨cnt, pa, v2, kk⟩ vpc := by
  simp only [processCerts, decide_eq_false (Nat.not_le.mpr hm), Bool.false_and]

/-- `VerifyPeerCertificate` is reached only after every check passed: never for a refused chain, never for a missing
    required certificate, never for an unparseable or unsupported certificate. -/
theorem policy_callback_after_checks (m : Nat) (p : Presented) (vpc : Hook) (h : (processCerts m p vpc).vpcRan = true) :
    (p.count > 0 → p.parses = true ∧ p.keyKnown = true) ∧ (p.count = 0 → requiresClientCertN m = false) ∧
    (m ≥ Gen.verifyClientCertIfGiven → p.count > 0 → p.verifies = true) := by
  rw [processCerts_vpcRan, Presented.passes] at h
  refine ⟨fun hc => ?_, fun hc => ?_, fun hm hc => ?_⟩
  · rw [if_neg (Nat.ne_of_gt hc)] at h
    exact ⟨h.1.1, h.1.2.2⟩
  · rw [if_pos hc] at h
    exact h.1
  · rw [if_neg (Nat.ne_of_gt hc)] at h
    exact h.1.2.1 (decide_eq_true hm)

/-- A callback that returns an error makes the function fail; one that is absent or returns nil changes nothing but the
    `vpcRan` flag. -/
theorem policy_callback_only_restricts (m : Nat) (p : Presented) (vpc : Hook)
    (h : (processCerts m p vpc).alert = none) : (processCerts m p .absent).alert = none ∧ vpc ≠ .reject := by
  rw [processCerts_alert_none] at h ⊢
  exact ⟨⟨h.1, by decide⟩, h.2⟩

/-- Refinement: on well-formed certificates the function-level model is the certificate stage of the handshake decision
    model (`serverCertChecksPass` + the callback), for every requesting policy. -/
theorem policy_refines_decision_model (m : Mode) (cnt : Nat) (ve cv : Bool) (vpc : Hook) (hm : m ≠ .noClientCert) :
    ((processCerts m.toNat ⟨cnt, true, ve, true⟩ vpc).alert == none) =
      (serverCertChecksPass m ⟨decide (cnt > 0), ve, cv⟩ && vpc.allows) := by
  have hm1 : decide (m.toNat ≥ 1) = true := by cases m <;> first | rfl | exact absurd rfl hm
  have hal : vpc ≠ .reject ↔ vpc.allows = true := by cases vpc <;> decide
  rw [Bool.eq_iff_iff, beq_iff_eq, Bool.and_eq_true, processCerts_alert_none, requiresClientCert_agrees,
    hal, serverCertChecksPass, Presented.passes, hm1]
  refine and_congr_left fun _ => ?_
  by_cases hc : cnt = 0
  · simp [hc]
  · simp [hc, Nat.pos_of_ne_zero hc, Gen.verifyClientCertIfGiven, Decidable.or_iff_not_imp_left]

example : requiresClientCertN 4 = true := by decide +kernel
example : (processCerts 4 ⟨1, true, true, true⟩ .permit).alert = none := by decide +kernel
example : (processCerts 3 ⟨1, true, true, true⟩ .permit).vpcRan = true := by decide +kernel
example : (1 : Nat) < Gen.verifyClientCertIfGiven := by decide +kernel
example : Mode.request ≠ Mode.noClientCert := by decide +kernel

end ZV.C27
