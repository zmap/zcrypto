import ZV.Proofs.TimeInv
import ZV.Proofs.C18Ext
/-!
  C18 — ASN.1 marshalling round-trips and is idempotent.

  `header_roundtrip`, `base128_roundtrip`: the identifier/length framing is inverted exactly (both modes).

  `unmarshal_marshal_equiv` (the property, on the whole modelled type language): for every schema / parameters / value in
  the decidable domain `InDomain` (ZV.Model.C18Dom) — arbitrarily nested structs, SEQUENCE OF and SET OF (`set` parameter
  and `…SET`-named slice types) over bool, int/int32/int64/Enumerated, *big.Int (any size), OBJECT IDENTIFIER, BIT STRING,
  Flag, RawValue, []byte and string, with every combination of IMPLICIT / EXPLICIT / APPLICATION / PRIVATE tags, the string
  kinds, OPTIONAL, DEFAULT and omitempty — strict `Unmarshal (Marshal v ++ rest) = (v', rest)` with `v ≈ v'` (`VEq`: SET OF
  up to permutation, nil = empty for slices) and `Marshal v' = Marshal v` (idempotence).  If the top-level value itself is
  left out (OPTIONAL at top level), `rest` must let the decoder see that (`Skips`).
  `unmarshal_marshal`: on the decidable sub-domain `Exact` (no SET OF, non-nil slices) `v' = v`.
  `marshal_idempotent`, `unmarshal_marshal_all`: corollaries.  Content-level theorems: `int64_content_roundtrip`,
  `bigint_content_roundtrip`, `oid_content_roundtrip`, `bitstring_content_roundtrip`, `set_sort_*`.

  time.Time (section "time.Time"; models `ZV.Model.Time`, `ZV.Model.C18Time`): `civil_unix_roundtrip` /
  `unix_civil_roundtrip` (calendar ↔ Unix seconds, every year), `utctime_roundtrip`, `gentime_roundtrip`
  (`parseUTCTime ∘ appendUTCTime`, `parseGeneralizedTime ∘ appendGeneralizedTime`, both parsing modes),
  `time_choice`, `time_year_guard`, `time_body_roundtrip` (the UTCTime / GeneralizedTime choice of `makeField` /
  `makeBody` and the decoder's arm agree), `time_field_roundtrip` (a bare time.Time with parameters through the header /
  EXPLICIT / IMPLICIT stage, both modes; also tied by T2, `c18 tm/tu`).
  Extended embedding (section "Extended embedding" at the end; `ZV.Model.C18Ext`): structs whose fields are time.Time or
  any type of the base embedding (`Schema`) — `xstruct_unmarshal_marshal` (round trip + rest + idempotence), `xstruct_marshal_idempotent`
  (Marshal ∘ Unmarshal ∘ Marshal = Marshal), `xstruct_unmarshal_all`, `time_remarshal`; tied by T2 (`c18 tm` on struct
  schemas, `c18 xu`).  time.Time nested deeper (struct in struct, slice elements) is covered by T3 only.

  Not covered by theorems (correspondence T2 / oracle T3 only): interface{}, RawContent (outside the model);
  Go `int` overflow of lengths ≥ 2^31.  See tools/props/C18.json.
-/
namespace ZV.C18

/-- header round trip (identifier and length octets), both modes -/
theorem header_roundtrip (perm : Bool) (t : TL) (hc : t.cls < 4) (ht : t.tag ≤ 2147483647) (hl : t.len < 2147483648)
    (rest : Bytes) : parseTL perm (appendTL t ++ rest) = .ok (t, rest) :=
  parseTL_appendTL perm t hc ht hl rest

example : ∃ t : TL, t.cls < 4 ∧ t.tag ≤ 2147483647 ∧ t.len < 2147483648 ∧ t.tag ≥ 31 ∧ t.len ≥ 128 :=
  ⟨{ cls := 2, tag := 1000, len := 300, compound := true }, by decide⟩

/-- `parseBase128Int ∘ appendBase128Int = id` on `[0, 2^31)` (tag numbers, OID arcs) -/
theorem base128_roundtrip (n : Nat) (h : n ≤ 2147483647) (rest : Bytes) :
    base128 0 0 (appendBase128 (n : Int) ++ rest) = .ok (n, rest) := by
  rw [appendBase128_nat]
  exact base128_digits n h rest

/-- **C18**: for every type, parameters and value of the domain, strict Unmarshal of Marshal's output followed by any
    `rest` returns a value `v' ≈ v` (SET OF up to permutation, nil = empty) and exactly `rest`, and `v'` marshals to the
    same bytes.  (`hr`: only relevant when the top-level value itself is left out by Marshal.) -/
theorem unmarshal_marshal_equiv (s : Schema) (p : Params) (v : Val) (enc rest : Bytes)
    (hd : InDomain s p v = true) (hm : marshal s p v = .ok enc) (hl : enc.length < 2147483648)
    (hr : omitted s p v = true → Skips s p rest) :
    ∃ v', unmarshal false s p (enc ++ rest) = .ok (v', rest) ∧ VEq s p v v' ∧ marshal s p v' = .ok enc := by
  obtain ⟨v', h1, h2, h3, _⟩ := (roundtrip_both s).1 p v enc rest hd hm hl hr
  exact ⟨v', h1, h2, h3⟩

/-- **C18 (identical value)**: on the sub-domain `Exact` (no SET OF, non-nil slices) the value comes back identically. -/
theorem unmarshal_marshal (s : Schema) (p : Params) (v : Val) (enc rest : Bytes)
    (hd : InDomain s p v = true) (he : Exact s p v = true) (hm : marshal s p v = .ok enc) (hl : enc.length < 2147483648)
    (hr : omitted s p v = true → Skips s p rest) :
    unmarshal false s p (enc ++ rest) = .ok (v, rest) := by
  obtain ⟨v', h1, _, _, h4, _⟩ := (roundtrip_both s).1 p v enc rest hd hm hl hr
  rw [← h4 he]; exact h1

/-- consumes all bytes -/
theorem unmarshal_marshal_all (s : Schema) (p : Params) (v : Val) (enc : Bytes)
    (hd : InDomain s p v = true) (hm : marshal s p v = .ok enc) (hl : enc.length < 2147483648) :
    ∃ v', unmarshal false s p enc = .ok (v', []) ∧ VEq s p v v' := by
  obtain ⟨v', h1, h2, _⟩ := unmarshal_marshal_equiv s p v enc [] hd hm hl (fun _ => Or.inl rfl)
  rw [List.append_nil] at h1
  exact ⟨v', h1, h2⟩

/-- idempotence: re-marshalling what strict Unmarshal decoded from Marshal's output reproduces the bytes -/
theorem marshal_idempotent (s : Schema) (p : Params) (v v' : Val) (enc r : Bytes)
    (hd : InDomain s p v = true) (hm : marshal s p v = .ok enc) (hl : enc.length < 2147483648)
    (hu : unmarshal false s p enc = .ok (v', r)) : marshal s p v' = .ok enc := by
  obtain ⟨w, h1, _, h3⟩ := unmarshal_marshal_equiv s p v enc [] hd hm hl (fun _ => Or.inl rfl)
  rw [List.append_nil, hu] at h1
  simp only [Res.ok.injEq, Prod.mk.injEq] at h1
  rw [h1.1]; exact h3

/-- INTEGER content round trip for every int64 (two's complement, minimal length) -/
theorem int64_content_roundtrip (i : Int) (h1 : -9223372036854775808 ≤ i) (h2 : i < 9223372036854775808) :
    parseInt64 false (encInt64 i) = .ok i := parseInt64_encInt64 i h1 h2

/-- INTEGER content round trip for `*big.Int`: EVERY integer (two's complement, any size) -/
theorem bigint_content_roundtrip (i : Int) : parseBigInt false (makeBigInt i) = .ok i := parseBigInt_makeBigInt i

/-- OBJECT IDENTIFIER content round trip (valid first arcs, arcs < 2^31) -/
theorem oid_content_roundtrip (l : List Int) (h : oidOK l = true) :
    ∃ body, makeOID l = .ok body ∧ parseOID body = .ok (.oid l) := parseOID_makeOID l h

/-- BIT STRING content round trip (`len(Bytes) = ⌈BitLength/8⌉`, zero padding bits) -/
theorem bitstring_content_roundtrip (bs : Bytes) (n : Int) (h : bitsOK bs n = true) :
    parseBitString (makeBits bs n) = .ok (.bits bs n) := parseBitString_makeBits bs n h

/-- the DER sort of SET OF only permutes the element encodings, its result is ascending, and it is idempotent -/
theorem set_sort_perm (l : List Bytes) : (sortEnc l).Perm l := perm_sortEnc l
theorem set_sort_sorted (l : List Bytes) : SortedEnc (sortEnc l) := sorted_sortEnc l
theorem set_sort_idem (l : List Bytes) : sortEnc (sortEnc l) = sortEnc l := sortEnc_sortEnc l

/-! ### the hypotheses are satisfiable; the domain predicate is not vacuous and not too wide -/

/-- a member of the domain using most of the type language: EXPLICIT Flag, OPTIONAL int with DEFAULT (left out), OPTIONAL
    tagged string (left out) followed by a field with another tag, *big.Int, OID, BIT STRING, RawValue, SET OF int, SEQUENCE OF
    string, nil []byte with omitempty -/
def exSchema : Schema :=
  .struct (.fcons { tag := some 0, explicit := true, optional := true } .flag
    (.fcons { optional := true, defaultValue := some 5 } .int64
    (.fcons { optional := true, tag := some 1, stringType := 12 } .str
    (.fcons { tag := some 2 } .bigint
    (.fcons {} .oid
    (.fcons {} .bits
    (.fcons { set := true } (.seqOf false .int64)
    (.fcons {} (.seqOf false .str)
    (.fcons { optional := true, omitEmpty := true, tag := some 7 } .octets
    (.fcons {} .raw .fnil))))))))))

def exVal : Val :=
  .vcons (.bool true) (.vcons (.int 5) (.vcons (.bytes []) (.vcons (.int (-340282366920938463463374607431768211456))
    (.vcons (.oid [2, 5, 29, 17]) (.vcons (.bits [0xa0] 3) (.vcons (.vcons (.int 3) (.vcons (.int 1) .vnil))
    (.vcons (.vcons (.bytes [0x61]) (.vcons (.bytes [0xc3, 0xa9]) .vnil)) (.vcons .null
    (.vcons (.raw 2 3 true [5, 0] [0xa3, 2, 5, 0]) .vnil)))))))))

example : InDomain exSchema {} exVal = true := by decide +kernel
example : omitted exSchema {} exVal = false := by decide +kernel
/-- hypothesis `hr` of the theorems: trivially true for a present value, and for `rest = []` -/
example (s : Schema) (p : Params) (v : Val) : omitted s p v = true → Skips s p [] := fun _ => Or.inl rfl

/-- SET OF really comes back permuted: `≈` is not `=` -/
example : marshal (.seqOf false .int64) { set := true } (.vcons (.int 3) (.vcons (.int 1) .vnil)) = .ok [0x31, 6, 2, 1, 1, 2, 1, 3] ∧
    unmarshal false (.seqOf false .int64) { set := true } [0x31, 6, 2, 1, 1, 2, 1, 3] =
      .ok (.vcons (.int 1) (.vcons (.int 3) .vnil), []) := by
  decide +kernel

/-- a member of `Exact`: no SET OF, non-nil slices -/
example : InDomain (.struct (.fcons {} (.seqOf false .bigint) (.fcons { optional := true } .oid .fnil))) {}
      (.vcons (.vcons (.int 70000) .vnil) (.vcons .null .vnil)) = true ∧
    Exact (.struct (.fcons {} (.seqOf false .bigint) (.fcons { optional := true } .oid .fnil))) {}
      (.vcons (.vcons (.int 70000) .vnil) (.vcons .null .vnil)) = true := by decide +kernel

/-- the ambiguous grammar is outside the domain — an untagged OPTIONAL int left out in front of an int — and indeed does not
    round-trip: the decoder gives the second field's value to the first and then fails -/
example : InDomain (.struct (.fcons { optional := true } .int64 (.fcons {} .int64 .fnil))) {}
      (.vcons (.int 0) (.vcons (.int 5) .vnil)) = false ∧
    marshal (.struct (.fcons { optional := true } .int64 (.fcons {} .int64 .fnil))) {}
      (.vcons (.int 0) (.vcons (.int 5) .vnil)) = .ok [0x30, 3, 2, 1, 5] ∧
    unmarshal false (.struct (.fcons { optional := true } .int64 (.fcons {} .int64 .fnil))) {} [0x30, 3, 2, 1, 5] = .err := by
  decide +kernel

/-- … while the same types with distinguishing tags are inside -/
example : InDomain (.struct (.fcons { optional := true, tag := some 0 } .int64 (.fcons {} .int64 .fnil))) {}
      (.vcons (.int 0) (.vcons (.int 5) .vnil)) = true := by decide +kernel

/-- an empty non-nil slice under omitempty is outside (it comes back nil, and a struct holding only it then re-marshals
    differently); nil is inside -/
example : InDomain (.octets) { optional := true, omitEmpty := true } (.bytes []) = false ∧
    InDomain (.octets) { optional := true, omitEmpty := true } .null = true := by decide +kernel

example : marshal (.struct (.fcons { tag := some 0, explicit := true } .bool (.fcons {} .str .fnil))) {}
    (.vcons (.bool true) (.vcons (.bytes [0x41]) .vnil)) = .ok [0x30, 8, 0xa0, 3, 1, 1, 0xff, 0x13, 1, 0x41] := by
  decide +kernel

example : oidOK [2, 999, 3, 2147483647] = true ∧ bitsOK [0xff, 0x80] 9 = true ∧ bitsOK [] 0 = true := by decide +kernel

/-! ### what is outside the theorems -/

-- FULL (RawValue): `∀ RawValue r with r.FullBytes = nil`, Marshal builds the TLV from Class/Tag/IsCompound/Bytes and Unmarshal
--   returns r with FullBytes filled in: a round trip up to FullBytes.  Also a RawValue FIELD WITH TAG PARAMETERS
--   (`explicit,tag:N` equal to the value's own identifier).  Both are outside `leafOK` (`rawOK` wants the canonical FullBytes,
--   `p.tag = none`).  Missing: a `VEq` clause identifying `raw c t k b []` with `raw c t k b (TLV c t k b)` and the
--   `isRaw` arm of `explicitStage`.  Covered by T2 (bytes and decoded value compared with the Go code) only.
-- FULL (omitempty, empty non-nil slice): `v ≈ v'` still holds (it comes back nil) but `Marshal v' = Marshal v` does NOT in
--   general — see `omitempty_nonnil_not_idempotent` below — so `absentOK` asks for nil.
-- FULL (EXPLICIT skip test): `skipsH` ignores the conjunct `len = 0 ∨ constructed` of the decoder's EXPLICIT match
--   (conservative: a left-out `optional,explicit,tag:N` field followed by a PRIMITIVE non-empty element with class/tag N is
--   excluded although the decoder would skip it).
-- FULL (lengths): encodings of 2^31 bytes or more (Go `int` overflow is not modelled; hypothesis `hl`).
-- FULL (permissive mode): the same statements for `unmarshal true` follow from `ZV.C20.perm_extends` (not imported here to keep
--   the two packages independent).
-- FULL (time.Time as a struct field / slice element): the deep embedding `Schema` has no time leaf, so `unmarshal_marshal_equiv` does not
--   quantify over schemas containing time.Time; proved instead (below): the content level (`utctime_roundtrip`, `gentime_roundtrip`,
--   `time_body_roundtrip`), a bare time.Time with any parameters (`time_field_roundtrip`), and ONE struct level with time fields
--   (`xstruct_unmarshal_marshal`); time.Time nested deeper or as a slice element: T3 only.
-- FULL (interface{}, RawContent, int8/int16): outside the Lean model.

/-- why `absentOK` wants nil under omitempty: an OPTIONAL struct holding only an empty NON-NIL `omitempty` slice is written
    (`a0 00`), comes back as the zero struct, and is then left out: `Marshal (Unmarshal (Marshal v)) ≠ Marshal v`.
    (Outside the documented domain of the property: the harness identifies nil and empty slices.) -/
theorem omitempty_nonnil_not_idempotent :
    let s : Schema := .struct (.fcons { optional := true, tag := some 0 }
      (.struct (.fcons { optional := true, omitEmpty := true, tag := some 1 } .octets .fnil)) .fnil)
    marshal s {} (.vcons (.vcons (.bytes []) .vnil) .vnil) = .ok [0x30, 2, 0xa0, 0] ∧
    unmarshal false s {} [0x30, 2, 0xa0, 0] = .ok (.vcons (.vcons .null .vnil) .vnil, []) ∧
    marshal s {} (.vcons (.vcons .null .vnil) .vnil) = .ok [0x30, 0] := by
  decide +kernel

/-! ## time.Time -/
section TimeValues
open ZV.Time

/-- **calendar → Unix seconds → calendar**: `time.Date(y, m, d, h, mi, s, 0, zone)` broken down again in the same
    zone gives the same fields — for EVERY year (not only 0..9999), every month 1..12, every day of that month
    (29 February exactly in leap years), every clock reading, every zone offset. -/
theorem civil_unix_roundtrip (c : Civil) (hv : c.valid = true) : ofUnix (toUnix c) c.off = c :=
  ofUnix_toUnix c hv

example : ({ year := 2024, month := 2, day := 29, hour := 23, min := 59, sec := 59, off := -3600 } : Civil).valid = true ∧
    ({ year := 2023, month := 2, day := 29, hour := 0, min := 0, sec := 0, off := 0 } : Civil).valid = false ∧
    ({ year := 1900, month := 2, day := 29, hour := 0, min := 0, sec := 0, off := 0 } : Civil).valid = false ∧
    ({ year := 0, month := 2, day := 29, hour := 0, min := 0, sec := 0, off := 0 } : Civil).valid = true := by decide

/-- **Unix seconds → calendar → Unix seconds**: every instant in every zone breaks down into normalised fields
    that `time.Date` maps back to the instant. -/
theorem unix_civil_roundtrip (u o : Int) : (ofUnix u o).valid = true ∧ toUnix (ofUnix u o) = u :=
  ⟨ofUnix_valid u o, toUnix_ofUnix u o⟩

/-- **GeneralizedTime content round trip** (strict and permissive): for every time whose year (in its zone) is
    0..9999 and whose zone offset is below 25 hours, `appendGeneralizedTime` succeeds and `parseGeneralizedTime`
    of what it wrote — `time.Parse` with "20060102150405Z0700" and the re-serialisation test — returns `readBack t`:
    whole seconds, zone offset truncated to whole minutes, local clock reading kept. -/
theorem gentime_roundtrip (perm : Bool) (t : GoTime) (hy0 : 0 ≤ t.year) (hy1 : t.year ≤ 9999) (h1 : -90000 < t.off)
    (h2 : t.off < 90000) :
    ∃ bs, EA.appendGeneralizedTime t = .ok bs ∧ EA.parseGeneralizedTime perm bs = .ok (readBack t) :=
  ⟨genText t, appendGeneralizedTime_eq t hy0 hy1, parseGeneralizedTime_genText perm t hy0 hy1 h1 h2⟩

example : ({ unix := -62167219200, off := 0 } : GoTime).year = 0 ∧ ({ unix := 253402300799, off := 0 } : GoTime).year = 9999 ∧
    ({ unix := 253402300799, off := 86340 } : GoTime).year = 10000 ∧
    EA.appendGeneralizedTime { unix := -62167219200, off := 0 } =
      .ok [0x30, 0x30, 0x30, 0x30, 0x30, 0x31, 0x30, 0x31, 0x30, 0x30, 0x30, 0x30, 0x30, 0x30, 0x5a] := by decide +kernel

/-- **UTCTime content round trip** (strict and permissive): years 1950..2049, including the 19YY / 20YY century
    choice of `time.Parse` (YY ≥ 69 is 19YY) corrected by `AddDate(-100, 0, 0)` for 50..68, and the first attempt
    with the layout without seconds failing on the form with seconds. -/
theorem utctime_roundtrip (perm : Bool) (t : GoTime) (hy0 : 1950 ≤ t.year) (hy1 : t.year < 2050) (h1 : -90000 < t.off)
    (h2 : t.off < 90000) :
    ∃ bs, EA.appendUTCTime t = .ok bs ∧ EA.parseUTCTime perm bs = .ok (readBack t) :=
  ⟨utcText t, appendUTCTime_eq t hy0 hy1, parseUTCTime_utcText perm t hy0 hy1 h1 h2⟩

/-- the zone bound of `gentime_roundtrip` is exact (zone offsets below 100 hours): for a zone of 25 hours or more
    `appendGeneralizedTime` still writes (hour field 25..99), and `parseGeneralizedTime` rejects it in BOTH modes
    (`time.Parse` itself refuses a zone hour above 24). -/
theorem gentime_roundtrip_iff (perm : Bool) (t : GoTime) (hy0 : 0 ≤ t.year) (hy1 : t.year ≤ 9999)
    (h1 : -360000 < t.off) (h2 : t.off < 360000) :
    (∃ bs, EA.appendGeneralizedTime t = .ok bs ∧ EA.parseGeneralizedTime perm bs = .ok (readBack t)) ↔
      (-90000 < t.off ∧ t.off < 90000) := by
  constructor
  · rintro ⟨bs, hb, hp⟩
    by_contra hn
    rw [appendGeneralizedTime_eq t hy0 hy1] at hb
    simp only [Res.ok.injEq] at hb
    subst hb
    rw [parseGeneralizedTime_25h perm t hy0 hy1 (by omega) h1 h2] at hp
    simp at hp
  · intro ⟨a, b⟩
    exact gentime_roundtrip perm t hy0 hy1 a b

example : EA.appendGeneralizedTime { unix := 0, off := 90000 } =
      .ok [0x31, 0x39, 0x37, 0x30, 0x30, 0x31, 0x30, 0x32, 0x30, 0x31, 0x30, 0x30, 0x30, 0x30, 0x2b, 0x32, 0x35, 0x30, 0x30] ∧
    EA.parseGeneralizedTime true
      [0x31, 0x39, 0x37, 0x30, 0x30, 0x31, 0x30, 0x32, 0x30, 0x31, 0x30, 0x30, 0x30, 0x30, 0x2b, 0x32, 0x35, 0x30, 0x30] = .err := by
  decide +kernel

/-- for a zone offset of whole minutes (UTC included) `readBack` is the same instant in the same zone -/
theorem readBack_same_instant (t : GoTime) (h : Int.tmod t.off 60 = 0) :
    readBack t = { unix := t.unix, off := t.off, nsec := 0 } := readBack_whole t h

example : (0 : Int) ≤ ({ unix := 951868799, off := 19800, nsec := 5 } : GoTime).year ∧
    ({ unix := 951868799, off := 19800, nsec := 5 } : GoTime).year = 2000 ∧
    Int.tmod (19800 : Int) 60 = 0 ∧
    EA.appendUTCTime { unix := 951868799, off := 19800, nsec := 5 } =
      .ok [0x30, 0x30, 0x30, 0x33, 0x30, 0x31, 0x30, 0x35, 0x32, 0x39, 0x35, 0x39, 0x2b, 0x30, 0x35, 0x33, 0x30] := by
  decide +kernel

/-- a zone offset with seconds is NOT preserved (the text forms have no zone seconds): `time.Time` at the Unix
    epoch in a zone 30 s east of UTC is written as `700101000030Z` and read back 30 seconds later, in UTC.
    (Outside the documented domain of the property; harness: `timeInDomain`.) -/
example : EA.appendUTCTime { unix := 0, off := 30 } =
      .ok [0x37, 0x30, 0x30, 0x31, 0x30, 0x31, 0x30, 0x30, 0x30, 0x30, 0x33, 0x30, 0x5a] ∧
    EA.parseUTCTime false [0x37, 0x30, 0x30, 0x31, 0x30, 0x31, 0x30, 0x30, 0x30, 0x30, 0x33, 0x30, 0x5a] =
      .ok { unix := 30, off := 0 } ∧ readBack { unix := 0, off := 30 } = { unix := 30, off := 0 } := by decide +kernel

/-- **the UTCTime / GeneralizedTime choice** of `makeField` (tag) and `makeBody` (content): UTCTime exactly when
    the field is not marked `generalized` and the year (in the zone of the value) is 1950..2049; the content is
    written by the encoder that matches the tag, and the UTCTime encoder cannot fail there. -/
theorem time_choice (timeType : Nat) (t : GoTime) :
    (EA.timeTag timeType t = 23 ↔ (timeType ≠ 24 ∧ 1950 ≤ t.year ∧ t.year < 2050)) ∧
    (EA.timeTag timeType t = 23 ∨ EA.timeTag timeType t = 24) ∧
    (EA.timeTag timeType t = 23 → EA.makeTimeBody timeType t = EA.appendUTCTime t ∧ (EA.appendUTCTime t).isOk = true) ∧
    (EA.timeTag timeType t = 24 → EA.makeTimeBody timeType t = EA.appendGeneralizedTime t) := by
  rcases EA.choice timeType t with ⟨ht, hb, h24, hr⟩ | ⟨ht, hb, hr⟩
  · rw [ht, hb, appendUTCTime_eq t hr.1 hr.2]
    exact ⟨iff_of_true rfl ⟨h24, hr⟩, Or.inl rfl, fun _ => ⟨rfl, rfl⟩, fun h => (nomatch h)⟩
  · rw [ht, hb]
    exact ⟨iff_of_false (fun h => nomatch h) (by omega), Or.inr rfl, fun h => (nomatch h), fun _ => rfl⟩

/-- Marshal refuses exactly the times whose year is outside 0..9999 -/
theorem time_year_guard (timeType : Nat) (t : GoTime) :
    EA.makeTimeBody timeType t = .err ↔ (t.year < 0 ∨ t.year > 9999) := by
  rcases EA.choice timeType t with ⟨_, hb, _, hr⟩ | ⟨_, hb, _⟩
  · rw [hb, appendUTCTime_eq t hr.1 hr.2]
    exact iff_of_false (fun h => nomatch h) (by omega)
  · rw [hb]
    by_cases hy : t.year < 0 ∨ t.year > 9999
    · exact iff_of_true (appendGeneralizedTime_err t hy) hy
    · rw [appendGeneralizedTime_eq t (by omega) (by omega)]
      exact iff_of_false (fun h => nomatch h) hy

/-- **content round trip through the choice**: whatever tag `makeField` chose, the decoder's `*time.Time` arm for
    that tag reads the content `makeBody` wrote back as `readBack t`. -/
theorem time_body_roundtrip (perm : Bool) (timeType : Nat) (t : GoTime) (hy0 : 0 ≤ t.year) (hy1 : t.year ≤ 9999)
    (h1 : -90000 < t.off) (h2 : t.off < 90000) :
    ∃ body, EA.makeTimeBody timeType t = .ok body ∧
      EA.parseTimeBody perm (EA.timeTag timeType t) body = .ok (readBack t) :=
  EA.body_roundtrip perm timeType t hy0 hy1 h1 h2

/-- **`Unmarshal ∘ Marshal` for a bare `time.Time` with parameters** (`MarshalWithParams(t, params)`; any
    combination of EXPLICIT / IMPLICIT / APPLICATION / PRIVATE tag, tag number < 2^31, `utc`, `generalized`,
    `optional`), both parsing modes, any trailing bytes: the decoder returns `readBack t` and leaves `rest`.
    `fieldOK`: no string kind, no `set`, the value is not left out, and under an IMPLICIT tag the decoder's
    parser choice (the `utc` / `generalized` parameter, else UTCTime) is the encoder's. -/
theorem time_field_roundtrip (perm : Bool) (p : Params) (t : GoTime) (enc rest : Bytes) (hg : Good p)
    (hok : TimeField.fieldOK p t = true) (hy0 : 0 ≤ t.year) (hy1 : t.year ≤ 9999) (h1 : -90000 < t.off)
    (h2 : t.off < 90000) (henc : TimeField.makeTimeField p t = .ok enc) (hlen : enc.length < 2147483648) :
    TimeField.parseTimeField perm p (enc ++ rest) = .ok (readBack t, rest) :=
  TimeField.field_roundtrip perm p t enc rest hg hok hy0 hy1 h1 h2 henc hlen

example : TimeField.fieldOK { tag := some 0, timeType := 24 } { unix := 2524608000, off := 0 } = true ∧
    TimeField.makeTimeField { tag := some 0, timeType := 24 } { unix := 2524608000, off := 0 } =
      .ok [0x80, 0x0f, 0x32, 0x30, 0x35, 0x30, 0x30, 0x31, 0x30, 0x31, 0x30, 0x30, 0x30, 0x30, 0x30, 0x30, 0x5a] := by
  decide +kernel

/-- the IMPLICIT-tag clause of `fieldOK` is needed: under `tag:0` without `generalized` a year outside 1950..2049
    is written as GeneralizedTime content, which the decoder (no universal tag on the wire) reads as UTCTime and
    rejects.  (With `generalized` the decoder follows the parameter — the fix for D26.) -/
example : TimeField.fieldOK { tag := some 0 } { unix := 2524608000, off := 0 } = false ∧
    (match TimeField.makeTimeField { tag := some 0 } { unix := 2524608000, off := 0 } with
     | .ok enc => TimeField.parseTimeField false { tag := some 0 } enc
     | _ => .ok (TimeField.zeroTime, [])) = .err := by decide +kernel

/-- an OPTIONAL `time.Time{}` is left out, and nothing decodes to `time.Time{}` again -/
theorem time_field_omitted (perm : Bool) (p : Params) (ho : p.optional = true) (hd : p.defaultValue = none) :
    TimeField.makeTimeField p TimeField.zeroTime = .ok [] ∧
    TimeField.parseTimeField perm p [] = .ok (TimeField.zeroTime, []) := by
  simp [TimeField.makeTimeField, TimeField.omittedTime, TimeField.parseTimeField, TimeField.dfltTime, ho, hd]

end TimeValues

/-! ## Extended embedding: structs with `time.Time` fields (`ZV.Model.C18Ext`)

  `XFields` = the field list of a Go struct whose fields are `time.Time` or ANY type of the base embedding `Schema` (itself
  arbitrarily nested); model `makeXStruct` / `parseXStruct`, tied to `MarshalWithParams` / `UnmarshalWithParams` on
  run-time generated struct types by the T2 streams `c18 tm` (struct schemas) and `c18 xu`.
  -- FULL: the same for time.Time at ANY depth (structs inside structs / `[]time.Time` / `[]struct{… time.Time …}`) and
  -- for a left-out field followed by a present field with a distinguishable identifier (`skipsNext` of the base
  -- embedding); proved here: one struct level, left-out fields only in trailing position.  Deeper nesting stays T3. -/
section ExtendedEmbedding
open ZV.Time ZV.C18.Ext

/-- **C18 for structs with time fields (round trip, all of `rest` left, idempotence)**: for every field list over
    `time.Time` and the base type language `Schema`, parameters and values in the decidable domain `XDom`
    (lean/ZV/Proofs/C18Ext.lean: base fields in `InDomain`; time fields with year 0..9999, zone below 25 h, `fieldOK`;
    left-out OPTIONAL fields only at the end of the struct), strict Unmarshal of Marshal's output followed by any
    `rest` returns `rest` and a value `vs'` with `XEq fs vs vs'` (base fields `VEq`; times `readBack t` — to the second,
    zone to the minute), and `vs'` marshals to the same bytes. -/
theorem xstruct_unmarshal_marshal (fs : XFields) (p : Params) (vs : List XV) (enc rest : Bytes)
    (hd : XDom fs p vs = true) (hm : makeXStruct fs p vs = .ok enc) (hl : enc.length < 2147483648) :
    ∃ vs', parseXStruct false fs p (enc ++ rest) = .ok (vs', rest) ∧ XEq fs vs vs' ∧
      makeXStruct fs p vs' = .ok enc :=
  xstruct_rt fs p vs enc rest hd hm hl

/-- a validity-like struct {NotBefore utc; NotAfter generalized,explicit,tag:0; Serial int; Rev optional,tag:1 time}
    with the last field left out lies in the domain and marshals -/
def exXFields : XFields :=
  [({ timeType := 23 }, .time), ({ timeType := 24, explicit := true, tag := some 0 }, .time), ({}, .base .int64),
   ({ optional := true, tag := some 1 }, .time)]
def exXVals : List XV :=
  [.time { unix := 946684800, off := 0 }, .time { unix := 2524608000, off := 3600, nsec := 5 }, .base (.int 7),
   .time TimeField.zeroTime]

example : XDom exXFields {} exXVals = true ∧ (∃ enc, makeXStruct exXFields {} exXVals = .ok enc ∧ enc.length = 43) := by
  refine ⟨by decide +kernel, ?_⟩
  have h : (match makeXStruct exXFields {} exXVals with | .ok e => e.length | _ => 0) = 43 := by decide +kernel
  cases hm : makeXStruct exXFields {} exXVals with
  | ok enc => rw [hm] at h; exact ⟨enc, rfl, h⟩
  | err => rw [hm] at h; cases h
  | panic => rw [hm] at h; cases h

/-- **idempotence clause of C18 for the extended fragment** (`Marshal ∘ Unmarshal ∘ Marshal = Marshal`): whatever strict
    Unmarshal returns for Marshal's output re-marshals to exactly the same bytes. -/
theorem xstruct_marshal_idempotent (fs : XFields) (p : Params) (vs vs' : List XV) (enc r : Bytes)
    (hd : XDom fs p vs = true) (hm : makeXStruct fs p vs = .ok enc) (hl : enc.length < 2147483648)
    (hu : parseXStruct false fs p enc = .ok (vs', r)) : makeXStruct fs p vs' = .ok enc := by
  obtain ⟨w, h1, _, h3⟩ := xstruct_unmarshal_marshal fs p vs enc [] hd hm hl
  rw [List.append_nil, hu] at h1
  simp only [Res.ok.injEq, Prod.mk.injEq] at h1
  rw [h1.1]; exact h3

/-- all bytes are consumed -/
theorem xstruct_unmarshal_all (fs : XFields) (p : Params) (vs : List XV) (enc : Bytes)
    (hd : XDom fs p vs = true) (hm : makeXStruct fs p vs = .ok enc) (hl : enc.length < 2147483648) :
    ∃ vs', parseXStruct false fs p enc = .ok (vs', []) ∧ XEq fs vs vs' := by
  obtain ⟨w, h1, h2, _⟩ := xstruct_unmarshal_marshal fs p vs enc [] hd hm hl
  rw [List.append_nil] at h1
  exact ⟨w, h1, h2⟩

/-- **idempotence at a time leaf**: the time the decoder reads back (`readBack t`: nanoseconds dropped, zone truncated
    to whole minutes) is written with the same tag and the same content as `t` — for EVERY zone offset and nanosecond
    value, any `utc` / `generalized` parameter. -/
theorem time_remarshal (p : Params) (t : GoTime) (hy0 : 0 ≤ t.year) (hy1 : t.year ≤ 9999)
    (h1 : TimeField.omittedTime p t = false) (h2 : TimeField.omittedTime p (readBack t) = false) :
    TimeField.makeTimeField p (readBack t) = TimeField.makeTimeField p t :=
  makeTimeField_readBack p t hy0 hy1 h1 h2

example : ∃ (p : Params) (t : GoTime), 0 ≤ t.year ∧ t.year ≤ 9999 ∧ TimeField.omittedTime p t = false ∧
    TimeField.omittedTime p (readBack t) = false ∧ readBack t ≠ t :=
  ⟨{ optional := true }, { unix := 946684800, off := 3630, nsec := 7 }, by decide +kernel⟩

/-- the hypothesis `h2` of `time_remarshal` (clause `!omittedTime p (readBack t)` of `timeOK`) is needed: an OPTIONAL
    time at the zero instant with nanoseconds is written, read back as `time.Time{}`, and then LEFT OUT on
    re-marshalling — `Marshal ∘ Unmarshal ∘ Marshal ≠ Marshal` there (outside the documented domain: the harness
    predicate timeInDomain excludes it too). -/
example : TimeField.makeTimeField { optional := true } { unix := -62135596800, off := 0, nsec := 1 } ≠ .ok [] ∧
    TimeField.makeTimeField { optional := true } (readBack { unix := -62135596800, off := 0, nsec := 1 }) = .ok [] := by
  decide +kernel

end ExtendedEmbedding

end ZV.C18
