import ZV.Proofs.C21Build
import ZV.Proofs.C21Leaf
import ZV.Props.C19
/-!
  C21 — cryptobyte builders and readers are exact inverses.

  * optional readers (`ReadOptionalASN1`, `…Integer`, `…OctetString`, `…Boolean`): tag absent ⇒ input
    untouched and the default returned; tag present and read successful ⇒ exactly one element consumed.
  * `builder_refines_ser`: for EVERY program the low-level Builder model (`buildBytes`: shared buffer,
    `offset` / `pendingLenLen` / `pendingIsASN1`, `flushChild` back-patching, DER long-form widening by
    `copy`) computes exactly the specification serializer `ser` — result bytes, error, and (never) panic.
    `builder_never_panics` is the corollary that none of the three `cryptobyte: internal error` panics of
    `flushChild` is reachable from a program.
  * `read_write_fragment`: the tail-independent fragment {AddUint8/16/24/32, AddBytes,
    AddUintNLengthPrefixed, AddASN1, AddASN1OctetString, AddASN1Boolean, AddASN1NULL}.
  * `read_write_all`: for every program over ALL 25 ops of the model that satisfies the decidable predicate
    `readable p tail`, the mirrored read program returns exactly the written values and leaves exactly the
    tail.  `readable` says: fixed-width values fit their width; int64 / uint64 values fit their Go type;
    every ASN.1 body is shorter than 2^32-6 bytes (the limit of `readASN1`'s uint32 guard); every OID
    sub-identifier (40·a+b and the further arcs) is below 2^31 (the limit of `readBase128Int`); and every
    ABSENT optional field is followed (in the written bytes, or in the tail) by a byte different from its tag
    — and the zone offset of a GeneralizedTime is below 25 hours and not a non-zero number of seconds below one
    minute (`ZV.Time.gtimeOK`) — nothing else.  `build_read_roundtrip` states it against the low-level Builder model.
  * GeneralizedTime (`gtime_read_write`, `gtime_whole_minutes`, `gtime_year_guard`, `gtime_subminute_rejected`,
    `gtime_read_back_iff`):
    `ReadASN1GeneralizedTime` on what `AddASN1GeneralizedTime` wrote returns `ZV.Time.readBack t` — the same
    instant and zone when the zone offset is a whole number of minutes; the instant moved by the dropped seconds
    of the offset otherwise (the text form has no zone seconds; finding F-C21-gtime-zone-seconds).
  * `lp n` covers every prefix width `n` (so also the 32-bit `AddUint32LengthPrefixed`; zcrypto's String has
    no `ReadUint32LengthPrefixed`, the harness reads such a block with `ReadUint32` + `ReadBytes`, which is
    what `readLengthPrefixed 4` is).
  `time.Parse` / `Time.Format` for the layout of GeneralizedTime are part of the model (`ZV.Model.Time`).
-/
open ZV ZV.Der0
namespace ZV.C21

/-! ## optional readers -/

theorem optional_absent_asn1 (s : Bytes) (tag : UInt8) (h : peekTag s tag = false) :
    readOptionalASN1 s tag = .ok (none, s) := by simp [readOptionalASN1, h]

theorem optional_absent_integer (s : Bytes) (tag : UInt8) (dflt : Int) (h : peekTag s tag = false) :
    readOptionalInt s tag dflt = .ok (dflt, s) := by
  rw [readOptionalInt_eq, h]
  rfl

theorem optional_absent_octets (s : Bytes) (tag : UInt8) (h : peekTag s tag = false) :
    readOptionalOctets s tag = .ok (none, s) := by
  rw [readOptionalOctets_eq, h]
  rfl

theorem optional_absent_boolean (s : Bytes) (dflt : Bool) (h : peekTag s 1 = false) :
    readOptionalBool s dflt = .ok (dflt, s) := by simp [readOptionalBool, h]

example : peekTag [0x02, 0x01, 0x05] 0xa0 = false ∧
    readOptionalInt [0x02, 0x01, 0x05] 0xa0 7 = .ok (7, [0x02, 0x01, 0x05]) := by decide

/-- present ⇒ exactly one element (tag, minimal length, body) is consumed -/
theorem optional_present_asn1 (s : Bytes) (tag : UInt8) (r : Option Bytes) (rest : Bytes)
    (hp : peekTag s tag = true) (h : readOptionalASN1 s tag = .ok (r, rest)) :
    ∃ body pre, r = some body ∧ CB.element tag body = .ok pre ∧ s = pre ++ rest := by
  rw [readOptionalASN1, hp, if_pos rfl] at h
  obtain ⟨body, _, hr, hk⟩ := CB.ofTag h
  cases hk
  obtain ⟨pre, e1, e2⟩ := C19.cb_readASN1Tag_canonical hr
  exact ⟨body, pre, rfl, e1, e2⟩

/-- `ReadOptionalASN1Integer`: present ⇒ the consumed bytes are `[tag]{INTEGER v}` exactly. -/
theorem optional_present_integer (s : Bytes) (tag : UInt8) (dflt v : Int) (rest : Bytes)
    (hp : peekTag s tag = true) (h : readOptionalInt s tag dflt = .ok (v, rest)) :
    ∃ inner pre, CB.addASN1Int64 v = .ok inner ∧ CB.element tag inner = .ok pre ∧ s = pre ++ rest := by
  rw [readOptionalInt_eq, hp, if_pos rfl] at h
  obtain ⟨i, hr, hw⟩ := CB.typed_ok h
  obtain ⟨w, hi, rfl⟩ := whole_ok.1 hw
  obtain ⟨pre, e1, e2⟩ := C19.cb_readASN1Tag_canonical hr
  obtain ⟨inner, f1, f2⟩ := C19.cb_int64_canonical _ _ _ hi
  rw [List.append_nil] at f2
  exact ⟨inner, pre, f1, f2 ▸ e1, e2⟩

/-- `ReadOptionalASN1OctetString`: present ⇒ the consumed bytes are `[tag]{OCTET STRING v}` exactly. -/
theorem optional_present_octets (s : Bytes) (tag : UInt8) (r : Option Bytes) (rest : Bytes)
    (hp : peekTag s tag = true) (h : readOptionalOctets s tag = .ok (r, rest)) :
    ∃ oct inner pre, r = some oct ∧ CB.element 4 oct = .ok inner ∧ CB.element tag inner = .ok pre ∧
      s = pre ++ rest := by
  rw [readOptionalOctets_eq, hp, if_pos rfl] at h
  obtain ⟨child, hr, hw⟩ := CB.typed_ok h
  obtain ⟨oct, ho, rfl⟩ := whole_ok.1 hw
  obtain ⟨pre, e1, e2⟩ := C19.cb_readASN1Tag_canonical hr
  obtain ⟨inner, f1, f2⟩ := C19.cb_readASN1Tag_canonical ho
  rw [List.append_nil] at f2
  exact ⟨oct, inner, pre, rfl, f1, f2 ▸ e1, e2⟩

/-- `ReadOptionalASN1Boolean` (after the fix for D1): present ⇒ exactly the BOOLEAN element is
    consumed and its value returned — whatever follows stays unread. -/
theorem optional_present_boolean (s : Bytes) (dflt v : Bool) (rest : Bytes)
    (hp : peekTag s 1 = true) (h : readOptionalBool s dflt = .ok (v, rest)) :
    ∃ pre, CB.addASN1Boolean v = .ok pre ∧ s = pre ++ rest := by
  simp only [readOptionalBool, hp, Bool.not_true, Bool.false_eq_true, if_false] at h
  exact C19.cb_bool_canonical s v rest h

example : readOptionalBool [0x01, 0x01, 0xff, 0x07] false = .ok (true, [0x07]) := by decide

/-! ## write → read for the fragment -/

def Frag : Prog → Prop
  | .done => True
  | .uN w v k => v < 256 ^ w ∧ Frag k
  | .raw _ k => Frag k
  | .lp _ body k => Frag body ∧ Frag k
  | .asn1 _ body k => (∀ c, ser body = .ok c → c.length < 4294967290) ∧ Frag body ∧ Frag k
  | .octets b k => b.length < 4294967290 ∧ Frag k
  | .bool _ k => Frag k
  | .null k => Frag k
  | _ => False

example : Frag (.lp 2 (.asn1 0x30 (.uN 1 7 (.bool true .done)) (.null .done)) (.raw [1, 2] .done)) := by
  simp [Frag, ser, Res.append, CB.addASN1Boolean, CB.element, boolContent, CB.derLength, beBytes_length]

/-! ## the low-level Builder computes the specification serializer -/

/-- `var b Builder; <program>; b.Bytes()` in the low-level model — shared result buffer, `offset`,
    `pendingLenLen`, `pendingIsASN1`, length back-patching in `flushChild`, DER long-form widening by an
    overlapping `copy` — equals the specification serializer, for every program (all 25 ops, any nesting,
    any prefix width, including every error case). -/
theorem builder_refines_ser (p : Prog) : buildBytes p = ser p := by
  refine (bytes_of_refines ((impl_build p).impl.spec [] [] 0 0 false rfl)).trans ?_
  cases ser p <;> rfl

/-- none of the `panic("cryptobyte: internal error")` sites of `flushChild` ("result unexpectedly shrunk",
    `pendingLenLen != 1` for an ASN.1 child) nor the index-out-of-range at `child.result[child.offset]`
    is reachable from a program. -/
theorem builder_never_panics (p : Prog) : buildBytes p ≠ .panic := by
  rw [builder_refines_ser]; exact (impl_build p).np

/-- a child that overflows its length prefix is an error, never a silently truncated length:
    the block is written iff the body is shorter than `256^n`. -/
theorem lp_overflow_is_error (n : Nat) (body k : Prog) (c : Bytes) (hc : ser body = .ok c)
    (hlen : c.length ≥ 256 ^ n) : buildBytes (.lp n body k) = .err := by
  simp only [builder_refines_ser, ser, hc, lpBytes, hlen, if_true, append_err_left _ (impl_build k).np]

example : ∃ c, ser (.raw (List.replicate 256 0) .done) = .ok c ∧ c.length ≥ 256 ^ 1 :=
  ⟨_, rfl, by decide +kernel⟩

/-! ## write → read for every op of the model -/

/-- what the mirrored readers need, and nothing more: see the header of this file. `tail` = the bytes
    that follow the program's output in the String being read. -/
def readable : Prog → Bytes → Bool
  | .done, _ => true
  | .uN w v k, t => decide (v < 256 ^ w) && readable k t
  | .raw _ k, t => readable k t
  | .lp _ body k, t => readable body [] && readable k t
  | .asn1 _ body k, t => bodyFits (ser body) && readable body [] && readable k t
  | .int64 _ v k, t => int64Range v && readable k t
  | .uint64 v k, t => decide (v < 18446744073709551616) && readable k t
  | .big v k, t => decide ((bigIntBytes v).length < 4294967290) && readable k t
  | .bool _ k, t => readable k t
  | .oid o k, t => oidInRange o && decide ((oidBody o).length < 4294967290) && readable k t
  | .octets b k, t => decide (b.length < 4294967290) && readable k t
  | .bitstr b k, t => decide (b.length + 1 < 4294967290) && readable k t
  | .null k, t => readable k t
  | .optAsn1 _ body k, t => bodyFits (ser body) && readable body [] && readable k t
  | .noAsn1 tag k, t => nextIsNot tag (ser k) t && readable k t
  | .optInt _ v _ k, t => int64Range v && readable k t
  | .noInt tag _ k, t => nextIsNot tag (ser k) t && readable k t
  | .optOctets _ b k, t => decide (b.length < 4294967290) && bodyFits (CB.element 4 b) && readable k t
  | .noOctets tag k, t => nextIsNot tag (ser k) t && readable k t
  | .optBool _ _ k, t => readable k t
  | .noBool _ k, t => nextIsNot 1 (ser k) t && readable k t
  | .gtime tm k, t => ZV.Time.gtimeOK tm && readable k t
  | .alt a k, t => altReadable a (ser k) t && readable k t
  | .setErr k, t => readable k t
  | .value body _ k, t => (match ser k with | .ok y => readable body (y ++ t) | _ => true) && readable k t

/-- **write → read, all ops.**  Whatever a `readable` program writes, the mirrored read program reads
    back: exactly the written values, exactly the tail left unread. -/
theorem read_write_all (p : Prog) :
    ∀ tail bs, readable p tail = true → ser p = .ok bs →
      readProg p (bs ++ tail) = .ok (values p, tail) := by
  induction p
  all_goals intro tail bs hr h
  all_goals simp only [readable, Bool.and_eq_true, decide_eq_true_eq] at hr
  case done => simp [ser] at h; subst h; simp [readProg, values]
  -- an absent optional field writes nothing: `h` speaks of `ser k`
  case noAsn1 tag k ih =>
    simp only [readProg, values, optional_absent_asn1 _ tag (nextIsNot_ok hr.1 h), ih tail bs hr.2 h, cons]
  case noInt tag d k ih =>
    simp only [readProg, values, optional_absent_integer _ tag d (nextIsNot_ok hr.1 h), ih tail bs hr.2 h, cons]
  case noOctets tag k ih =>
    simp only [readProg, values, optional_absent_octets _ tag (nextIsNot_ok hr.1 h), ih tail bs hr.2 h, cons]
  case noBool d k ih =>
    simp only [readProg, values, optional_absent_boolean _ d (nextIsNot_ok hr.1 h), ih tail bs hr.2 h, cons]
  -- every other op writes `x`, then `ser k = .ok y`
  all_goals obtain ⟨x, y, hx, hy, rfl⟩ := append_ok h
  case uN w v k ih =>
    obtain rfl := Res.ok.inj hx
    simp only [readProg, values, List.append_assoc, readU_beBytes w v _ hr.1, ih tail y hr.2 hy, cons]
  case raw b k ih =>
    obtain rfl := Res.ok.inj hx
    simp only [readProg, values, List.append_assoc, readBytes_append, ih tail y hr hy, cons]
  case lp n body k ihb ihk =>
    obtain ⟨c, hc, hlen, rfl⟩ := lpBytes_ok hx
    have hb := ihb [] c hr.1 hc
    rw [List.append_nil] at hb
    simp only [readProg, values, List.append_assoc, readLengthPrefixed_back n c (y ++ tail) hlen,
      nested_ok hb (ihk tail y hr.2 hy)]
  case asn1 tag body k ihb ihk =>
    obtain ⟨c, hc, hx'⟩ := elementR_ok hx
    have hb := ihb [] c hr.1.2 hc
    rw [List.append_nil] at hb
    simp only [readProg, values, List.append_assoc,
      CB.readASN1Tag_back tag c x (y ++ tail) hx' (bodyFits_ok hr.1.1 hc), nested_ok hb (ihk tail y hr.2 hy)]
  case int64 tag v k ih =>
    have hv := int64Range_ok hr.1
    simp only [readProg, values, List.append_assoc, readInt64Tag_back tag v x (y ++ tail) hx hv.1 hv.2,
      ih tail y hr.2 hy, cons]
  case uint64 v k ih =>
    simp only [readProg, values, List.append_assoc, readUint64_back v x (y ++ tail) hx hr.1, ih tail y hr.2 hy, cons]
  case big v k ih =>
    simp only [readProg, values, List.append_assoc, readBigInt_back v x (y ++ tail) hx hr.1, ih tail y hr.2 hy, cons]
  case bool v k ih =>
    simp only [readProg, values, List.append_assoc, readBool_back v x (y ++ tail) hx, ih tail y hr hy, cons]
  case oid o k ih =>
    simp only [readProg, values, List.append_assoc, readOID_written o x (y ++ tail) hx hr.1.2, hr.1.1, if_true,
      ih tail y hr.2 hy, cons]
  case octets b k ih =>
    simp only [readProg, values, List.append_assoc, CB.readASN1Tag_back 4 b x (y ++ tail) hx hr.1, ih tail y hr.2 hy, cons]
  case bitstr b k ih =>
    simp only [readProg, values, List.append_assoc, readBitString_back b x (y ++ tail) hx hr.1, ih tail y hr.2 hy, cons]
  case null k ih =>
    obtain rfl := Res.ok.inj hx
    have := CB.readASN1Tag_back 5 [] [5, 0] (y ++ tail) (by decide) (by decide)
    simp only [List.cons_append, List.nil_append] at this
    simp only [readProg, values, List.cons_append, List.nil_append, this, ih tail y hr hy, cons]
  case optAsn1 tag body k ihb ihk =>
    obtain ⟨c, hc, hx'⟩ := elementR_ok hx
    have hb := ihb [] c hr.1.2 hc
    rw [List.append_nil] at hb
    simp only [readProg, values, List.append_assoc,
      readOptionalASN1_present tag c x (y ++ tail) hx' (bodyFits_ok hr.1.1 hc), nested_ok hb (ihk tail y hr.2 hy), cons]
  case optInt tag v d k ih =>
    obtain ⟨c, hc, hx'⟩ := elementR_ok hx
    have hv := int64Range_ok hr.1
    simp only [readProg, values, List.append_assoc,
      readOptionalInt_present tag v d c x (y ++ tail) hc hx' hv.1 hv.2, ih tail y hr.2 hy, cons]
  case optOctets tag b k ih =>
    obtain ⟨c, hc, hx'⟩ := elementR_ok hx
    simp only [readProg, values, List.append_assoc,
      readOptionalOctets_present tag b c x (y ++ tail) hc hx' hr.1.1 (bodyFits_ok hr.1.2 hc), ih tail y hr.2 hy, cons]
  case optBool v d k ih =>
    simp only [readProg, values, List.append_assoc, readOptionalBool_present v d x (y ++ tail) hx, ih tail y hr hy, cons]
  case gtime tm k ih =>
    simp only [readProg, values, List.append_assoc,
      ZV.Time.readGeneralizedTime_back tm x (y ++ tail) hx hr.1, ih tail y hr.2 hy, cons]
  case alt a k ih =>
    simp only [readProg, values, List.append_assoc, altRead_back a (ser k) x y tail hx hy hr.1, ih tail y hr.2 hy, cons]
  case setErr k ih => simp at hx
  case value body fail k ihb ihk =>
    obtain ⟨x1, x2, hx1, hx2, rfl⟩ := append_ok hx
    cases fail with
    | true => simp at hx2
    | false =>
      obtain rfl := Res.ok.inj hx2
      have hrb : readable body (y ++ tail) = true := by simpa only [hy] using hr.1
      simp only [readProg, values, List.append_nil, List.append_assoc]
      exact inline_ok (ihb (y ++ tail) x1 hrb hx1) (ihk tail y hr.2 hy)

/-- a program over 16 of the 25 constructors of `Prog`, `done` included (all integer kinds at their type limits, the largest readable OID
    sub-identifier, BIT STRING, present and absent optional fields, nesting) that satisfies `readable`
    and is serialized successfully. -/
def exampleProg : Prog :=
  .lp 2 (.asn1 0x30 (.int64 2 (-9223372036854775808) (.uint64 18446744073709551615
      (.big (-1180591620717411303424) (.oid [2, 999, 2147483647] (.bitstr [0xaa]
      (.optInt 0xa0 9223372036854775807 7 (.noOctets 0xa1 .done)))))))
    (.null .done))
  (.noBool true (.optOctets 0xa2 [1, 2] (.noAsn1 0xa3 (.noInt 0xa4 9 (.uN 4 4294967295 .done)))))

example : readable exampleProg [0x07] = true ∧ (ser exampleProg).isOk = true ∧
    (buildBytes exampleProg).isOk = true := by decide +kernel

/-- `oidInRange` is necessary (finding F-C21-oid-arc-2^31): `AddASN1ObjectIdentifier` accepts 2.2147483568
    (sub-identifier 2^31), `ReadASN1ObjectIdentifier` rejects what it wrote. -/
example : (match ser (.oid [2, 2147483568] .done) with
    | .ok bs => readProg (.oid [2, 2147483568] .done) bs
    | _ => .ok ([], [])) = .err := by decide +kernel

/-- `nextIsNot` is necessary: an absent `[0] …` followed by an element with the same tag reads as present. -/
example : (match ser (.noAsn1 0xa0 (.asn1 0xa0 .done .done)) with
    | .ok bs => readProg (.noAsn1 0xa0 (.asn1 0xa0 .done .done)) bs
    | _ => .err) = .err ∧ values (.noAsn1 0xa0 (.asn1 0xa0 .done .done)) = [.absent] := by decide +kernel

/-- the OID part of `readable` is exactly the range the reader imposes: what
    `AddASN1ObjectIdentifier` wrote is read back by `ReadASN1ObjectIdentifier` iff every sub-identifier
    (40·a+b, then each further arc) is below 2^31 — otherwise the reader rejects the writer's own output. -/
theorem oid_read_back_iff (o : List Nat) (pre t : Bytes) (h : CB.addASN1OID o = .ok pre)
    (hsz : (oidBody o).length < 4294967290) :
    CB.readOID (pre ++ t) = .ok (o, t) ↔ oidInRange o = true := by
  rw [readOID_written o pre t h hsz]
  cases oidInRange o <;> simp

example : (CB.addASN1OID [1, 2, 840, 113549]).isOk = true ∧ oidInRange [1, 2, 840, 113549] = true ∧
    oidInRange [2, 2147483568] = false := by decide +kernel

/-- the same, end to end against the low-level Builder model: `b.Bytes()` read back by the mirrored
    String readers. -/
theorem build_read_roundtrip (p : Prog) (tail bs : Bytes) (hr : readable p tail = true)
    (hb : buildBytes p = .ok bs) : readProg p (bs ++ tail) = .ok (values p, tail) :=
  read_write_all p tail bs hr (by rw [← builder_refines_ser]; exact hb)

/-- the fragment is the tail-independent part of `readable`. -/
theorem frag_readable (p : Prog) (hf : Frag p) : ∀ tail, readable p tail = true := by
  induction p with
  | done => intro _; rfl
  | uN w v k ih => intro t; simp [readable, hf.1, ih hf.2 t]
  | raw b k ih => intro t; simp only [readable, ih hf t]
  | lp n body k ihb ihk => intro t; simp [readable, ihb hf.1 [], ihk hf.2 t]
  | asn1 tag body k ihb ihk =>
    intro t
    have : bodyFits (ser body) = true := by
      cases hs : ser body with
      | ok c => simpa [bodyFits] using hf.1 c hs
      | err => rfl
      | panic => rfl
    simp [readable, this, ihb hf.2.1 [], ihk hf.2.2 t]
  | octets b k ih => intro t; simp [readable, hf.1, ih hf.2 t]
  | bool v k ih => intro t; simp only [readable, ih hf t]
  | null k ih => intro t; simp only [readable, ih hf t]
  | _ => exact hf.elim

theorem read_write_fragment (p : Prog) (hf : Frag p) :
    ∀ bs tail, ser p = .ok bs → readProg p (bs ++ tail) = .ok (values p, tail) :=
  fun bs tail h => read_write_all p tail bs (frag_readable p hf tail) h

/-! ## error latching, AddValue, and the length-prefix overflow paths — for ALL programs -/

/-- **error latching (1).**  Once the Builder carries an error (`SetError`, an invalid OID, a year outside
    0..9999, a high-tag-number tag, a child that overflowed its length prefix, `Marshal` returned an error …),
    EVERY later call — any program `q` over all 25 ops, at any nesting — is a no-op: no field of the Builder
    changes (result buffer included). -/
theorem error_latched_noop (q : Prog) (b : Builder) (h : b.err = true) : build q b = b :=
  (impl_build q).impl.errd b h

/-- **error latching (2).**  … and `Bytes()` returns the error: if the calls `p` end in an error, so do the
    calls `p` followed by any `q`. -/
theorem bytes_after_error (p q : Prog) (h : buildBytes p = .err) : buildBytes (p.seq q) = .err := by
  rw [builder_refines_ser] at h ⊢
  rw [ser_seq, h]
  exact append_err_left _ (impl_build q).np

/-- `SetError` (non-nil) after any calls `p`, followed by any calls `q`: `Bytes()` returns the error, and no
    byte of `q` is written. -/
theorem setError_latches (p q : Prog) :
    buildBytes (p.seq (.setErr q)) = .err ∧ build (p.seq (.setErr q)) {} = setError (build p {}) ∨
    buildBytes p = .err := by
  cases hp : buildBytes p with
  | panic => exact absurd hp (builder_never_panics p)
  | err => exact Or.inr rfl
  | ok c =>
    refine Or.inl ⟨?_, ?_⟩
    · rw [builder_refines_ser] at hp ⊢
      simp only [ser_seq, hp, ser, append_err_left _ (impl_build q).np]
      rfl
    · rw [build_seq]
      simp only [build]
      exact error_latched_noop q _ (by simp [setError])

example : buildBytes (Prog.seq (.uN 1 7 .done) (.setErr (.uN 1 8 .done))) = .err ∧
    buildBytes (.uN 1 7 .done) = .ok [7] := by decide

/-- an error raised inside a continuation (any depth) reaches the parent when the child is flushed: the
    block is not written and the parent's `Bytes()` returns the error, whatever follows. -/
theorem child_error_propagates (n : Nat) (tag : UInt8) (body k : Prog) (h : buildBytes body = .err) :
    buildBytes (.lp n body k) = .err ∧ buildBytes (.asn1 tag body k) = .err := by
  rw [builder_refines_ser] at h
  simp only [builder_refines_ser, ser, h, lpBytes, elementR, append_err_left _ (impl_build k).np, and_self]

example : buildBytes (.oid [3, 1] .done) = .err := by decide

/-- `AddValue(v)`: the Builder behaves as if `v.Marshal`'s calls had been made on it directly; a non-nil
    error returned by `Marshal` is latched (even though `Marshal`'s bytes were already appended, `Bytes()`
    returns the error). -/
theorem addValue_spec (body k : Prog) (fail : Bool) :
    buildBytes (.value body fail k) = if fail then .err else buildBytes (body.seq k) := by
  simp only [builder_refines_ser, ser, ser_seq]
  cases fail with
  | true =>
    simp only [if_true, append_err_right _ (impl_build body).np, append_err_left _ (impl_build k).np]
  | false =>
    have e : Res.append (ser body) (.ok []) = ser body := by
      cases ser body with
      | ok x => exact congrArg Res.ok (List.append_nil x)
      | err => rfl
      | panic => rfl
    simp only [Bool.false_eq_true, if_false, e]

/-- **length-prefix overflow, exact.**  `AddUintNLengthPrefixed` writes the block iff the child's bytes fit
    the `n`-byte prefix; then the block is the big-endian length followed by the child's bytes — otherwise
    `Bytes()` returns an error (never a panic, never a truncated length). -/
theorem lp_written_iff (n : Nat) (body : Prog) (c : Bytes) (hc : buildBytes body = .ok c) :
    (c.length < 256 ^ n → buildBytes (.lp n body .done) = .ok (beBytes n c.length ++ c)) ∧
    (256 ^ n ≤ c.length → buildBytes (.lp n body .done) = .err) := by
  rw [builder_refines_ser] at hc
  refine ⟨fun h => ?_, lp_overflow_is_error n body .done c hc⟩
  simp only [builder_refines_ser, ser, hc, lpBytes, if_neg (Nat.not_le.2 h), Res.append, List.append_nil]

example : buildBytes (.raw [1, 2, 3] .done) = .ok [1, 2, 3] ∧ [1, 2, 3].length < 256 ^ 1 := by decide

/-- **ASN.1 overflow, as coded.**  A child of more than 0xfffffffe bytes ("pending ASN.1 child too long") and a
    tag in high-tag-number form are errors of `AddASN1`; every other child is written with the minimal DER
    length — in all three cases without a panic. -/
theorem asn1_overflow_is_error (tag : UInt8) (body k : Prog) (c : Bytes) (hc : buildBytes body = .ok c)
    (h : c.length > 0xfffffffe ∨ tag.toNat % 32 = 31) : buildBytes (.asn1 tag body k) = .err := by
  rw [builder_refines_ser] at hc
  have he : CB.element tag c = .err := by
    unfold CB.element CB.derLength
    by_cases ht : tag.toNat % 32 = 31
    · rw [if_pos ht]
    · rw [if_neg ht, if_pos (h.resolve_right ht)]
  simp only [builder_refines_ser, ser, hc, elementR, he, append_err_left _ (impl_build k).np]

example : buildBytes (.asn1 0x1f (.uN 1 1 .done) .done) = .err ∧ (0x1f : UInt8).toNat % 32 = 31 := by decide

/-! ## Unwrite -/

/-- **Unwrite, SetError and blocks: the low-level Builder refines the block specification**, for every
    builder-only program (any nesting): `Unwrite(n)` removes the last `n` bytes written into the CURRENT block
    (flushed children included) and panics exactly when the block holds fewer than `n` bytes; a panic or an error
    inside a continuation reaches `Bytes()` of the outermost Builder; after an error `Unwrite` is a no-op. -/
theorem unwrite_refines_spec (p : BProg) : bbuildBytes p = bspec p [] :=
  bytes_of_refines ((bbuild_refines p).spec [] [] 0 0 false rfl)

/-- `Unwrite(len b)` undoes `AddBytes(b)`, in any block, whatever was written before and whatever follows. -/
theorem unwrite_undoes_add (bs acc : Bytes) (k : BProg) :
    bspec (.add bs (.unwrite bs.length k)) acc = bspec k acc := by
  simp only [bspec, List.length_append, Nat.add_sub_cancel, List.take_left,
    if_neg (Nat.not_lt.2 (Nat.le_add_left bs.length acc.length))]

/-- "An attempt by a child builder passed to a continuation to unwrite bytes from its parent will panic":
    a child can unwrite neither its reserved length prefix nor the parent's bytes — `Unwrite(m)` with more
    than the block's own `c` bytes panics, whatever the parent (`pre`) wrote, for every prefix width and for
    ASN.1 children. -/
theorem child_cannot_unwrite_parent (pre c : Bytes) (n m : Nat) (tag : UInt8) (k k' : BProg)
    (hm : m > c.length) (htag : tag.toNat % 32 ≠ 31) :
    bbuildBytes (.add pre (.lp n (.add c (.unwrite m k')) k)) = .panic ∧
    bbuildBytes (.add pre (.asn1 tag (.add c (.unwrite m k')) k)) = .panic := by
  simp [unwrite_refines_spec, bspec, hm, htag]

example : bbuildBytes (.add [1, 2] (.lp 1 (.add [3] (.unwrite 2 .done)) .done)) = .panic ∧
    bbuildBytes (.add [1, 2] (.lp 1 (.add [3] (.unwrite 1 .done)) .done)) = .ok [1, 2, 0] := by decide

/-- after an error `Unwrite` does nothing — not even panic. -/
theorem unwrite_after_error (n : Nat) (k : BProg) (acc : Bytes) :
    bspec (.setErr (.unwrite n k)) acc = .err := rfl

/-! ## GeneralizedTime -/
open ZV.Time in
/-- **AddASN1GeneralizedTime → ReadASN1GeneralizedTime.**  For every time the Builder accepts (year 0..9999 in
    the zone of the value) whose zone offset passes `gtimeOK`, the reader accepts the written element in front
    of any tail, leaves exactly the tail, and returns `readBack t`: whole seconds, the zone offset truncated to
    whole minutes with the local clock reading kept. -/
theorem gtime_read_write (t : GoTime) (bs tail : Bytes) (h : Time.CB.addGeneralizedTime t = .ok bs)
    (hz : gtimeOK t = true) : Time.CB.readGeneralizedTime (bs ++ tail) = .ok (readBack t, tail) :=
  readGeneralizedTime_back t bs tail h hz

open ZV.Time in
/-- the documented case: a zone offset of whole minutes below 25 hours (UTC included) — the same instant, the
    same zone offset, to the second. -/
theorem gtime_whole_minutes (t : GoTime) (bs tail : Bytes) (h : Time.CB.addGeneralizedTime t = .ok bs)
    (hm : Int.tmod t.off 60 = 0) (h1 : -90000 < t.off) (h2 : t.off < 90000) :
    Time.CB.readGeneralizedTime (bs ++ tail) = .ok ({ unix := t.unix, off := t.off, nsec := 0 }, tail) := by
  have hz : gtimeOK t = true := by
    simp only [gtimeOK, decide_eq_true_eq]
    refine ⟨h1, h2, (Decidable.em (t.off = 0)).imp_right fun hne hd => hne ?_⟩
    have := Int.mul_tdiv_add_tmod t.off 60
    rw [hd, hm] at this
    exact this.symm
  rw [gtime_read_write t bs tail h hz, readBack_whole t hm]

example : Time.CB.addGeneralizedTime { unix := 1709231399, off := 19800, nsec := 7 } =
      .ok [0x18, 0x13, 0x32, 0x30, 0x32, 0x34, 0x30, 0x32, 0x32, 0x39, 0x32, 0x33, 0x35, 0x39, 0x35, 0x39, 0x2b, 0x30,
        0x35, 0x33, 0x30] ∧
    ZV.Time.gtimeOK { unix := 1709231399, off := 19800, nsec := 7 } = true ∧
    Int.tmod (19800 : Int) 60 = 0 := by decide +kernel

open ZV.Time in
/-- the Builder's year guard: it refuses every time whose year (in the zone of the value) is outside 0..9999,
    and — for the zone offsets of `gtimeOK` — writes every other time. -/
theorem gtime_year_guard (t : GoTime) :
    ((t.year < 0 ∨ t.year > 9999) → Time.CB.addGeneralizedTime t = .err) ∧
    (0 ≤ t.year → t.year ≤ 9999 → gtimeOK t = true → (Time.CB.addGeneralizedTime t).isOk = true) := by
  constructor
  · intro h; simp only [Time.CB.addGeneralizedTime, h, if_true]
  · intro h0 h1 hz
    simp only [gtimeOK, decide_eq_true_eq] at hz
    have hy : ¬ (t.year < 0 ∨ t.year > 9999) := fun h => h.elim (Int.not_lt.2 h0) (Int.not_lt.2 h1)
    have hl := genText_length t
    simp only [Time.CB.addGeneralizedTime, hy, if_false, format_gen_eq t h0 h1 (Int.lt_trans (by decide) hz.1) (Int.lt_trans hz.2.1 (by decide)) hz.2.2]
    have e : (EA.fourDigits t.year.toNat ++ (fieldsText t.civil ++ zoneText t.off)) = genText t := rfl
    rw [e]
    simp only [CB.element, show ¬ ((0x18 : UInt8).toNat % 32 = 31) by decide, if_false, CB.derLength]
    have e (K : Nat) (hK : 19 ≤ K) : ¬ (genText t).length > K := Nat.not_lt.2 (Nat.le_trans hl hK)
    simp only [e _ (show 19 ≤ 0xfffffffe by decide), e _ (show 19 ≤ 0xffffff by decide), e _ (show 19 ≤ 0xffff by decide),
      e _ (show 19 ≤ 0xff by decide), e _ (show 19 ≤ 0x7f by decide), if_false, Res.isOk]

example : (Time.CB.addGeneralizedTime { unix := -62167219201, off := 0 }) = .err ∧
    (Time.CB.addGeneralizedTime { unix := -62167219201, off := 3600 }).isOk = true ∧
    (Time.CB.addGeneralizedTime { unix := 253402300800, off := 0 }) = .err ∧
    (Time.CB.addGeneralizedTime { unix := 253402300800, off := -60 }).isOk = true := by decide +kernel

open ZV.Time in
/-- **finding F-C21-gtime-zone-seconds (1).**  A zone offset of 1..59 seconds, either sign: the Builder writes
    the zone as `+0000`, and `ReadASN1GeneralizedTime` REJECTS what `AddASN1GeneralizedTime` wrote (the parsed
    time re-serialises with `Z`). -/
theorem gtime_subminute_rejected (t : GoTime) (bs tail : Bytes) (h : Time.CB.addGeneralizedTime t = .ok bs)
    (h0 : t.off ≠ 0) (h1 : -60 < t.off) (h2 : t.off < 60) :
    Time.CB.readGeneralizedTime (bs ++ tail) = .err := by
  have hk : Int.tdiv t.off 60 = 0 := by have := tdiv60 t.off; omega
  rw [readGeneralizedTime_written t bs tail h (by omega) (by omega), if_neg]
  simp only [gtimeOK, decide_eq_true_eq]
  exact fun hg => hg.2.2.elim h0 fun hne => hne hk

open ZV.Time in
/-- **the zone condition of `readable` is exact** (zone offsets below 100 hours): what `AddASN1GeneralizedTime`
    wrote is read back by `ReadASN1GeneralizedTime` iff `gtimeOK` — a zone of 25 hours or more is written with an
    hour field that the reader's `time.Parse` refuses, a zone of 1..59 seconds as `+0000`. -/
theorem gtime_read_back_iff (t : GoTime) (bs tail : Bytes) (h : Time.CB.addGeneralizedTime t = .ok bs)
    (h1 : -360000 < t.off) (h2 : t.off < 360000) :
    Time.CB.readGeneralizedTime (bs ++ tail) = .ok (readBack t, tail) ↔ gtimeOK t = true := by
  rw [readGeneralizedTime_written t bs tail h h1 h2]
  by_cases hg : gtimeOK t = true
  · rw [if_pos hg]
    exact ⟨fun _ => hg, fun _ => rfl⟩
  · rw [if_neg hg]
    exact ⟨nofun, fun e => absurd e hg⟩

example : (Time.CB.addGeneralizedTime { unix := 0, off := 90000 }).isOk = true ∧
    ZV.Time.gtimeOK { unix := 0, off := 90000 } = false ∧ ZV.Time.gtimeOK { unix := 0, off := 89940 } = true := by
  decide +kernel

/-- replayed on the Go code by `c21 rw g:0@30 -` (Go and model: `1813…2b30303030 readfail`) -/
example : (match Time.CB.addGeneralizedTime { unix := 0, off := 30 } with
    | .ok bs => Time.CB.readGeneralizedTime bs
    | _ => .ok ({ unix := 0, off := 0 }, [])) = .err := by decide +kernel

/-- **finding F-C21-gtime-zone-seconds (2).**  A zone offset of a minute or more with seconds: the element is
    read back, as a DIFFERENT instant (here 30 seconds later) in the zone truncated to whole minutes.
    Replayed on the Go code by `c21 rw g:0@90 -`. -/
example : (match Time.CB.addGeneralizedTime { unix := 0, off := 90 } with
    | .ok bs => Time.CB.readGeneralizedTime bs
    | _ => .err) = .ok ({ unix := 30, off := 60 }, []) ∧
    ZV.Time.gtimeOK { unix := 0, off := 90 } = true ∧ ZV.Time.readBack { unix := 0, off := 90 } = { unix := 30, off := 60 } := by
  decide +kernel

end ZV.C21
