import ZV.Proofs.C35
/-!
  C35 — the LRU client session cache behaves as a bounded LRU map.

  Specification (`Spec`): an association list in recency order;
  `put k nil` erases `k` and nothing else; `put k v` erases `k`, conses
  `(k,v)` and truncates to the capacity; `get` moves the hit to the front.
  `put_refines` / `get_refines` / `run_refines` show the branch-for-branch model
  of the Go code computes exactly that, for every operation sequence; the other
  theorems are the sentences of the property, for every reachable state.
-/
namespace ZV.C35

namespace Spec
def put (cap : Nat) (s : Q) (k : Key) (v : Val) : Q :=
  match v with
  | none => erase k s
  | some _ => ((k, v) :: erase k s).take cap

def get (s : Q) (k : Key) : Q × (Val × Bool) :=
  match find k s with
  | some v => ((k, v) :: erase k s, (v, true))
  | none => (s, (none, false))

def step (cap : Nat) (s : Q) : Op → Q × Option (Val × Bool)
  | .put k v => (put cap s k v, none)
  | .get k => let (s', r) := get s k; (s', some r)

def run (cap : Nat) (s : Q) : List Op → Q × List (Option (Val × Bool))
  | [] => (s, [])
  | op :: ops =>
    let (s1, o) := step cap s op
    let (s2, os) := run cap s1 ops
    (s2, o :: os)
end Spec

theorem put_refines (c : Cache) (k : Key) (v : Val) (h : Inv c) :
    (put c k v).q = Spec.put c.cap c.q k v ∧ (put c k v).cap = c.cap := by
  rw [put_eq]
  refine ⟨?_, rfl⟩
  cases v with
  | none => rfl
  | some x =>
    have hb := h.bounded
    simp only [Spec.put]
    split
    · rename_i hk
      rw [List.take_of_length_le]
      rcases hk with hk | hk
      · have := erase_length_lt k c.q hk
        simp only [List.length_cons]; omega
      · have := erase_length_le k c.q
        simp only [List.length_cons]; omega
    · -- a new key into a full cache: `take cap` drops exactly the last element
      rename_i hk
      obtain ⟨n, hn⟩ : ∃ n, c.cap = n + 1 := ⟨c.cap - 1, by have := h.capPos; omega⟩
      rw [erase_absent k c.q fun hm => hk (.inl hm), hn, List.take_succ_cons, List.dropLast_eq_take]
      congr 2
      omega

theorem get_refines (c : Cache) (k : Key) :
    (get c k).1.q = (Spec.get c.q k).1 ∧ (get c k).2 = (Spec.get c.q k).2 ∧ (get c k).1.cap = c.cap := by
  unfold get Spec.get
  cases find k c.q <;> simp

theorem put_inv (c : Cache) (k : Key) (v : Val) (h : Inv c) : Inv (put c k v) := by
  obtain ⟨hq, hc⟩ := put_refines c k v h
  have e : put c k v = ⟨c.cap, Spec.put c.cap c.q k v⟩ := by rw [← hq, ← hc]
  rw [e]
  cases v with
  | none => exact inv_erase k h
  | some x => exact inv_front_take k x h

theorem get_inv (c : Cache) (k : Key) (h : Inv c) : Inv (get c k).1 := by
  rw [get_eq]
  cases hf : find k c.q with
  | none => exact h
  | some v => exact inv_front h (find_some_mem hf)

theorem step_inv (c : Cache) (op : Op) (h : Inv c) : Inv (step c op).1 := by
  cases op with
  | put k v => exact put_inv c k v h
  | get k => exact get_inv c k h

theorem new_inv (capacity : Int) : Inv (new capacity) := by
  unfold new
  refine ⟨?_, by simp, by simp [keys], by simp⟩
  simp only
  split
  · decide
  · omega

theorem run_inv (c : Cache) (ops : List Op) (h : Inv c) : Inv (run c ops).1 := by
  induction ops generalizing c with
  | nil => exact h
  | cons op ops ih =>
    simp only [run]
    exact ih _ (step_inv c op h)

theorem run_cap (c : Cache) (ops : List Op) : (run c ops).1.cap = c.cap := by
  induction ops generalizing c with
  | nil => rfl
  | cons op ops ih =>
    simp only [run]
    rw [ih]
    cases op with
    | put k v => simp only [step, put_eq]
    | get k => simp only [step, get_eq]; split <;> rfl

/-- **Refinement, every history**: the model of the Go code and the abstract
    bounded-LRU specification produce the same outputs and the same final
    recency list for every operation sequence from every state satisfying the
    invariant (in particular from `new capacity`). -/
theorem run_refines (c : Cache) (ops : List Op) (h : Inv c) :
    (run c ops).1.q = (Spec.run c.cap c.q ops).1 ∧ (run c ops).2 = (Spec.run c.cap c.q ops).2 := by
  induction ops generalizing c with
  | nil => exact ⟨rfl, rfl⟩
  | cons op ops ih =>
    have hi := step_inv c op h
    cases op with
    | put k v =>
      obtain ⟨hq, hc⟩ := put_refines c k v h
      have := ih (put c k v) (by simpa [step] using hi)
      simp only [run, step, Spec.run, Spec.step]
      rw [← hq, ← hc]
      exact ⟨this.1, by rw [this.2]⟩
    | get k =>
      obtain ⟨hq, ho, hc⟩ := get_refines c k
      have := ih (get c k).1 (by simpa [step] using hi)
      simp only [run, step, Spec.run, Spec.step]
      rw [← hq, ← ho, ← hc]
      exact ⟨this.1, by rw [this.2]⟩

/-- "holds at most its capacity", after any sequence of operations. -/
theorem size_le_cap (capacity : Int) (ops : List Op) :
    (run (new capacity) ops).1.q.length ≤ (new capacity).cap := by
  have h := run_inv (new capacity) ops (new_inv capacity)
  have := h.bounded
  rw [run_cap] at this
  exact this

/-- "returns for each key the most recent non-nil session stored":
    a `Get` right after `Put k (some v)` returns that session. -/
theorem get_after_put (c : Cache) (k : Key) (x : Nat) :
    (get (put c k (some x)) k).2 = (some x, true) := by
  simp only [get_eq, put_eq, find_cons, if_true]

/-- a key's stored session is changed only by a `Put` on that key (other
    keys are, at most, evicted). -/
theorem put_other_unchanged (c : Cache) (k k' : Key) (v : Val) (hne : k' ≠ k)
    (hin : k' ∈ keys (put c k v).q) : find k' (put c k v).q = find k' c.q := by
  rw [put_eq] at hin ⊢
  cases v with
  | none => exact find_erase_ne c.q hne
  | some x =>
    simp only [find_cons, if_neg (Ne.symm hne)]
    simp only [keys_cons, List.mem_cons, hne, false_or] at hin
    by_cases hc : k ∈ keys c.q ∨ c.q.length < c.cap
    · rw [if_pos hc]; exact find_erase_ne c.q hne
    · rw [if_neg hc] at hin ⊢; exact find_dropLast hin

/-- "A Put with a nil session removes that key's entry and has no other
    effect": the recency list afterwards is the old one with the entries of
    `k` filtered out — same other keys, same values, same order. -/
theorem put_nil_removes_only (c : Cache) (k : Key) :
    (put c k none).q = erase k c.q ∧ (put c k none).cap = c.cap := by
  rw [put_eq]; exact ⟨rfl, rfl⟩

/-- in particular a nil `Put` on an absent key changes nothing at all. -/
theorem put_nil_absent_noop (c : Cache) (k : Key) (h : k ∉ keys c.q) : put c k none = c := by
  rw [put_eq]; simp only [erase_absent k c.q h]

/-- "evicts the least recently used key first when a new key is stored into a
    full cache": exactly the last element of the recency list goes. -/
theorem evicts_lru_first (c : Cache) (k : Key) (x : Nat)
    (hfull : c.q.length = c.cap) (hnew : k ∉ keys c.q) :
    (put c k (some x)).q = (k, some x) :: c.q.dropLast := by
  rw [put_eq]
  simp only [hnew, hfull, Nat.lt_irrefl, or_self, if_false]

/-- the recency list really is ordered by last use: every successful `Get`
    and every non-nil `Put` puts its key at the front. -/
theorem touched_is_front_put (c : Cache) (k : Key) (x : Nat) :
    (put c k (some x)).q.head? = some (k, some x) := by
  rw [put_eq]; rfl

theorem touched_is_front_get (c : Cache) (k : Key) (h : (get c k).2.2 = true) :
    ((get c k).1.q.head?).map (·.1) = some k := by
  unfold get at *; split <;> simp_all

/-- no reachable state stores a nil session, so `Get` never reports
    `(nil, true)`. -/
theorem get_hit_non_nil (capacity : Int) (ops : List Op) (k : Key) :
    let c := (run (new capacity) ops).1
    (get c k).2.2 = true → (get c k).2.1 ≠ none := by
  intro c hhit
  have hinv : Inv c := run_inv (new capacity) ops (new_inv capacity)
  unfold get at *
  cases hf : find k c.q with
  | none => simp [hf] at hhit
  | some v =>
    dsimp only
    exact hinv.noNil _ (find_some_mem hf)

example : Inv { cap := 2, q := [(7, some 1), (8, some 2)] } :=
  ⟨by decide, by decide, by decide, by decide⟩
example : ({ cap := 2, q := [(7, some 1), (8, some 2)] } : Cache).q.length = 2 ∧
    (9 : Key) ∉ keys [(7, some 1), (8, some 2)] := by decide
example : (run (new 2) [.put 1 (some 10), .put 2 (some 20), .get 1, .put 3 (some 30), .get 2, .put 9 none]).2
    = [none, none, some (some 10, true), none, some (none, false), none] := by decide

/-- the default capacity (used when `capacity < 1`) is what the hint of the documentation promises: 64 -/
theorem default_capacity_value : Gen.defaultSessionCacheCapacity = 64 := by decide

/-- … and in particular positive: a cache built by the constructor can always hold one session -/
theorem default_capacity_pos : 0 < Gen.defaultSessionCacheCapacity := by decide

/-- the constructor has exactly one guard, `capacity < 1`, which assigns the default -/
theorem new_guards : Gen.newGuards = ["capacity<1"] ∧
    Gen.newAssigns = ["capacity=defaultSessionCacheCapacity"] := ⟨rfl, rfl⟩

/-- the guards of `Put`, in source order, are the four case distinctions of the model `put` -/
theorem put_guards :
    Gen.putGuards = ["c.m[sessionKey];ok", "cs==nil", "cs==nil", "c.q.Len()<c.capacity"] := rfl

/-- capacity clause of the constructor, both arms, for every `capacity`. -/
theorem new_cap (capacity : Int) :
    (capacity < 1 → (new capacity).cap = Gen.defaultSessionCacheCapacity) ∧
    (1 ≤ capacity → ((new capacity).cap : Int) = capacity) ∧ (new capacity).q = [] := by
  refine ⟨fun h => by simp [new, h], fun h => ?_, rfl⟩
  have : ¬ capacity < 1 := by omega
  simp only [new, this, if_false]
  omega

/-- general form (any start state): what the cache holds for `k` after a history is the value of the
    last `Put` on `k` in that history, or — when the history has no `Put` on `k` — what it held before. -/
theorem find_run_last_put (c : Cache) (ops : List Op) (k : Key) (v : Val)
    (h : find k (run c ops).1.q = some v) :
    lastPut k ops = some v ∨ (lastPut k ops = none ∧ find k c.q = some v) := by
  induction ops generalizing c with
  | nil => exact Or.inr ⟨rfl, h⟩
  | cons op ops ih =>
    simp only [run] at h
    rcases ih (step c op).1 h with h1 | ⟨h1, h2⟩
    · left; simp [lastPut, h1]
    · simp only [lastPut, h1]
      cases op with
      | put k' w =>
        simp only [step] at h2
        by_cases hkk : k' = k
        · subst hkk
          left; simp only [if_true]; rw [find_put_same h2]
        · right
          refine ⟨by simp [hkk], ?_⟩
          have hin := find_mem_keys h2
          rw [← put_other_unchanged c k' k w (fun e => hkk e.symm) hin]
          exact h2
      | get k' =>
        right
        simp only [step] at h2
        exact ⟨rfl, by rw [← find_get c k k']; exact h2⟩

/-- **Get returns the most recent session stored** (never a stale or foreign one), for every history
    from a fresh cache of any capacity: a hit on `k` returns exactly the session of the last `Put` on
    `k`, and that session is not nil. -/
theorem get_returns_last_put (capacity : Int) (ops : List Op) (k : Key) (v : Val)
    (h : (get (run (new capacity) ops).1 k).2 = (v, true)) :
    lastPut k ops = some v ∧ v ≠ none := by
  have hf : find k (run (new capacity) ops).1.q = some v := by
    unfold get at h
    cases hf : find k (run (new capacity) ops).1.q with
    | none => simp [hf] at h
    | some w => simp only [hf, Prod.mk.injEq, and_true] at h; rw [h]
  refine ⟨?_, ?_⟩
  · rcases find_run_last_put _ ops k v hf with h1 | ⟨_, h2⟩
    · exact h1
    · simp [new, find] at h2
  · exact (run_inv (new capacity) ops (new_inv capacity)).noNil _ (find_some_mem hf)

/-- "… and not yet evicted": an entry leaves the cache only (a) by a nil `Put` on its own key or
    (b) as the LAST element of the recency list, when a new key is stored into a full cache. -/
theorem removed_only_by_nil_put_or_eviction (c : Cache) (op : Op) (k : Key)
    (hin : k ∈ keys c.q) (hout : k ∉ keys (step c op).1.q) :
    op = .put k none ∨
    ∃ k' x, op = .put k' (some x) ∧ k' ∉ keys c.q ∧ ¬ c.q.length < c.cap ∧ (keys c.q).getLast? = some k := by
  -- `k` is the key the operation names, or is still there once that key is erased
  have kept : ∀ k', k = k' ∨ k ∈ keys (erase k' c.q) := fun k' => by
    by_cases hkk : k = k'
    · exact .inl hkk
    · exact .inr (mem_keys_erase.2 ⟨hin, hkk⟩)
  cases op with
  | get k' =>
    exfalso; apply hout
    simp only [step, get_eq]
    split
    · exact List.mem_cons.2 (kept k')
    · exact hin
  | put k' v =>
    simp only [step, put_eq] at hout
    cases v with
    | none => exact .inl (by rw [(kept k').resolve_right hout])
    | some x =>
      simp only [keys_cons, List.mem_cons, not_or] at hout
      split at hout
      · exact absurd ((kept k').resolve_left hout.1) hout.2
      · rename_i h
        rw [keys_dropLast] at hout
        exact .inr ⟨k', x, rfl, fun hm => h (.inl hm), fun hl => h (.inr hl),
          mem_not_dropLast_getLast hin hout.2⟩

/-- **Recency order, every history**: after any history from a fresh cache, the keys in the list
    are strictly ordered by the position of the last operation naming them — front = most recent. -/
theorem lru_order (capacity : Int) (ops : List Op) :
    (keys (run (new capacity) ops).1.q).Pairwise (fun a b => lastUse b ops < lastUse a ops) := by
  suffices hrev : ∀ r : List Op,
      (keys (run (new capacity) r.reverse).1.q).Pairwise
        (fun a b => lastUse b r.reverse < lastUse a r.reverse) by
    have := hrev ops.reverse
    rwa [List.reverse_reverse] at this
  intro r
  induction r with
  | nil => simp [run, new, keys]
  | cons op r ih =>
    rw [List.reverse_cons]
    generalize r.reverse = ops at ih ⊢
    rw [run_snoc_state]
    have hrest : ∀ l : List Key, l.Sublist (keys (run (new capacity) ops).1.q) → opKey op ∉ l →
        l.Pairwise (fun a b => lastUse b (ops ++ [op]) < lastUse a (ops ++ [op])) := by
      intro l hl hno
      refine (ih.sublist hl).imp_of_mem ?_
      intro a b ha hb hab
      have hane : ¬ opKey op = a := fun e => hno (e ▸ ha)
      have hbne : ¬ opKey op = b := fun e => hno (e ▸ hb)
      simp only [lastUse_snoc, hane, hbne, if_false]
      exact hab
    rcases step_keys_shape (run (new capacity) ops).1 op with ⟨hs, hno⟩ | ⟨l, hl, hs, hno⟩
    · exact hrest _ hs hno
    · rw [hl, List.pairwise_cons]
      refine ⟨?_, hrest l hs hno⟩
      intro b hb
      have hbne : ¬ opKey op = b := fun e => hno (e ▸ hb)
      simp only [lastUse_snoc, hbne, if_false, if_true]
      have := lastUse_le b ops
      omega

/-- **Exactly the least recently used key is evicted**: storing a new key into a full cache reached by
    ANY history removes one entry, the one whose last use is older than that of every entry kept;
    all other entries are kept, in order, behind the new one. -/
theorem evicted_is_least_recently_used (capacity : Int) (ops : List Op) (k : Key) (x : Nat)
    (hfull : (run (new capacity) ops).1.q.length = (run (new capacity) ops).1.cap)
    (hnew : k ∉ keys (run (new capacity) ops).1.q) :
    ∃ rest victim, (run (new capacity) ops).1.q = rest ++ [victim] ∧
      (put (run (new capacity) ops).1 k (some x)).q = (k, some x) :: rest ∧
      ∀ e ∈ rest, lastUse victim.1 ops < lastUse e.1 ops := by
  have hinv := run_inv (new capacity) ops (new_inv capacity)
  have hord := lru_order capacity ops
  generalize (run (new capacity) ops).1 = c at *
  have hne : c.q ≠ [] := by
    intro h0
    have := hinv.capPos
    rw [h0] at hfull; simp at hfull; omega
  refine ⟨c.q.dropLast, c.q.getLast hne, (List.dropLast_concat_getLast hne).symm,
    evicts_lru_first c k x hfull hnew, ?_⟩
  intro e he
  have hq := List.dropLast_concat_getLast hne
  rw [← hq] at hord
  simp only [keys, List.map_append, List.map_cons, List.map_nil] at hord
  rw [List.pairwise_append] at hord
  exact hord.2.2 e.1 (List.mem_map.mpr ⟨e, he, rfl⟩) _ (List.mem_singleton.mpr rfl)

/-- `accepts` (the replay the harness' checker performs on a candidate linearization) says yes exactly
    when the model, run on the operations, returns the recorded values. -/
theorem accepts_iff_run (c : Cache) (h : List Call) :
    accepts c h = true ↔ (run c (h.map (·.1))).2 = h.map (·.2) := by
  induction h generalizing c with
  | nil => simp [accepts, run]
  | cons a h ih =>
    obtain ⟨op, r⟩ := a
    simp only [accepts, List.map_cons, run]
    by_cases ho : (step c op).2 = r
    · simp only [ho, if_true, List.cons.injEq, true_and]
      exact ih _
    · simp [ho]

/-- … hence runs of the abstract bounded-LRU map, for every capacity. -/
theorem accepts_iff_spec (capacity : Int) (h : List Call) :
    accepts (new capacity) h = true ↔
      (Spec.run (new capacity).cap [] (h.map (·.1))).2 = h.map (·.2) := by
  rw [accepts_iff_run, (run_refines (new capacity) (h.map (·.1)) (new_inv capacity)).2]
  rfl

example : (get (run (new 2) [.put 1 (some 10), .put 1 (some 11), .get 1]).1 1).2 = (some 11, true) := by decide
example : lastPut 1 [.put 1 (some 10), .put 1 (some 11), .get 1] = some (some 11) := by decide
example : (run (new 2) [.put 1 (some 10), .put 2 (some 20), .get 1]).1.q.length
    = (run (new 2) [.put 1 (some 10), .put 2 (some 20), .get 1]).1.cap ∧
    (3 : Key) ∉ keys (run (new 2) [.put 1 (some 10), .put 2 (some 20), .get 1]).1.q := by decide
example : (2 : Key) ∈ keys (run (new 2) [.put 1 (some 10), .put 2 (some 20), .get 1]).1.q ∧
    (2 : Key) ∉ keys (step (run (new 2) [.put 1 (some 10), .put 2 (some 20), .get 1]).1 (.put 3 (some 30))).1.q := by
  decide
example : accepts (new 1) [(.put 1 (some 10), none), (.get 1, some (some 10, true)),
    (.put 2 (some 20), none), (.get 1, some (none, false))] = true := by decide
example : accepts (new 1) [(.put 1 (some 10), none), (.get 1, some (none, false))] = false := by decide

end ZV.C35
