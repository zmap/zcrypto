import ZV.Proofs.C09IP
import ZV.Generated.C09
/-!
  C09 — hostname verification follows the documented matching rules.

  The model (`ZV.Model.C09`) follows `x509/verify.go` branch for branch, including
  Go's UTF-8 decoding in `for _, c := range in`, `strings.TrimSuffix/Split` and the
  standard library's `net.ParseIP` / `IP.Equal`.  Here the model is proved equal to
  a declarative specification:

  * `lower_is_bytewise`   toLowerCaseASCII = byte-wise ASCII lowering, for EVERY byte string;
  * `match_iff_spec`      matchHostnames ↔ label-wise rule (`MatchSpec`);
  * `verifyHostname_iff`  VerifyHostname accepts ↔ `HostSpec` (the property's sentence);
  * `cn_only_without_san` the common name is irrelevant when a SAN extension is present
                          (and the DNS SANs are irrelevant when it is absent);
  * `parseIP_spec`        the model of `net.ParseIP` accepts exactly the IP literals of the grammar
                          `IPLiteral` (dotted quad `DottedQuad`, IPv6 forms `V6Spec`; both defined in
                          `ZV.Proofs.C09IPv4/C09IPv6/C09IP` without reference to the model) and returns
                          exactly their value — so `verifyHostname_iff_literal` states the property's
                          sentence without mentioning `parseIP` at all;
  * `non_ip_charset`, `parse_injective_on_quads`, … the corollaries about IP literals used by the property.
-/
namespace ZV.C09

/-! ### vocabulary of the specification -/

/-- byte-wise ASCII lowering -/
def lower (s : Str) : Str := s.map lowerByte

/-- "ignoring one trailing dot": `Stripped s s'` — `s'` is `s` without its final '.', if it has one. -/
inductive Stripped : Str → Str → Prop
  | dot (q : Str) : Stripped (q ++ [dot]) q
  | same (s : Str) : (∀ q, s ≠ q ++ [dot]) → Stripped s s

/-- The documented rule: after ignoring one trailing dot on each side, both names are
    non-empty, consist of the same number of dot-separated labels, and every pattern
    label is either `*` or byte-equal to the host label at the same position.
    (`joinDot`, `DotFree`, `LabelsMatch` are defined in `ZV.Proofs.C09`; a `*` label
    matches ANY single label, the empty one included, at any position.) -/
def MatchSpec (pattern host : Str) : Prop :=
  ∃ p h pls hls, Stripped pattern p ∧ Stripped host h ∧ p ≠ [] ∧ h ≠ [] ∧
    (∀ l ∈ pls, DotFree l) ∧ (∀ l ∈ hls, DotFree l) ∧
    p = joinDot pls ∧ h = joinDot hls ∧ LabelsMatch pls hls

/-- optional brackets around an IP literal: `[m]` with `m` non-empty stands for `m`. -/
inductive Candidate : Str → Str → Prop
  | bracketed (m : Str) : m ≠ [] → Candidate (91 :: (m ++ [93])) m
  | plain (h : Str) : (∀ m, m ≠ [] → h ≠ 91 :: (m ++ [93])) → Candidate h h

/-- an IP SAN (4 or 16 bytes) denotes the parsed 16-byte address `ip`. -/
def SameAddr (ip x : List UInt8) : Prop := x = ip ∨ (x.length = 4 ∧ ip = v4InV6Prefix ++ x)

def HasSAN (c : Cert) : Prop := oidSAN ∈ c.extOids

/-- The property's sentence, with "is an IP literal" expressed through the model `parseIP` of
    `net.ParseIP`; `HostSpecLit` below says the same with the declarative grammar `IPLiteral`
    (`parseIP_spec` proves the two agree). -/
def HostSpec (c : Cert) (h : Str) : Prop :=
  ∃ cand, Candidate h cand ∧
    ((∃ ip, parseIP cand = some ip ∧ ∃ x ∈ c.ipAddresses, SameAddr ip x) ∨
     (parseIP cand = none ∧
       ((HasSAN c ∧ ∃ d ∈ c.dnsNames, MatchSpec (lower d) (lower h)) ∨
        (¬ HasSAN c ∧ MatchSpec (lower c.commonName) (lower h)))))

/-! ### toLowerCaseASCII -/

/-- For every byte string — valid UTF-8 or not — `toLowerCaseASCII` is the byte-wise map
    sending 'A'..'Z' to 'a'..'z' and leaving every other byte alone: the early return
    ("already lower case") is taken only when no byte is an upper-case letter. -/
theorem lower_is_bytewise (s : Str) : toLowerCaseASCII s = lower s := by
  unfold toLowerCaseASCII lower
  split
  · rename_i h
    exact (map_lowerByte_id s (scanLower_true s h)).symm
  · rfl

/-- the output contains no upper-case ASCII letter. -/
theorem lower_no_upper (s : Str) : ∀ b ∈ toLowerCaseASCII s, isUpper b = false := by
  rw [lower_is_bytewise]
  intro b hb
  simp only [lower, List.mem_map] at hb
  obtain ⟨a, _, rfl⟩ := hb
  unfold lowerByte
  split
  · rename_i h
    have := UInt8.toNat_add a 32
    simp only [isUpper, Bool.and_eq_true, Bool.and_eq_false_imp, decide_eq_true_eq, decide_eq_false_iff_not, this,
      UInt8.reduceToNat] at h ⊢
    omega
  · rename_i h; simpa using h

/-! ### matchHostnames -/

theorem stripped_iff (s s' : Str) : Stripped s s' ↔ s' = trimDot s := by
  constructor
  · intro h
    cases h with
    | dot q => exact (trimDot_append_dot s').symm
    | same _ hn => exact (trimDot_no_dot s hn).symm
  · rintro rfl
    by_cases h : ∃ q, s = q ++ [dot]
    · obtain ⟨q, rfl⟩ := h
      rw [trimDot_append_dot]; exact Stripped.dot q
    · have hn := not_exists.mp h
      rw [trimDot_no_dot s hn]; exact Stripped.same s hn

/-- `matchHostnames` never reaches the out-of-range index. -/
theorem match_no_panic (pattern host : Str) : ∃ b, matchHostnames pattern host = .ok b :=
  matchHostnames_total pattern host

/-- `matchHostnames pattern host` returns true exactly when the label-wise rule holds. -/
theorem match_iff_spec (pattern host : Str) :
    matchHostnames pattern host = .ok true ↔ MatchSpec pattern host := by
  unfold matchHostnames MatchSpec
  simp only [stripped_iff]
  constructor
  · intro h
    split at h
    · cases h
    · rename_i hne
      split at h
      · cases h
      · rename_i hlen
        rcases matchParts_spec _ _ (Decidable.of_not_not hlen) with ⟨_, f⟩ | ⟨e, _⟩
        · exact ⟨_, _, _, _, rfl, rfl, fun e => hne (.inl (congrArg List.length e)), fun e => hne (.inr (congrArg List.length e)),
            splitDot_dotFree _, splitDot_dotFree _, (joinDot_splitDot _).symm, (joinDot_splitDot _).symm, f⟩
        · rw [e] at h; cases h
  · rintro ⟨_, _, pls, hls, rfl, rfl, pne, hne, pdf, hdf, pj, hj, lm⟩
    have plsne : pls ≠ [] := by rintro rfl; exact pne pj
    have hlsne : hls ≠ [] := by rintro rfl; exact hne hj
    rw [if_neg (by simp [pne, hne]), pj, hj, splitDot_joinDot pls plsne pdf, splitDot_joinDot hls hlsne hdf,
      if_neg (not_not_intro lm.length_eq)]
    exact (matchParts_spec pls hls lm.length_eq).elim And.left fun ⟨_, f⟩ => absurd lm f

/-! ### VerifyHostname -/

theorem candidate_iff (h cand : Str) : Candidate h cand ↔ cand = candidateIP h := by
  constructor
  · intro hc
    cases hc with
    | bracketed m hm => exact (candidateIP_of_bracketed hm).symm
    | plain _ hn => exact (candidateIP_of_not_bracketed hn).symm
  · rintro rfl
    by_cases hb : ∃ m, m ≠ [] ∧ h = 91 :: (m ++ [93])
    · obtain ⟨m, hm, rfl⟩ := hb
      rw [candidateIP_of_bracketed hm]
      exact Candidate.bracketed m hm
    · have hn : ∀ m, m ≠ [] → h ≠ 91 :: (m ++ [93]) := fun m hm e => hb ⟨m, hm, e⟩
      rw [candidateIP_of_not_bracketed hn]
      exact Candidate.plain h hn

theorem ipEqual_iff (ip x : List UInt8) (h16 : ip.length = 16) :
    ipEqual ip x = true ↔ SameAddr ip x := by
  unfold ipEqual SameAddr
  rw [h16]
  by_cases h1 : 16 = x.length
  · rw [if_pos h1, beq_iff_eq]
    exact ⟨fun e => Or.inl e.symm, fun o => o.elim Eq.symm fun ⟨e, _⟩ => absurd (h1.trans e) (by decide)⟩
  · have hne : x ≠ ip := fun e => h1 (e ▸ h16.symm)
    rw [if_neg h1, if_neg (fun h => absurd h.1 (by decide))]
    by_cases h3 : x.length = 4
    · rw [if_pos ⟨rfl, h3⟩, Bool.and_eq_true, beq_iff_eq, beq_iff_eq]
      constructor
      · rintro ⟨a, b⟩
        exact Or.inr ⟨h3, by rw [← a, ← b, List.take_append_drop]⟩
      · rintro (e | ⟨_, rfl⟩)
        · exact absurd e hne
        · exact ⟨List.take_left' rfl, List.drop_left' rfl⟩
    · rw [if_neg (fun h => h3 h.2)]
      exact ⟨fun h => (nomatch h), fun o => o.elim (absurd · hne) fun ⟨e, _⟩ => (h3 e).elim⟩

theorem hasSAN_iff (c : Cert) : hasSANExtension c = true ↔ HasSAN c := by
  simp [hasSANExtension, HasSAN, List.any_eq_true]

theorem matchAny_iff (lowered : Str) (ms : List Str) :
    (matchAny lowered ms = .ok true ∧ ∃ d ∈ ms, MatchSpec (lower d) lowered) ∨
    (matchAny lowered ms = .ok false ∧ ¬ ∃ d ∈ ms, MatchSpec (lower d) lowered) := by
  simpa only [match_iff_spec, lower_is_bytewise] using matchAny_cases lowered ms

/-- `VerifyHostname` neither panics nor fails in any other way than accept / HostnameError. -/
theorem verifyHostname_total (c : Cert) (h : Str) : ∃ v, verifyHostname c h = .ok v :=
  (verifyHostname_cases c h).elim (fun e => ⟨_, e.1⟩) fun e => ⟨_, e.1⟩

/-- `VerifyHostname` accepts a host exactly when it is an IP literal (optionally
    bracketed) equal to one of the certificate's IP SANs, or — not being an IP literal —
    a DNS name that case-insensitively matches a DNS SAN label by label, the subject
    common name being consulted only when the certificate has no SAN extension. -/
theorem verifyHostname_iff (c : Cert) (h : Str) :
    verifyHostname c h = .ok .accept ↔ HostSpec c h := by
  rw [verifyHostname_accept_iff]
  unfold Accepts HostSpec
  simp only [candidate_iff, exists_eq_left, lower_is_bytewise, match_iff_spec]
  cases hp : parseIP (candidateIP h) with
  | some ip =>
    simp only [ipEqual_iff _ _ (parseIP_length _ _ hp), Option.some.injEq, exists_eq_left', reduceCtorEq, false_and,
      or_false]
  | none =>
    simp only [← hasSAN_iff, reduceCtorEq, false_and, exists_false, false_or, true_and]
    split <;> simp [*]

/-- With a SAN extension present the subject common name plays no role at all … -/
theorem cn_only_without_san (c : Cert) (cn' : Str) (h : Str) (hs : HasSAN c) :
    verifyHostname { c with commonName := cn' } h = verifyHostname c h := by
  have h1 : hasSANExtension c = true := (hasSAN_iff c).mpr hs
  have h2 : hasSANExtension { c with commonName := cn' } = true := h1
  unfold verifyHostname
  simp only [h1, h2, if_true]

/-- … and without one the DNS SAN list plays none (only the common name is matched). -/
theorem dns_ignored_without_san (c : Cert) (dns' : List Str) (h : Str) (hs : ¬ HasSAN c) :
    verifyHostname { c with dnsNames := dns' } h = verifyHostname c h := by
  have h1 : hasSANExtension c = false := Bool.eq_false_iff.mpr fun e => hs ((hasSAN_iff c).mp e)
  have h2 : hasSANExtension { c with dnsNames := dns' } = false := h1
  unfold verifyHostname
  simp only [h1, h2, Bool.false_eq_true, if_false]

/-- an IP literal is never matched against DNS names or the common name. -/
theorem ip_literal_only_ip_sans (c : Cert) (h : Str) (ip : List UInt8)
    (hip : parseIP (candidateIP h) = some ip) :
    verifyHostname c h = .ok .accept ↔ ∃ x ∈ c.ipAddresses, SameAddr ip x := by
  rw [verifyHostname_accept_iff]
  unfold Accepts
  simp only [hip, ipEqual_iff _ _ (parseIP_length _ _ hip)]


/-! ### net.ParseIP: the model against a declarative grammar -/

/-- An IPv4 field has one to three digits (a consequence of "no leading zero, value ≤ 255"). -/
theorem octet_length (f : Str) (v : Nat) (h : IsOctet f v) : 1 ≤ f.length ∧ f.length ≤ 3 :=
  ⟨List.length_pos_iff.mpr h.ne, h.length_le⟩

/-- IPv4, both directions: the field loop returns `[a, b, c, d]` exactly when the string is four
    decimal fields separated by '.', each without a leading zero (unless it is "0") and ≤ 255,
    with these values. -/
theorem parseIPv4Fields_spec (s : Str) (a b c d : UInt8) :
    parseIPv4Fields s = some [a, b, c, d] ↔ DottedQuad s a b c d :=
  parseIPv4Fields_iff s a b c d

/-- `net.ParseIP` on strings without ':' : the result is the IPv4-mapped form of `a.b.c.d`
    exactly when the string is the dotted quad with these values. -/
theorem parseIP_dotted_quad_iff (s : Str) (a b c d : UInt8) :
    (parseIP s = some (v4InV6Prefix ++ [a, b, c, d]) ∧ (58 : UInt8) ∉ s) ↔ DottedQuad s a b c d := by
  constructor
  · rintro ⟨h, hno⟩
    rcases (parseIP_iff_literal s _).mp h with ⟨a', b', c', d', hq, he⟩ | h6
    · cases List.append_cancel_left he
      exact hq
    · exact absurd (firstSep_mem h6.firstSep_eq) hno
  · intro hq
    refine ⟨(parseIP_iff_literal s _).mpr (Or.inl ⟨a, b, c, d, hq, rfl⟩), ?_⟩
    intro hm
    rcases hq.chars 58 hm with h | h
    · simp [IsDec] at h
    · cases h

/-- every dotted quad parses, to the IPv4-mapped address of its four values -/
theorem parseIP_of_dotted_quad (s : Str) (a b c d : UInt8) (h : DottedQuad s a b c d) :
    parseIP s = some (v4InV6Prefix ++ [a, b, c, d]) :=
  ((parseIP_dotted_quad_iff s a b c d).mpr h).1

-- the side condition "no ':'" of `parseIP_dotted_quad_iff` is necessary: "::ffff:1.2.3.4" also
-- parses to the IPv4-mapped address 1.2.3.4 and is not a dotted quad
example : parseIP [58, 58, 102, 102, 102, 102, 58, 49, 46, 50, 46, 51, 46, 52] =
    some (v4InV6Prefix ++ [1, 2, 3, 4]) := by
  refine (parseIP_iff_literal _ _).mpr (Or.inr (Or.inr ⟨[], [102, 102, 102, 102, 58, 49, 46, 50, 46, 51, 46, 52],
    [], groupBytes 65535 ++ [1, 2, 3, 4], rfl, Or.inl ⟨rfl, rfl⟩, Or.inr ⟨true, ?_⟩, by decide, by decide⟩))
  exact V6Seq.cons (g := [102, 102, 102, 102]) ⟨by decide, by decide, by simp [IsHexCh], by decide⟩
    (V6Seq.quad ((parseIPv4Fields_iff _ 1 2 3 4).mp (by decide)))

/-- every IPv4 address has a dotted-quad text (and `parseIP` reads it back) -/
theorem dotted_quad_exists (a b c d : UInt8) :
    ∃ s, DottedQuad s a b c d ∧ parseIP s = some (v4InV6Prefix ++ [a, b, c, d]) := by
  obtain ⟨s, hs⟩ := DottedQuad.exists a b c d
  exact ⟨s, hs, parseIP_of_dotted_quad s a b c d hs⟩

/-- IPv6, both directions: `parseIPv6` accepts exactly the forms of `V6Spec` — eight 16-bit
    groups of one to four hex digits separated by ':', the last two optionally written as a dotted
    quad, at most one "::" standing for one or more zero groups, no zone — with exactly the bytes
    the form denotes. -/
theorem parseIPv6_spec (s : Str) (ip : List UInt8) : parseIPv6 s = some ip ↔ V6Spec s ip :=
  parseIPv6_iff s ip

/-- **`net.ParseIP`** accepts exactly the IP literals and returns exactly their value. -/
theorem parseIP_spec (s : Str) (ip : List UInt8) : parseIP s = some ip ↔ IPLiteral s ip :=
  parseIP_iff_literal s ip

/-- the grammar is unambiguous in value, and every literal denotes 16 bytes -/
theorem ipLiteral_functional (s : Str) (ip ip' : List UInt8) (h : IPLiteral s ip) (h' : IPLiteral s ip') :
    ip = ip' ∧ ip.length = 16 := by
  have e := (parseIP_iff_literal s ip).mpr h
  have e' := (parseIP_iff_literal s ip').mpr h'
  rw [e] at e'
  exact ⟨by simpa using e', parseIP_length s ip e⟩

/-- the exact result for the fully expanded eight-group form -/
theorem parseIP_eight_groups (g1 g2 g3 g4 g5 g6 g7 g8 : Str) (v1 v2 v3 v4 v5 v6 v7 v8 : Nat)
    (h1 : IsHexGroup g1 v1) (h2 : IsHexGroup g2 v2) (h3 : IsHexGroup g3 v3) (h4 : IsHexGroup g4 v4)
    (h5 : IsHexGroup g5 v5) (h6 : IsHexGroup g6 v6) (h7 : IsHexGroup g7 v7) (h8 : IsHexGroup g8 v8) :
    parseIP (g1 ++ 58 :: (g2 ++ 58 :: (g3 ++ 58 :: (g4 ++ 58 :: (g5 ++ 58 :: (g6 ++ 58 :: (g7 ++ 58 :: g8))))))) =
      some (groupBytes v1 ++ (groupBytes v2 ++ (groupBytes v3 ++ (groupBytes v4 ++ (groupBytes v5 ++
        (groupBytes v6 ++ (groupBytes v7 ++ groupBytes v8))))))) := by
  refine (parseIP_iff_literal _ _).mpr (Or.inr (Or.inl ⟨false, ?_, rfl⟩))
  exact .cons h1 (.cons h2 (.cons h3 (.cons h4 (.cons h5 (.cons h6 (.cons h7 (.one h8)))))))

/-- the value of a group is a 16-bit number, so `groupBytes` loses nothing -/
theorem hexGroup_lt (g : Str) (v : Nat) (h : IsHexGroup g v) : v < 65536 := by
  have h1 := foldl_hex_lt g 0 0 h.hex (by simp)
  have h2 := pow16_le (0 + g.length) (by have := h.len; omega)
  rw [← h.val]
  exact Nat.lt_of_lt_of_le h1 h2

/-- Only hex digits, ':' and '.' occur in IP literals: a string containing any other byte
    (a zone '%', a bracket, a space, a letter beyond 'f', a non-ASCII byte …) is never one. -/
theorem non_ip_charset (s : Str) (h : ∃ x ∈ s, ¬ IPChar x) : parseIP s = none := by
  obtain ⟨x, hx, hn⟩ := h
  cases hp : parseIP s with
  | none => rfl
  | some ip => exact absurd (((parseIP_iff_literal s ip).mp hp).chars x hx) hn

/-- in particular zoned addresses are never accepted -/
theorem zone_never_ip (s : Str) (h : (37 : UInt8) ∈ s) : parseIP s = none :=
  non_ip_charset s ⟨37, h, fun hc => hc.ne_pct rfl⟩

/-- Hosts whose (bracket-stripped) text contains a byte outside `[0-9a-fA-F:.]` are decided
    by the DNS rules alone. -/
theorem verifyHostname_non_ip (c : Cert) (h : Str) (hx : ∃ x ∈ candidateIP h, ¬ IPChar x) :
    verifyHostname c h = .ok .accept ↔
      ((HasSAN c ∧ ∃ d ∈ c.dnsNames, MatchSpec (lower d) (lower h)) ∨
       (¬ HasSAN c ∧ MatchSpec (lower c.commonName) (lower h))) := by
  rw [verifyHostname_iff]
  unfold HostSpec
  simp only [candidate_iff, exists_eq_left, non_ip_charset _ hx, reduceCtorEq, false_and, exists_false,
    false_or, true_and]

/-- the text of a dotted quad is determined by its value (no leading zeros) … -/
theorem dotted_quad_text_unique (s s' : Str) (a b c d : UInt8)
    (h : DottedQuad s a b c d) (h' : DottedQuad s' a b c d) : s = s' := by
  obtain ⟨f1, f2, f3, f4, rfl, o1, o2, o3, o4⟩ := h
  obtain ⟨g1, g2, g3, g4, rfl, p1, p2, p3, p4⟩ := h'
  rw [o1.text_unique p1, o2.text_unique p2, o3.text_unique p3, o4.text_unique p4]

/-- … hence `net.ParseIP` is injective on dotted quads. -/
theorem parse_injective_on_quads (s s' : Str) (a b c d a' b' c' d' : UInt8)
    (h : DottedQuad s a b c d) (h' : DottedQuad s' a' b' c' d') (he : parseIP s = parseIP s') : s = s' := by
  rw [parseIP_of_dotted_quad s a b c d h, parseIP_of_dotted_quad s' a' b' c' d' h'] at he
  cases List.append_cancel_left (Option.some.inj he)
  exact dotted_quad_text_unique s s' _ _ _ _ h h'

/-- a dotted quad carries no brackets: stripping leaves it unchanged -/
theorem candidateIP_of_quad (h : Str) (a b c d : UInt8) (hq : DottedQuad h a b c d) : candidateIP h = h := by
  refine candidateIP_of_not_bracketed fun m _ e => ?_
  subst e
  rcases hq.chars 91 List.mem_cons_self with hx | hx
  · simp [IsDec] at hx
  · cases hx

/-- `[m]` (with `m` non-empty) is stripped to `m` -/
theorem candidateIP_bracketed (m : Str) (hm : m ≠ []) : candidateIP (91 :: (m ++ [93])) = m :=
  candidateIP_of_bracketed hm

/-- Bracket stripping followed by IP parsing is injective on canonical dotted quads: two hosts
    (bracketed or not) whose stripped texts are dotted quads denote the same address only if the
    stripped texts are equal … -/
theorem candidate_parse_injective (h h' : Str) (a b c d a' b' c' d' : UInt8)
    (hq : DottedQuad (candidateIP h) a b c d) (hq' : DottedQuad (candidateIP h') a' b' c' d')
    (he : parseIP (candidateIP h) = parseIP (candidateIP h')) : candidateIP h = candidateIP h' :=
  parse_injective_on_quads _ _ a b c d a' b' c' d' hq hq' he

/-- … and two unbracketed dotted-quad hosts only if they are the same host string. -/
theorem host_quad_injective (h h' : Str) (a b c d a' b' c' d' : UInt8)
    (hq : DottedQuad h a b c d) (hq' : DottedQuad h' a' b' c' d')
    (he : parseIP (candidateIP h) = parseIP (candidateIP h')) : h = h' := by
  rw [candidateIP_of_quad h a b c d hq, candidateIP_of_quad h' a' b' c' d' hq'] at he
  exact parse_injective_on_quads _ _ a b c d a' b' c' d' hq hq' he

/-- The property's sentence with "IP literal" given by the declarative grammar (no model
    function of `net.ParseIP` occurs in it). -/
def HostSpecLit (c : Cert) (h : Str) : Prop :=
  ∃ cand, Candidate h cand ∧
    ((∃ ip, IPLiteral cand ip ∧ ∃ x ∈ c.ipAddresses, SameAddr ip x) ∨
     ((∀ ip, ¬ IPLiteral cand ip) ∧
       ((HasSAN c ∧ ∃ d ∈ c.dnsNames, MatchSpec (lower d) (lower h)) ∨
        (¬ HasSAN c ∧ MatchSpec (lower c.commonName) (lower h)))))

/-- `VerifyHostname` accepts exactly when the host is (optionally bracketed) an IP literal of the
    grammar whose address equals an IP SAN, or is not an IP literal and matches by the DNS rules. -/
theorem verifyHostname_iff_literal (c : Cert) (h : Str) :
    verifyHostname c h = .ok .accept ↔ HostSpecLit c h := by
  rw [verifyHostname_iff]
  unfold HostSpec HostSpecLit
  simp only [parseIP_iff_literal, parseIP_none_iff]

/-! ### the hypotheses / specifications are inhabited (non-vacuity) -/

-- "*.a" matches "b.a." : labels ["*","a"] vs ["b","a"], trailing dot of the host ignored
example : MatchSpec [42, 46, 97] [98, 46, 97, 46] :=
  ⟨[42, 46, 97], [98, 46, 97], [[42], [97]], [[98], [97]],
    (stripped_iff _ _).mpr (by decide),
    Stripped.dot [98, 46, 97],
    by decide, by decide, by simp [DotFree, dot], by simp [DotFree, dot], rfl, rfl,
    .cons (Or.inl rfl) (.cons (Or.inr rfl) .nil)⟩

example : HasSAN { extOids := [[2, 5, 29, 15], [2, 5, 29, 17]], dnsNames := [], ipAddresses := [], commonName := [] } := by
  simp [HasSAN, oidSAN]

example : ¬ HasSAN { extOids := [[2, 5, 29, 15]], dnsNames := [], ipAddresses := [], commonName := [] } := by
  simp [HasSAN, oidSAN]

-- "[1.2.3.4]" is a bracketed IP literal
example : parseIP (candidateIP [91, 49, 46, 50, 46, 51, 46, 52, 93]) = some (v4InV6Prefix ++ [1, 2, 3, 4]) := by decide

-- "255" is an octet, "1.2.3.4" a dotted quad, "1f" a group
example : IsOctet [50, 53, 53] 255 :=
  ⟨by decide, by simp [IsDec], by decide, by decide, by decide⟩

example : DottedQuad [49, 46, 50, 46, 51, 46, 52] 1 2 3 4 :=
  (parseIPv4Fields_spec _ 1 2 3 4).mp (by decide)

example : IsHexGroup [49, 102] 31 := ⟨by decide, by decide, by simp [IsHexCh], by decide⟩

-- "1::" and "::1.2.3.4" are IPv6 forms
example : V6Spec [49, 58, 58] ([0, 1] ++ List.replicate 14 0) :=
  Or.inr ⟨[49], [], [0, 1], [], rfl,
    Or.inr (V6Seq.one (v := 1) ⟨by decide, by decide, by simp [IsHexCh], by decide⟩),
    Or.inl ⟨rfl, rfl⟩, by decide, by decide⟩

example : IPLiteral [49, 46, 50, 46, 51, 46, 52] (v4InV6Prefix ++ [1, 2, 3, 4]) :=
  (parseIP_spec _ _).mp (by decide)

-- a host with a byte outside [0-9a-fA-F:.] ("a.example")
example : ∃ x ∈ candidateIP [97, 46, 101, 120], ¬ IPChar x :=
  ⟨120, by decide, by simp [IPChar, IsHexCh]⟩

example : DottedQuad (candidateIP [91, 49, 46, 50, 46, 51, 46, 52, 93]) 1 2 3 4 :=
  (parseIPv4Fields_spec _ 1 2 3 4).mp (by decide)


/-! ### the error VALUE: which `HostnameError.Host` is returned, and what `Error()` prints -/

/-- the `Host` field VerifyHostname stores in its HostnameError: the bracket-stripped text for an
    IP literal, the host as given otherwise. -/
def rejHost (h : Str) : Str :=
  match parseIP (candidateIP h) with
  | some _ => candidateIP h
  | none => h

/-- Every call ends in exactly one of two ways: `nil`, or `HostnameError{c, rejHost h}` — no other
    error kind, no other `Host` value (in particular never the lowered host). -/
theorem verdict_dichotomy (c : Cert) (h : Str) :
    verifyHostname c h = .ok .accept ∨ verifyHostname c h = .ok (.reject (rejHost h)) :=
  (verifyHostname_cases c h).imp And.left And.left

/-- the error is returned exactly when the documented rule fails, and it carries `rejHost h`. -/
theorem reject_iff (c : Cert) (h x : Str) :
    verifyHostname c h = .ok (.reject x) ↔ ¬ HostSpec c h ∧ x = rejHost h := by
  rw [← verifyHostname_iff]
  rcases verdict_dichotomy c h with e | e <;> simp [e, eq_comm]

/-- a bracketed host that is not `[IP literal]` is not an IP literal as a whole either … -/
theorem parseIP_none_of_candidate (h : Str) (hn : parseIP (candidateIP h) = none) : parseIP h = none := by
  by_cases hb : ∃ m, m ≠ [] ∧ h = 91 :: (m ++ [93])
  · obtain ⟨m, _, rfl⟩ := hb
    exact non_ip_charset _ ⟨91, List.mem_cons_self, by simp [IPChar, IsHexCh]⟩
  · rwa [candidateIP_of_not_bracketed fun m hm e => hb ⟨m, hm, e⟩] at hn

/-- … hence `HostnameError.Error()` (which re-parses the stored `Host`) takes its IP branch exactly
    when `VerifyHostname` took its IP branch: message and decision never disagree about the kind of host. -/
theorem error_branch_consistent (h : Str) :
    (parseIP (rejHost h)).isSome = (parseIP (candidateIP h)).isSome := by
  unfold rejHost
  cases hp : parseIP (candidateIP h) with
  | some ip => simp only [hp]
  | none => simp only [parseIP_none_of_candidate h hp]

/-- the three message forms of `Error()`, for ALL certificates and hosts: IP host without IP SANs;
    otherwise `valid` = the IP SAN texts / the DNS SANs joined by ", " (SAN extension present) / the
    common name (absent), and "not valid for any names" exactly when `valid` is empty. -/
theorem errorMsg_forms (c : Cert) (host : Str) (ipStrs : List Str) :
    hostnameErrorMsg c host ipStrs =
      if (parseIP host).isSome ∧ c.ipAddresses = [] then msgCannot ++ host ++ msgNoIPSANs
      else
        let valid := if (parseIP host).isSome then joinValid [] ipStrs
                     else if oidSAN ∈ c.extOids then joinComma c.dnsNames else c.commonName
        if valid = [] then msgNoNames ++ host else msgValidFor ++ valid ++ msgNot ++ host := by
  unfold hostnameErrorMsg msgTail
  cases parseIP host with
  | some ip => simp [List.length_eq_zero_iff]
  | none => by_cases hm : oidSAN ∈ c.extOids <;> simp [hasSANExtension, hm, List.length_eq_zero_iff]

/-- the SAN-suppresses-CN rule also governs the message: with a SAN extension the common name never
    appears in it, without one the DNS SANs never do. -/
theorem errorMsg_cn_irrelevant_with_san (c : Cert) (cn' host : Str) (ipStrs : List Str) (hs : HasSAN c) :
    hostnameErrorMsg { c with commonName := cn' } host ipStrs = hostnameErrorMsg c host ipStrs := by
  have h1 : hasSANExtension c = true := (hasSAN_iff c).mpr hs
  have h2 : hasSANExtension { c with commonName := cn' } = true := h1
  unfold hostnameErrorMsg
  simp only [h1, h2, if_true]

theorem errorMsg_dns_irrelevant_without_san (c : Cert) (dns' : List Str) (host : Str) (ipStrs : List Str)
    (hs : ¬ HasSAN c) :
    hostnameErrorMsg { c with dnsNames := dns' } host ipStrs = hostnameErrorMsg c host ipStrs := by
  have h1 : hasSANExtension c = false := Bool.eq_false_iff.mpr fun e => hs ((hasSAN_iff c).mp e)
  have h2 : hasSANExtension { c with dnsNames := dns' } = false := h1
  unfold hostnameErrorMsg
  rw [h1, h2]
  simp

/-- `strings.Join` semantics of the IP loop: with non-empty texts (net.IP.String never returns "")
    the `len(valid) > 0` test is the usual separator rule. -/
theorem joinValid_eq_joinComma (l : List Str) (hne : ∀ s ∈ l, s ≠ []) : joinValid [] l = joinComma l := by
  have key : ∀ (l : List Str) (v : Str), v ≠ [] → joinValid v l = joinComma (v :: l) := by
    intro l
    induction l with
    | nil => intro v _; rfl
    | cons a t ih =>
      intro v hv
      rw [joinValid, if_pos (List.length_pos_iff.mpr hv), ih _ (by simp [hv])]
      cases t <;> simp [joinComma]
  cases l with
  | nil => rfl
  | cons a t => exact key t a (hne a List.mem_cons_self)

example : ∀ s ∈ [[49, 46, 50, 46, 51, 46, 52], [58, 58, 49]], s ≠ ([] : Str) := by decide

/-! ### T1: every constant of the model equals the value extracted from the current source -/

/-- `hasSANExtension` names `oidExtensionSubjectAltName`, whose current value is the model's `oidSAN` -/
theorem oidSAN_generated :
    ZV.Generated.C09.sanOidName = "oidExtensionSubjectAltName" ∧ ZV.Generated.C09.sanOid = oidSAN := ⟨rfl, rfl⟩

/-- VerifyHostname's literals: `len(h) >= 3`, `h[0] == '['`, `h[len(h)-1] == ']'`, `h[1 : len(h)-1]` -/
theorem verifyHostname_lits_generated :
    ZV.Generated.C09.verifyHostnameLits =
      [("int", [3]), ("int", [0]), ("char", [91]), ("int", [1]), ("char", [93]), ("int", [1]), ("int", [1])] := rfl

/-- matchHostnames' literals: TrimSuffix ".", Split ".", wildcard label "*" (the model's `dot`, `star`) -/
theorem matchHostnames_lits_generated :
    ZV.Generated.C09.matchHostnamesLits =
      [("string", [dot.toNat]), ("string", [dot.toNat]), ("int", [0]), ("int", [0]),
       ("string", [dot.toNat]), ("string", [dot.toNat]), ("string", [star.toNat])] := rfl

/-- toLowerCaseASCII's literals: 'A' 'Z' (twice) and the offset 'a' - 'A' = 32 used by `lowerByte` -/
theorem toLowerCaseASCII_lits_generated :
    ZV.Generated.C09.toLowerCaseASCIILits =
      [("char", [65]), ("char", [90]), ("char", [65]), ("char", [90]), ("char", [97]), ("char", [65])] ∧
    (∀ b : UInt8, isUpper b = (decide (65 ≤ b.toNat) && decide (b.toNat ≤ 90))) ∧ (97 - 65 = 32) := by
  exact ⟨rfl, fun b => rfl, rfl⟩

/-- the message templates of `HostnameError.Error` are the model's -/
theorem hostnameError_lits_generated :
    ZV.Generated.C09.hostnameErrorLits =
      [("int", [0]), ("string", msgCannot.map (·.toNat)), ("string", msgNoIPSANs.map (·.toNat)), ("int", [0]),
       ("string", commaSp.map (·.toNat)), ("string", commaSp.map (·.toNat)), ("int", [0]),
       ("string", msgNoNames.map (·.toNat)), ("string", msgValidFor.map (·.toNat)), ("string", msgNot.map (·.toNat))] :=
  rfl

/-- standard library constants used by the model of IP.Equal / ParseIP -/
theorem stdlib_ip_generated :
    ZV.Generated.C09.v4InV6Prefix = v4InV6Prefix.map (·.toNat) ∧
    ZV.Generated.C09.ipv4len = 4 ∧ ZV.Generated.C09.ipv6len = 16 := ⟨rfl, rfl, rfl⟩

-- "[1.2.3.4]" is rejected with Host "1.2.3.4" by a certificate without IP SANs; "[x]" with Host "[x]"
example : verifyHostname { extOids := [], dnsNames := [], ipAddresses := [], commonName := [] }
    [91, 49, 46, 50, 46, 51, 46, 52, 93] = .ok (.reject [49, 46, 50, 46, 51, 46, 52]) := by decide
example : rejHost [91, 120, 93] = [91, 120, 93] := by decide
example : parseIP (candidateIP [91, 120, 93]) = none := by decide

end ZV.C09
