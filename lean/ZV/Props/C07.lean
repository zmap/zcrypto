import ZV.Proofs.C07Eku
import ZV.Proofs.C07Complete
import ZV.Proofs.C07Verify
import ZV.Props.C09
import ZV.Generated.C07
/-!
  C07 — chain verification returns only valid chains and partitions them by date.

  `ValidChain env leaf chain` (inductive, `ZV.Proofs.C07`) spells the property's sentence:
  the chain is the verified certificate alone when that certificate is itself a root, or
  leaf :: intermediates ++ [root] where every link satisfies `checkSignatureFrom`
  (issuer name = subject name ∧ signature verifies ∧ CA/key-usage gates, see
  `checkSignatureFrom_spec`), every intermediate is a CA certificate from the intermediates
  pool within its path-length limit, the last element is a member of the roots pool, and no
  certificate is repeated (subject+key for intermediates, raw bytes for the root).

  * `verify_sound`            every chain returned by the MEMOISED builder is a `ValidChain` and
                              satisfies the requested extended key usages — via the invariant
                              "every chain stored in the cache is valid" (`buildChains_sound`);
  * `validChain_*`            the flat reading of `ValidChain` (head, last, links, intermediates, no repeats);
  * `filterByDate_no_panic`   the `valid && !wasValid` panic branch is unreachable;
  * `filterByDate_partition`  current / expired / never are exactly the chains whose common window
                              (max NotBefore, min NotAfter) strictly contains `now` / is non-empty but does
                              not / is empty (`lowerBound_spec`, `upperBound_spec`);
  * `nil_error_implies`       nil error ⇒ at least one current chain ∧ the DNS name matched when requested;
  * `buildChains_never_out_of_fuel`, `buildChains_fuel_independent`, `verify_never_out_of_fuel`
                              the fuel of the model's recursion is never exhausted and its amount is
                              irrelevant: the depth bound is the one `isValid` enforces
                              (`len(currentChain) > maxIntermediateCount` fails), as in the Go code;
  * `checkChainForKeyUsage_spec`, `checkChainForKeyUsage_spec_plain`, `verify_usage_spec`
                              the cross-out loop with its `-1` sentinel computes "some requested usage is
                              supported by every certificate of the chain" (`UsageSpec`);
  * `isValid_leaf_nil`, `verify_total`, `candidateChains_err_iff`, `buildChains_no_parents`,
    `verify_error_kind`       which error `Verify` returns, case by case;
  * `findVerifiedParents_spec`, `isValid_root_iff`, `direct_root_chain_found`
                              the candidate rule (AKID→SKID else issuer→subject) declaratively, and the part of
                              completeness the memoisation cannot break: every verified, admissible root
                              parent of the verified certificate yields the chain [c, root] and a nil builder error.
-/
namespace ZV.C07

/-! ### the link relation -/

/-- what a successful `CheckSignatureFrom` means -/
theorem checkSignatureFrom_spec (env : Env) (c parent : Cert) (h : checkSignatureFrom env c parent = true) :
    parent.subject = c.issuer ∧ env.sigOK c parent = true ∧
    ¬ (parent.version3 = true ∧ parent.bcValid = false) ∧ ¬ (parent.bcValid = true ∧ parent.isCA = false) ∧
    ¬ (parent.kuPresent = true ∧ parent.kuCertSign = false) := by
  unfold checkSignatureFrom at h
  split at h
  · cases h
  · rename_i h1
    split at h
    · cases h
    · rename_i h2
      split at h
      · cases h
      · rename_i h3
        exact ⟨Decidable.not_not.mp h3, h, fun ⟨a, b⟩ => h1 (by simp [a, b]), fun ⟨a, b⟩ => h1 (by simp [a, b]),
          fun ⟨a, b⟩ => h2 (by simp [a, b])⟩

/-! ### flat reading of ValidChain -/

theorem prefix_head {env leaf cur c} (h : Prefix env leaf cur c) : cur.head? = some leaf := by
  induction h with
  | leaf => rfl
  | step _ _ _ _ _ _ _ _ ih =>
    rw [List.head?_append, ih]
    rfl

theorem prefix_last {env leaf cur c} (h : Prefix env leaf cur c) : cur.getLast? = some c := by
  cases h with
  | leaf => rfl
  | step _ _ _ _ _ _ _ _ => simp

/-- the chain starts at the verified certificate -/
theorem validChain_head {env leaf ch} (h : ValidChain env leaf ch) : ch.head? = some leaf := by
  cases h with
  | trusted _ => rfl
  | close hp _ _ _ _ =>
    rw [List.head?_append, prefix_head hp]
    rfl

/-- the chain ends at a certificate of the supplied roots (by fingerprint) -/
theorem validChain_last_root {env leaf ch} (h : ValidChain env leaf ch) :
    ∃ r last, ch.getLast? = some last ∧ r ∈ env.roots ∧ r.id = last.id := by
  cases h with
  | trusted hc =>
    obtain ⟨r, hr, e⟩ := List.any_eq_true.mp hc
    exact ⟨r, leaf, rfl, hr, by simpa using e⟩
  | @close cur c0 root _ hr _ _ _ =>
    exact ⟨root, root, by simp, hr, rfl⟩

def Adjacent (a b : Cert) : Chain → Prop
  | x :: y :: rest => (a = x ∧ b = y) ∨ Adjacent a b (y :: rest)
  | _ => False

theorem adjacent_append_single (a b : Cert) (l : Chain) (x : Cert) (h : Adjacent a b (l ++ [x])) :
    Adjacent a b l ∨ (l.getLast? = some a ∧ b = x) := by
  induction l with
  | nil => simp [Adjacent] at h
  | cons y l ih =>
    cases l with
    | nil =>
      simp only [List.cons_append, List.nil_append, Adjacent, or_false] at h
      right; simp [h.1, h.2]
    | cons z l' =>
      simp only [List.cons_append, Adjacent] at h
      rcases h with h | h
      · left; simp only [Adjacent]; exact Or.inl h
      · rcases ih (by simpa using h) with r | r
        · left; simp only [Adjacent]; exact Or.inr r
        · right; simpa using r

theorem prefix_links {env leaf cur c} (h : Prefix env leaf cur c) :
    ∀ a b, Adjacent a b cur → checkSignatureFrom env a b = true := by
  induction h with
  | leaf => intro a b hab; simp [Adjacent] at hab
  | @step cur0 c0 x0 hp _ _ hs _ _ _ _ ih =>
    intro a b hab
    rcases adjacent_append_single a b _ _ hab with r | ⟨r1, r2⟩
    · exact ih a b r
    · have := prefix_last hp
      rw [this] at r1; cases r1; subst r2; exact hs

/-- every certificate is linked to the next one: issuer name, valid signature, CA gates. -/
theorem validChain_links {env leaf ch} (h : ValidChain env leaf ch) :
    ∀ a b, Adjacent a b ch → b.subject = a.issuer ∧ env.sigOK a b = true := by
  intro a b hab
  have key : checkSignatureFrom env a b = true := by
    cases h with
    | trusted _ => simp [Adjacent] at hab
    | @close cur c0 root hp _ hs _ _ =>
      rcases adjacent_append_single a b _ _ hab with r | ⟨r1, r2⟩
      · exact prefix_links hp a b r
      · have := prefix_last hp
        rw [this] at r1; cases r1; subst r2; exact hs
  have := checkSignatureFrom_spec env a b key
  exact ⟨this.1, this.2.1⟩

theorem prefix_intermediates {env leaf cur c} (h : Prefix env leaf cur c) :
    ∀ x ∈ cur.drop 1, x ∈ env.inters ∧ x.bcValid = true ∧ x.isCA = true := by
  induction h with
  | leaf =>
    intro x hx
    cases hx
  | step hp hi _ _ hb hc _ _ ih =>
    intro x hx
    rw [List.drop_append_of_le_length (List.length_pos_iff.mpr (prefix_ne_nil hp)), List.mem_append, List.mem_singleton] at hx
    rcases hx with hx | rfl
    · exact ih x hx
    · exact ⟨hi, hb, hc⟩

/-- everything strictly between the verified certificate and the root is a CA certificate
    taken from the intermediates pool. -/
theorem validChain_intermediates {env leaf ch} (h : ValidChain env leaf ch) :
    ∀ x ∈ (ch.drop 1).dropLast, x ∈ env.inters ∧ x.bcValid = true ∧ x.isCA = true := by
  cases h with
  | trusted _ =>
    intro x hx
    cases hx
  | close hp _ _ _ _ =>
    rw [List.drop_append_of_le_length (List.length_pos_iff.mpr (prefix_ne_nil hp)), List.dropLast_concat]
    exact prefix_intermediates hp

/-- the root is not (by raw bytes) any earlier certificate of the chain. -/
theorem validChain_root_fresh {env leaf cur c root}
    (_ : Prefix env leaf cur c) (hf : certificateInChain cur root = false) : ∀ x ∈ cur, x.id ≠ root.id :=
  fun x hx e => List.any_eq_false.mp hf x hx (decide_eq_true e)


theorem prefix_pathOK {env leaf cur c} (h : Prefix env leaf cur c) :
    ∀ i x, 1 ≤ i → cur[i]? = some x → PathOK x i := by
  induction h with
  | leaf =>
    intro i x hi hx
    cases i with
    | zero => omega
    | succ n => simp at hx
  | @step cur0 c0 x0 hp _ _ _ _ _ hpath _ ih =>
    intro i x hi hx
    rcases getElem?_append_single hx with hx | ⟨rfl, rfl⟩
    · exact ih i x hi hx
    · exact hpath

/-- "within their path-length limits": the certificate at position `i ≥ 1` of a returned chain
    (an intermediate or the root; `i - 1` intermediates lie below it) does not have a
    `MaxPathLen` (valid BasicConstraints, non-negative) smaller than `i - 1`, and `i ≤ 10`. -/
theorem validChain_pathOK {env leaf ch} (h : ValidChain env leaf ch) :
    ∀ i x, 1 ≤ i → ch[i]? = some x → PathOK x i := by
  cases h with
  | trusted _ =>
    intro i x hi hx
    cases i with
    | zero => omega
    | succ n => simp at hx
  | @close cur c0 root hp _ _ hpath _ =>
    intro i x hi hx
    rcases getElem?_append_single hx with hx | ⟨rfl, rfl⟩
    · exact prefix_pathOK hp i x hi hx
    · exact hpath

/-- no two certificates of the leaf-and-intermediates part share subject and key -/
theorem prefix_no_repeat {env leaf cur c} (h : Prefix env leaf cur c) :
    cur.Pairwise (fun a b => ¬ (a.subject = b.subject ∧ a.spki = b.spki)) := by
  induction h with
  | leaf => simp
  | @step cur0 c0 x0 hp _ _ _ _ _ _ hfresh ih =>
    rw [List.pairwise_append]
    refine ⟨ih, List.pairwise_singleton _ _, fun a ha b hb hab => ?_⟩
    rw [List.mem_singleton.mp hb] at hab
    exact List.any_eq_false.mp hfresh a ha (decide_eq_true hab)

/-- "repeats no certificate": the certificates of a returned chain are pairwise different (raw
    bytes).  `hid` says that identical raw bytes mean identical subject and key — true of parsed
    certificates (the fields are slices of `Raw`); it is needed because the code compares
    intermediates by subject+key and only the root by raw bytes. -/
theorem validChain_no_repeat {env leaf ch} (h : ValidChain env leaf ch)
    (hid : ∀ x ∈ ch, ∀ y ∈ ch, x.id = y.id → x.subject = y.subject ∧ x.spki = y.spki) :
    ch.Pairwise (fun a b => a.id ≠ b.id) := by
  cases h with
  | trusted _ => simp
  | @close cur c0 root hp _ _ _ hfresh =>
    rw [List.pairwise_append]
    refine ⟨?_, by simp, ?_⟩
    · exact List.Pairwise.imp_of_mem
        (fun {a b} ha hb hne hab => hne (hid a (by simp [ha]) b (by simp [hb]) hab)) (prefix_no_repeat hp)
    · intro a ha b hb
      simp only [List.mem_singleton] at hb; subst hb
      exact validChain_root_fresh hp hfresh a ha


/-! ### FilterByDate -/

/-- the folded bounds are the maximum NotBefore / minimum NotAfter of the chain -/
theorem lowerBound_spec (leaf : Cert) (rest : Chain) :
    (∀ c ∈ leaf :: rest, c.notBefore ≤ lowerBound leaf rest) ∧ ∃ c ∈ leaf :: rest, c.notBefore = lowerBound leaf rest :=
  have h := List.max?_eq_some_iff.mp (lowerBound_eq leaf rest)
  ⟨fun _ hc => h.2 _ (List.mem_map_of_mem hc), List.mem_map.mp h.1⟩

theorem upperBound_spec (leaf : Cert) (rest : Chain) :
    (∀ c ∈ leaf :: rest, upperBound leaf rest ≤ c.notAfter) ∧ ∃ c ∈ leaf :: rest, c.notAfter = upperBound leaf rest :=
  have h := List.min?_eq_some_iff.mp (upperBound_eq leaf rest)
  ⟨fun _ hc => h.2 _ (List.mem_map_of_mem hc), List.mem_map.mp h.1⟩

/-- `filterByDate_partition`: each (non-empty) chain lands in exactly one class, determined by
    `classOf`; the classes keep the input order. -/
theorem filterByDate_partition (now : Int) (chains : List Chain) (acc : Dated) :
    filterByDate now chains acc = .ok
      { current := acc.current ++ chains.filter (fun ch => classOf now ch = some 0)
        expired := acc.expired ++ chains.filter (fun ch => classOf now ch = some 1)
        never := acc.never ++ chains.filter (fun ch => classOf now ch = some 2) } :=
  filterByDate_eq now chains acc

/-- the `valid && !wasValid` branch ("Math/logic tells us this is impossible") is indeed unreachable. -/
theorem filterByDate_no_panic (now : Int) (chains : List Chain) (acc : Dated) :
    ∃ d, filterByDate now chains acc = .ok d :=
  ⟨_, filterByDate_partition now chains acc⟩

/-! ### Verify as a cascade -/

/-- `isValid(CertificateTypeLeaf, nil)`, the first check of `Verify`, can never fail. -/
theorem isValid_leaf_nil (c : Cert) : isValid c .leaf [] = none :=
  (isValid_none_iff c .leaf []).mpr ⟨nofun, pathOK_nil c⟩

/-- `verify` as a cascade over the builder's result, the usage filter and the date classes. -/
theorem verify_eq (env : Env) (c : Cert) (hostCert : C09.Cert) (opts : Opts) :
    verify env c hostCert opts =
      match (candidateChains env c).2 with
      | some e => .ok (errOut e)
      | none =>
        if filterUsage (candidateChains env c).1 (usagesOf opts) = [] then .ok (errOut .incompatibleUsage)
        else finish
          { current := (filterUsage (candidateChains env c).1 (usagesOf opts)).filter (fun ch => classOf opts.now ch = some 0)
            expired := (filterUsage (candidateChains env c).1 (usagesOf opts)).filter (fun ch => classOf opts.now ch = some 1)
            never := (filterUsage (candidateChains env c).1 (usagesOf opts)).filter (fun ch => classOf opts.now ch = some 2) }
          hostCert opts := by
  unfold verify
  rw [isValid_leaf_nil]
  simp only
  cases (candidateChains env c).2 with
  | some e => rfl
  | none => simp only [filterByDate_partition, List.nil_append, List.length_eq_zero_iff]

/-! ### non-vacuity -/

-- a two-certificate PKI: leaf 1 issued by self-signed root 0; the chain [leaf, root] is found and is current
def exRoot : Cert :=
  { uid := 0, id := 1, subject := 1, issuer := 1, spki := 1, skid := 1, akid := 0, version3 := true,
    bcValid := true, isCA := true, maxPathLen := -1, kuPresent := false, kuCertSign := false, selfSigned := true,
    eku := [], unknownEku := false, notBefore := 0, notAfter := 100 }
def exLeaf : Cert :=
  { uid := 1, id := 2, subject := 2, issuer := 1, spki := 2, skid := 0, akid := 1, version3 := true,
    bcValid := false, isCA := false, maxPathLen := -1, kuPresent := false, kuCertSign := false, selfSigned := false,
    eku := [1], unknownEku := false, notBefore := 10, notAfter := 50 }
def exEnv : Env := { roots := [exRoot], inters := [], sigOK := fun a b => decide (a.uid = 1 ∧ b.uid = 0) }

example :
    (verify exEnv exLeaf { extOids := [], dnsNames := [], ipAddresses := [], commonName := [] }
        { now := 20, keyUsages := [], dnsName := [] }).map (fun o => (o.current.map (·.map (·.uid)), o.err))
      = .ok ([[1, 0]], none) := by decide

example : ValidChain exEnv exLeaf [exLeaf, exRoot] :=
  ValidChain.close (cur := [exLeaf]) Prefix.leaf (by simp [exEnv]) (by decide) (by simp [PathOK, exRoot, maxIntermediateCount]) (by decide)


example : ∀ x ∈ [exLeaf, exRoot], ∀ y ∈ [exLeaf, exRoot], x.id = y.id → x.subject = y.subject ∧ x.spki = y.spki := by decide

/-! ### the recursion bound -/

/-- The initial call of `Verify` (`currentChain = [c]`, fuel 13) never reports `outOfFuel`, whatever the pools,
    the signature relation and the cache (for any call site: `buildChains_ne_outOfFuel` under `FuelOK`). -/
theorem buildChains_never_out_of_fuel (env : Env) (cache : Cache) (c : Cert) :
    (buildChains fuel0 env cache c [c]).2.1 ≠ some .outOfFuel :=
  buildChains_ne_outOfFuel fuel0 env cache c [c] (fuelOK0 c)

/-- more precisely: the builder's error is nil or one of the four kinds of the Go code -/
theorem buildChains_error_kinds (env : Env) (cache : Cache) (c : Cert) :
    BuilderErr (buildChains fuel0 env cache c [c]).2.1 :=
  buildChains_err fuel0 env cache c [c] (fuelOK0 c)

/-- The amount of fuel is irrelevant: any fuel ≥ 11 (= maxIntermediateCount + 1 nested calls) gives
    the same chains, error and cache as the 13 used by the model. -/
theorem buildChains_fuel_independent (fuel : Nat) (hf : maxIntermediateCount + 1 ≤ fuel)
    (env : Env) (cache : Cache) (c : Cert) :
    buildChains fuel env cache c [c] = buildChains fuel0 env cache c [c] :=
  buildChains_fuel_irrelevant fuel fuel0 env cache c [c] (fuelOK_single hf c) (fuelOK0 c)

example : maxIntermediateCount + 1 ≤ 11 := by decide

/-- the fuel bound 11 is tight in the sense of the invariant: a call on a chain of 11 certificates
    needs (and uses) exactly one unit, because no intermediate passes `isValid` any more. -/
theorem isValid_stops (x : Cert) (t : CertType) (cur : Chain) (h : maxIntermediateCount < cur.length) :
    isValid x t cur ≠ none := by
  intro hn
  have := isValid_none_len x t cur hn
  omega

example : maxIntermediateCount < (List.replicate 11 exRoot).length := by decide

/-! ### which error -/

/-- the candidate builder reports a nil error exactly when it found a chain -/
theorem candidateChains_err_iff (env : Env) (c : Cert) :
    (candidateChains env c).2 = none ↔ (candidateChains env c).1 ≠ [] :=
  (candidateChains_spec env c).2.2


/-- A call of `buildChains` for a certificate without any verified parent in either pool (and which
    is not the trusted-leaf case) finds nothing and reports `IsSelfSigned` for a self-signed
    certificate, `UnknownAuthority` otherwise. -/
theorem buildChains_no_parents (fuel : Nat) (env : Env) (cache : Cache) (c : Cert) (cur : Chain)
    (h0 : ¬ (cur.length = 1 ∧ containsFp env.roots c = true))
    (hr : findVerifiedParents env env.roots c = []) (hi : findVerifiedParents env env.inters c = []) :
    buildChains (fuel + 1) env cache c cur =
      ([], some (if c.selfSigned then .isSelfSigned else .unknownAuthority), cache) := by
  simp only [buildChains, hr, hi, rootLoop, interLoop, h0, if_false, List.length_nil, true_and,
    Nat.lt_irrefl]
  cases c.selfSigned <;> simp

/-- `verify_error_kind`: the error returned by `Verify`, case by case.
    * no candidate chain: the builder's error — one of `IsSelfSigned`, `NotAuthorizedToSign`,
      `TooManyIntermediates`, `UnknownAuthority` (never nil) — and no chains;
    * candidates, but none passes the key-usage filter: `IncompatibleUsage`, no chains;
    * otherwise the three lists are the date classes of the filtered candidates (`classOf`), and
      no current chain, some expired chain: `Expired`;
      no current and no expired chain: (then a never-valid chain exists and) `NeverValid`;
      a current chain: nil, unless a DNS name was requested and does not satisfy `C09.HostSpec`,
      in which case the error is a `HostnameError` (the chains are still returned). -/
theorem verify_error_kind (env : Env) (c : Cert) (hostCert : C09.Cert) (opts : Opts) (o : Out)
    (h : verify env c hostCert opts = .ok o) :
    ((candidateChains env c).1 = [] →
      o.err = (candidateChains env c).2 ∧
      (o.err = some .isSelfSigned ∨ o.err = some .notAuthorizedToSign ∨ o.err = some .tooManyIntermediates ∨
        o.err = some .unknownAuthority) ∧
      o.current = [] ∧ o.expired = [] ∧ o.never = []) ∧
    ((candidateChains env c).1 ≠ [] → filterUsage (candidateChains env c).1 (usagesOf opts) = [] →
      o.err = some .incompatibleUsage ∧ o.current = [] ∧ o.expired = [] ∧ o.never = []) ∧
    (filterUsage (candidateChains env c).1 (usagesOf opts) ≠ [] →
      o.current = (filterUsage (candidateChains env c).1 (usagesOf opts)).filter (fun ch => classOf opts.now ch = some 0) ∧
      o.expired = (filterUsage (candidateChains env c).1 (usagesOf opts)).filter (fun ch => classOf opts.now ch = some 1) ∧
      o.never = (filterUsage (candidateChains env c).1 (usagesOf opts)).filter (fun ch => classOf opts.now ch = some 2) ∧
      (o.current = [] → o.expired ≠ [] → o.err = some .expired) ∧
      (o.current = [] → o.expired = [] → o.never ≠ [] ∧ o.err = some .neverValid) ∧
      (o.current ≠ [] →
        (o.err = none ∧ (opts.dnsName ≠ [] → C09.HostSpec hostCert opts.dnsName)) ∨
        (o.err = some .hostname ∧ opts.dnsName ≠ [] ∧ ¬ C09.HostSpec hostCert opts.dnsName))) := by
  cases (verify_spec env c hostCert opts).symm.trans h
  obtain ⟨hval, hkinds, hiff⟩ := candidateChains_spec env c
  have hnil : ∀ {F}, F = [] → dated opts.now F = ⟨[], [], []⟩ := by
    intro F e
    rw [e]
    rfl
  unfold verifySpec
  dsimp only
  refine ⟨fun h1 => ?_, fun h1 h2 => ?_, fun h2 => ?_⟩
  · rw [if_pos h1, hnil (h1 ▸ filterUsage_nil _)]
    exact ⟨rfl, hkinds.resolve_left (fun e => hiff.mp e h1), rfl, rfl, rfl⟩
  · rw [if_neg h1, if_pos h2, hnil h2]
    exact ⟨rfl, rfl, rfl, rfl⟩
  · have h1 : (candidateChains env c).1 ≠ [] := fun e => h2 (e ▸ filterUsage_nil _)
    -- every usable candidate is a valid chain, so non-empty, so in one of the three date classes
    have hch : ∀ ch ∈ filterUsage (candidateChains env c).1 (usagesOf opts), ch ≠ [] :=
      fun ch h => validChain_ne_nil (hval ch (filterUsage_mem _ _ ch h).1)
    rw [if_neg h1, if_neg h2]
    refine ⟨rfl, rfl, rfl, fun hc hx => ?_, fun hc hx => ⟨dated_ne_nil opts.now h2 hch hc hx, ?_⟩, fun hc => ?_⟩
    · rw [if_pos hc, if_neg hx]
    · rw [if_pos hc, if_pos hx]
    · rw [if_neg hc, ← C09.verifyHostname_iff]
      by_cases hd : opts.dnsName = []
      · exact Or.inl ⟨if_pos (Or.inl hd), fun h => absurd hd h⟩
      · by_cases ha : C09.verifyHostname hostCert opts.dnsName = .ok .accept
        · exact Or.inl ⟨if_pos (Or.inr ha), fun _ => ha⟩
        · exact Or.inr ⟨if_neg (not_or_intro hd ha), hd, ha⟩

/-- `verify_sound`: every chain in any of the three result lists is a `ValidChain` for the
    verified certificate and the supplied pools, and satisfies the requested extended key usages
    (`ExtKeyUsageAny` requested, or `checkChainForKeyUsage` with the defaulted usage list holds). -/
theorem verify_sound (env : Env) (c : Cert) (hostCert : C09.Cert) (opts : Opts) (o : Out)
    (h : verify env c hostCert opts = .ok o) :
    ∀ ch ∈ o.current ++ o.expired ++ o.never,
      ValidChain env c ch ∧
      ((usagesOf opts).any (fun u => u = ekuAny) = true ∨ checkChainForKeyUsage ch (usagesOf opts) = true) := by
  cases (verify_spec env c hostCert opts).symm.trans h
  intro ch hch
  have hfu : ch ∈ filterUsage (candidateChains env c).1 (usagesOf opts) := by
    rcases List.mem_append.mp hch with hch | hch
    · rcases List.mem_append.mp hch with hch | hch
      · exact (List.mem_filter.mp hch).1
      · exact (List.mem_filter.mp hch).1
    · exact (List.mem_filter.mp hch).1
  obtain ⟨r1, r2⟩ := filterUsage_mem _ _ _ hfu
  exact ⟨(candidateChains_spec env c).1 ch r1, r2⟩

/-- a nil error implies at least one current chain, and — when a DNS name was requested —
    that `VerifyHostname` accepted it, i.e. the C09 specification `HostSpec` holds. -/
theorem nil_error_implies (env : Env) (c : Cert) (hostCert : C09.Cert) (opts : Opts) (o : Out)
    (h : verify env c hostCert opts = .ok o) (hnil : o.err = none) :
    o.current ≠ [] ∧ (opts.dnsName ≠ [] → C09.HostSpec hostCert opts.dnsName) := by
  obtain ⟨h1, h2⟩ := (verify_err_none_iff h).mp hnil
  exact ⟨h1, fun hd => (C09.verifyHostname_iff _ _).mp (h2.resolve_left hd)⟩

/-- `Verify` (model) neither panics nor fails internally. -/
theorem verify_total (env : Env) (c : Cert) (hostCert : C09.Cert) (opts : Opts) :
    ∃ o, verify env c hostCert opts = .ok o :=
  ⟨_, verify_spec env c hostCert opts⟩

/-- `Verify` never returns the model-only error `outOfFuel`. -/
theorem verify_never_out_of_fuel (env : Env) (c : Cert) (hostCert : C09.Cert) (opts : Opts) (o : Out)
    (h : verify env c hostCert opts = .ok o) : o.err ≠ some .outOfFuel := by
  cases (verify_spec env c hostCert opts).symm.trans h
  have hb := builderErr_ne_outOfFuel (candidateChains_spec env c).2.1
  unfold verifySpec
  dsimp only
  -- no branch of the cascade is `outOfFuel`
  exact ite_ne hb (ite_ne nofun (ite_ne (ite_ne nofun nofun) (ite_ne nofun nofun)))

/-- every current chain of `Verify` is in date class 0 -/
theorem verify_current_class (env : Env) (c : Cert) (hostCert : C09.Cert) (opts : Opts) (o : Out)
    (h : verify env c hostCert opts = .ok o) : ∀ ch ∈ o.current, classOf opts.now ch = some 0 := by
  cases (verify_spec env c hostCert opts).symm.trans h
  exact fun ch hch => of_decide_eq_true (List.mem_filter.mp hch).2

/-- with no DNS name requested, a non-nil error of `Verify` means there is no current chain -/
theorem verify_err_no_current (env : Env) (c : Cert) (hostCert : C09.Cert) (opts : Opts) (o : Out)
    (h : verify env c hostCert opts = .ok o) (hd : opts.dnsName = []) (he : o.err ≠ none) : o.current = [] :=
  Decidable.not_not.mp fun hc => he ((verify_err_none_iff h).mpr ⟨hc, Or.inl hd⟩)

/-! ### the extended-key-usage filter -/

/-- `checkChainForKeyUsage` computes the declarative `UsageSpec`: the chain is non-empty and (the
    request list is empty, or) some requested slot — the sentinel value −1 trivially — is supported by
    every certificate of the chain, where a certificate supports a usage when it has no (known or
    unknown) EKU at all, lists `ExtKeyUsageAny`, lists the usage, or lists an SGC usage and the
    request is ServerAuth. -/
theorem checkChainForKeyUsage_spec (chain : Chain) (usages : List Int) :
    checkChainForKeyUsage chain usages = true ↔ UsageSpec chain usages := by
  unfold checkChainForKeyUsage UsageSpec
  by_cases hc : chain.length = 0
  · have : chain = [] := List.length_eq_zero_iff.mp hc
    simp [this]
  · have hne : chain ≠ [] := fun e => hc (by simp [e])
    simp only [hc, if_false, ne_eq, hne, not_false_eq_true, true_and]
    rw [ekuLoop_length_iff]
    simp only [List.mem_reverse]

/-- For request lists as `Verify` passes them in practice (non-empty, no −1 entry) the two corner
    cases disappear: acceptable ⇔ some requested usage is supported by every certificate. -/
theorem checkChainForKeyUsage_spec_plain (chain : Chain) (usages : List Int)
    (hne : usages ≠ []) (hs : invalidUsage ∉ usages) :
    checkChainForKeyUsage chain usages = true ↔
      (chain ≠ [] ∧ ∃ u ∈ usages, ∀ cert ∈ chain, CertAllows cert u) := by
  rw [checkChainForKeyUsage_spec]
  unfold UsageSpec
  constructor
  · rintro ⟨h1, h | ⟨u, hu, h | h⟩⟩
    · exact absurd h hne
    · exact absurd (h ▸ hu) hs
    · exact ⟨h1, u, hu, h⟩
  · rintro ⟨h1, u, hu, h⟩
    exact ⟨h1, Or.inr ⟨u, hu, Or.inr h⟩⟩

example : ([ekuServerAuth] : List Int) ≠ [] ∧ invalidUsage ∉ ([ekuServerAuth] : List Int) := by decide

theorem usagesOf_ne_nil (opts : Opts) : usagesOf opts ≠ [] := by
  unfold usagesOf
  split
  · simp
  · rename_i h; intro e; exact h (by simp [e])

/-- `verify_sound` with the filter spelt out: every returned chain satisfies the request — `Any`
    was requested, or a requested usage (or the −1 sentinel slot) is supported by every certificate. -/
theorem verify_usage_spec (env : Env) (c : Cert) (hostCert : C09.Cert) (opts : Opts) (o : Out)
    (h : verify env c hostCert opts = .ok o) :
    ∀ ch ∈ o.current ++ o.expired ++ o.never,
      ekuAny ∈ usagesOf opts ∨ ∃ u ∈ usagesOf opts, u = invalidUsage ∨ ∀ cert ∈ ch, CertAllows cert u := by
  intro ch hch
  rcases (verify_sound env c hostCert opts o h ch hch).2 with h1 | h1
  · obtain ⟨x, hx, e⟩ := List.any_eq_true.mp h1
    simp only [decide_eq_true_eq] at e
    exact Or.inl (e ▸ hx)
  · rcases ((checkChainForKeyUsage_spec ch _).mp h1).2 with h2 | h2
    · exact absurd h2 (usagesOf_ne_nil opts)
    · exact Or.inr h2


/-! ### completeness at depth one -/

/-- the candidate parents, declaratively: pool entries passing `CheckSignatureFrom`, selected by
    key id when the child has an AuthorityKeyId matched by some pool entry, by name otherwise. -/
theorem findVerifiedParents_spec (env : Env) (pool : List Cert) (c : Cert) (i : Nat) (x : Cert) :
    (i, x) ∈ findVerifiedParents env pool c ↔
      pool[i]? = some x ∧ checkSignatureFrom env c x = true ∧
      (if c.akid ≠ 0 ∧ ∃ y ∈ pool, y.skid = c.akid then x.skid = c.akid else x.subject = c.issuer) :=
  fvp_mem_iff env pool c i x

/-- for a root (or leaf) `isValid` is exactly the path-length clause plus the global bound -/
theorem isValid_root_iff (x : Cert) (cur : Chain) : isValid x .root cur = none ↔ PathOK x cur.length :=
  (isValid_none_iff x .root cur).trans (and_iff_right nofun)

/-- Depth-one completeness (not affected by the memoisation, true for every cache): if the verified
    certificate is not itself a root, every root that `findVerifiedParents` selects, that respects
    its path-length limit and is not the certificate itself gives the chain `[c, root]`, and the
    builder's error is nil. -/
theorem direct_root_chain_found (env : Env) (c : Cert) (n : Nat) (root : Cert)
    (hnr : containsFp env.roots c = false)
    (hm : (n, root) ∈ findVerifiedParents env env.roots c)
    (hp : PathOK root 1) (hid : c.id ≠ root.id) :
    [c, root] ∈ (candidateChains env c).1 ∧ (candidateChains env c).2 = none := by
  have hmem : [c, root] ∈ (candidateChains env c).1 := by
    rw [(candidateChains_of_not_root (by rw [hnr]; exact Bool.false_ne_true)).1]
    -- `fuel0` is `12 + 1`
    exact buildChains_root_complete 12 env _ c [c] n root hm ((isValid_root_iff root [c]).mpr hp)
      (by simp [certificateInChain, hid])
  exact ⟨hmem, (candidateChains_err_iff env c).mpr (fun e => by rw [e] at hmem; cases hmem)⟩

/-! ### non-vacuity: key usages, error kinds, depth-one completeness -/

-- a leaf whose only EKU is ClientAuth (2): ServerAuth is crossed out, the chain is refused …
def exClientLeaf : Cert := { exLeaf with eku := [2] }

example : checkChainForKeyUsage [exClientLeaf, exRoot] [ekuServerAuth] = false := by decide
example : ¬ UsageSpec [exClientLeaf, exRoot] [ekuServerAuth] :=
  fun h => absurd ((checkChainForKeyUsage_spec _ _).mpr h) (by decide)
-- … accepted for ClientAuth, for an SGC leaf under a ServerAuth request …
example : UsageSpec [exClientLeaf, exRoot] [ekuServerAuth, 2] := (checkChainForKeyUsage_spec _ _).mp (by decide)
example : UsageSpec [{ exLeaf with eku := [ekuMicrosoftSGC] }, exRoot] [ekuServerAuth] :=
  (checkChainForKeyUsage_spec _ _).mp (by decide)
-- … and (corner case of the in-band sentinel) for a requested usage −1, whatever the certificates say
example : checkChainForKeyUsage [exClientLeaf, exRoot] [invalidUsage] = true := by decide
example : checkChainForKeyUsage [exClientLeaf, exRoot] [] = true := by decide

-- error kinds: unknown authority (no parent), self-signed, incompatible usage, expired, never valid, hostname
def exHost : C09.Cert := { extOids := [], dnsNames := [], ipAddresses := [], commonName := [] }

example : (verify { exEnv with roots := [] } exLeaf exHost { now := 20, keyUsages := [], dnsName := [] }).map (·.err)
    = .ok (some .unknownAuthority) := by decide
example : (verify { exEnv with roots := [] } exRoot exHost { now := 20, keyUsages := [], dnsName := [] }).map (·.err)
    = .ok (some .isSelfSigned) := by decide
example : (verify exEnv exClientLeaf exHost { now := 20, keyUsages := [], dnsName := [] }).map (·.err)
    = .ok (some .incompatibleUsage) := by decide
example : (verify exEnv exLeaf exHost { now := 60, keyUsages := [], dnsName := [] }).map (·.err)
    = .ok (some .expired) := by decide
example : (verify exEnv { exLeaf with notBefore := 200, notAfter := 300 } exHost
    { now := 60, keyUsages := [], dnsName := [] }).map (·.err) = .ok (some .neverValid) := by decide
example : findVerifiedParents { exEnv with roots := [] } [] exLeaf = [] ∧
    ¬ (([exLeaf] : Chain).length = 1 ∧ containsFp ([] : List Cert) exLeaf = true) := by decide

example : containsFp exEnv.roots exLeaf = false ∧ (0, exRoot) ∈ findVerifiedParents exEnv exEnv.roots exLeaf ∧
    exLeaf.id ≠ exRoot.id := by decide
example : PathOK exRoot 1 := by simp [PathOK, exRoot, maxIntermediateCount]

/-! ### T1: constants and guards re-read from x509/verify.go on every run -/

/-- the depth bound the recursion theorems rest on is the constant of the source file -/
theorem maxIntermediateCount_generated : maxIntermediateCount = Gen.maxIntermediateCount := rfl

/-- the guards of `isValid` modelled branch for branch are the `if` conditions of the source, in order -/
theorem isValidGuards_generated : isValidGuards = Gen.isValidGuards := rfl

/-- `FilterByDate` has exactly the guards modelled by `filterByDate` (empty chain, the panic branch, valid, wasValid) -/
theorem filterByDateGuards_generated :
    Gen.filterByDateGuards = ["len(chain)==0", "valid&&!wasValid", "valid", "wasValid"] := rfl

/-- the `InvalidReason` block of the source contains the kinds the model's `Err` names (membership only: neither order nor
    values are compared) -/
theorem invalidReasons_generated :
    ["NotAuthorizedToSign", "Expired", "TooManyIntermediates", "IncompatibleUsage", "NeverValid", "IsSelfSigned"].all
      (fun r => Gen.invalidReasons.contains r) = true := by decide +kernel

/-- `buildChains` contains no name-constraint guard: the only conditions are the ones modelled. -/
theorem buildChainsGuards_generated :
    Gen.buildChainsGuards =
      ["len(currentChain)==1&&opts.Roots.Contains(c)", "len(chains)==0&&c.SelfSigned", "err!=nil",
       "!currentChain.CertificateInChain(root)", "opts.Roots.Contains(intermediate)",
       "currentChain.CertificateSubjectAndKeyInChain(intermediate)", "err!=nil", "!ok", "len(chains)>0",
       "len(chains)==0&&err==nil", "hintErr==nil"] := rfl

/-! ### ValidateWithStupidDetail -/

theorem vsd_total (env : Env) (c : Cert) (hostCert : C09.Cert) (opts : Opts) :
    ∃ o, validateWithStupidDetail env c hostCert opts = .ok o :=
  ⟨_, vsd_eq (verify_spec env c hostCert (vsdOpts opts))⟩

/-- The requested key usages do not influence `ValidateWithStupidDetail` at all. -/
theorem vsd_ignores_key_usages (env : Env) (c : Cert) (hostCert : C09.Cert) (opts : Opts) (kus : List Int) :
    validateWithStupidDetail env c hostCert { opts with keyUsages := kus } =
      validateWithStupidDetail env c hostCert opts := rfl

/-- `vsd_spec`: `ValidateWithStupidDetail` in terms of `Verify` on `vsdOpts` (result `v`) and of
    `VerifyHostname`: the chains are `v`'s CURRENT chains, `BrowserError` is `v`'s error,
    `BrowserTrusted` ⇔ that error is nil, `MatchesDomain` ⇔ a domain was given and satisfies
    `C09.HostSpec`, and the returned error is `v`'s error if there is one, else a `HostnameError`
    exactly when a domain was given and does not match. -/
theorem vsd_spec (env : Env) (c : Cert) (hostCert : C09.Cert) (opts : Opts) (v : Out) (o : VsdOut)
    (hv : verify env c hostCert (vsdOpts opts) = .ok v)
    (h : validateWithStupidDetail env c hostCert opts = .ok o) :
    o.chains = v.current ∧ o.validation.browserError = v.err ∧ o.validation.domain = opts.dnsName ∧
    (o.validation.browserTrusted = true ↔ v.err = none) ∧
    (o.validation.matchesDomain = true ↔ opts.dnsName ≠ [] ∧ C09.HostSpec hostCert opts.dnsName) ∧
    (∀ e, v.err = some e → o.err = some e) ∧
    (v.err = none → (o.err = none ∨ o.err = some .hostname) ∧
      (o.err = none ↔ (opts.dnsName = [] ∨ C09.HostSpec hostCert opts.dnsName))) := by
  cases (vsd_eq hv).symm.trans h
  unfold vsdSpec
  dsimp only
  rw [← C09.verifyHostname_iff]
  refine ⟨rfl, rfl, rfl, Option.isNone_iff_eq_none, decide_eq_true_iff, fun e he => by rw [he], fun hn => ?_⟩
  rw [hn]
  dsimp only
  by_cases ha : opts.dnsName = [] ∨ C09.verifyHostname hostCert opts.dnsName = .ok .accept
  · rw [if_pos ha]
    exact ⟨Or.inl rfl, iff_of_true rfl ha⟩
  · rw [if_neg ha]
    exact ⟨Or.inr rfl, iff_of_false nofun ha⟩

/-- `vsd_sound`: every chain returned by `ValidateWithStupidDetail` is a `ValidChain` for the
    verified certificate and the supplied pools, is acceptable for ServerAuth (the requested usages
    are discarded), and is CURRENT at the verification time. -/
theorem vsd_sound (env : Env) (c : Cert) (hostCert : C09.Cert) (opts : Opts) (o : VsdOut)
    (h : validateWithStupidDetail env c hostCert opts = .ok o) :
    ∀ ch ∈ o.chains, ValidChain env c ch ∧ checkChainForKeyUsage ch [ekuServerAuth] = true ∧
      classOf opts.now ch = some 0 := by
  obtain ⟨v, hv⟩ := verify_total env c hostCert (vsdOpts opts)
  cases (vsd_eq hv).symm.trans h
  intro ch hch
  have hs := verify_sound env c hostCert (vsdOpts opts) v hv ch (List.mem_append_left _ (List.mem_append_left _ hch))
  exact ⟨hs.1, hs.2.resolve_left (show ¬ ([ekuServerAuth].any (fun u => u = ekuAny) = true) by decide),
    verify_current_class env c hostCert (vsdOpts opts) v hv ch hch⟩

/-- `vsd_nil_error`: a nil error of `ValidateWithStupidDetail` implies a returned (current, valid)
    chain, `BrowserTrusted`, and — when a domain was given — `MatchesDomain` and `C09.HostSpec`. -/
theorem vsd_nil_error (env : Env) (c : Cert) (hostCert : C09.Cert) (opts : Opts) (o : VsdOut)
    (h : validateWithStupidDetail env c hostCert opts = .ok o) (hnil : o.err = none) :
    o.chains ≠ [] ∧ o.validation.browserTrusted = true ∧
    (opts.dnsName ≠ [] → o.validation.matchesDomain = true ∧ C09.HostSpec hostCert opts.dnsName) := by
  obtain ⟨v, hv⟩ := verify_total env c hostCert (vsdOpts opts)
  cases (vsd_eq hv).symm.trans h
  unfold vsdSpec at hnil ⊢
  dsimp only at hnil ⊢
  cases hve : v.err with
  | some e =>
    rw [hve] at hnil
    cases hnil
  | none =>
    rw [hve] at hnil
    have ha : opts.dnsName = [] ∨ C09.verifyHostname hostCert opts.dnsName = .ok .accept :=
      Decidable.by_contra fun hn => nomatch (if_neg hn).symm.trans hnil
    exact ⟨((verify_err_none_iff hv).mp hve).1, rfl, fun hd =>
      ⟨decide_eq_true ⟨hd, ha.resolve_left hd⟩, (C09.verifyHostname_iff _ _).mp (ha.resolve_left hd)⟩⟩

/-- `BrowserTrusted` ⇔ a chain is returned -/
theorem vsd_trusted_iff_chain (env : Env) (c : Cert) (hostCert : C09.Cert) (opts : Opts) (o : VsdOut)
    (h : validateWithStupidDetail env c hostCert opts = .ok o) :
    o.validation.browserTrusted = true ↔ o.chains ≠ [] := by
  obtain ⟨v, hv⟩ := verify_total env c hostCert (vsdOpts opts)
  cases (vsd_eq hv).symm.trans h
  exact Option.isNone_iff_eq_none.trans ((verify_err_none_iff hv).trans (and_iff_left (Or.inl rfl)))

-- the requested usages are discarded: a ClientAuth-only request is answered with a ServerAuth chain
-- whose leaf does not allow ClientAuth (true of the code: "XXX: Don't pass a KeyUsage to the Verify API")
example :
    (validateWithStupidDetail exEnv exLeaf exHost { now := 20, keyUsages := [2], dnsName := [] }).map
        (fun o => (o.chains.map (·.map (·.uid)), o.err, o.validation.browserTrusted)) = .ok ([[1, 0]], none, true) ∧
    checkChainForKeyUsage [exLeaf, exRoot] [2] = false := by decide

example : ∃ o, validateWithStupidDetail exEnv exLeaf exHost { now := 20, keyUsages := [], dnsName := [] } = .ok o ∧ o.err = none := by
  obtain ⟨o, ho⟩ := vsd_total exEnv exLeaf exHost { now := 20, keyUsages := [], dnsName := [] }
  refine ⟨o, ho, ?_⟩
  have : (validateWithStupidDetail exEnv exLeaf exHost { now := 20, keyUsages := [], dnsName := [] }).map (·.err) = .ok none := by decide
  rw [ho] at this
  simpa [Res.map] using this

/-! ### the memoised builder is NOT complete beyond depth one (counter-example, replayed on the Go code)

  PKI (harness: fixed PKI `memoSeed`, case line `c07 4611686018427387911 … 4 0 1.2.3 1500000001 _ - 0 _ …`):
  root R (0), CA B (1) issued by R, twin CAs A1 (2, expired) and A2 (3, current) with the same subject and
  key, both issued by B, leaf L (4) issued by A1/A2.  Intermediates pool in the order B, A1, A2.
  `buildChains` caches B's result `[[L,A1,B,R]]` computed below `[L,A1]` under B's pool index and re-uses
  it below `[L,A2]`: the chain `[L,A2,B,R]` — valid, acceptable for ServerAuth, current — is never
  produced; `[L,A1,B,R]` (expired) is returned TWICE and `Verify` fails with `Expired`. -/

def mCert (uid subject issuer spki skid akid : Nat) (ca self : Bool) (na : Int) : Cert :=
  { uid := uid, id := uid + 1, subject := subject, issuer := issuer, spki := spki, skid := skid, akid := akid,
    version3 := true, bcValid := ca, isCA := ca, maxPathLen := -1, kuPresent := false, kuCertSign := false,
    selfSigned := self, eku := [], unknownEku := false, notBefore := -2000, notAfter := na }
def mR : Cert := mCert 0 1 1 1 11 11 true true 5000
def mB : Cert := mCert 1 2 1 2 12 11 true false 5000
def mA1 : Cert := mCert 2 3 2 3 13 12 true false (-1000)
def mA2 : Cert := mCert 3 3 2 3 13 12 true false 5000
def mL : Cert := mCert 4 4 3 4 14 13 false false 5000
/-- real signatures: R signs R and B, B signs A1 and A2, A's key signs L -/
def mSig (a b : Cert) : Bool :=
  (a.uid = 0 && b.uid = 0) || (a.uid = 1 && b.uid = 0) || ((a.uid = 2 || a.uid = 3) && b.uid = 1) ||
  (a.uid = 4 && (b.uid = 2 || b.uid = 3))
def mEnv : Env := { roots := [mR], inters := [mB, mA1, mA2], sigOK := mSig }
def mOpts : Opts := { now := 1, keyUsages := [], dnsName := [] }

/-- the lost chain satisfies every clause of the property's sentence … -/
theorem memo_lost_chain_valid : ValidChain mEnv mL [mL, mA2, mB, mR] ∧
    checkChainForKeyUsage [mL, mA2, mB, mR] (usagesOf mOpts) = true ∧ classOf mOpts.now [mL, mA2, mB, mR] = some 0 := by
  refine ⟨?_, by decide, by decide⟩
  have p1 : Prefix mEnv mL ([mL] ++ [mA2]) mA2 :=
    Prefix.step Prefix.leaf (by simp [mEnv]) (by decide) (by decide) rfl rfl
      (by simp [PathOK, mA2, mCert, maxIntermediateCount]) (by decide)
  have p2 : Prefix mEnv mL ([mL, mA2] ++ [mB]) mB :=
    Prefix.step p1 (by simp [mEnv]) (by decide) (by decide) rfl rfl
      (by simp [PathOK, mB, mCert, maxIntermediateCount]) (by decide)
  exact ValidChain.close (cur := [mL, mA2, mB]) p2 (by simp [mEnv]) (by decide)
    (by simp [PathOK, mR, mCert, maxIntermediateCount]) (by decide)

/-- … but `Verify` does not return it: it returns the expired chain twice and the error `Expired`. -/
theorem memo_verify_expired :
    (verify mEnv mL exHost mOpts).map (fun o => (o.err, o.current, o.expired.map (·.map (·.uid)), o.never)) =
      .ok (some .expired, [], [[4, 2, 1, 0], [4, 2, 1, 0]], []) := by decide

/-- completeness of the memoised builder is FALSE: a `ValidChain` that is not among the candidates. -/
theorem memo_lost_chain : ∃ env c ch, ValidChain env c ch ∧ ch ∉ (candidateChains env c).1 :=
  ⟨mEnv, mL, [mL, mA2, mB, mR], memo_lost_chain_valid.1, by decide⟩

/-- … while with the twins in the other order the same chain IS found (order dependence). -/
example : (verify { mEnv with inters := [mB, mA2, mA1] } mL exHost mOpts).map
      (fun o => (o.err, o.current.map (·.map (·.uid)), o.expired)) = .ok (none, [[4, 3, 1, 0], [4, 3, 1, 0]], []) := by decide


/-- every returned chain of `Verify`, flat: all clauses of the property's first sentence at once -/
theorem verify_chain_flat (env : Env) (c : Cert) (hostCert : C09.Cert) (opts : Opts) (o : Out)
    (h : verify env c hostCert opts = .ok o) (ch : Chain) (hch : ch ∈ o.current ++ o.expired ++ o.never) :
    ch.head? = some c ∧
    (∃ r last, ch.getLast? = some last ∧ r ∈ env.roots ∧ r.id = last.id) ∧
    (∀ a b, Adjacent a b ch → b.subject = a.issuer ∧ env.sigOK a b = true) ∧
    (∀ x ∈ (ch.drop 1).dropLast, x ∈ env.inters ∧ x.bcValid = true ∧ x.isCA = true) ∧
    (∀ i x, 1 ≤ i → ch[i]? = some x → PathOK x i) ∧
    ((∀ x ∈ ch, ∀ y ∈ ch, x.id = y.id → x.subject = y.subject ∧ x.spki = y.spki) → ch.Pairwise (fun a b => a.id ≠ b.id)) ∧
    ((usagesOf opts).any (fun u => u = ekuAny) = true ∨ UsageSpec ch (usagesOf opts)) := by
  obtain ⟨hv, hu⟩ := verify_sound env c hostCert opts o h ch hch
  refine ⟨validChain_head hv, validChain_last_root hv, validChain_links hv, validChain_intermediates hv,
    validChain_pathOK hv, validChain_no_repeat hv, ?_⟩
  rcases hu with r | r
  · exact Or.inl r
  · exact Or.inr ((checkChainForKeyUsage_spec _ _).mp r)

end ZV.C07

