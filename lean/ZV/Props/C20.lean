import ZV.Model.C20
import ZV.Proofs.C20X
/-!
  C20 — permissive parsing is a conservative extension of strict parsing.

  `perm_extends` (the asn1 level, for ALL schemas, parameters and byte strings): if the strict parser accepts, the
  permissive parser accepts with the identical value and the identical rest.  Proof: induction over the schema;
  every `AllowPermissiveParsing` branch of the model only removes a rejection.

  `inventory_accounted` (T1): the syntactic uses of `AllowPermissiveParsing` in asn1.go and x509.go, extracted from the
  current tree, are exactly the sites the verification accounts for; a new, moved or re-shaped use breaks it.
  The x509 level (second half of this file): every site of the flag in x509.go has a Lean model (`ZV.Model.C20X`) and a
  `perm_extends_<site>` theorem; `perm_extends_parseCertificate` composes them for the result fields they feed, with
  finding D31 (keyUsage / basicConstraints / self-signature) as the explicit, proved exception.  `ParseCertificate` as a
  whole (outer Unmarshal, names, validity, …) is checked by the T3 oracle only (see tools/props/C20.json).
-/
namespace ZV.C20
open ZV.C18

/-- **C20, asn1 level**: strict success implies permissive success with the identical `(value, rest)`;
    for every Go type (schema), every field-parameter string and every input. -/
theorem perm_extends (s : Schema) (p : Params) (bs : Bytes) (r : Val × Bytes)
    (h : unmarshal false s p bs = .ok r) : unmarshal true s p bs = .ok r :=
  X.unm_perm s p bs r h

/-- permissive mode "only turns some strict-mode failures into successes": it never fails where strict succeeds
    (contrapositive form) -/
theorem perm_err_strict_not_ok (s : Schema) (p : Params) (bs : Bytes)
    (h : unmarshal true s p bs = .err) : ∀ r, unmarshal false s p bs ≠ .ok r := by
  intro r hr
  rw [perm_extends s p bs r hr] at h
  cases h

/-- the extension is proper: some input is rejected strictly and accepted permissively (non-minimal length, `@` in a
    PrintableString, non-minimal INTEGER) — so `perm_extends` is not vacuous in either direction -/
theorem perm_strictly_more :
    unmarshal false .int64 {} [2, 0x81, 1, 5] = .err ∧ unmarshal true .int64 {} [2, 0x81, 1, 5] = .ok (.int 5, []) ∧
    unmarshal false .str {} [0x13, 1, 0x40] = .err ∧ unmarshal true .str {} [0x13, 1, 0x40] = .ok (.bytes [0x40], []) ∧
    unmarshal false .bigint {} [2, 2, 0, 5] = .err ∧ unmarshal true .bigint {} [2, 2, 0, 5] = .ok (.int 5, []) := by
  decide +kernel

example : unmarshal false (.struct (.fcons {} .int64 (.fcons {} .str .fnil))) {} [0x30, 6, 2, 1, 5, 0x13, 1, 0x41]
    = .ok (.vcons (.int 5) (.vcons (.bytes [0x41]) .vnil), []) := by decide +kernel

/-- **T1**: the uses of `AllowPermissiveParsing` found in the current tree are exactly the accounted ones. -/
theorem inventory_accounted : ZV.Generated.C20.permissiveSites = accountedSites := rfl

/-- the accounted list is the union of the three classes described in `ZV.Model.C20` -/
theorem accounted_split : ∀ x ∈ accountedSites, x ∈ modelledSites ∨ x ∈ timeSites ∨ x ∈ x509Sites := by
  intro x hx
  rcases List.mem_append.1 hx with h | h
  · revert x; decide +kernel
  · exact .inr (.inr h)

/-- every modelled asn1.go site is a strict-only guard (`if !AllowPermissiveParsing { reject }`) -/
theorem modelled_are_strict_guards : ∀ x ∈ modelledSites ++ timeSites, x.2.2.2 = "strict-guard" := by decide +kernel

theorem decl_is_default_false : ZV.Generated.C20.permissiveDecl = "var AllowPermissiveParsing = false" := rfl

/-! ## time.Time (the two `timeSites`; models `ZV.Model.Time`, `ZV.Model.C18Time`) -/

/-- `parseUTCTime`: the permissive mode only skips the re-serialisation test -/
theorem perm_extends_utctime (s : Bytes) (t : ZV.Time.GoTime) (h : ZV.Time.EA.parseUTCTime false s = .ok t) :
    ZV.Time.EA.parseUTCTime true s = .ok t := X.utctime_perm s t h

/-- `parseGeneralizedTime` -/
theorem perm_extends_gentime (s : Bytes) (t : ZV.Time.GoTime) (h : ZV.Time.EA.parseGeneralizedTime false s = .ok t) :
    ZV.Time.EA.parseGeneralizedTime true s = .ok t := X.gentime_perm s t h

/-- the extension is proper for time values too: `+0000` instead of `Z`, a fractional second, a sign in the year -/
theorem perm_strictly_more_time :
    ZV.Time.EA.parseGeneralizedTime false [0x32, 0x30, 0x32, 0x34, 0x30, 0x31, 0x30, 0x31, 0x30, 0x30, 0x30, 0x30, 0x30, 0x30, 0x2b, 0x30, 0x30, 0x30, 0x30] = .err ∧
    ZV.Time.EA.parseGeneralizedTime true [0x32, 0x30, 0x32, 0x34, 0x30, 0x31, 0x30, 0x31, 0x30, 0x30, 0x30, 0x30, 0x30, 0x30, 0x2b, 0x30, 0x30, 0x30, 0x30] =
      .ok { unix := 1704067200, off := 0 } ∧
    ZV.Time.EA.parseUTCTime false [0x2b, 0x35, 0x30, 0x31, 0x30, 0x31, 0x30, 0x30, 0x30, 0x30, 0x5a] = .err ∧
    ZV.Time.EA.parseUTCTime true [0x2b, 0x35, 0x30, 0x31, 0x30, 0x31, 0x30, 0x30, 0x30, 0x30, 0x5a] =
      .ok { unix := 1104537600, off := 0 } := by decide +kernel

/-- a bare `time.Time` with any field parameters: strict success implies permissive success with the identical
    `(value, rest)` (headers through `parseTL_perm` and `explicitStage_perm`, contents through the two lemmas above) -/
theorem perm_extends_time_field (p : Params) (bs : Bytes) (r : ZV.Time.GoTime × Bytes)
    (h : TimeField.parseTimeField false p bs = .ok r) : TimeField.parseTimeField true p bs = .ok r :=
  X.parseTimeField_perm p bs r h

/-! ## x509 level: the sites of the flag in `x509/x509.go` (models `ZV.Model.C20X`, T2 ops `c20 xpk / xgn / xpc / xsch`)

  Every theorem has the form "strict = ok v → permissive = ok v" for ALL inputs.  For the element functions of loops the
  result is `(accumulators, continue?)`; `(r, true)` is the non-error outcome.  Opaque sub-parsers are universally
  quantified under `X.Sub.Conservative` (each sub-parser is itself conservative). -/

/-- the trivially conservative sub-parsers (hypotheses of the theorems below are satisfiable) -/
def subExample : X.Sub := { tor := fun _ _ => none, sct := fun _ _ => (0, true), qcParse := fun _ _ => some () }
example : subExample.Conservative := ⟨fun _ _ h => h, fun _ _ h => h, fun _ h => h⟩

/-- SITE parsePublicKey/0 — the RSA arm -/
theorem perm_extends_parsePublicKeyRSA (bs : Bytes) (k : X.Key) (h : X.parsePublicKeyRSA false bs = .ok k) :
    X.parsePublicKeyRSA true bs = .ok k := X.parsePublicKeyRSA_perm bs k h

/-- SITE parsePublicKey/0 — `parsePublicKey`, ALL arms (RSA, DSA, ECDSA with the named-curve lookup, Ed25519, X25519,
    unknown algorithm), for all algorithm numbers, key bytes and parameter bytes; `ecOk` (the point decoding of
    `elliptic.Unmarshal`) is any predicate of the curve and the bytes.  Only the RSA arm reads the flag; DSA and ECDSA
    depend on the mode through `asn1.Unmarshal` alone, the remaining arms not at all. -/
theorem perm_extends_parsePublicKey (ecOk : Nat → Bytes → Bool) (algo : Nat) (bs ps : Bytes) (k : X.Key)
    (h : X.parsePublicKey ecOk false algo bs ps = .ok k) : X.parsePublicKey ecOk true algo bs ps = .ok k :=
  X.parsePublicKey_perm ecOk algo bs ps k h

/-- the non-RSA arms have mode-dependent inputs too (DSA: a public value with a non-minimally encoded length) -/
theorem perm_strictly_more_parsePublicKeyDSA :
    X.parsePublicKey (fun _ _ => true) false 2 [2, 0x81, 1, 5] [0x30, 9, 2, 1, 7, 2, 1, 3, 2, 1, 2] = .err ∧
    X.parsePublicKey (fun _ _ => true) true 2 [2, 0x81, 1, 5] [0x30, 9, 2, 1, 7, 2, 1, 3, 2, 1, 2] = .ok (.dsa 5 7 3 2) := by decide +kernel

example : X.parsePublicKey (fun _ _ => true) false 3 [4, 1, 2] [6, 5, 43, 129, 4, 0, 34] = .ok (.ecdsa 2 [4, 1, 2]) := by decide +kernel
example : X.parsePublicKey (fun _ _ => true) false 2 [2, 1, 5] [0x30, 9, 2, 1, 7, 2, 1, 3, 2, 1, 2] = .ok (.dsa 5 7 3 2) := by decide +kernel

example : X.parsePublicKeyRSA false [0x30, 6, 2, 1, 5, 2, 1, 3] = .ok (.rsa 5 3) := by decide +kernel

/-- proper extension: modulus 0 is rejected strictly and accepted permissively -/
theorem perm_strictly_more_parsePublicKey :
    X.parsePublicKeyRSA false [0x30, 6, 2, 1, 0, 2, 1, 3] = .err ∧
    X.parsePublicKeyRSA true [0x30, 6, 2, 1, 0, 2, 1, 3] = .ok (.rsa 0 3) := by decide +kernel

/-- SITES parseGeneralNames/0 … /4 — the body of `switch v.Tag` -/
theorem perm_extends_gnElem (v : Val) (tag : Nat) (inner full : Bytes) (acc r : X.GN)
    (h : X.gnElem false v tag inner full acc = (r, true)) : X.gnElem true v tag inner full acc = (r, true) :=
  X.gnElem_perm v tag inner full acc r h

/-- `parseGeneralNames` as a whole: strict success implies permissive success with identical lists
    (and an empty `failedToParse`, which only the permissive branches fill) -/
theorem perm_extends_parseGeneralNames (value : Bytes) (r : X.GN) (h : X.parseGeneralNames false value = (r, true)) :
    X.parseGeneralNames true value = (r, true) := X.parseGeneralNames_perm value r h

example : X.parseGeneralNames false [0x30, 6, 0x87, 4, 192, 168, 0, 1] = ({ ip := [[192, 168, 0, 1]] }, true) := by decide +kernel

/-- proper extension: an iPAddress of length 1 (SITE parseGeneralNames/3) -/
theorem perm_strictly_more_parseGeneralNames :
    (X.parseGeneralNames false [0x30, 3, 0x87, 1, 5]).2 = false ∧
    X.parseGeneralNames true [0x30, 3, 0x87, 1, 5] = ({ failed := [.raw 2 7 false [5] [0x87, 1, 5]] }, true) := by decide +kernel

/-- SITES parseCertificate/3 … /6 -/
theorem perm_extends_ncPermitted (st : Val) (acc r : List X.NCE) (h : X.ncPermitted false st acc = (r, true)) :
    X.ncPermitted true st acc = (r, true) := X.ncPermitted_perm st acc r h
/-- SITES parseCertificate/7 … /10 -/
theorem perm_extends_ncExcluded (st : Val) (acc r : List X.NCE) (h : X.ncExcluded false st acc = (r, true)) :
    X.ncExcluded true st acc = (r, true) := X.ncExcluded_perm st acc r h
/-- SITE parseCertificate/12 -/
theorem perm_extends_dpLoop (f : Nat) (bs : Bytes) (acc r : List Bytes) (h : X.dpLoop false f bs acc = (r, true)) :
    X.dpLoop true f bs acc = (r, true) := X.dpLoop_perm f bs acc r h
/-- SITE parseCertificate/17 -/
theorem perm_extends_qualNotice (qid : List Int) (qfull : Bytes) (acc r : X.Pol) (h : X.qualNotice false qid qfull acc = (r, true)) :
    X.qualNotice true qid qfull acc = (r, true) := X.qualNotice_perm qid qfull acc r h
/-- SITE parseCertificate/18 -/
theorem perm_extends_qualCPS (qid : List Int) (qfull : Bytes) (acc r : X.Pol) (h : X.qualCPS false qid qfull acc = (r, true)) :
    X.qualCPS true qid qfull acc = (r, true) := X.qualCPS_perm qid qfull acc r h

/-- ALL sites of parseCertificate (0 … 25): one iteration of the extension loop -/
theorem perm_extends_extStep (sub : X.Sub) (hs : sub.Conservative) (e : X.Ext) (out o : X.Cert)
    (h : X.extStep sub false e out = .ok o) : X.extStep sub true e out = .ok o := X.extStep_perm sub hs e out o h

/-- SITE parseCertificate/20, sub-parser modelled: `parseSignedCertificateTimestampList` (framing loop + the one
    `asn1.Unmarshal`; `ct.DeserializeSCT` is any predicate `deser`) is conservative — so for `X.subWithSCT` the SCT
    component of `X.Sub.Conservative` is proved, not assumed -/
theorem perm_extends_parseSCTList (deser : Nat → Bytes → Bool) (v : Bytes) (n : Nat)
    (h : X.parseSCTList deser false v = (n, true)) : X.parseSCTList deser true v = (n, true) := X.parseSCTList_perm deser v n h

example : X.parseSCTList (fun _ _ => true) false [4, 5, 0, 3, 0, 1, 9] = (1, true) := by decide +kernel

theorem perm_strictly_more_parseSCTList :
    X.parseSCTList (fun _ _ => true) false [4, 0x81, 5, 0, 3, 0, 1, 9] = (0, false) ∧
    X.parseSCTList (fun _ _ => true) true [4, 0x81, 5, 0, 3, 0, 1, 9] = (1, true) := by decide +kernel

/-- the certificate-level theorems with the SCT list modelled: only Tor and QCStatements.Parse remain assumed -/
theorem perm_extends_parseExts_sct (deser : Nat → Bytes → Bool) (tor : Bool → Bytes → Option Nat) (qc : Bool → Bytes → Option Unit)
    (ht : ∀ v n, tor false v = some n → tor true v = some n) (hq : ∀ v, qc false v = some () → qc true v = some ())
    (es : List X.Ext) (out o : X.Cert) (h : X.parseExts (X.subWithSCT deser tor qc) false es out = .ok o) :
    X.parseExts (X.subWithSCT deser tor qc) true es out = .ok o :=
  X.parseExts_perm _ (X.subWithSCT_conservative deser tor qc ht hq) es out o h

example : ∀ v n, (fun (_ : Bool) (_ : Bytes) => (none : Option Nat)) false v = some n →
    (fun (_ : Bool) (_ : Bytes) => (none : Option Nat)) true v = some n := fun _ _ h => h

/-- **T1**: the EKU table the model reads (`ekuKnownOIDs`, the keys of `ekuConstants` extracted with go/ast) is well
    formed (every key is a dotted OID — no `-1` placeholder), as long as its count says, and `extKeyUsageFromOID` is
    still the plain map lookup by `oid.String()` the model's `ekuIsKnown` stands for -/
theorem eku_table_pinned :
    (∀ o ∈ ZV.Generated.C20.ekuKnownOIDs, ∀ a ∈ o, 0 ≤ a) ∧
    ZV.Generated.C20.ekuKnownOIDs.length = ZV.Generated.C20.ekuKnownCount ∧ 0 < ZV.Generated.C20.ekuKnownCount ∧
    ZV.Generated.C20.extKeyUsageFromOIDBody = "s := oid.String(); eku, ok = ekuConstants[s]; return" :=
  ⟨by decide +kernel, rfl, by decide, rfl⟩

/-- serverAuth is known, an arbitrary private arc is not (the split of `X.ekuSplit`) -/
example : X.ekuSplit (.vcons (.oid [1, 3, 6, 1, 5, 5, 7, 3, 1]) (.vcons (.oid [1, 2, 3]) .vnil)) (0, []) = (1, [.oid [1, 2, 3]]) := by decide +kernel

/-- the extension loop -/
theorem perm_extends_parseExts (sub : X.Sub) (hs : sub.Conservative) (es : List X.Ext) (out o : X.Cert)
    (h : X.parseExts sub false es out = .ok o) : X.parseExts sub true es out = .ok o := X.parseExts_perm sub hs es out o h

example : X.extStep subExample false ⟨[2, 5, 29, 14], false, [4, 2, 7, 8]⟩ {} = .ok { ski := .bytes [7, 8] } := by decide +kernel

/-- proper extension at the certificate level: a malformed precertificate poison (SITE parseCertificate/21) and a
    subjectKeyId whose length is not minimally encoded (SITE parseCertificate/15 over SITE asn1 parseTagAndLength/0) -/
theorem perm_strictly_more_extStep :
    X.extStep subExample false ⟨X.oidPoison, true, [5, 1, 0]⟩ {} = .err ∧
    X.extStep subExample true ⟨X.oidPoison, true, [5, 1, 0]⟩ {} = .ok {} ∧
    X.extStep subExample false ⟨[2, 5, 29, 14], false, [4, 0x81, 1, 7]⟩ {} = .err ∧
    X.extStep subExample true ⟨[2, 5, 29, 14], false, [4, 0x81, 1, 7]⟩ {} = .ok { ski := .bytes [7] } := by decide +kernel

/-- **C20, certificate level, composed**: for the result fields of `X.Cert` — PublicKey, the SAN / IAN lists and
    FailedToParseNames, name constraints, CRL distribution points, authority / subject key ids, extended key usages,
    policies, AIA, SCT count, IsPrecert, Tor descriptors, CABF organisation id, QCStatements — strict success implies
    permissive success with the identical value.  EXCEPTION (finding D31, below): KeyUsage, BasicConstraints*, SelfSigned /
    ValidationLevel are not fields of `X.Cert`. -/
theorem perm_extends_parseCertificate (ecOk : Nat → Bytes → Bool) (sub : X.Sub) (hs : sub.Conservative)
    (algo : Nat) (keyData paramsFull : Bytes) (exts : List X.Ext) (c : X.Cert)
    (h : X.parseCertificate ecOk sub false algo keyData paramsFull exts = .ok c) :
    X.parseCertificate ecOk sub true algo keyData paramsFull exts = .ok c :=
  X.parseCertificate_perm ecOk sub hs algo keyData paramsFull exts c h

example : X.parseCertificate (fun _ _ => true) subExample false 1 [0x30, 6, 2, 1, 5, 2, 1, 3] [] [⟨[2, 5, 29, 14], false, [4, 1, 9]⟩]
    = .ok { key := some (.rsa 5 3), ski := .bytes [9] } := by decide +kernel

/-- **finding D31 carried as the explicit exception**: the keyUsage step swallows the asn1 error in both modes, so a
    body that only the permissive mode can read (non-minimal length) gives two DIFFERENT successful results -/
example : X.kuStep false [3, 0x81, 2, 5, 0xa0] (.bits [] 0) = .bits [] 0 ∧
    X.kuStep true [3, 0x81, 2, 5, 0xa0] (.bits [] 0) = .bits [0xa0] 3 := by decide +kernel

theorem d31_keyUsage_not_conservative : ∃ v ku, X.kuStep false v ku ≠ X.kuStep true v ku :=
  ⟨[3, 0x81, 2, 5, 0xa0], .bits [] 0, by decide +kernel⟩

/-! ### every x509.go site of the inventory has a named model and theorem -/

/-- a site of the flag, the Lean function that models the enclosing decision, and its conservativity statement with proof -/
structure SiteModel where
  site : Site
  model : String
  thm : String
  stmt : Prop
  proof : stmt

def ExtStmt (oid : List Int) : Prop :=
  ∀ (sub : X.Sub), sub.Conservative → ∀ (e : X.Ext) (out o : X.Cert), e.id = oid →
    X.extStep sub false e out = .ok o → X.extStep sub true e out = .ok o
theorem extStmt (oid : List Int) : ExtStmt oid := fun sub hs e out o _ h => X.extStep_perm sub hs e out o h

def GnStmt (tag : Nat) : Prop :=
  ∀ (v : Val) (inner full : Bytes) (acc r : X.GN), X.gnElem false v tag inner full acc = (r, true) → X.gnElem true v tag inner full acc = (r, true)
theorem gnStmt (tag : Nat) : GnStmt tag := fun v inner full acc r h => X.gnElem_perm v tag inner full acc r h

def NcpStmt : Prop := ∀ st acc r, X.ncPermitted false st acc = (r, true) → X.ncPermitted true st acc = (r, true)
def NcxStmt : Prop := ∀ st acc r, X.ncExcluded false st acc = (r, true) → X.ncExcluded true st acc = (r, true)

def pcSite (n : Nat) (pol : String) (oid : List Int) : SiteModel :=
  ⟨("x509.go", "parseCertificate", n, pol), "X.extStep", "perm_extends_extStep", ExtStmt oid, extStmt oid⟩
def ncpSite (n : Nat) (pol : String) : SiteModel :=
  ⟨("x509.go", "parseCertificate", n, pol), "X.ncPermitted", "perm_extends_ncPermitted", NcpStmt, X.ncPermitted_perm⟩
def ncxSite (n : Nat) (pol : String) : SiteModel :=
  ⟨("x509.go", "parseCertificate", n, pol), "X.ncExcluded", "perm_extends_ncExcluded", NcxStmt, X.ncExcluded_perm⟩
def gnSite (n : Nat) (pol : String) (tag : Nat) : SiteModel :=
  ⟨("x509.go", "parseGeneralNames", n, pol), "X.gnElem", "perm_extends_gnElem", GnStmt tag, gnStmt tag⟩

def siteModels : List SiteModel := [
  ⟨("x509.go", "parsePublicKey", 0, "strict-guard"), "X.parsePublicKey", "perm_extends_parsePublicKey",
    ∀ ecOk algo bs ps k, X.parsePublicKey ecOk false algo bs ps = .ok k → X.parsePublicKey ecOk true algo bs ps = .ok k,
    X.parsePublicKey_perm⟩,
  gnSite 0 "perm-guard/on-error" 0, gnSite 1 "perm-guard/on-error" 4, gnSite 2 "perm-guard/on-error" 5,
  gnSite 3 "other:if-else/perm-then/else-rejects" 7, gnSite 4 "perm-guard/on-error" 8,
  pcSite 0 "perm-guard/on-error" [2, 5, 29, 17], pcSite 1 "perm-guard/on-error" [2, 5, 29, 18],
  pcSite 2 "perm-guard/on-error" [2, 5, 29, 30],
  ncpSite 3 "perm-guard/on-error", ncpSite 4 "perm-guard/on-error", ncpSite 5 "strict-guard", ncpSite 6 "perm-guard/on-error",
  ncxSite 7 "perm-guard/on-error", ncxSite 8 "perm-guard/on-error", ncxSite 9 "strict-guard", ncxSite 10 "perm-guard/on-error",
  pcSite 11 "perm-guard/on-error" [2, 5, 29, 31],
  ⟨("x509.go", "parseCertificate", 12, "perm-guard/on-error"), "X.dpLoop", "perm_extends_dpLoop",
    ∀ f bs acc r, X.dpLoop false f bs acc = (r, true) → X.dpLoop true f bs acc = (r, true), X.dpLoop_perm⟩,
  pcSite 13 "perm-guard/on-error" [2, 5, 29, 35], pcSite 14 "strict-guard" [2, 5, 29, 37],
  pcSite 15 "perm-guard/on-error" [2, 5, 29, 14], pcSite 16 "perm-guard/on-error" [2, 5, 29, 32],
  ⟨("x509.go", "parseCertificate", 17, "strict-guard"), "X.qualNotice", "perm_extends_qualNotice",
    ∀ qid qfull acc r, X.qualNotice false qid qfull acc = (r, true) → X.qualNotice true qid qfull acc = (r, true), X.qualNotice_perm⟩,
  ⟨("x509.go", "parseCertificate", 18, "strict-guard"), "X.qualCPS", "perm_extends_qualCPS",
    ∀ qid qfull acc r, X.qualCPS false qid qfull acc = (r, true) → X.qualCPS true qid qfull acc = (r, true), X.qualCPS_perm⟩,
  pcSite 19 "perm-guard/on-error" X.oidAIA, pcSite 20 "perm-guard/on-error" X.oidSCT, pcSite 21 "strict-guard" X.oidPoison,
  pcSite 22 "perm-guard/on-error" X.oidTor, pcSite 23 "perm-guard/on-error" X.oidCABF,
  pcSite 24 "perm-guard/on-error" X.oidQC, pcSite 25 "perm-guard/on-error" X.oidQC]

/-- **T1 link**: every `x509.go` entry of the inventory extracted from the current tree is the site of exactly the
    named models above (each of which carries its proved conservativity statement); a new, moved or re-shaped use of the
    flag in x509.go breaks this theorem until a model and a theorem are supplied for it -/
theorem x509_sites_modelled :
    (ZV.Generated.C20.permissiveSites.filter (fun s => s.1 == "x509.go")) = siteModels.map (·.site) := rfl

/-- and they are the `x509Sites` of the accounted inventory -/
theorem x509_sites_are_accounted : siteModels.map (·.site) = x509Sites := rfl

end ZV.C20
