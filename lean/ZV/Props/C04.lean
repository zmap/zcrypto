import ZV.Proofs.C04All
import ZV.Proofs.C04NC
import ZV.Proofs.C04Val
import ZV.Generated.C04
/-!
  C04 — certificate issuance round-trips through parsing: theorems about the model of `buildExtensions`
  and of the matching arms of `parseCertificate` (`ZV.Model.C04`), which T2 ties to the Go code by comparing,
  for every generated template, the extension list Go produced (OID, critical, value bytes) and the parsed
  field vector with what the model builds and parses.
-/
namespace ZV.C04
open ZV ZV.Der ZV.C06

/-- T1: every native ExtKeyUsage maps to an OID that `ekuConstants` maps back to the same constant
    (`oidFromExtKeyUsage` then `extKeyUsageFromOID` is the identity on the table `buildExtensions` uses). -/
theorem native_eku_roundtrip :
    ∀ p ∈ ZV.Generated.C04.nativeEku,
      (ZV.Generated.C04.ekuConstants.find? (fun q => q.1 == p.2)).map (·.2) = some p.1 := by
  decide +kernel

/-- T1: no two native ExtKeyUsage constants share an OID or a constant (the EKU round trip is injective). -/
theorem native_eku_injective :
    (ZV.Generated.C04.nativeEku.map (·.1)).Nodup ∧ (ZV.Generated.C04.nativeEku.map (·.2)).Nodup := by
  decide +kernel

/-- SubjectKeyId: `parse (build id) = id` for every key id (shorter than 2^31 octets). -/
theorem ext_roundtrip_ski (id : Bytes) (h : id.length < 2147483648) : parseSKI (buildSKI id) = .ok id :=
  parseSKI_build id h

/-- AuthorityKeyId: `SEQUENCE { [0] id }` parses back to `id`. -/
theorem ext_roundtrip_aki (id : Bytes) (h : id.length < 2147483000) : parseAKI (buildAKI id) = .ok id := by
  apply parseAKI_build
  have := writeTLV_length_le 0x80 id
  have := writeTLV_length_le 0x30 (writeTLV 0x80 id)
  show (writeTLV 0x30 (writeTLV 0x80 id)).length < _
  omega

/-- the whole 9-bit domain, in the Boolean form of an exhaustive check (here a corollary of `parseKeyUsage_build`) -/
theorem keyusage_all :
    (List.range 512).all (fun ku => ku == 0 || decide (parseKeyUsage (buildKeyUsage ku) = .ok ku)) = true := by
  simp only [List.all_eq_true, List.mem_range, Bool.or_eq_true, decide_eq_true_eq]
  exact fun ku hku => Or.inr ((parseKeyUsage_build ku).trans (congrArg Res.ok (Nat.mod_eq_of_lt hku)))

/-- KeyUsage: for EVERY key usage value in the 9-bit domain (1..511) the trimmed BIT STRING parses back to
    the same nine bits (bit `i` of the BIT STRING is bit `i` of the value; only the reversal and the trailing zeros of
    one octet are byte tables).  For any value whatever the result is `ku % 512`: `parseKeyUsage_build`. -/
theorem ext_roundtrip_keyusage (ku : Nat) (h0 : ku ≠ 0) (h1 : ku < 512) :
    parseKeyUsage (buildKeyUsage ku) = .ok ku := by
  rw [parseKeyUsage_build, Nat.mod_eq_of_lt h1]

/-- The `MaxPathLen` / `MaxPathLenZero` rule. -/
theorem maxpathlen_rule (mpl : Int) (zero : Bool) :
    effectiveMaxPathLen mpl zero = (if mpl = 0 then (if zero then 0 else -1) else mpl) := by
  cases zero <;> simp [effectiveMaxPathLen]

/-- **DER INTEGER (int64)**: `parseInt64 (encInt v) = v` for every 64-bit `v` — `encInt` writes the minimal
    two's-complement octets (`checkInteger` accepts them) and at most eight of them.  (General lemma for any width:
    `ZV.C04.int_roundtrip`, on `ZV.C04.encFuel_eq` and `ZV.Der0.int_enc`.) -/
theorem int64_roundtrip (v : Int) (h1 : -9223372036854775808 ≤ v) (h2 : v ≤ 9223372036854775807) :
    parseInt64 (encInt v) = .ok v ∧ checkInteger (encInt v) = true ∧ (encInt v).length ≤ 8 :=
  parseInt64_encInt v h1 h2

/-- **BasicConstraints, full**: `parse (build isCA mpl zero) = (isCA, effective mpl)` where "unset" (0 without
    `MaxPathLenZero`) comes back as -1 — for both flags and EVERY `MaxPathLen` a Go `int` can hold (the builder has no
    range check: negative values below -1 are written as negative INTEGERs and come back unchanged). -/
theorem ext_roundtrip_basic_constraints (ca z : Bool) (mpl : Int)
    (h0 : -9223372036854775808 ≤ mpl) (h1 : mpl ≤ 9223372036854775807) :
    parseBasicConstraints (buildBasicConstraints ca mpl z) = .ok (ca, effectiveMaxPathLen mpl z) :=
  parseBasicConstraints_build ca z mpl h0 h1

theorem basic_constraints_all :
    (List.range 132).all (fun n => [true, false].all (fun ca => [true, false].all (fun z =>
      decide (parseBasicConstraints (buildBasicConstraints ca ((n : Int) - 1) z)
        = .ok (ca, effectiveMaxPathLen ((n : Int) - 1) z))))) = true := by
  simp only [List.all_eq_true, List.mem_range, decide_eq_true_eq]
  intro n hn ca _ z _
  exact ext_roundtrip_basic_constraints ca z _ (by omega) (by omega)

example : (-9223372036854775808 : Int) ≤ 1000000 ∧ (1000000 : Int) ≤ 9223372036854775807 := by decide +kernel

/-- ExtraExtensions override rule: the result is `generated ++ ExtraExtensions`, in that order, and no generated
    extension carries an OID that occurs in `ExtraExtensions`. -/
theorem extra_override (tbl : List (Nat × List Nat)) (t : Tmpl) (exts : List Ext)
    (h : buildExtensions tbl t = .ok exts) :
    ∃ gens, exts = gens ++ t.extra ∧ ∀ g ∈ gens, inExtra g.oid t.extra = false := by
  obtain ⟨l, hg, rfl⟩ := buildExtensions_ok tbl t h
  exact ⟨l, rfl, gens_not_overridden t.extra _ hg⟩

/-! ### OBJECT IDENTIFIER contents -/

/-- what `makeObjectIdentifier` writes is accepted by `parseObjectIdentifier`, for every OID whose
    sub-identifiers (first two arcs merged) do not exceed MaxInt32. -/
theorem oid_contents_valid (o : List Nat) (c : Bytes) (h : encOID o = some c) (hok : oidOk o = true) :
    validOID c = true := validOID_encOID h hok

/-- `decode (encode oid) = oid` with the arc decoder of the driver (`parseObjectIdentifier`'s split of the first
    sub-identifier), hence the encoding is injective on the accepted domain. -/
theorem oid_roundtrip (o : List Nat) (c : Bytes) (h : encOID o = some c) (hok : oidOk o = true) :
    decOID c = some o := decOID_encOID h hok

theorem oid_encode_injective (o1 o2 : List Nat) (c : Bytes) (h1 : encOID o1 = some c) (h2 : encOID o2 = some c)
    (k1 : oidOk o1 = true) (k2 : oidOk o2 = true) : o1 = o2 := encOID_inj h1 h2 k1 k2

example : encOID [1, 3, 6, 1, 4, 1, 11129, 2, 4, 2] = some [0x2b, 6, 1, 4, 1, 0xd6, 0x79, 2, 4, 2]
    ∧ oidOk [1, 3, 6, 1, 4, 1, 11129, 2, 4, 2] = true := by decide +kernel

/-- T1: every OID of the native EKU table is inside that domain. -/
theorem native_eku_oids_ok : ZV.Generated.C04.nativeEku.all (fun p => oidOk p.2) = true := by decide +kernel

/-! ### the list-valued extensions -/

/-- ExtKeyUsage: the `SEQUENCE OF OBJECT IDENTIFIER` the builder writes for ANY list of OIDs parses back to the list of
    their content octets, in order (`oidContents oids`, whose elements decode to the OIDs by `oid_roundtrip`). -/
theorem ext_roundtrip_eku (oids : List (List Nat)) (body : Bytes) (h : encOIDs oids = some body)
    (hok : ∀ o ∈ oids, oidOk o = true) (hlen : (tlv 0x30 body).length < 2147483648) :
    parseEKU (tlv 0x30 body) = .ok (oidContents oids) ∧ oids.map encOID = (oidContents oids).map some :=
  ⟨parseEKU_build oids body h hok hlen, (encOIDs_eq oids body h).1⟩

example : encOIDs [[1, 3, 6, 1, 5, 5, 7, 3, 1], [2, 5, 29, 37, 0]]
      = some [6, 8, 0x2b, 6, 1, 5, 5, 7, 3, 1, 6, 4, 0x55, 0x1d, 0x25, 0] ∧
    (∀ o ∈ [[1, 3, 6, 1, 5, 5, 7, 3, 1], [2, 5, 29, 37, 0]], oidOk o = true) := by decide +kernel

/-- **GeneralNames**: any sequence of rfc822Name / dNSName / URI (IA5 strings carried as octets) and iPAddress names
    (4 or 16 octets) written as `[1] [2] [6] [7]` primitives parses back into the four lists, each in input order. -/
theorem general_names_roundtrip (l : List GName) (hok : ∀ g ∈ l, g.ok = true)
    (hlen : (encGNames l).length < 2147483648) :
    parseSAN (encGNames l) = .ok (l.foldl SAN.add ⟨[], [], [], []⟩) := by
  rw [parseSAN_enc l hlen, if_pos (List.all_eq_true.mpr hok)]

example : (∀ g ∈ [GName.uri [0x61], GName.dns [0x62], GName.ip [10, 0, 0, 1], GName.email [0x63]], g.ok = true) ∧
    [GName.uri [0x61], GName.dns [0x62], GName.ip [10, 0, 0, 1], GName.email [0x63]].foldl SAN.add ⟨[], [], [], []⟩
      = ⟨[[0x62]], [[0x63]], [[0x61]], [[10, 0, 0, 1]]⟩ := by decide +kernel

/-- **subjectAltName** as `marshalSANs` builds it (DNS names, then e-mail addresses, then IP addresses after
    `To4`): parses back to the same DNS and e-mail lists, no URIs, and the NORMALISED addresses `ips.map to4` — a
    16-octet IPv4-mapped input comes back as 4 octets (`san_ip_to4`).  Domain: every address has 4 or 16 octets
    after `To4` (any other length is written as is and rejected by the parser). -/
theorem ext_roundtrip_san (dns email ips : List Bytes)
    (hip : ∀ ip ∈ ips, (to4 ip).length = 4 ∨ (to4 ip).length = 16)
    (hlen : (buildSAN dns email ips).length < 2147483648) :
    parseSAN (buildSAN dns email ips) = .ok ⟨dns, email, [], ips.map to4⟩ := by
  rw [parseSAN_build dns email ips hlen, if_pos (List.all_eq_true.mpr fun ip hm => by simpa using hip ip hm)]

/-- the address-length condition of `ext_roundtrip_san` is exact: the parse result is `ok` with the normalised lists
    iff every address has 4 or 16 octets after `To4`, and a parse ERROR otherwise (the builder writes such an address
    as is; `CreateCertificate` then produces a certificate `ParseCertificate` rejects). -/
theorem san_ip_domain_exact (dns email ips : List Bytes) (hlen : (buildSAN dns email ips).length < 2147483648) :
    parseSAN (buildSAN dns email ips) =
      if ips.all (fun ip => (to4 ip).length == 4 || (to4 ip).length == 16) then .ok ⟨dns, email, [], ips.map to4⟩
      else .err := parseSAN_build dns email ips hlen

example : parseSAN (buildSAN [] [] [[1, 2, 3, 4, 5]]) = .err := by decide +kernel

/-- the `To4` normalisation: `::ffff:a.b.c.d` (16 octets) becomes `a.b.c.d` (4 octets); every address without that
    prefix, of any length, is left alone; lengths 4/16 stay inside 4/16. -/
theorem san_ip_to4 (a b c d : UInt8) (ip : Bytes) :
    to4 [0, 0, 0, 0, 0, 0, 0, 0, 0, 0, 0xff, 0xff, a, b, c, d] = [a, b, c, d] ∧
    (¬ (ip.length = 16 ∧ ip.take 12 = [0, 0, 0, 0, 0, 0, 0, 0, 0, 0, 0xff, 0xff]) → to4 ip = ip) ∧
    (ip.length = 4 ∨ ip.length = 16 → (to4 ip).length = 4 ∨ (to4 ip).length = 16) :=
  ⟨by simp [to4], fun h => by simp [to4, h], to4_length ip⟩

example : parseSAN (buildSAN [[0x61, 0x2e, 0x62]] [] [[0, 0, 0, 0, 0, 0, 0, 0, 0, 0, 0xff, 0xff, 192, 0, 2, 1]])
    = .ok ⟨[[0x61, 0x2e, 0x62]], [], [], [[192, 0, 2, 1]]⟩ := by decide +kernel

/-- AuthorityInfoAccess: the builder never fails, and `(OCSPServer, IssuingCertificateURL)` come back unchanged, in
    order, for all lists of locations. -/
theorem ext_roundtrip_aia (ocsp issuing : List Bytes) :
    ∃ v, buildAIA ocsp issuing = some v ∧ (v.length < 2147483648 → parseAIA v = .ok (ocsp, issuing)) :=
  ⟨_, buildAIA_eq ocsp issuing, fun hl => parseAIA_build ocsp issuing _ (buildAIA_eq ocsp issuing) hl⟩

/-- CRLDistributionPoints: one `DistributionPoint { [0] { [0] { [6] url } } }` per URL, parsed back to the URL list. -/
theorem ext_roundtrip_crldp (urls : List Bytes) (hlen : (buildCRLDP urls).length < 2147483648) :
    parseCRLDP (buildCRLDP urls) = .ok urls := parseCRLDP_build urls hlen

/-- CertificatePolicies: the policy identifiers come back as their content octets, in order. -/
theorem ext_roundtrip_policies (ps : List (List Nat)) (v : Bytes) (h : buildPolicies ps = some v)
    (hok : ∀ o ∈ ps, oidOk o = true) (hlen : v.length < 2147483648) :
    parsePolicies v = .ok (oidContents ps) := parsePolicies_build ps v h hok hlen

example : buildPolicies [[2, 23, 140, 1, 2, 1]] = some [0x30, 10, 0x30, 8, 6, 6, 0x67, 0x81, 0x0c, 1, 2, 1]
    ∧ oidOk [2, 23, 140, 1, 2, 1] = true := by decide +kernel

/-! ### name constraints (byte level) -/

/-- **NameConstraints round trip.**  For every template (any number of permitted / excluded e-mail, DNS, directory-name
    and IP-range subtrees, any octets as e-mail / DNS data, critical or not) whose directory names are DER the RDN
    decoder accepts (`rdnOK`, the parser's `asn1.Unmarshal(Value.Bytes, &rawdn)`; in the driver the C22 decoder) and whose
    IP ranges have address and mask both of 4 or both of 16 octets: `case 30` of `parseCertificate` applied to the value
    `buildExtensions` writes returns exactly the template's eight lists, each in order, with Min = Max = 0. -/
theorem ext_roundtrip_name_constraints (rdnOK : Bytes → Bool) (n : NCT)
    (hok : ∀ b ∈ n.permitted.bases ++ n.excluded.bases, b.ok rdnOK = true)
    (hlen : (buildNC n).length < 2147483648) :
    parseNC rdnOK (buildNC n) = .ok (n.permitted.out, n.excluded.out) := by
  unfold buildNC tlv at hlen ⊢
  obtain ⟨hP, hX⟩ := parseSubtrees_both n.permitted.bases n.excluded.bases (lt_of_writeTLV hlen)
  unfold parseNC
  rw [first_tlv _ _ _ (by decide) (lt_of_writeTLV hlen) (by simp [Want.ok, hdrOf])]
  simp only [elemOf_body, hP, Res.bind, hX]
  rw [foldSubtrees_side rdnOK _ (fun b hb => hok b (List.mem_append_left _ hb)),
    foldSubtrees_side rdnOK _ (fun b hb => hok b (List.mem_append_right _ hb))]

/-- a template using all four name forms on both sides -/
def sampleNC : NCT :=
  ⟨true, { email := [[0x61]], dns := [[0x62], []], dir := [[0x30, 0]], ip := [([192, 0, 2, 0], [255, 255, 255, 0])] },
         { dns := [[0x63]], ip := [([0x20, 1, 0x0d, 0xb8, 0, 0, 0, 0, 0, 0, 0, 0, 0, 0, 0, 0],
                                   [255, 255, 255, 255, 0, 0, 0, 0, 0, 0, 0, 0, 0, 0, 0, 0])] }⟩

example : (∀ b ∈ sampleNC.permitted.bases ++ sampleNC.excluded.bases, b.ok (fun d => d == [0x30, 0]) = true) ∧
    (buildNC sampleNC).length < 2147483648 := by decide +kernel

/-- D41: the value of an IP-range subtree is the TEMPLATE's address followed by the TEMPLATE's mask, as
    `[7]` primitive inside the subtree SEQUENCE (no Min, no Max). -/
theorem nc_ip_value (a m : Bytes) : encSubtree (.ip a m) = tlv 0x30 (tlv 0x87 (a ++ m)) := rfl

/-- the IP-range domain is needed: the parser splits the octets in the middle, so a range whose address and mask have
    different lengths that add up to 8 comes back as a DIFFERENT (address, mask) pair … -/
example : parseNC (fun _ => true) (buildNC ⟨false, { ip := [([1, 2], [3, 4, 5, 6, 7, 8])] }, {}⟩)
    = .ok ({ ip := [([1, 2, 3, 4], [5, 6, 7, 8], 0, 0)] }, {}) := by decide +kernel

/-- … and any other total length makes `ParseCertificate` reject the certificate `CreateCertificate` produced. -/
example : parseNC (fun _ => true) (buildNC ⟨false, {}, { ip := [([10, 0, 0], [255, 255, 255, 0])] }⟩) = .err := by decide +kernel

/-- the extension is written iff one of the eight lists is non-empty (`NCT.present`, the guard of the block). -/
theorem nc_present_iff (n : NCT) :
    n.present = false ↔ (n.permitted = {} ∧ n.excluded = {}) := by
  have hs : ∀ s : NCSide, s.bases.isEmpty = true ↔ s = {} := by
    intro s
    cases s with
    | mk e d r i =>
      simp only [NCSide.bases, List.isEmpty_iff, List.append_eq_nil_iff, List.map_eq_nil_iff]
      constructor
      · rintro ⟨⟨⟨rfl, rfl⟩, rfl⟩, rfl⟩; rfl
      · intro h; cases h; exact ⟨⟨⟨rfl, rfl⟩, rfl⟩, rfl⟩
  simp only [NCT.present, Bool.or_eq_false_iff, Bool.not_eq_false', hs]

/-! ### validity and serial number -/

/-- **Validity, to the second.**  For every NotBefore / NotAfter (any zone offset, any nanoseconds) whose year IN UTC
    is 0..9999, `CreateCertificate`'s `validity{NotBefore.UTC(), NotAfter.UTC()}` marshals (UTCTime for 1950..2049,
    GeneralizedTime otherwise, chosen per time) and the parser returns for each the SAME instant truncated to the second
    (`unix` unchanged, nanoseconds 0) in UTC (offset 0). -/
theorem validity_roundtrip (nb na : ZV.Time.GoTime)
    (hb0 : 0 ≤ (toUTC nb).year) (hb1 : (toUTC nb).year ≤ 9999) (ha0 : 0 ≤ (toUTC na).year) (ha1 : (toUTC na).year ≤ 9999) :
    ∃ der, buildValidity nb na = .ok der ∧ parseValidity der = .ok (⟨nb.unix, 0, 0⟩, ⟨na.unix, 0, 0⟩) := by
  obtain ⟨b', hb, lb, hpb⟩ := encTime_parse (toUTC na) ha0 ha1 (by simp [toUTC]) (by simp [toUTC]) []
  obtain ⟨a, ha, la, hpa⟩ := encTime_parse (toUTC nb) hb0 hb1 (by simp [toUTC]) (by simp [toUTC]) b'
  refine ⟨writeTLV 0x30 (a ++ b'), by unfold buildValidity; rw [ha, hb], ?_⟩
  unfold parseValidity
  rw [first_tlv _ _ _ (by decide) (by simp only [List.length_append]; omega) (by simp [Want.ok, hdrOf])]
  simp only [elemOf_body, hpa, Res.bind]
  rw [List.append_nil] at hpb
  simp only [hpb, readBack_toUTC]

/-- 2049-12-31T23:59:59.5+01:00 (UTCTime) .. 2050-01-01T00:00:00Z (GeneralizedTime) -/
example : (0 : Int) ≤ (toUTC ⟨2524607999 - 3600, 3600, 500000000⟩).year ∧ (toUTC ⟨2524607999 - 3600, 3600, 500000000⟩).year ≤ 9999 ∧
    (0 : Int) ≤ (toUTC ⟨2524608000, 0, 0⟩).year ∧ (toUTC ⟨2524608000, 0, 0⟩).year ≤ 9999 := by decide +kernel

/-- outside the domain the builder fails (`CreateCertificate` returns an error): year 10000 -/
example : buildValidity ⟨0, 0, 0⟩ ⟨253402300800, 0, 0⟩ = .err := by decide +kernel

/-- **Serial number.**  For EVERY integer (zcrypto's CreateCertificate has no sign check: a negative serial is written
    as it is; only a nil serial is an error — T3 line `valnil`) the INTEGER contents `makeBigInt` writes are minimal
    two's complement (`checkInteger`) and `parseBigInt` reads the same integer back; in particular for every
    non-negative serial. -/
theorem serial_roundtrip (v : Int) : parseSerial (encSerial v) = .ok v ∧ checkInteger (encSerial v) = true := by
  obtain ⟨h1, h2⟩ := natAbs_fuel v
  obtain ⟨c1, c2, _⟩ := int_roundtrip v.natAbs v h1 h2
  rw [encSerial_eq]
  exact ⟨by simp [parseSerial, c1, c2], c1⟩

example : encSerial 128 = [0, 128] ∧ encSerial 127 = [127] ∧ encSerial (-129) = [0xff, 0x7f] ∧ encSerial 0 = [0] := by decide +kernel

/-! ### the assembled extension list -/

/-- **build_parse_all**: for every template of the documented domain (`Tmpl.inDomain`: nine key-usage bits, 64-bit
    path length, OID arcs within MaxInt32, 4/16-octet addresses; extension values shorter than 2 GiB), running the
    extension loop of `parseCertificate` over the list `buildExtensions` assembled equals: start from the field vector
    `expected` of the generated extensions (every template field, normalised; zero where `ExtraExtensions` overrides
    the builder, by `extra_override`) and apply the extra extensions. -/
theorem build_parse_all (tbl : List (Nat × List Nat)) (t : Tmpl) (exts : List Ext)
    (h : buildExtensions tbl t = .ok exts) (hd : t.inDomain tbl = true)
    (hsz : ∀ x ∈ exts, x.value.length < 2147483648) :
    applyExts {} exts = applyExts (expected tbl t) t.extra := by
  obtain ⟨l, hg, rfl⟩ := buildExtensions_ok tbl t h
  rw [applyExts_append, applyExts_gens t.extra (gens tbl t) {} l hg (fun x hx => hsz x (List.mem_append_left _ hx))
    (gens_parse tbl t hd), gens_fold]
  rfl

/-- … and when no extra extension carries one of the nine modelled OIDs, the result is exactly the template's field
    vector. -/
theorem build_parse_all_plain (tbl : List (Nat × List Nat)) (t : Tmpl) (exts : List Ext)
    (h : buildExtensions tbl t = .ok exts) (hd : t.inDomain tbl = true)
    (hsz : ∀ x ∈ exts, x.value.length < 2147483648) (hx : ∀ x ∈ t.extra, x.oid ∉ modelled) :
    applyExts {} exts = .ok (templateFields tbl t) := by
  rw [build_parse_all tbl t exts h hd hsz, applyExts_other _ _ hx, expected_eq_templateFields tbl t hx]

/-- a template exercising every builder, with an unmodelled extra extension -/
def sampleTmpl : Tmpl :=
  { keyUsage := 5, eku := (ZV.Generated.C04.nativeEku.take 1).map (·.1), unknownEku := [[1, 2, 3]], bcValid := true, isCA := true, maxPathLen := 300,
    maxPathLenZero := false, ski := [1, 2], aki := [3], ocsp := [[0x68]], issuing := [[0x69]], dns := [[0x61]],
    email := [[0x62]], ips := [[0, 0, 0, 0, 0, 0, 0, 0, 0, 0, 0xff, 0xff, 10, 0, 0, 1]], policies := [[2, 5, 29, 32, 0]],
    nc := some (true, [0x30, 0]), crldp := [[0x6a]], extra := [⟨[1, 2, 3, 4], false, [5, 0]⟩] }

example : sampleTmpl.inDomain ZV.Generated.C04.nativeEku = true ∧
    (∀ x ∈ sampleTmpl.extra, x.oid ∉ modelled) ∧
    (buildExtensions ZV.Generated.C04.nativeEku sampleTmpl).map
      (fun exts => exts.length == 11 && exts.all (fun x => decide (x.value.length < 2147483648))) = .ok true := by
  decide +kernel

end ZV.C04
