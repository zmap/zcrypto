import ZV.Proofs.C15
import ZV.Generated.C15
/-!
  C15 — browser revocation sets parse faithfully and decide membership exactly.

  `listed m k x` : the parsed issuer map has a list under key `k` containing `x`.
  JSON / base64 / ASN.1-name / certificate decoding are the supplied decoded records (`Hdr`, `Rec`, `tbl`).
-/
namespace ZV.C15
open ZV.Wire

/-! ## CRLSet -/

/-- no issuer SPKI hash occurs in two blocks (duplicate blocks overwrite each other in the code) -/
def NodupIssuers (m : List (Bytes × List Nat)) : Prop := (m.map (fun b => hexStr b.1)).Nodup

def issuerMap (m : List (Bytes × List Nat)) : List (Str × List Int) :=
  m.map (fun b => (hexStr b.1, b.2.map Int.ofNat))

/-- Parsing the encoding of header bytes and issuer blocks yields the header's decoded fields and — in general —
    the blocks folded into a map with later duplicates overwriting earlier ones. -/
theorem crlset_parse_encode_general (hdrBytes : Bytes) (h : Hdr) (m : List (Bytes × List Nat)) (bs : Bytes)
    (hj : h.jsonOk = true) (he : csEncode hdrBytes m = .ok bs) :
    csParse bs h = .ok ⟨h.sequence, h.numParents, h.blocked, addBlocks [] m⟩ := by
  unfold csEncode at he
  cases h1 : (varBytes (uintLE 2)).ser hdrBytes <;> cases h2 : serAll blockFmt m <;> rw [h1, h2] at he <;> cases he
  rw [csParse, getHeader_eq, (lawful_varBytes (lawful_uintLE 2)).rt hdrBytes _ _ h1]
  simp only [hj, if_true]
  rw [parseBlocks_serAll m _ [] h2]

/-- A well-formed CRLSet without repeated issuers parses to exactly the issuer-to-serial lists and blocked keys it encodes. -/
theorem crlset_parse_encode (hdrBytes : Bytes) (h : Hdr) (m : List (Bytes × List Nat)) (bs : Bytes)
    (hj : h.jsonOk = true) (hn : NodupIssuers m) (he : csEncode hdrBytes m = .ok bs) :
    csParse bs h = .ok ⟨h.sequence, h.numParents, h.blocked, issuerMap m⟩ := by
  rw [crlset_parse_encode_general hdrBytes h m bs hj he]
  have := addBlocks_nodup [] m (by simpa [NodupIssuers] using hn)
  simp only [List.nil_append] at this
  rw [this]; rfl

/-- Check reports a certificate exactly when its issuer SPKI hash is a blocked SPKI, or the hash has a list
    containing the serial; the entry returned carries that serial. -/
theorem crlset_check_iff (s : CRLSet) (serial : Int) (hash : Str) :
    (csCheck s serial hash).isSome = true ↔ hash ∈ s.blocked ∨ listed s.issuers hash serial := by
  unfold csCheck listed
  cases hb : s.blocked.find? (fun b => decide (b = hash)) with
  | some x =>
    have h1 := List.find?_some hb
    have h2 := List.mem_of_find?_eq_some hb
    simp only [decide_eq_true_eq] at h1
    subst h1
    simp [h2]
  | none =>
    have hnb : hash ∉ s.blocked := by
      intro hm
      simp only [List.find?_eq_none, decide_eq_true_eq] at hb
      exact hb hash hm rfl
    simp only [hnb, false_or]
    exact msCheck_isSome s.issuers hash serial

theorem crlset_check_serial (s : CRLSet) (serial r : Int) (hash : Str) (h : csCheck s serial hash = some r) : r = serial := by
  unfold csCheck at h
  cases hb : s.blocked.find? (fun b => decide (b = hash)) with
  | some x => rw [hb] at h; simp at h; exact h.symm
  | none =>
    rw [hb] at h
    cases hg : mget s.issuers hash with
    | none => rw [hg] at h; cases h
    | some l => rw [hg] at h; exact findSerial_eq l serial r h

/-- End to end, in terms of the encoded set: after parsing the encoding of `m` (no repeated issuer), Check
    reports (serial, hash) exactly when `hash` is one of the header's blocked SPKIs or `m` has a block for
    `hash` listing the serial. -/
theorem crlset_check_encoded (hdrBytes : Bytes) (h : Hdr) (m : List (Bytes × List Nat)) (bs : Bytes) (s : CRLSet)
    (hj : h.jsonOk = true) (hn : NodupIssuers m) (he : csEncode hdrBytes m = .ok bs) (hp : csParse bs h = .ok s)
    (serial : Int) (hash : Str) :
    (csCheck s serial hash).isSome = true ↔
      hash ∈ h.blocked ∨ ∃ b ∈ m, hexStr b.1 = hash ∧ ∃ n ∈ b.2, (n : Int) = serial := by
  rw [crlset_parse_encode hdrBytes h m bs hj hn he] at hp
  cases hp
  rw [crlset_check_iff]
  simp only [issuerMap, listed_map m _ _ hn, List.mem_map, Int.ofNat_eq_natCast]

/-- distinct SPKI hashes give distinct map keys (hex.EncodeToString is injective), so "no issuer occurs in two
    blocks" can be stated on the raw 32-byte hashes -/
theorem nodupIssuers_of_spki (m : List (Bytes × List Nat)) (h : (m.map (·.1)).Nodup) : NodupIssuers m := by
  unfold NodupIssuers
  induction m with
  | nil => simp
  | cons b rest ih =>
    simp only [List.map_cons, List.nodup_cons, List.mem_map, not_exists, not_and] at h ⊢
    refine ⟨?_, ih h.2⟩
    intro x hx he
    exact h.1 x hx (hexStr_inj _ _ he)

/-- `crlset_check_encoded` with the hypothesis on the raw SPKI hashes and the match on the hash bytes -/
theorem crlset_check_encoded_spki (hdrBytes : Bytes) (h : Hdr) (m : List (Bytes × List Nat)) (bs : Bytes) (s : CRLSet)
    (hj : h.jsonOk = true) (hn : (m.map (·.1)).Nodup) (he : csEncode hdrBytes m = .ok bs) (hp : csParse bs h = .ok s)
    (serial : Int) (spki : Bytes) :
    (csCheck s serial (hexStr spki)).isSome = true ↔
      hexStr spki ∈ h.blocked ∨ ∃ b ∈ m, b.1 = spki ∧ ∃ n ∈ b.2, (n : Int) = serial := by
  rw [crlset_check_encoded hdrBytes h m bs s hj (nodupIssuers_of_spki m hn) he hp]
  constructor
  · rintro (h1 | ⟨b, hb, hk, hx⟩)
    · exact Or.inl h1
    · exact Or.inr ⟨b, hb, hexStr_inj _ _ hk, hx⟩
  · rintro (h1 | ⟨b, hb, hk, hx⟩)
    · exact Or.inl h1
    · exact Or.inr ⟨b, hb, by rw [hk], hx⟩

theorem crlset_parse_no_panic (inp : Bytes) (h : Hdr) : csParse inp h ≠ .panic := by
  unfold csParse
  cases hg : getHeader inp h with
  | ok r =>
    obtain ⟨hd, rest⟩ := r
    simp only
    have := parseBlocks_noPanic rest []
    cases hp : parseBlocks rest [] <;> simp_all
  | err => simp
  | panic => exact absurd hg (getHeader_noPanic inp h)

/-! ## OneCRL -/

/-- base64.StdEncoding.DecodeString inverts EncodeToString on EVERY byte string (no error, exactly the bytes):
    the OneCRL fields written by a well-behaved producer decode to what was encoded. -/
theorem b64_decode_encode (bs : Bytes) : b64Decode (b64Encode bs) = (bs, false) := b64Go_encode bs []

/-- an error of the decoder does not lose what was decoded before it: those bytes are returned next to the error
    (the serial-number field of an entry is built from them, the error being ignored).  Stated for the shape that
    occurs in practice: a valid encoding followed by a character outside the alphabet. -/
theorem b64_decode_garbage_after (bs : Bytes) (c : UInt8) (rest : Str) (hlen : bs.length % 3 = 0)
    (hc : b64Val c = none) (hnl : isNL c = false) (hp : c ≠ 61) :
    b64Decode (b64Encode bs ++ c :: rest) = (bs, true) := by
  rw [b64Decode, b64Go_encode_append bs _ [], if_pos hlen, b64Go, hc]
  simp [hnl, hp]

/-- the record-to-entry mapping of Entry.UnmarshalJSON, over the raw JSON string fields -/
theorem onecrl_entry_serial (r : Rec) (ntbl : Bytes → Option Str) (iss : Str) (s : Int) :
    unmarshalEntry r ntbl = .ok (.serial iss s) ↔
      r.isNull = false ∧ (r.subject = [] ∨ r.pubKeyHash = []) ∧ (b64Decode r.issuerName).2 = false ∧
      ntbl (b64Decode r.issuerName).1 = some iss ∧ s = Int.ofNat (beVal (b64Decode r.serialNumber).1) := by
  constructor
  · intro h
    obtain ⟨h0, he⟩ := (unmarshalEntry_sat r ntbl).of_ok h
    cases he with
    | serial hc hs ht => exact ⟨h0, hc, by rw [hs], by rw [hs]; exact ht, rfl⟩
  · rintro ⟨h0, hc, h1, h2, rfl⟩
    exact unmarshalEntry_of r ntbl _ h0 (.serial hc (Prod.ext rfl h1) h2)

theorem onecrl_entry_blocked (r : Rec) (ntbl : Bytes → Option Str) (raw pk : Bytes) :
    unmarshalEntry r ntbl = .ok (.blocked raw pk) ↔
      r.isNull = false ∧ r.subject ≠ [] ∧ r.pubKeyHash ≠ [] ∧ b64Decode r.subject = (raw, false) ∧
      (ntbl raw).isSome = true ∧ b64Decode r.pubKeyHash = (pk, false) := by
  constructor
  · intro h
    obtain ⟨h0, he⟩ := (unmarshalEntry_sat r ntbl).of_ok h
    cases he with
    | blocked h1 h2 hs ht hp => exact ⟨h0, h1, h2, hs, by rw [ht]; rfl, hp⟩
  · rintro ⟨h0, h1, h2, hs, ht, hp⟩
    obtain ⟨i, hi⟩ := Option.isSome_iff_exists.mp ht
    exact unmarshalEntry_of r ntbl _ h0 (.blocked h1 h2 hs hi hp)

theorem onecrl_group_listed (es : List OEntry) (acc : OneCRL) (k : Str) (x : Int) :
    listed (ocGroup es acc).issuers k x ↔ listed acc.issuers k x ∨ OEntry.serial k x ∈ es := by
  induction es generalizing acc with
  | nil => simp [ocGroup]
  | cons e rest ih =>
    cases e with
    | blocked raw pk => simp [ocGroup, ih]
    | serial iss s =>
      simp only [ocGroup, ih, listed_madd, List.mem_cons, OEntry.serial.injEq, or_assoc]

theorem onecrl_group_blocked (es : List OEntry) (acc : OneCRL) (p : Bytes × Bytes) :
    p ∈ (ocGroup es acc).blocked ↔ p ∈ acc.blocked ∨ OEntry.blocked p.1 p.2 ∈ es := by
  induction es generalizing acc with
  | nil => simp [ocGroup]
  | cons e rest ih =>
    cases e with
    | serial iss s => simp [ocGroup, ih]
    | blocked raw pk =>
      simp only [ocGroup, ih, List.mem_append, List.mem_cons, List.not_mem_nil, or_false, OEntry.blocked.injEq,
        Prod.ext_iff, or_assoc]

/-- OneCRL.Check reports a certificate exactly when the document has an entry for its (subject, key hash) or
    for its (issuer name, serial). -/
theorem onecrl_check_iff (recs : List Rec) (ntbl : Bytes → Option Str) (es : List OEntry) (c : OneCRL)
    (hu : unmarshalAll recs ntbl = .ok es) (hp : ocParse recs ntbl = .ok c)
    (issuer : Str) (serial : Int) (rawSubject spkiHash : Bytes) :
    (ocCheck c issuer serial rawSubject spkiHash).isSome = true ↔
      OEntry.blocked rawSubject spkiHash ∈ es ∨ OEntry.serial issuer serial ∈ es := by
  simp only [ocParse, hu] at hp
  cases hp
  unfold ocCheck
  cases hb : (ocGroup es ⟨[], []⟩).blocked.find? (fun b => decide (b.1 = rawSubject) && decide (b.2 = spkiHash)) with
  | some x =>
    have h1 := List.find?_some hb
    have h2 := List.mem_of_find?_eq_some hb
    simp only [Bool.and_eq_true, decide_eq_true_eq] at h1
    have := (onecrl_group_blocked es ⟨[], []⟩ x).mp h2
    simp only [List.not_mem_nil, false_or] at this
    rw [h1.1, h1.2] at this
    simp [this]
  | none =>
    have hnb : OEntry.blocked rawSubject spkiHash ∉ es := by
      intro hm
      have := (onecrl_group_blocked es ⟨[], []⟩ (rawSubject, spkiHash)).mpr (Or.inr hm)
      simp only [List.find?_eq_none, Bool.and_eq_true, decide_eq_true_eq, not_and] at hb
      exact hb _ this rfl rfl
    simp only [hnb, false_or]
    have hl := onecrl_group_listed es ⟨[], []⟩ issuer serial
    simp only [not_listed_nil, false_or] at hl
    rw [← hl, ← msCheck_isSome, msCheck]
    cases mget (ocGroup es ⟨[], []⟩).issuers issuer with
    | none => rfl
    | some l =>
      dsimp only
      cases findSerial l serial <;> rfl

/-! ### OneCRL documents written by an encoder: base64 of DER names / key hashes / minimal serial bytes -/

inductive MEntry where
  | blocked (subjectDER keyHash : Bytes)
  | serial (issuerDER : Bytes) (serial : Nat)
  deriving DecidableEq

/-- the JSON record fields an encoder writes for an entry -/
def encRec : MEntry → Rec
  | .blocked s k => ⟨false, b64Encode s, b64Encode k, [], []⟩
  | .serial i n => ⟨false, [], [], b64Encode (natBE n), b64Encode i⟩

/-- well-formed entry: the names are DER names the ASN.1 layer accepts; a blocked entry has a non-empty subject
    and key hash (an empty one cannot be expressed: the code then reads the record as issuer/serial) -/
def MEntryOk (ntbl : Bytes → Option Str) : MEntry → Prop
  | .blocked s k => s ≠ [] ∧ k ≠ [] ∧ (ntbl s).isSome = true
  | .serial i _ => (ntbl i).isSome = true

/-- what an entry denotes in the parsed set (issuers keyed by Name.String(), as the code keys them) -/
def denote (ntbl : Bytes → Option Str) : MEntry → OEntry
  | .blocked s k => .blocked s k
  | .serial i n =>
    match ntbl i with
    | some s => .serial s (Int.ofNat n)
    | none => .serial [] (Int.ofNat n)

theorem b64Encode_ne_nil (s : Bytes) (h : s ≠ []) : b64Encode s ≠ [] := by
  intro h2
  have := b64Encode_isEmpty s
  rw [h2] at this
  cases s with
  | nil => exact h rfl
  | cons _ _ => simp at this

/-- a well-formed entry decodes to exactly what was encoded (base64 and serial bytes at byte level) -/
theorem onecrl_entry_encoded (ntbl : Bytes → Option Str) (e : MEntry) (h : MEntryOk ntbl e) :
    unmarshalEntry (encRec e) ntbl = .ok (denote ntbl e) := by
  cases e with
  | blocked s k =>
    obtain ⟨h1, h2, h3⟩ := h
    exact (onecrl_entry_blocked _ ntbl s k).mpr
      ⟨rfl, b64Encode_ne_nil s h1, b64Encode_ne_nil k h2, b64_decode_encode s, h3, b64_decode_encode k⟩
  | serial i n =>
    simp only [MEntryOk] at h
    cases ht : ntbl i with
    | none => rw [ht] at h; cases h
    | some x =>
      simp only [denote, ht]
      refine (onecrl_entry_serial _ ntbl x _).mpr ⟨rfl, Or.inl rfl, ?_, ?_, ?_⟩
      · simp only [encRec]; rw [b64_decode_encode]
      · simp only [encRec]; rw [b64_decode_encode]; exact ht
      · simp only [encRec]; rw [b64_decode_encode, beVal_natBE]

theorem onecrl_unmarshal_encoded (ntbl : Bytes → Option Str) (ms : List MEntry) (h : ∀ e ∈ ms, MEntryOk ntbl e) :
    unmarshalAll (ms.map encRec) ntbl = .ok (ms.map (denote ntbl)) := by
  induction ms with
  | nil => rfl
  | cons e rest ih =>
    simp only [List.map_cons, unmarshalAll]
    rw [onecrl_entry_encoded ntbl e (h e (by simp)), ih (fun x hx => h x (by simp [hx]))]

/-- End to end for OneCRL: after parsing the records an encoder writes for the model `ms`, Check reports a
    certificate exactly when `ms` has a blocked entry with its raw subject and key hash, or an entry whose issuer
    DER name prints as the certificate's issuer and whose serial is the certificate's. -/
theorem onecrl_check_encoded (ntbl : Bytes → Option Str) (ms : List MEntry) (c : OneCRL)
    (hok : ∀ e ∈ ms, MEntryOk ntbl e) (hp : ocParse (ms.map encRec) ntbl = .ok c)
    (issuer : Str) (serial : Int) (rawSubject spkiHash : Bytes) :
    (ocCheck c issuer serial rawSubject spkiHash).isSome = true ↔
      MEntry.blocked rawSubject spkiHash ∈ ms ∨
      ∃ i n, MEntry.serial i n ∈ ms ∧ ntbl i = some issuer ∧ Int.ofNat n = serial := by
  rw [onecrl_check_iff _ ntbl _ c (onecrl_unmarshal_encoded ntbl ms hok) hp]
  simp only [List.mem_map]
  constructor
  · rintro (⟨e, he, hd⟩ | ⟨e, he, hd⟩)
    · cases e with
      | blocked s k => simp only [denote, OEntry.blocked.injEq] at hd; rw [← hd.1, ← hd.2]; exact Or.inl he
      | serial i n => simp only [denote] at hd; split at hd <;> cases hd
    · cases e with
      | blocked s k => simp only [denote] at hd; cases hd
      | serial i n =>
        right
        have hk := hok _ he
        simp only [MEntryOk] at hk
        simp only [denote] at hd
        cases ht : ntbl i with
        | none => rw [ht] at hk; cases hk
        | some x =>
          rw [ht] at hd
          simp only [OEntry.serial.injEq] at hd
          exact ⟨i, n, he, by rw [ht, hd.1], hd.2⟩
  · rintro (h | ⟨i, n, he, ht, hs⟩)
    · exact Or.inl ⟨_, h, rfl⟩
    · right
      refine ⟨_, he, ?_⟩
      simp only [denote, ht, hs]

theorem onecrl_parse_no_panic (recs : List Rec) (ntbl : Bytes → Option Str) : ocParse recs ntbl ≠ .panic := by
  unfold ocParse
  cases h : unmarshalAll recs ntbl with
  | ok es => nofun
  | err => nofun
  | panic => exact absurd h (unmarshalAll_noPanic recs ntbl)

/-! ## Microsoft SST -/

theorem ms_build_listed (certs : List Bytes) (tbl : Bytes → Option CertInfo) (acc d : List (Str × List Int))
    (h : msBuild certs tbl acc = .ok d) (k : Str) (x : Int) :
    listed d k x ↔ listed acc k x ∨ ∃ c ∈ certs, tbl c = some ⟨k, x⟩ := by
  induction certs generalizing acc with
  | nil => simp only [msBuild] at h; cases h; simp
  | cons c rest ih =>
    simp only [msBuild] at h
    cases ht : tbl c with
    | none => rw [ht] at h; cases h
    | some ci =>
      rw [ht] at h
      have hci : ci = ⟨k, x⟩ ↔ k = ci.issuer ∧ x = ci.serial := by
        cases ci
        simp only [CertInfo.mk.injEq, eq_comm]
      rw [ih _ h, listed_madd]
      simp only [List.mem_cons, exists_eq_or_imp, ht, Option.some.injEq, hci, or_assoc]

/-- microsoft.Check reports a certificate exactly when the store holds a certificate with its issuer name and serial. -/
theorem ms_check_iff (certs : List Bytes) (tbl : Bytes → Option CertInfo) (d : List (Str × List Int))
    (h : msBuild certs tbl [] = .ok d) (issuer : Str) (serial : Int) :
    (msCheck d issuer serial).isSome = true ↔ ∃ c ∈ certs, tbl c = some ⟨issuer, serial⟩ := by
  rw [msCheck_isSome, ms_build_listed certs tbl [] d h issuer serial]
  simp only [not_listed_nil, false_or]

/-- A general well-formed store — property elements (any id other than 0 and 32, any format) interleaved with
    certificate elements, end marker, anything after it — parses to exactly the grouping of its certificate
    blobs in order: property elements are skipped by their declared length, nothing else is dropped or added. -/
theorem sst_parse_encode_elems (es : List SstElem) (tail : Bytes) (tbl : Bytes → Option CertInfo)
    (h : ∀ e ∈ es, SstElemOk e) :
    msParse (sstEncodeElems es tail) tbl = msBuild (sstCerts es) tbl [] := by
  rw [sstEncodeElems, msParse_store, sstLoop_elems es [] tail h]
  rfl

/-- A well-formed store (header, one certificate element per blob, end marker) parses to exactly the grouping of
    its certificates: the container loop recovers every blob, in order. -/
theorem sst_parse_encode (certs : List Bytes) (tbl : Bytes → Option CertInfo) (h : ∀ c ∈ certs, c.length < 256 ^ 4) :
    msParse (sstEncode certs) tbl = msBuild certs tbl [] := by
  rw [sstEncode_eq, sst_parse_encode_elems, sstCerts_certElems]
  intro e he
  obtain ⟨c, hc, rfl⟩ := List.mem_map.mp he
  exact ⟨(by decide : 32 < 256 ^ 4), (by decide : 32 ≠ 0), (by decide : 1 < 256 ^ 4), h c hc, fun _ => rfl⟩

theorem mem_sstCerts (es : List SstElem) (c : Bytes) : c ∈ sstCerts es ↔ ∃ e ∈ es, e.id = 32 ∧ e.value = c := by
  simp only [sstCerts_eq, List.mem_map, List.mem_filter, decide_eq_true_eq, and_assoc]

/-- End to end for the Microsoft store: after parsing a well-formed store, Check reports a certificate exactly
    when the store has a certificate element whose certificate has that issuer name and serial. -/
theorem ms_check_encoded (es : List SstElem) (tail : Bytes) (tbl : Bytes → Option CertInfo) (d : List (Str × List Int))
    (h : ∀ e ∈ es, SstElemOk e) (hp : msParse (sstEncodeElems es tail) tbl = .ok d) (issuer : Str) (serial : Int) :
    (msCheck d issuer serial).isSome = true ↔ ∃ e ∈ es, e.id = 32 ∧ tbl e.value = some ⟨issuer, serial⟩ := by
  rw [sst_parse_encode_elems es tail tbl h] at hp
  rw [ms_check_iff _ tbl d hp]
  constructor
  · rintro ⟨c, hc, ht⟩
    obtain ⟨e, he, h32, hv⟩ := (mem_sstCerts es c).mp hc
    exact ⟨e, he, h32, by rw [hv]; exact ht⟩
  · rintro ⟨e, he, h32, ht⟩
    exact ⟨e.value, (mem_sstCerts es _).mpr ⟨e, he, h32, rfl⟩, ht⟩

/-- a store that parses holds only parsable certificates (D4: the unfixed code dereferenced nil here) -/
theorem ms_build_ok_all_parse (certs : List Bytes) (tbl : Bytes → Option CertInfo) (acc d : List (Str × List Int))
    (h : msBuild certs tbl acc = .ok d) : ∀ c ∈ certs, (tbl c).isSome = true := by
  induction certs generalizing acc with
  | nil => simp
  | cons c rest ih =>
    simp only [msBuild] at h
    cases ht : tbl c with
    | none => rw [ht] at h; cases h
    | some ci =>
      rw [ht] at h
      intro x hx
      simp only [List.mem_cons] at hx
      rcases hx with hx | hx
      · rw [hx, ht]; rfl
      · exact ih _ h x hx

/-! ## T1: the constants of the model are the constants of the source (regenerated on every run) -/

/-- the CRLSet block format of the model is built from the field widths declared in google.go -/
theorem t1_crlset_block_format :
    blockFmt = pair (bytesN Gen.spkiHashLen)
      (countList (uintLE Gen.numSerialsWidth) (piso beVal (fun n => some (natBE n)) (varBytes (uintLE Gen.serialLenWidth)))) := rfl

theorem t1_crlset_header_width : Gen.headerLenWidth = 2 := by decide

/-- magic, version, end-marker id, certificate-element id and ASN.1 encoding type compared by microsoft.parse -/
theorem t1_sst_constants :
    certMagic = Gen.sstMagic ∧ Gen.sstVersion = 0 ∧ Gen.sstEndId = 0 ∧ Gen.sstCertId = 32 ∧ Gen.sstAsn1Format = 1 := by decide

/-- the alphabet of the model's encoder is base64.StdEncoding's, value by value; so is the padding character -/
theorem t1_b64_alphabet : (∀ v, v < 64 → Gen.b64Alphabet[v]? = some (b64Char v)) ∧ Gen.b64Pad = 61 := by
  decide +kernel

/-- the decode map of the model maps each character of that alphabet to its index … -/
theorem t1_b64_decode_map_values : ∀ v, v < 64 → (Gen.b64Alphabet[v]?).bind b64Val = some v := fun v hv =>
  (congrArg (·.bind b64Val) (t1_b64_alphabet.1 v hv)).trans (b64Val_b64Char v hv)

/-- … and accepts no other character (all 256 byte values) -/
theorem t1_b64_decode_map_domain :
    ∀ n, n < 256 → ((b64Val (UInt8.ofNat n)).isSome = true ↔ UInt8.ofNat n ∈ Gen.b64Alphabet) := by
  intro n _
  constructor
  · intro h
    obtain ⟨v, hv⟩ := Option.isSome_iff_exists.mp h
    obtain ⟨hlt, hc⟩ := b64Char_of_b64Val _ v hv
    exact List.mem_of_getElem? (hc ▸ t1_b64_alphabet.1 v hlt)
  · intro h
    obtain ⟨v, hv⟩ := List.getElem?_of_mem h
    have hb := t1_b64_decode_map_values v (List.getElem?_eq_some_iff.mp hv).1
    rw [hv] at hb
    exact Option.isSome_iff_exists.mpr ⟨v, hb⟩

/-! ### non-vacuity -/
example : NodupIssuers [(List.replicate 32 1, [5, 6]), (List.replicate 32 2, [])] := by unfold NodupIssuers; decide
example : (csEncode [123, 125] [(List.replicate 32 1, []), (List.replicate 32 2, [])]).isOk = true := by decide
example : natLE 300 = [44, 1] := by
  rw [natLE]; simp; rw [natLE]; simp; rw [natLE]; simp
example : ∃ recs es, unmarshalAll recs (fun b => if b = [48, 0] then some [] else none) = .ok es ∧ es.length = 2 :=
  ⟨[⟨false, b64Encode [48, 0], b64Encode [2], [], []⟩, ⟨false, [], [], b64Encode [7], b64Encode [48, 0]⟩],
   [.blocked [48, 0] [2], .serial [] 7], by decide, rfl⟩
example : ∃ d, msBuild [[1], [2]] (fun b => if b = [1] then some ⟨[65], 5⟩ else some ⟨[66], -3⟩) [] = .ok d := ⟨_, rfl⟩

example : ∀ e ∈ [MEntry.blocked [48, 0] [2], MEntry.serial [48, 0] 300],
    MEntryOk (fun b => if b = [48, 0] then some [] else none) e := by
  intro e he
  simp only [List.mem_cons, List.not_mem_nil, or_false] at he
  rcases he with he | he <;> subst he <;> simp [MEntryOk]
example : ∀ e ∈ [SstElem.mk 3 7 [1, 2], SstElem.mk 32 1 [9]], SstElemOk e := by
  intro e he
  simp only [List.mem_cons, List.not_mem_nil, or_false] at he
  rcases he with he | he <;> subst he <;> simp [SstElemOk]
example : b64Decode (b64Encode [1, 2, 3] ++ 33 :: [65]) = ([1, 2, 3], true) :=
  b64_decode_garbage_after [1, 2, 3] 33 [65] rfl (by decide) (by decide) (by decide)
/-- the serial field ignores the base64 error: "AQID!" denotes serial 0x010203, "!" denotes serial 0 -/
example : unmarshalEntry ⟨false, [], [], [65, 81, 73, 68, 33], b64Encode [48, 0]⟩ (fun b => if b = [48, 0] then some [] else none)
    = .ok (.serial [] 66051) := by decide

end ZV.C15
