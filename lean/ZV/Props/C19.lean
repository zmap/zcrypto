-- The statements of this file and of Props/C21 are elaborated with these two Mathlib modules in scope (they change how `^` on
-- `Nat` and the compiled recursion of `C21.Frag` / `C21.readable` elaborate); no proof below uses them.
import Mathlib.Data.List.Induction
import Mathlib.Tactic.Ring
import ZV.Proofs.Der0Typed
import ZV.Proofs.TimeInv
import ZV.Proofs.TimeCB
import ZV.Proofs.C19Str
import ZV.Generated.C19
/-!
  C19 — strict DER decoding is canonical in both ASN.1 codecs.

  The `*_canonical` theorems have the shape `decode input = ok value → encode value = consumed input`
  for ALL byte strings, where `decode`/`encode` are the executable models of the
  zcrypto functions in `ZV.Model.Der0` (tied to the Go code by the T2 stream `c19`).
  `EA` = encoding/asn1, `CB` = cryptobyte (with the fixes for D2/D28 in `readBase128Int`).
  Time values (section "time values"): the decoders and encoders of `ZV.Model.Time` (`time.Parse` / `Time.Format` for the
  three ASN.1 layouts are modelled there, tied to the Go code by the T2 streams `c18 tp/tf/tc/td/tpc/tac` and
  `c19 cb-gtime/cb-utime`).
-/
open ZV ZV.Der0
namespace ZV.C19

/-! ## encoding/asn1 -/

/-- INTEGER → int64: re-encoding with `int64Encoder` reproduces the contents octets. -/
theorem ea_int64_canonical (bs : Bytes) (v : Int) (h : EA.parseInt64 bs = .ok v) :
    EA.encodeInt64 v = bs :=
  (EA.parseInt64_ok.1 h).1.symm

example : EA.parseInt64 [0x00, 0x80] = .ok 128 ∧ EA.parseInt64 [0xff, 0x7f] = .ok (-129) := by decide +kernel

theorem ea_int32_canonical (bs : Bytes) (v : Int) (h : EA.parseInt32 bs = .ok v) :
    EA.encodeInt64 v = bs :=
  ea_int64_canonical bs v (EA.parseInt32_ok h)

/-- INTEGER → *big.Int, any length: `makeBigInt (parseBigInt bs) = bs`. -/
theorem ea_bigint_canonical (bs : Bytes) (v : Int) (h : EA.parseBigInt bs = .ok v) :
    EA.makeBigInt v = bs :=
  (EA.parseBigInt_ok.1 h).symm

example : EA.parseBigInt [0xff, 0x7f, 0x00] = .ok (-33024) := by decide +kernel

/-- non-minimal INTEGER contents are rejected by every integer parser of both codecs
    (all of them start with `checkInteger`). -/
theorem rejects_nonminimal_integer (b : UInt8) (t : Bytes) :
    (b.toNat < 128 → checkInteger (0x00 :: b :: t) = false) ∧
    (b.toNat ≥ 128 → checkInteger (0xff :: b :: t) = false) := by
  constructor <;> intro h <;> simp [checkInteger, h]

theorem ea_rejects_nonminimal_integer (b : UInt8) (t : Bytes) (h : b.toNat < 128) :
    EA.parseInt64 (0x00 :: b :: t) = .err ∧ EA.parseInt32 (0x00 :: b :: t) = .err ∧
    EA.parseBigInt (0x00 :: b :: t) = .err := by
  have := (rejects_nonminimal_integer b t).1 h
  simp [EA.parseInt64, EA.parseInt32, EA.parseBigInt, this]

theorem ea_bool_canonical (bs : Bytes) (v : Bool) (h : EA.parseBool bs = .ok v) :
    boolContent v = bs :=
  (EA.parseBool_ok.1 h).symm

/-- base-128: `appendBase128Int (parseBase128Int bs)` = the consumed prefix (minimal per arc). -/
theorem ea_base128_canonical (bs : Bytes) (v : Nat) (rest : Bytes)
    (h : EA.parseBase128Int bs = .ok (v, rest)) :
    ∃ pre, bs = pre ++ rest ∧ appendBase128 v = pre :=
  EA.parseBase128Int_canon h

/-- a sub-identifier with a leading 0x80 octet is rejected (encoding/asn1 and cryptobyte). -/
theorem rejects_leading_0x80 (t : Bytes) :
    EA.parseBase128Int (0x80 :: t) = .err ∧ CB.readBase128Int (0x80 :: t) = .err := by
  simp [EA.parseBase128Int, EA.b128Loop, CB.readBase128Int, CB.b128Loop]

/-- OBJECT IDENTIFIER: `oidEncoder (parseObjectIdentifier bs) = bs`, and the parsed OID always
    passes `makeObjectIdentifier`'s validity check. -/
theorem ea_oid_canonical (bs : Bytes) (o : List Nat) (h : EA.parseObjectIdentifier bs = .ok o) :
    EA.encodeOID o = .ok bs := by
  obtain ⟨a, b, rest, rfl, ha, hb, hbody⟩ := EA.parseObjectIdentifier_canon h
  rw [← hbody]
  exact if_neg fun hv => by omega

example : EA.parseObjectIdentifier [0x2a, 0x86, 0x48] = .ok [1, 2, 840] := by decide +kernel

/-- BIT STRING: re-encoding reproduces the contents, … -/
theorem ea_bits_canonical (bs : Bytes) (v : EA.BitString) (h : EA.parseBitString bs = .ok v) :
    EA.encodeBitString v = bs := by
  match bs, h with
  | b0 :: tl, h =>
    obtain ⟨⟨h7, _, h0⟩, rfl⟩ := EA.parseBitString_ok.1 h
    exact congrArg (· :: tl) (bitPad_canon h7 fun hn => h0 (List.length_eq_zero_iff.1 hn))

/-- … and an accepted BIT STRING has `pad ≤ 7` and all `pad` unused bits zero. -/
theorem ea_bits_padding_zero (b0 : UInt8) (tl : Bytes) (v : EA.BitString)
    (h : EA.parseBitString (b0 :: tl) = .ok v) :
    b0.toNat ≤ 7 ∧ (lastByte (b0 :: tl)).toNat % 2 ^ b0.toNat = 0 ∧ (tl = [] → b0.toNat = 0) :=
  (EA.parseBitString_ok.1 h).1

/-- identifier + length octets: `appendTagAndLength (parseTagAndLength bs)` = the consumed header
    (minimal tag form, minimal length form, no indefinite length). -/
theorem ea_header_canonical (bs : Bytes) (t : EA.TagAndLength) (rest : Bytes)
    (h : EA.parseTagAndLength bs = .ok (t, rest)) :
    ∃ pre, bs = pre ++ rest ∧ EA.appendTagAndLength t = pre :=
  EA.parseTagAndLength_canon h

example : EA.parseTagAndLength [0x30, 0x82, 0x01, 0x00, 0xaa] =
    .ok ({ cls := 0, compound := true, tag := 16, length := 256 }, [0xaa]) := by decide +kernel

/-- indefinite length (0x80) is rejected by both header parsers -/
theorem rejects_indefinite_length (b : UInt8) (t : Bytes) (hb : b.toNat % 32 ≠ 31) :
    EA.parseTagAndLength (b :: 0x80 :: t) = .err ∧ CB.readASN1 (b :: 0x80 :: t) = .err := by
  constructor
  · simp [EA.parseTagAndLength, hb, EA.parseLength]
  · simp [CB.readASN1, hb]

/-- long-form lengths below 128 and lengths with a leading zero octet are rejected (encoding/asn1) -/
theorem ea_rejects_nonminimal_length (b l : UInt8) (t : Bytes) (hb : b.toNat % 32 ≠ 31) :
    (l.toNat < 128 → EA.parseTagAndLength (b :: 0x81 :: l :: t) = .err) ∧
    EA.parseTagAndLength (b :: 0x82 :: 0x00 :: l :: t) = .err := by
  constructor
  · intro hl
    simp only [EA.parseTagAndLength, hb, if_false, EA.parseLength]
    by_cases h0 : l.toNat = 0
    · simp [EA.lenLoop, h0]
    · simp [EA.lenLoop, h0, hl]
  · simp [EA.parseTagAndLength, hb, EA.parseLength, EA.lenLoop]

/-! ## cryptobyte -/

/-- `ReadAnyASN1`: the consumed bytes are exactly what `AddASN1(tag){AddBytes(body)}` writes
    (single identifier octet, minimal definite length). -/
theorem cb_element_canonical (s : Bytes) (e : CB.Elem) (h : CB.readASN1 s = .ok e) :
    ∃ pre, CB.element e.tag e.body = .ok pre ∧ s = pre ++ e.rest :=
  CB.readASN1_canon h

/-- `readASN1` never reaches `panic("cryptobyte: internal error")`. -/
theorem cb_readASN1_no_panic (s : Bytes) : CB.readASN1 s ≠ .panic := by
  rcases CB.readASN1_table s with h | ⟨e, _, h, _⟩
  · rw [h]; nofun
  · rw [h]; nofun

theorem cb_readASN1Tag_canonical {s : Bytes} {tag : UInt8} {body rest : Bytes}
    (h : CB.readASN1Tag s tag = .ok (body, rest)) :
    ∃ pre, CB.element tag body = .ok pre ∧ s = pre ++ rest :=
  CB.readASN1Tag_canon h

/-- `ReadASN1Int64WithTag` / `ReadASN1Enum` then `AddASN1Int64WithTag` / `AddASN1Enum`, any tag. -/
theorem cb_int64tag_canonical (tag : UInt8) (s : Bytes) (v : Int) (rest : Bytes)
    (h : CB.readInt64Tag s tag = .ok (v, rest)) :
    ∃ pre, CB.addASN1Int64Tag tag v = .ok pre ∧ s = pre ++ rest :=
  CB.typed_canon (fun hb => (EA.parseInt64_ok.1 hb).1.symm) (CB.readInt64Tag_eq s tag ▸ h)

/-- `ReadASN1Integer(*int64)` then `AddASN1Int64` reproduces the consumed element. -/
theorem cb_int64_canonical (s : Bytes) (v : Int) (rest : Bytes) (h : CB.readInt64 s = .ok (v, rest)) :
    ∃ pre, CB.addASN1Int64 v = .ok pre ∧ s = pre ++ rest :=
  cb_int64tag_canonical 2 s v rest h

/-- `ReadASN1Integer(*uint64)` then `AddASN1Uint64`. -/
theorem cb_uint64_canonical (s : Bytes) (v : Nat) (rest : Bytes) (h : CB.readUint64 s = .ok (v, rest)) :
    ∃ pre, CB.addASN1Uint64 v = .ok pre ∧ s = pre ++ rest := by
  obtain ⟨body, r, hr, hk⟩ := CB.ofTag h
  obtain ⟨hc, hk⟩ := guard_not_ok_iff.1 hk
  split at hk
  · next w hw =>
    cases hk
    unfold CB.asn1Unsigned at hw
    split at hw
    · cases hw
    · next b0 t =>
      split at hw
      · cases hw
      · split at hw
        · cases hw
        · next hpos =>
          cases hw
          obtain ⟨h1, h2⟩ := int_canon hc
          rw [show twos (b0 :: t) = (natOfBytes (b0 :: t) : Int) by simp [twos, hpos]] at h1 h2
          have hcont : CB.unsignedContent (natOfBytes (b0 :: t)) = b0 :: t := by
            rw [CB.unsignedContent, uintLen_eq_intLen', h1, h2]
          simpa [CB.addASN1Uint64, hcont] using CB.readASN1Tag_canon hr
  · cases hk
  · cases hk

/-- `ReadASN1Integer(*big.Int)` then `AddASN1BigInt`, any length. -/
theorem cb_bigint_canonical (s : Bytes) (v : Int) (rest : Bytes) (h : CB.readBigInt s = .ok (v, rest)) :
    ∃ pre, CB.addASN1BigInt v = .ok pre ∧ s = pre ++ rest :=
  CB.typed_canon (fun hb => (EA.parseBigInt_ok.1 hb).symm) (CB.readBigInt_eq s ▸ h)

example : CB.readInt64 [0x02, 0x02, 0x00, 0x80, 0x07] = .ok (128, [0x07]) := by decide +kernel

/-- `ReadASN1Boolean` then `AddASN1Boolean`. -/
theorem cb_bool_canonical (s : Bytes) (v : Bool) (rest : Bytes) (h : CB.readBool s = .ok (v, rest)) :
    ∃ pre, CB.addASN1Boolean v = .ok pre ∧ s = pre ++ rest :=
  CB.typed_canon (fun hb => (EA.parseBool_ok.1 hb).symm) (CB.readBool_eq s ▸ h)

/-- `ReadASN1ObjectIdentifier` then `AddASN1ObjectIdentifier` (false without the fix for D2: a reader that lets a leading
    0x80 octet pass decodes `06 03 2a 80 01` to 1.2.1; first example below). -/
theorem cb_oid_canonical (s : Bytes) (o : List Nat) (rest : Bytes) (h : CB.readOID s = .ok (o, rest)) :
    ∃ pre, CB.addASN1OID o = .ok pre ∧ s = pre ++ rest := by
  obtain ⟨body, hr, hp⟩ := CB.typed_ok (CB.readOID_eq s ▸ h)
  obtain ⟨a, b, rest, rfl, ha, hb, rfl⟩ := EA.parseObjectIdentifier_canon hp
  simpa only [CB.addASN1OID, CB.isValidOID_cons.2 ⟨ha, hb⟩, Bool.not_true, Bool.false_eq_true, if_false] using
    CB.readASN1Tag_canon hr

example : CB.readOID [0x06, 0x03, 0x2a, 0x80, 0x01] = .err := by decide +kernel
example : CB.readOID [0x06, 0x06, 0x2a, 0x81, 0x80, 0x80, 0x80, 0x00] = .ok ([1, 2, 268435456], []) := by decide +kernel

/-- `ReadASN1BitString`: the consumed element is `[BIT STRING, pad, bytes]` with the pad octet
    recomputed from `BitLength`, pad ≤ 7 and the unused bits zero. -/
theorem cb_bits_canonical (s : Bytes) (v : EA.BitString) (rest : Bytes)
    (h : CB.readBitString s = .ok (v, rest)) :
    ∃ pre pad, CB.addASN1BitString pad v.bytes = .ok pre ∧ s = pre ++ rest ∧
      pad = byteOfInt ((8 - v.bitLength.tmod 8).tmod 8) ∧ pad.toNat ≤ 7 ∧
      (v.bytes ≠ [] → (lastByte v.bytes).toNat % 2 ^ pad.toNat = 0) ∧ (v.bytes = [] → pad = 0) := by
  obtain ⟨body, hr, hp⟩ := CB.typed_ok (CB.readBitString_eq s ▸ h)
  match body, hp with
  | b0 :: tl, hp =>
    obtain ⟨⟨h7, hl, h0⟩, rfl⟩ := EA.parseBitString_ok.1 hp
    obtain ⟨pre, hq1, hq2⟩ := CB.readASN1Tag_canon hr
    refine ⟨pre, b0, hq1, hq2, (bitPad_canon h7 fun hn => h0 (List.length_eq_zero_iff.1 hn)).symm, h7, fun hne => ?_,
      fun he => UInt8.toNat_inj.mp (h0 he)⟩
    cases tl with
    | nil => exact absurd rfl hne
    | cons c t => exact hl

/-- consequence of canonicity: a strict decoder is injective on what it consumes — two accepted
    inputs with the same value and the same unread rest are the same bytes (shown for the element reader). -/
theorem cb_element_injective (s₁ s₂ : Bytes) (e₁ e₂ : CB.Elem)
    (h₁ : CB.readASN1 s₁ = .ok e₁) (h₂ : CB.readASN1 s₂ = .ok e₂)
    (ht : e₁.tag = e₂.tag) (hb : e₁.body = e₂.body) (hr : e₁.rest = e₂.rest) : s₁ = s₂ := by
  obtain ⟨p₁, a₁, b₁⟩ := cb_element_canonical s₁ e₁ h₁
  obtain ⟨p₂, a₂, b₂⟩ := cb_element_canonical s₂ e₂ h₂
  rw [ht, hb] at a₁
  rw [a₁] at a₂
  simp only [Res.ok.injEq] at a₂
  rw [b₁, b₂, a₂, hr]

/-! ## time values -/
open ZV.Time in
/-- **cryptobyte GeneralizedTime.**  For ALL byte strings: whatever `ReadASN1GeneralizedTime` accepts,
    `AddASN1GeneralizedTime` of the decoded time writes back, byte for byte (one identifier octet, minimal
    definite length, the very text) — and it does not refuse the value. -/
theorem cb_gtime_canonical (s : Bytes) (t : GoTime) (rest : Bytes)
    (h : Time.CB.readGeneralizedTime s = .ok (t, rest)) :
    ∃ pre, Time.CB.addGeneralizedTime t = .ok pre ∧ s = pre ++ rest := by
  obtain ⟨body, hr, hp, hfmt⟩ := Time.CB.readGeneralizedTime_ok h
  obtain ⟨pre, hq1, hq2⟩ := CB.readASN1Tag_canon hr
  have p := parse_gen_facts hp
  have hy : ¬ (t.year < 0 ∨ t.year > 9999) := by have := p.year_lo; have := p.year_hi; omega
  exact ⟨pre, by simp only [Time.CB.addGeneralizedTime, hy, if_false, hfmt]; exact hq1, hq2⟩

example : Time.CB.readGeneralizedTime
    [0x18, 0x13, 0x32, 0x30, 0x32, 0x34, 0x30, 0x32, 0x32, 0x39, 0x32, 0x33, 0x35, 0x39, 0x35, 0x39, 0x2b, 0x30, 0x35, 0x33,
      0x30, 0x05, 0x00] = .ok ({ unix := 1709231399, off := 19800 }, [0x05, 0x00]) := by decide +kernel

open ZV.Time in
/-- what an accepted GeneralizedTime is: year 0..9999 in its zone, zone a whole number of minutes of at most
    25 hours (`hh ≤ 24`, `mm ≤ 60` pass `time.Parse`; the re-serialisation test removes `mm = 60`). -/
theorem cb_gtime_accepts_only (s : Bytes) (t : GoTime) (rest : Bytes)
    (h : Time.CB.readGeneralizedTime s = .ok (t, rest)) :
    0 ≤ t.year ∧ t.year ≤ 9999 ∧ ∃ k : Int, t.off = 60 * k ∧ -1500 ≤ k ∧ k ≤ 1500 := by
  obtain ⟨body, -, hp, -⟩ := Time.CB.readGeneralizedTime_ok h
  have p := parse_gen_facts hp
  exact ⟨p.year_lo, p.year_hi, p.zone⟩

open ZV.Time in
/-- **encoding/asn1 GeneralizedTime** (strict mode): an accepted content is exactly what
    `appendGeneralizedTime` writes for the decoded time. -/
theorem ea_gentime_canonical (s : Bytes) (t : GoTime) (h : EA.parseGeneralizedTime false s = .ok t) :
    EA.appendGeneralizedTime t = .ok s := by
  obtain ⟨hp, hre⟩ := EA.parseGeneralizedTime_ok.1 h
  rw [appendGeneralizedTime_eq_format (parse_gen_facts hp), EA.format_of_reserialises hre]

example : ZV.Time.EA.parseGeneralizedTime false
    [0x31, 0x39, 0x30, 0x30, 0x30, 0x32, 0x32, 0x38, 0x32, 0x33, 0x35, 0x39, 0x35, 0x39, 0x5a] =
    .ok { unix := -2203891201, off := 0 } := by decide +kernel

open ZV.Time in
/-- **encoding/asn1 UTCTime** (strict mode): an accepted content in the form WITH seconds (the form without
    seconds is tried first; the encoder never writes it) is exactly what `appendUTCTime` writes for the decoded
    time, including the 19YY / 20YY century choice. -/
theorem ea_utctime_canonical (s : Bytes) (t : GoTime) (h : EA.parseUTCTime false s = .ok t)
    (hsec : parse layoutUTCMin s = none) : EA.appendUTCTime t = .ok s := by
  obtain ⟨layout, ret, ⟨_, hm⟩ | ⟨rfl, _, hp⟩, hre, rfl⟩ := EA.parseUTCTime_ok.1 h
  · rw [hsec] at hm; cases hm
  · have p := parse_utcsec_facts hp
    have hfmt : format layoutUTCSec ret = s := EA.format_of_reserialises hre
    unfold EA.utcWindow
    split
    · next hy => rw [appendUTCTime_minus100 p hy p.year_hi, hfmt]
    · rw [appendUTCTime_eq_format p (by have := p.year_lo; omega) (by omega), hfmt]

example : ZV.Time.EA.parseUTCTime false [0x35, 0x30, 0x30, 0x31, 0x30, 0x31, 0x30, 0x30, 0x30, 0x30, 0x30, 0x30, 0x5a] =
    .ok { unix := -631152000, off := 0 } ∧
    ZV.Time.parse ZV.Time.layoutUTCMin [0x35, 0x30, 0x30, 0x31, 0x30, 0x31, 0x30, 0x30, 0x30, 0x30, 0x30, 0x30, 0x5a] = none := by
  decide +kernel

open ZV.Time in
theorem utc_tail_window {ret : GoTime} (p : Parsed ret 1969 2068) :
    1950 ≤ (EA.utcWindow ret).year ∧ (EA.utcWindow ret).year < 2050 := by
  unfold EA.utcWindow
  split
  · next hy =>
    have := (addYears_minus100 ret hy p.year_hi).1
    rw [show (addYears ret (-100)).year = ret.year + -100 by simp only [GoTime.year, this]]
    have := p.year_hi
    omega
  · have := p.year_lo
    omega

open ZV.Time in
/-- the decoded UTCTime lies in the window 1950..2049 (years 50..68 are moved back one century), in either
    parsing mode -/
theorem ea_utctime_window (perm : Bool) (s : Bytes) (t : GoTime) (h : EA.parseUTCTime perm s = .ok t) :
    1950 ≤ t.year ∧ t.year < 2050 := by
  obtain ⟨layout, ret, ⟨_, hm⟩ | ⟨_, _, hp⟩, _, rfl⟩ := EA.parseUTCTime_ok.1 h
  · exact utc_tail_window (parse_utcmin_facts hm)
  · exact utc_tail_window (parse_utcsec_facts hp)

open ZV.Time in
/-- **cryptobyte `ReadASN1UTCTime` = readASN1 + encoding/asn1's strict `parseUTCTime`**, for ALL byte strings:
    the two functions try the layouts with and without seconds in opposite order, but no text parses under both
    (after YYMMDDhhmm the one wants a digit, the other `Z`, `+` or `-`), so they accept the same contents with the
    same value. -/
theorem cb_utctime_eq_ea (s : Bytes) :
    Time.CB.readUTCTime s =
      (match CB.readASN1Tag s 0x17 with
       | .ok (body, rest) =>
         (match EA.parseUTCTime false body with
          | .ok t => .ok (t, rest)
          | .err => .err
          | .panic => .panic)
       | .err => .err
       | .panic => .panic) := by
  unfold Time.CB.readUTCTime
  cases hr : CB.readASN1Tag s 0x17 with
  | err => rfl
  | panic => rfl
  | ok x =>
    obtain ⟨body, rest⟩ := x
    simp only [EA.parseUTCTime, EA.reserialises, Bool.false_or, bne]
    cases hsec : parse layoutUTCSec body with
    | some r1 =>
      simp only [utcsec_excludes_min hsec]
      by_cases hc : (!format layoutUTCSec r1 == body) = true
      · rw [if_pos hc, if_pos hc]
      · rw [if_neg hc, if_neg hc]
        split <;> rfl
    | none =>
      cases hmin : parse layoutUTCMin body with
      | some r1 =>
        simp only
        by_cases hc : (!format layoutUTCMin r1 == body) = true
        · rw [if_pos hc, if_pos hc]
        · rw [if_neg hc, if_neg hc]
          split <;> rfl
      | none => rfl

open ZV.Time in
/-- `ReadASN1UTCTime`: the consumed bytes are one canonical element, the time lies in 1950..2049, and a content
    in the form with seconds is exactly what encoding/asn1's `appendUTCTime` writes for the decoded time
    (zcrypto's cryptobyte has no `AddASN1UTCTime`). -/
theorem cb_utctime_canonical (s : Bytes) (t : GoTime) (rest : Bytes) (h : Time.CB.readUTCTime s = .ok (t, rest)) :
    ∃ body pre, CB.element 0x17 body = .ok pre ∧ s = pre ++ rest ∧ 1950 ≤ t.year ∧ t.year < 2050 ∧
      EA.parseUTCTime false body = .ok t ∧ (parse layoutUTCMin body = none → EA.appendUTCTime t = .ok body) := by
  rw [cb_utctime_eq_ea] at h
  obtain ⟨body, r, hr, hk⟩ := CB.ofTag h
  split at hk
  · next t' hp =>
    cases hk
    obtain ⟨pre, hq1, hq2⟩ := CB.readASN1Tag_canon hr
    have hw := ea_utctime_window false body _ hp
    exact ⟨body, pre, hq1, hq2, hw.1, hw.2, hp, ea_utctime_canonical body _ hp⟩
  · cases hk
  · cases hk

example : Time.CB.readUTCTime [0x17, 0x0d, 0x34, 0x39, 0x31, 0x32, 0x33, 0x31, 0x32, 0x33, 0x35, 0x39, 0x35, 0x39, 0x5a, 0xff] =
    .ok ({ unix := 2524607999, off := 0 }, [0xff]) := by decide +kernel

open ZV.Time in
/-- **accepted times are whole seconds** (all three strict decoders): `time.Parse` itself reads a fractional
    second that is not in the layout (`20240101000000.5Z` parses), but the re-serialisation test only lets through
    a text that is what `Format` writes for the decoded time, and `time.Parse` reads such a text back as `readBack t`,
    whose nanoseconds are 0 (the UTCTime layout without seconds has no seconds field to carry a fraction). -/
theorem strict_times_whole_seconds (s : Bytes) (t : GoTime) :
    (∀ rest, Time.CB.readGeneralizedTime s = .ok (t, rest) → t.nsec = 0) ∧
    (EA.parseGeneralizedTime false s = .ok t → t.nsec = 0) ∧
    (EA.parseUTCTime false s = .ok t → t.nsec = 0) := by
  refine ⟨?_, ?_, ?_⟩
  · intro rest h
    obtain ⟨body, -, hp, hfmt⟩ := Time.CB.readGeneralizedTime_ok h
    exact whole_seconds_gen hp hfmt
  · intro h
    obtain ⟨hp, hre⟩ := EA.parseGeneralizedTime_ok.1 h
    exact whole_seconds_gen hp (EA.format_of_reserialises hre)
  · intro h
    obtain ⟨layout, ret, hl, hre, rfl⟩ := EA.parseUTCTime_ok.1 h
    have hw : (EA.utcWindow ret).nsec = ret.nsec := by unfold EA.utcWindow; split <;> rfl
    rw [hw]
    rcases hl with ⟨_, hm⟩ | ⟨rfl, _, hp⟩
    · exact whole_seconds_utcmin hm
    · exact whole_seconds_utcsec hp (EA.format_of_reserialises hre)

/-- `time.Parse` alone does accept the fraction (the permissive mode returns it) -/
example : ZV.Time.EA.parseGeneralizedTime true
    [0x32, 0x30, 0x32, 0x34, 0x30, 0x31, 0x30, 0x31, 0x30, 0x30, 0x30, 0x30, 0x30, 0x30, 0x2e, 0x35, 0x5a] =
      .ok { unix := 1704067200, off := 0, nsec := 500000000 } ∧
    ZV.Time.EA.parseGeneralizedTime false
    [0x32, 0x30, 0x32, 0x34, 0x30, 0x31, 0x30, 0x31, 0x30, 0x30, 0x30, 0x30, 0x30, 0x30, 0x2e, 0x35, 0x5a] = .err := by
  decide +kernel

/-! ## ENUMERATED, OCTET STRING, NULL, the restricted string types -/

/-- ENUMERATED (cryptobyte): `AddASN1Enum (ReadASN1Enum s)` = the consumed element. -/
theorem cb_enum_canonical (s : Bytes) (v : Int) (rest : Bytes) (h : CB.readEnum s = .ok (v, rest)) :
    ∃ pre, CB.addASN1Enum v = .ok pre ∧ s = pre ++ rest :=
  cb_int64tag_canonical 10 s v rest h

example : CB.readEnum [0x0a, 0x02, 0x00, 0x80, 0x07] = .ok (128, [0x07]) ∧ CB.readEnum [0x0a, 0x02, 0x00, 0x7f] = .err := by
  decide +kernel

/-- ENUMERATED (encoding/asn1: `parseInt32`, written by `int64Encoder`) -/
theorem ea_enum_canonical (bs : Bytes) (v : Int) (h : EA.parseInt32 bs = .ok v) : EA.encodeInt64 v = bs :=
  ea_int32_canonical bs v h

/-- OCTET STRING (cryptobyte): any content; the header is the canonical one. -/
theorem cb_octets_canonical (s body rest : Bytes) (h : CB.readOctetString s = .ok (body, rest)) :
    ∃ pre, CB.addASN1OctetString body = .ok pre ∧ s = pre ++ rest :=
  cb_readASN1Tag_canonical h

example : CB.readOctetString [0x04, 0x81, 0x01, 0x41] = .err ∧ CB.readOctetString [0x04, 0x01, 0x41] = .ok ([0x41], []) := by
  decide +kernel

/-- NULL (cryptobyte): an accepted NULL element with empty contents is exactly the two octets `AddASN1NULL` writes
    (`05 81 00` and other non-minimal forms are rejected). -/
theorem cb_null_canonical (s rest : Bytes) (h : CB.readASN1Tag s 5 = .ok ([], rest)) :
    s = CB.addASN1NULL ++ rest := by
  obtain ⟨pre, h1, h2⟩ := cb_readASN1Tag_canonical h
  have : CB.element 5 [] = .ok [5, 0] := by decide +kernel
  rw [this] at h1
  simp only [Res.ok.injEq] at h1
  rw [h2, ← h1]; rfl

example : CB.readASN1Tag [0x05, 0x00, 0xaa] 5 = .ok ([], [0xaa]) ∧ CB.readASN1Tag [0x05, 0x81, 0x00] 5 = .err := by decide +kernel

/-- NumericString: decoder and encoder apply the same test, the contents are copied. -/
theorem ea_numeric_canonical (bs v : Bytes) (h : EA.parseNumericString bs = .ok v) :
    EA.makeNumericString v = .ok bs :=
  allGuard_imp (fun _ _ hb => hb) h

/-- IA5String: `b >= 0x80` (decoder) and `s[i] > 127` (encoder) are the same test. -/
theorem ea_ia5_canonical (bs v : Bytes) (h : EA.parseIA5String bs = .ok v) :
    EA.makeIA5String v = .ok bs :=
  allGuard_imp (fun b _ hb => by simpa using Nat.le_of_lt_succ (of_decide_eq_true hb)) h

/-- T61String: 8-bit clean in both directions. -/
theorem ea_t61_canonical (bs v : Bytes) (h : EA.parseT61String bs = .ok v) : v = bs := by
  simp only [EA.parseT61String, Res.ok.injEq] at h; exact h.symm

theorem isPrintable_no_amp (b : UInt8) (h : isPrintable b true true = true) (hb : b ≠ 0x26) :
    isPrintable b true false = true := by
  have hne : (b.toNat == 38) = false := beq_false_of_ne fun e => hb (UInt8.toNat_inj.mp e)
  rw [isPrintable_amp, hne, Bool.or_false] at h
  exact h

/-- PrintableString, proved under the hypothesis that the contents have no `&`.
    -- FULL: `EA.parsePrintableString bs = .ok v → EA.makePrintableString v = .ok bs` is FALSE (next example):
    the decoder calls `isPrintable(b, allowAsterisk, allowAmpersand)`, the encoder
    `isPrintable(s[i], allowAsterisk, rejectAmpersand)` (the same asymmetry as upstream Go, by design). -/
theorem ea_printable_canonical_partial (bs v : Bytes) (h : EA.parsePrintableString bs = .ok v)
    (hamp : (0x26 : UInt8) ∉ bs) : EA.makePrintableString v = .ok bs :=
  allGuard_imp (fun b hb hp => isPrintable_no_amp b hp fun e => hamp (e ▸ hb)) h

/-- the counter-example to the full statement: `A&B` is decoded and cannot be re-encoded -/
example : EA.parsePrintableString [0x41, 0x26, 0x42] = .ok [0x41, 0x26, 0x42] ∧
    EA.makePrintableString [0x41, 0x26, 0x42] = .err := by decide +kernel

example : EA.parsePrintableString [0x41, 0x2a, 0x42] = .ok [0x41, 0x2a, 0x42] ∧ (0x26 : UInt8) ∉ [0x41, 0x2a, 0x42] := by decide +kernel

/-- the other direction holds for every string type: what an encoder writes, the strict decoder reads back -/
theorem ea_strings_encoder_subset (s out : Bytes) :
    (EA.makeNumericString s = .ok out → EA.parseNumericString out = .ok s) ∧
    (EA.makePrintableString s = .ok out → EA.parsePrintableString out = .ok s) ∧
    (EA.makeIA5String s = .ok out → EA.parseIA5String out = .ok s) :=
  ⟨allGuard_imp fun _ _ hb => hb,
   allGuard_imp fun b _ hb => by rw [isPrintable_amp, hb, Bool.true_or],
   allGuard_imp fun b _ hb => by simpa [Nat.lt_succ_iff] using hb⟩

/-! ## the two codecs agree on the common fragment -/

/-- the `Res` of a content parser, paired with the unread rest of the cryptobyte String -/
def withRest {α} (r : Res α) (rest : Bytes) : Res (α × Bytes) :=
  match r with
  | .ok v => .ok (v, rest)
  | .err => .err
  | .panic => .panic

/-- base-128 sub-identifiers: `parseBase128Int` and `readBase128Int` are the SAME function of the bytes
    (encoding/asn1 compares the result with MaxInt32 after the loop, cryptobyte compares the accumulator with
    2^24 before each shift; both stop after five octets and refuse a leading 0x80). -/
theorem codecs_agree_base128 (bs : Bytes) : EA.parseBase128Int bs = CB.readBase128Int bs := base128_agree bs

/-- for every byte string `s` from which cryptobyte reads an element of the right tag, each typed
    cryptobyte reader returns exactly what encoding/asn1's content parser returns on the contents octets
    (same accept / reject decision, same value): INTEGER → int64, INTEGER → big.Int, BOOLEAN, OBJECT IDENTIFIER,
    BIT STRING; and ENUMERATED wherever encoding/asn1 (32-bit `Enumerated`) accepts. -/
theorem codecs_agree (s body rest : Bytes) :
    (CB.readASN1Tag s 2 = .ok (body, rest) →
      CB.readInt64 s = withRest (EA.parseInt64 body) rest ∧ CB.readBigInt s = withRest (EA.parseBigInt body) rest) ∧
    (CB.readASN1Tag s 1 = .ok (body, rest) → CB.readBool s = withRest (EA.parseBool body) rest) ∧
    (CB.readASN1Tag s 6 = .ok (body, rest) → CB.readOID s = withRest (EA.parseObjectIdentifier body) rest) ∧
    (CB.readASN1Tag s 3 = .ok (body, rest) → CB.readBitString s = withRest (EA.parseBitString body) rest) ∧
    (CB.readASN1Tag s 10 = .ok (body, rest) → ∀ v, EA.parseInt32 body = .ok v → CB.readEnum s = .ok (v, rest)) :=
  ⟨fun h => ⟨(CB.readInt64Tag_eq s 2).trans (CB.typed_of_tag h), (CB.readBigInt_eq s).trans (CB.typed_of_tag h)⟩,
   fun h => (CB.readBool_eq s).trans (CB.typed_of_tag h),
   fun h => (CB.readOID_eq s).trans (CB.typed_of_tag h),
   fun h => (CB.readBitString_eq s).trans (CB.typed_of_tag h),
   fun h v hv => ((CB.readInt64Tag_eq s 10).trans (CB.typed_of_tag h)).trans (by rw [EA.parseInt32_ok hv])⟩

example : CB.readASN1Tag [0x06, 0x03, 0x2a, 0x86, 0x48, 0x01] 6 = .ok ([0x2a, 0x86, 0x48], [0x01]) ∧
    CB.readASN1Tag [0x0a, 0x01, 0x05] 10 = .ok ([0x05], []) ∧ EA.parseInt32 [0x05] = .ok 5 := by decide +kernel


/-! ## T1: the guard expressions of both sources (`ZV.C19.Gen.*` is rewritten by go/extract/c19 from the working
    tree on every run). The models `ZV.Model.Der0` / `ZV.Model.C19` were written from exactly these expressions; removing
    or editing a minimal-length / minimal-integer / padding / character-set guard in zcrypto fails the theorem named after
    the function. -/

theorem t1_ea_parseBool : Gen.ea_parseBool = [ "if:len(bytes)!=1", "case:0", "case:0xff"] := rfl

theorem t1_ea_checkInteger : Gen.ea_checkInteger = [ "if:len(bytes)==0", "if:len(bytes)==1", "if:!AllowPermissiveParsing", "if:(bytes[0]==0&&bytes[1]&0x80==0)||(bytes[0]==0xff&&bytes[1]&0x80==0x80)"] := rfl

theorem t1_ea_parseInt64 : Gen.ea_parseInt64 = [ "if:err!=nil", "if:len(bytes)>8", "for:bytesRead<len(bytes)"] := rfl

theorem t1_ea_parseInt32 : Gen.ea_parseInt32 = [ "if:err!=nil", "if:err!=nil", "if:ret64!=int64(int32(ret64))"] := rfl

theorem t1_ea_parseBitString : Gen.ea_parseBitString = [ "if:len(bytes)==0", "if:paddingBits>7||len(bytes)==1&&paddingBits>0||bytes[len(bytes)-1]&((1<<bytes[0])-1)!=0"] := rfl

theorem t1_ea_parseObjectIdentifier : Gen.ea_parseObjectIdentifier = [ "if:len(bytes)==0", "if:err!=nil", "if:v<80", "for:offset<len(bytes)", "if:err!=nil"] := rfl

theorem t1_ea_parseBase128Int : Gen.ea_parseBase128Int = [ "for:offset<len(bytes)", "if:shifted==5", "if:shifted==0&&b==0x80", "if:b&0x80==0", "if:ret64>math.MaxInt32"] := rfl

theorem t1_ea_parseTagAndLength : Gen.ea_parseTagAndLength = [ "if:offset>=len(bytes)", "if:ret.tag==0x1f", "if:err!=nil", "if:ret.tag<0x1f", "if:offset>=len(bytes)", "if:b&0x80==0", "if:numBytes==0", "for:i<numBytes", "if:offset>=len(bytes)", "if:ret.length>=1<<23", "if:ret.length==0", "if:!AllowPermissiveParsing", "if:ret.length<0x80"] := rfl

theorem t1_ea_parseNumericString : Gen.ea_parseNumericString = [ "if:!AllowPermissiveParsing", "if:!isNumeric(b)"] := rfl

theorem t1_ea_isNumeric : Gen.ea_isNumeric = [ "ret:'0'<=b&&b<='9'||b=='\\x20'"] := rfl

theorem t1_ea_parsePrintableString : Gen.ea_parsePrintableString = [ "if:!AllowPermissiveParsing", "if:!isPrintable(b,allowAsterisk,allowAmpersand)"] := rfl

theorem t1_ea_isPrintable : Gen.ea_isPrintable = [ "ret:'a'<=b&&b<='z'||'A'<=b&&b<='Z'||'0'<=b&&b<='9'||'\\''<=b&&b<=')'||'+'<=b&&b<='/'||b=='\\x20'||b==':'||b=='='||b=='?'||(bool(asterisk)&&b=='*')||(bool(ampersand)&&b=='&')"] := rfl

theorem t1_ea_parseIA5String : Gen.ea_parseIA5String = [ "if:!AllowPermissiveParsing", "if:b>=utf8.RuneSelf"] := rfl

theorem t1_ea_makePrintableString : Gen.ea_makePrintableString = [ "for:i<len(s)", "if:!isPrintable(s[i],allowAsterisk,rejectAmpersand)"] := rfl

theorem t1_ea_makeIA5String : Gen.ea_makeIA5String = [ "for:i<len(s)", "if:s[i]>127"] := rfl

theorem t1_ea_makeNumericString : Gen.ea_makeNumericString = [ "for:i<len(s)", "if:!isNumeric(s[i])"] := rfl

theorem t1_ea_int64EncoderLen : Gen.ea_int64EncoderLen = [ "for:i>127", "for:i<-128"] := rfl

theorem t1_ea_base128IntLength : Gen.ea_base128IntLength = [ "if:n==0", "for:i>0"] := rfl

theorem t1_ea_lengthLength : Gen.ea_lengthLength = [ "for:i>255"] := rfl

theorem t1_ea_appendTagAndLength : Gen.ea_appendTagAndLength = [ "if:t.isCompound", "if:t.tag>=31", "if:t.length>=128"] := rfl

theorem t1_ea_makeObjectIdentifier : Gen.ea_makeObjectIdentifier = [ "if:len(oid)<2||oid[0]>2||(oid[0]<2&&oid[1]>=40)"] := rfl

theorem t1_cb_checkASN1Integer : Gen.cb_checkASN1Integer = [ "if:len(bytes)==0", "if:len(bytes)==1", "if:bytes[0]==0&&bytes[1]&0x80==0||bytes[0]==0xff&&bytes[1]&0x80==0x80"] := rfl

theorem t1_cb_asn1Signed : Gen.cb_asn1Signed = [ "if:length>8", "for:i<length"] := rfl

theorem t1_cb_asn1Unsigned : Gen.cb_asn1Unsigned = [ "if:length>9||length==9&&n[0]!=0", "if:n[0]&0x80!=0", "for:i<length"] := rfl

theorem t1_cb_ReadASN1Enum : Gen.cb_ReadASN1Enum = [ "if:!s.ReadASN1(&bytes,asn1.ENUM)||!checkASN1Integer(bytes)||!asn1Signed(&i,bytes)", "if:int64(int(i))!=i"] := rfl

theorem t1_cb_ReadASN1Boolean : Gen.cb_ReadASN1Boolean = [ "if:!s.ReadASN1(&bytes,asn1.BOOLEAN)||len(bytes)!=1", "case:0", "case:0xff"] := rfl

theorem t1_cb_readBase128Int : Gen.cb_readBase128Int = [ "for:len(*s)>0", "if:i==5", "if:ret>=1<<(31-7)", "if:i==0&&b==0x80", "if:b&0x80==0"] := rfl

theorem t1_cb_ReadASN1ObjectIdentifier : Gen.cb_ReadASN1ObjectIdentifier = [ "if:!s.ReadASN1(&bytes,asn1.OBJECT_IDENTIFIER)||len(bytes)==0", "if:!bytes.readBase128Int(&v)", "if:v<80", "for:len(bytes)>0", "if:!bytes.readBase128Int(&v)"] := rfl

theorem t1_cb_ReadASN1BitString : Gen.cb_ReadASN1BitString = [ "if:!s.ReadASN1(&bytes,asn1.BIT_STRING)||len(bytes)==0||len(bytes)*8/8!=len(bytes)", "if:paddingBits>7||len(bytes)==0&&paddingBits!=0||len(bytes)>0&&bytes[len(bytes)-1]&(1<<paddingBits-1)!=0"] := rfl

theorem t1_cb_readASN1 : Gen.cb_readASN1 = [ "if:len(*s)<2", "if:tag&0x1f==0x1f", "if:outTag!=nil", "if:lenByte&0x80==0", "if:lenLen==0||lenLen>4||len(*s)<int(2+lenLen)", "if:!lenBytes.readUnsigned(&len32,int(lenLen))", "if:len32<128", "if:len32>>((lenLen-1)*8)==0", "if:headerLen+len32<len32", "if:int(length)<0||!s.ReadBytes((*[]byte)(out),int(length))", "if:skipHeader&&!out.Skip(int(headerLen))"] := rfl

theorem t1_cb_addASN1Signed : Gen.cb_addASN1Signed = [ "for:i>=0x80||i<-0x80", "for:length>0"] := rfl

theorem t1_cb_isValidOID : Gen.cb_isValidOID = [ "if:len(oid)<2", "if:oid[0]>2||(oid[0]<=1&&oid[1]>=40)", "if:v<0"] := rfl

theorem t1_cb_flushChild : Gen.cb_flushChild = [ "if:b.child==nil", "if:child.err!=nil", "if:length<0", "if:child.pendingIsASN1", "if:child.pendingLenLen!=1", "if:int64(length)>0xfffffffe", "if:length>0xffffff", "if:length>0xffff", "if:length>0xff", "if:length>0x7f", "if:extraBytes!=0", "for:i>=0", "if:l!=0", "if:b.fixedSize&&&b.result[0]!=&child.result[0]"] := rfl

end ZV.C19
