import ZV.Proofs.C12
import ZV.Props.C11
import ZV.Generated.C12
/-!
  C12 — `Verifier.Verify` result assembly.

  The theorems below are the sentences of the property, stated against declarative
  predicates (`ValidAt`, `EverValid`, list membership, `List.Perm`, `Nodup`) that do not mention
  the `later`/`earlier` folds, the map update of `parentsFromChains` or the `any`-loops of the
  revocation checks.  `verify V g c opts = assemble g c opts (walkChains V g c)`, and `assemble` on an
  arbitrary chain list is the closed form `resultAt` (`assemble_eq`): every theorem about `verify` reads
  its fields off that record, for the walk (whose chains are never empty, `walkChains_ne_nil`).
-/
namespace ZV.C12
open ZV.C10 ZV.C11

/-! ### declarative predicates (`ValidAt` and `EverValid` themselves stand in `ZV.Proofs.C12`) -/

/-- the chains the parents are taken from: those valid one second before expiry when the
    certificate is expired at the verification time, the current ones otherwise -/
def relevant (r : Result) : List Chain := if r.expired then r.validAtExpiration else r.current

/-- a chain valid at some instant has a non-empty common validity interval -/
theorem ValidAt.everValid {ch : Chain} {t : Time} (h : ValidAt ch t) : EverValid ch :=
  everValid_of_validAt h

/-- at a whole second `s` the chain is valid iff `NotBefore < s < NotAfter` for every certificate -/
theorem validAt_wholeSec (ch : Chain) (s : Int) :
    ValidAt ch (Time.ofSec s) ↔ ∀ c ∈ ch, c.notBefore < s ∧ s < c.notAfter := by
  simp only [ValidAt, ofSec_lt_ofSec]

/-- **sub-second boundaries**: strictly inside the second `s` (`0 < nsec`) the chain is valid iff
    `NotBefore ≤ s < NotAfter`: valid from 1 ns after NotBefore, valid up to 1 ns before NotAfter,
    not valid AT either boundary (`validAt_wholeSec`) -/
theorem validAt_subsec (ch : Chain) (t : Time) (h : 0 < t.nsec) :
    ValidAt ch t ↔ ∀ c ∈ ch, c.notBefore ≤ t.sec ∧ t.sec < c.notAfter := by
  simp only [ValidAt, ofSec_lt_iff, lt_ofSec_iff, Time.up, gt_iff_lt, h, if_true, Int.lt_add_one_iff]

/-- **the reading in nanoseconds**: for a well-formed `time.Time` (`nsec < 10^9`) validity is the strict
    comparison of `sec * 10^9 + nsec` with the certificate's times in nanoseconds -/
theorem validAt_ns (ch : Chain) (t : Time) (h : t.nsec < 1000000000) :
    ValidAt ch t ↔ ∀ c ∈ ch, c.notBefore * 1000000000 < t.sec * 1000000000 + t.nsec ∧
      t.sec * 1000000000 + t.nsec < c.notAfter * 1000000000 := by
  refine forall₂_congr fun c _ => ?_
  simp only [Time.lt, Time.ofSec]
  omega

/-! ### 1. no panic -/

/-- the Go `panic("valid && !wasValid …")` of `FilterByDate` is unreachable -/
theorem filterByDate_no_panic (chains : List Chain) (now : Time) : ∃ p, filterByDate chains now = .ok p :=
  ⟨_, filterByDate_eq chains now⟩

theorem assemble_no_panic (g : Graph) (c : Cert) (opts : Opts) (chains : List Chain) :
    ∃ r, assemble g c opts chains = .ok r :=
  ⟨_, assemble_eq g c opts chains⟩

theorem verify_no_panic (V : Ver) (g : Graph) (c : Cert) (opts : Opts) : ∃ r, verify V g c opts = .ok r :=
  assemble_no_panic g c opts _

/-! ### 2. current / expired / never partition the chains -/

/-- `FilterByDate` is exactly three order-preserving filters by the declarative predicates -/
theorem filterByDate_spec {chains : List Chain} {now : Time} {p : Parts} (h : filterByDate chains now = .ok p) :
    p.current = chains.filter (fun ch => decide (ch ≠ [] ∧ ValidAt ch now)) ∧
    p.expired = chains.filter (fun ch => decide (ch ≠ [] ∧ ¬ ValidAt ch now ∧ EverValid ch)) ∧
    p.never = chains.filter (fun ch => decide (ch ≠ [] ∧ ¬ EverValid ch)) := by
  cases (filterByDate_eq chains now).symm.trans h
  exact ⟨rfl, rfl, rfl⟩

theorem partition_classes {chains : List Chain} {now : Time} {p : Parts} (h : filterByDate chains now = .ok p) :
    (∀ ch ∈ p.current, ValidAt ch now) ∧
    (∀ ch ∈ p.expired, ¬ ValidAt ch now ∧ EverValid ch) ∧
    (∀ ch ∈ p.never, ¬ EverValid ch) := by
  obtain ⟨h1, h2, h3⟩ := filterByDate_spec h
  rw [h1, h2, h3]
  simp only [List.mem_filter, decide_eq_true_eq]
  exact ⟨fun _ h => h.2.2, fun _ h => h.2.2, fun _ h => h.2.2⟩

theorem partition_perm {chains : List Chain} {now : Time} {p : Parts} (h : filterByDate chains now = .ok p) :
    (p.current ++ p.expired ++ p.never).Perm (chains.filter (fun ch => !ch.isEmpty)) := by
  cases (filterByDate_eq chains now).symm.trans h
  exact currentOf_expiredOf_neverOf_perm chains now

/-- **current, expired and never-valid chains partition the chains the graph walk finds**
    (as multisets; inside each class the walk order is kept, `filterByDate_spec`) -/
theorem partition_of_walk {V : Ver} {g : Graph} {c : Cert} {opts : Opts} {r : Result}
    (h : verify V g c opts = .ok r) :
    (r.current ++ r.expiredChains ++ r.never).Perm (walkChains V g c) ∧
    (∀ ch ∈ r.current, ValidAt ch opts.now) ∧
    (∀ ch ∈ r.expiredChains, ¬ ValidAt ch opts.now ∧ EverValid ch) ∧
    (∀ ch ∈ r.never, ¬ EverValid ch) := by
  cases eq_of_assemble h
  have hp := currentOf_expiredOf_neverOf_perm (walkChains V g c) opts.now
  rw [filter_nonempty_walk] at hp
  exact ⟨hp, partition_classes (filterByDate_eq _ opts.now)⟩

/-! ### 3. valid-at-expiration chains -/

/-- **valid-at-expiration chains are the walked chains valid one second before the
    certificate's expiry**, with multiplicities -/
theorem valid_at_exp_perm {V : Ver} {g : Graph} {c : Cert} {opts : Opts} {r : Result}
    (h : verify V g c opts = .ok r) :
    r.validAtExpiration.Perm ((walkChains V g c).filter (fun ch => decide (ValidAt ch (Time.ofSec (c.notAfter - 1))))) := by
  cases eq_of_assemble h
  refine (atExpiry_perm _ opts.now _).trans (List.Perm.of_eq (List.filter_congr fun ch hch => ?_))
  exact decide_eq_decide.mpr (and_iff_right (walkChains_ne_nil V g c ch hch))

/-- … as a set -/
theorem valid_at_exp_def {V : Ver} {g : Graph} {c : Cert} {opts : Opts} {r : Result}
    (h : verify V g c opts = .ok r) (ch : Chain) :
    ch ∈ r.validAtExpiration ↔ ch ∈ walkChains V g c ∧ ValidAt ch (Time.ofSec (c.notAfter - 1)) :=
  (valid_at_exp_perm h).mem_iff.trans (List.mem_filter.trans (and_congr_right fun _ => decide_eq_true_iff))

/-! ### 4. parents -/

/-- **parents are the distinct second certificates of the relevant chains**: no fingerprint
    twice, every parent is the second certificate of a relevant chain, and every second
    certificate of a relevant chain is represented (by fingerprint) -/
theorem parents_def {V : Ver} {g : Graph} {c : Cert} {opts : Opts} {r : Result}
    (h : verify V g c opts = .ok r) :
    (r.parents.map (·.fp)).Nodup ∧
    (∀ p ∈ r.parents, ∃ ch ∈ relevant r, second ch = some p) ∧
    (∀ ch ∈ relevant r, ∀ q, second ch = some q → ∃ p ∈ r.parents, p.fp = q.fp) := by
  have hp : r.parents = parentsFromChains (relevant r) := by
    cases eq_of_assemble h
    exact (apply_ite parentsFromChains _ _ _).symm
  rw [hp]
  exact parentsFromChains_spec _

/-! ### 5. expired flag -/

/-- **the expired flag is set exactly when the verification time is outside the certificate's
    own (open) validity interval** -/
theorem expired_iff {V : Ver} {g : Graph} {c : Cert} {opts : Opts} {r : Result}
    (h : verify V g c opts = .ok r) :
    r.expired = true ↔ ¬ ((Time.ofSec c.notBefore).lt opts.now ∧ opts.now.lt (Time.ofSec c.notAfter)) := by
  cases eq_of_assemble h
  show (!timeInValidityPeriod c opts.now) = true ↔ _
  simp only [timeInValidityPeriod, Bool.not_eq_true', ← Bool.not_eq_true, Bool.and_eq_true,
    before_iff_lt, after_iff_lt]

/-! ### 6. certificate type -/

theorem isRoot_iff (g : Graph) (c : Cert) :
    isRoot g c = true ↔ ∃ e, findEdge g.edges c.fp = some e ∧ e.root = true := by
  unfold isRoot
  cases findEdge g.edges c.fp <;> simp

theorem type_rule {V : Ver} {g : Graph} {c : Cert} {opts : Opts} {r : Result}
    (h : verify V g c opts = .ok r) :
    (r.ctype = .root ↔ isRoot g c = true) ∧
    (r.ctype = .intermediate ↔ isRoot g c = false ∧ c.isCA = true ∧ r.parents ≠ []) ∧
    (r.ctype = .leaf ↔ isRoot g c = false ∧ c.isCA = false ∧ r.parents ≠ []) ∧
    (r.ctype = .unknown ↔ isRoot g c = false ∧ r.parents = []) := by
  cases eq_of_assemble h
  exact certType_rule g c _

/-! ### 7. name error -/

theorem name_rule {V : Ver} {g : Graph} {c : Cert} {opts : Opts} {r : Result}
    (h : verify V g c opts = .ok r) :
    (opts.name = .none → r.nameError = none) ∧
    (opts.name ≠ .none → r.nameError = some (!nameMatches c opts.name)) := by
  cases eq_of_assemble h
  unfold resultAt
  cases opts.name with
  | none => exact ⟨fun _ => rfl, fun hn => absurd rfl hn⟩
  | _ => exact ⟨nofun, fun _ => rfl⟩

/-! ### 8. revocation flag -/

/-- **the in-revocation-set flag is set exactly when the supplied OneCRL lists the certificate
    (by its subject + its own SubjectPublicKeyInfo bytes, or by issuer+serial) or the supplied CRLSet
    lists it under one of its parents (blocked SPKI or issuer-SPKI+serial, the parent's own bytes)** —
    a key id is an SPKI encoding, so this holds for every certificate, whatever encoding its key has
    (the old rule needed a canonically encoded key: `checkOld_eq_check` in section 12) -/
theorem revocation_flag_iff {V : Ver} {g : Graph} {c : Cert} {opts : Opts} {r : Result}
    (h : verify V g c opts = .ok r) :
    r.inRevocationSet = true ↔
      (∃ o, opts.oneCRL = some o ∧ ((c.subj, c.key) ∈ o.blocked ∨ (c.iss, c.serial) ∈ o.issuerSerial)) ∨
      (∃ s, opts.crlSet = some s ∧
        ∃ p ∈ r.parents, p.key ∈ s.blockedSPKIs ∨ (p.key, c.serial) ∈ s.issuerSerial) := by
  cases eq_of_assemble h
  exact revocationFlag_iff opts c _

/-! ### non-vacuity: concrete inputs meet the hypotheses

  A node `(1,1)` with three self-signed root certificates `R` (valid 0–100), `R2` (0–40), `R3`
  (60–100) and a leaf `L` (10–50, serial 7, SAN `h5.test`) issued by it: the walk from `L` finds
  one chain per root certificate; at time 45 they are current / expired / never-valid. -/
namespace Ex
def R : Cert := { fp := 1, subj := 1, key := 1, iss := 1, isCA := true, bcValid := true, notBefore := 0, notAfter := 100 }
def R2 : Cert := { fp := 3, subj := 1, key := 1, iss := 1, isCA := true, bcValid := true, notBefore := 0, notAfter := 40 }
def R3 : Cert := { fp := 4, subj := 1, key := 1, iss := 1, isCA := true, bcValid := true, notBefore := 60, notAfter := 100 }
def L : Cert := { fp := 2, subj := 2, key := 2, iss := 1, notBefore := 10, notAfter := 50, serial := 7, dns := 5 }
def V : Ver := fun k _ => k == (1, 1)
def G : Graph :=
  { nodes := [{ key := (1, 1), children := [((1, 1), [1, 3, 4]), ((2, 2), [2])], parents := [((1, 1), [1, 3, 4])] },
              { key := (2, 2), children := [], parents := [((1, 1), [2])] }],
    edges := [{ cert := R, issuer := some (1, 1), child := (1, 1), root := true },
              { cert := R2, issuer := some (1, 1), child := (1, 1), root := true },
              { cert := R3, issuer := some (1, 1), child := (1, 1), root := true },
              { cert := L, issuer := some (1, 1), child := (2, 2), root := false }],
    missing := [] }
/-- in validity, name `h5.test`, a OneCRL that lists (issuer 1, serial 7) -/
def o1 : Opts := { time := Time.ofSec 45, name := .exact 5, oneCRL := some { issuerSerial := [(1, 7)], blocked := [] }, crlSet := none }
/-- after expiry, no name, a CRLSet that blocks the SPKI of the parent -/
def o2 : Opts := { time := Time.ofSec 70, name := .none, oneCRL := none, crlSet := some { issuerSerial := [], blockedSPKIs := [1] } }
end Ex
open Ex

/-- the example graph is a reachable graph state -/
example : run V Graph.empty [.root R, .root R2, .root R3, .add L] = .ok G := by decide +kernel

example : walkChains V G L = [[L, R], [L, R2], [L, R3]] := by decide +kernel

/-- `filterByDate … = .ok p` (hypothesis of `filterByDate_spec`, `partition_classes`, `partition_perm`),
    with an empty chain that is skipped -/
example : filterByDate [[L, R], [], [L, R2], [L, R3], [L]] (Time.ofSec 45) =
    .ok { current := [[L, R], [L]], expired := [[L, R2]], never := [[L, R3]] } := by decide +kernel

/-- `assemble` on chains that are not a walk (an empty chain is skipped); the OneCRL lists the certificate -/
example : assemble Graph.empty L o1 [[L, R], [], [L, R2], [L, R3], [L]] =
    .ok { expired := false, current := [[L, R], [L]], expiredChains := [[L, R2]], never := [[L, R3]],
          validAtExpiration := [[L, R], [L]], parents := [R], nameError := some false,
          inRevocationSet := true, ctype := .leaf, parentSK := some (1, 1) } := by decide +kernel

/-- `verify … = .ok r` (hypothesis of theorems 2–8): in validity, listed by the OneCRL -/
example : verify V G L o1 =
    .ok { expired := false, current := [[L, R]], expiredChains := [[L, R2]], never := [[L, R3]],
          validAtExpiration := [[L, R]], parents := [R], nameError := some false,
          inRevocationSet := true, ctype := .leaf, parentSK := some (1, 1) } := by decide +kernel

/-- … and expired at the verification time: parents come from the chains valid at expiry,
    the CRLSet blocks the parent's SPKI -/
example : verify V G L o2 =
    .ok { expired := true, current := [], expiredChains := [[L, R], [L, R2]], never := [[L, R3]],
          validAtExpiration := [[L, R]], parents := [R], nameError := none,
          inRevocationSet := true, ctype := .leaf, parentSK := some (1, 1) } := by decide +kernel

/-- not listed: the flag is false -/
example : (verify V G L { o1 with oneCRL := some { issuerSerial := [(1, 8)], blocked := [(2, 3)] } }).map
    (·.inRevocationSet) = .ok false := by decide +kernel

/-- a root certificate gets type `root` -/
example : (verify V G R o1).map (·.ctype) = .ok .root ∧ isRoot G R = true := ⟨rfl, rfl⟩

example : ValidAt [L, R] (Time.ofSec 45) ∧ ¬ ValidAt [L, R2] (Time.ofSec 45) ∧ EverValid [L, R2] ∧
    ¬ EverValid [L, R3] := by decide +kernel


/-! ### 9. the parents all sit on the issuer node of the start edge (needs the graph invariant of C10) -/

/-- the chains the parents are taken from are walked chains -/
theorem relevant_sub_walk {V : Ver} {g : Graph} {c : Cert} {opts : Opts} {r : Result}
    (h : verify V g c opts = .ok r) : ∀ ch ∈ relevant r, ch ∈ walkChains V g c := by
  intro ch hch
  unfold relevant at hch
  split at hch
  · exact ((valid_at_exp_def h ch).mp hch).1
  · exact (partition_of_walk h).1.mem_iff.mp (List.mem_append_left _ (List.mem_append_left _ hch))

/-- "All parents should have the same (SPKI, Subject) fingerprint": every parent's (subject, key) is the
    issuer node of the start edge, so `ParentSPKISubjectFingerprint` does not depend on which parent
    the Go map iteration happens to put first. -/
theorem parents_same_node {V : Ver} {g : Graph} {c : Cert} {opts : Opts} {r : Result} (wf : WF V g)
    (h : verify V g c opts = .ok r) :
    ∀ p ∈ r.parents, (startEdge V g c).issuer = some p.sk := by
  intro p hp
  obtain ⟨ch, hch, hsec⟩ := (parents_def h).2.1 p hp
  obtain ⟨_ | ⟨e, rest⟩, hv, rfl⟩ := walk_sound wf (relevant_sub_walk h ch hch)
  · cases hsec
  · cases hsec
    -- the second certificate is on an edge `e` whose child node is the issuer of the start edge
    obtain ⟨_, _, he, ⟨k, hk, hck⟩, _⟩ := hv
    rw [hk, ← hck, (wf.child e he).1]

theorem parentSK_def {V : Ver} {g : Graph} {c : Cert} {opts : Opts} {r : Result} (wf : WF V g)
    (h : verify V g c opts = .ok r) :
    r.parentSK = if r.parents = [] then none else (startEdge V g c).issuer := by
  have hps := parents_same_node wf h
  have hsk : r.parentSK = r.parents.head?.map (·.sk) := by
    cases eq_of_assemble h
    rfl
  rw [hsk]
  generalize r.parents = ps at hps ⊢
  cases ps with
  | nil => rfl
  | cons p t => exact ((if_neg (List.cons_ne_nil p t)).trans (hps p List.mem_cons_self)).symm


/-- for every graph built by `AddCert` / `AddRoot` -/
theorem parents_same_node_reachable (V : Ver) (ops : List Op) {g : Graph} (hr : run V Graph.empty ops = .ok g)
    {c : Cert} {opts : Opts} {r : Result} (h : verify V g c opts = .ok r) :
    ∀ p ∈ r.parents, (startEdge V g c).issuer = some p.sk :=
  parents_same_node (inv_of_run hr).wf h

/-- the hypotheses of `parents_same_node_reachable` hold for the example graph -/
example : ∀ p ∈ [Ex.R], (startEdge Ex.V Ex.G Ex.L).issuer = some p.sk :=
  parents_same_node_reachable Ex.V [.root Ex.R, .root Ex.R2, .root Ex.R3, .add Ex.L] (g := Ex.G) (by decide +kernel)
    (c := Ex.L) (opts := Ex.o2)
    (r := { expired := true, current := [], expiredChains := [[L, R], [L, R2]], never := [[L, R3]],
            validAtExpiration := [[L, R]], parents := [R], nameError := none,
            inRevocationSet := true, ctype := .leaf, parentSK := some (1, 1) }) (by decide +kernel)


/-! ### 10. the verification time in force: zero `VerifyTime`, the clock -/

/-- `IsZero()` holds for exactly one instant (January 1, year 1, 00:00:00.000000000 UTC) — also when it
    was built with `time.Unix`, not only for `time.Time{}` -/
theorem isZero_iff (t : Time) : t.isZero = true ↔ t = { sec := zeroSec, nsec := 0 } := by
  cases t with
  | mk s n => simp only [Time.isZero, Bool.and_eq_true, decide_eq_true_eq, Time.mk.injEq]

/-- a non-zero `VerifyTime` is used as it is -/
theorem now_of_nonzero {opts : Opts} (h : opts.time.isZero = false) : opts.now = opts.time := by
  rw [Opts.now, h]
  rfl

/-- a zero `VerifyTime` is replaced by the clock reading -/
theorem now_of_zero {opts : Opts} (h : opts.time.isZero = true) : opts.now = opts.clock :=
  if_pos h

/-- **the clock is consulted only for a zero `VerifyTime`**: with any other `VerifyTime` the whole result
    is the same whatever `time.Now()` returns -/
theorem clock_irrelevant (V : Ver) (g : Graph) (c : Cert) (opts : Opts) (clk : Time)
    (h : opts.time.isZero = false) :
    verify V g c { opts with clock := clk } = verify V g c opts := by
  unfold verify
  rw [assemble_eq, assemble_eq, now_of_nonzero h, now_of_nonzero (opts := { opts with clock := clk }) h]
  rfl

/-- **a zero `VerifyTime` means "now"**: the result is the one for `VerifyTime = clock reading` -/
theorem zero_time_is_clock (V : Ver) (g : Graph) (c : Cert) (opts : Opts)
    (hz : opts.time.isZero = true) (hc : opts.clock.isZero = false) :
    verify V g c opts = verify V g c { opts with time := opts.clock } := by
  unfold verify
  rw [assemble_eq, assemble_eq, now_of_zero hz, now_of_nonzero (opts := { opts with time := opts.clock }) hc]
  rfl

/-- every theorem above speaks about `opts.now`; with a zero `VerifyTime` that is the clock: e.g. the
    expired flag is decided by the clock reading -/
theorem expired_zero_time {V : Ver} {g : Graph} {c : Cert} {opts : Opts} {r : Result}
    (h : verify V g c opts = .ok r) (hz : opts.time.isZero = true) :
    r.expired = true ↔ ¬ ((Time.ofSec c.notBefore).lt opts.clock ∧ opts.clock.lt (Time.ofSec c.notAfter)) := by
  rw [expired_iff h, now_of_zero hz]

/-! ### 11. the revocation switches and the provider's answers -/

/-- **which check runs for which flag**: `CheckOCSP` is called (once) exactly when `ShouldCheckOCSP` is
    set and the certificate has an OCSP URL; it is handed the first parent, or nil when there are no
    parents; the three OCSP fields of the result are the provider's three return values unchanged
    (also `isRevoked = true` together with an error, or an error together with revocation info), and
    keep their zero values when the check does not run. -/
theorem ocsp_switch {V : Ver} {g : Graph} {c : Cert} {opts : Opts} {r : Result}
    (h : verify V g c opts = .ok r) :
    (r.ocspCall ≠ none ↔ opts.shouldOCSP = true ∧ 0 < opts.nOCSP) ∧
    (∀ i, r.ocspCall = some i → (i = none ↔ r.parents = []) ∧ ∀ p, i = some p → p ∈ r.parents) ∧
    (r.ocspCall = none → r.ocsp = ProvAns.zero) ∧
    (r.ocspCall ≠ none → ∀ p, opts.provider = some p → r.ocsp = p.ocsp) ∧
    (r.ocspCall ≠ none → opts.provider = none → r.ocsp = ProvAns.offline) := by
  have hr : r.ocspCall = (if ocspDue opts then some r.parents.head? else none) ∧
      r.ocsp = if ocspDue opts then (providerOf opts).ocsp else ProvAns.zero := by
    cases eq_of_assemble h
    exact ⟨rfl, rfl⟩
  have hd : ocspDue opts = true ↔ opts.shouldOCSP = true ∧ 0 < opts.nOCSP := by
    simp only [ocspDue, Bool.and_eq_true, decide_eq_true_eq, gt_iff_lt]
  rw [hr.1, hr.2, ← hd]
  cases ocspDue opts
  · simp
  · simpa +contextual [providerOf, List.head?_eq_none_iff] using fun p => List.mem_of_mem_head?

/-- `CheckCRL` is called (with a nil list) exactly when `ShouldCheckCRL` is set and the certificate has a
    CRL distribution point; its three return values are copied unchanged -/
theorem crl_switch {V : Ver} {g : Graph} {c : Cert} {opts : Opts} {r : Result}
    (h : verify V g c opts = .ok r) :
    (r.crlCall = true ↔ opts.shouldCRL = true ∧ 0 < opts.nCDP) ∧
    (r.crlCall = false → r.crl = ProvAns.zero) ∧
    (r.crlCall = true → ∀ p, opts.provider = some p → r.crl = p.crl) ∧
    (r.crlCall = true → opts.provider = none → r.crl = ProvAns.offline) := by
  cases eq_of_assemble h
  refine ⟨?_, fun hh => if_neg (Bool.eq_false_iff.mp hh), fun hh p hp => ?_, fun hh hp => ?_⟩
  · simp only [resultAt, crlDue, Bool.and_eq_true, decide_eq_true_eq, gt_iff_lt]
  · exact (if_pos hh).trans (by rw [providerOf, hp])
  · exact (if_pos hh).trans (by rw [providerOf, hp])

/-- the result without the six OCSP / CRL fields -/
def Result.core (r : Result) : Result :=
  { r with ocspCall := none, ocsp := ProvAns.zero, crlCall := false, crl := ProvAns.zero }

/-- **what an error / unknown / revoked answer of a provider does to the verdict: nothing.**  The chains,
    parents, expired flag, type, name error and in-revocation-set flag are the same for every setting of
    the two switches, every provider (or none), every answer and every number of URLs. -/
theorem provider_frame (V : Ver) (g : Graph) (c : Cert) (opts : Opts) (so sc : Bool) (p : Option Provider)
    (no nc : Nat) :
    (verify V g c { opts with shouldOCSP := so, shouldCRL := sc, provider := p, nOCSP := no, nCDP := nc }).map
      Result.core = (verify V g c opts).map Result.core := by
  unfold verify
  rw [assemble_eq, assemble_eq]
  rfl

/-! ### 12. the two encodings of one key

  Before the fix 8a7eec0 `OneCRL.Check` hashed `MarshalPKIXPublicKey(cert.PublicKey)` instead of the
  certificate's own SubjectPublicKeyInfo bytes (finding F-C12-onecrl-remarshalled-key).  The old rule is
  kept here as `OneCRL.checkOld` (a specification of the code before that commit; no T2 stream ties it to the Go code) with the
  theorems that made it a defect; the repaired rule is `OneCRL.check` of the model. -/

/-- the key id whose SubjectPublicKeyInfo bytes are `MarshalPKIXPublicKey(cert.PublicKey)`: ids
    `100+2j+1` (RSA key j, algorithm parameters absent) re-marshal to the bytes of id `100+2j` -/
def canonKey (k : Nat) : Nat := if k ≥ 100 ∧ (k - 100) % 2 = 1 then k - 1 else k

/-- `OneCRL.Check(cert) != nil` as it was before 8a7eec0 -/
def OneCRL.checkOld (o : OneCRL) (c : Cert) : Bool :=
  o.blocked.any (fun b => b.1 == c.subj && b.2 == canonKey c.key) ||
  o.issuerSerial.any (fun e => e.1 == c.iss && e.2 == c.serial)

theorem canonKey_idem (k : Nat) : canonKey (canonKey k) = canonKey k := by
  by_cases h : k ≥ 100 ∧ (k - 100) % 2 = 1
  · rw [show canonKey k = k - 1 from if_pos h]
    refine if_neg fun h' => ?_
    -- `k - 100` is odd, so `k - 1 - 100 = (k - 100) - 1` is even
    have hm := Nat.div_add_mod (k - 100) 2
    rw [h.2] at hm
    rw [Nat.sub_right_comm, ← hm, Nat.add_sub_cancel, Nat.mul_mod_right] at h'
    exact nomatch h'.2
  · rw [show canonKey k = k from if_neg h]
    exact if_neg h

/-- ids below 100 (ECDSA keys, one encoding) and even ids from 100 are canonical; `100+2j+1` is `100+2j` -/
theorem canonKey_values (j : Nat) :
    canonKey (100 + 2 * j + 1) = 100 + 2 * j ∧ canonKey (100 + 2 * j) = 100 + 2 * j ∧
    (j < 100 → canonKey j = j) := by
  refine ⟨if_pos ?_, if_neg ?_, fun h => if_neg fun h' => Nat.not_le_of_gt h h'.1⟩
  · rw [Nat.add_assoc, Nat.add_sub_cancel_left, Nat.mul_add_mod]
    exact ⟨Nat.le_add_right _ _, rfl⟩
  · rw [Nat.add_sub_cancel_left, Nat.mul_mod_right]
    exact fun h => nomatch h.2

/-- **the repaired rule is exact**: a single `Blocked` entry (s, k) flags precisely the certificates with
    subject `s` whose own SubjectPublicKeyInfo is `k` — twins are told apart -/
theorem oneCRL_entry_exact (s k : Nat) (c : Cert) :
    ({ issuerSerial := [], blocked := [(s, k)] } : OneCRL).check c = true ↔ c.subj = s ∧ c.key = k := by
  simp only [OneCRL.check, List.any_cons, List.any_nil, Bool.or_false, Bool.and_eq_true, beq_iff_eq]
  exact and_congr eq_comm eq_comm

/-- old and repaired rule agree on every certificate that carries its key in the canonical encoding -/
theorem checkOld_eq_check (o : OneCRL) (c : Cert) (hk : canonKey c.key = c.key) : o.checkOld c = o.check c := by
  simp only [OneCRL.checkOld, OneCRL.check, hk]

/-- (old rule) OneCRL could not tell two certificates apart that differ only in the encoding of their key -/
theorem oneCRL_twins_old (o : OneCRL) (c c' : Cert) (hs : c.subj = c'.subj) (hk : canonKey c.key = canonKey c'.key)
    (hi : c.iss = c'.iss) (hn : c.serial = c'.serial) : o.checkOld c = o.checkOld c' := by
  simp only [OneCRL.checkOld, hs, hk, hi, hn]

/-- (old rule) a `Blocked` entry computed from a non-canonical SubjectPublicKeyInfo never matched any
    certificate — in particular not the certificate it was computed from -/
theorem oneCRL_alt_entry_dead_old (s k : Nat) (hk : canonKey k ≠ k) (c : Cert) :
    ({ issuerSerial := [], blocked := [(s, k)] } : OneCRL).checkOld c = false := by
  -- `o.checkOld c` is `o.check` of `c` with its key made canonical: a matching entry has a canonical key
  refine Bool.eq_false_iff.mpr fun h => hk ?_
  rw [← ((oneCRL_entry_exact s k { c with key := canonKey c.key }).mp h).2]
  exact canonKey_idem c.key

namespace Ex
/-- `L` with its RSA key in the encoding without NULL parameters -/
def La : Cert := { L with key := 101 }
def oOwn : Opts := { o1 with oneCRL := some { issuerSerial := [], blocked := [(2, 101)] } }
def oCanon : Opts := { o1 with oneCRL := some { issuerSerial := [], blocked := [(2, 100)] } }
/-- sub-second instants around `L`'s NotAfter = 50 -/
def tBefore : Time := { sec := 49, nsec := 999999999 }
def stubP : Provider :=
  { ocsp := { revoked := true, info := none, err := true }, crl := { revoked := false, info := some 3, err := false } }
def oStub : Opts := { o1 with shouldOCSP := true, shouldCRL := true, nOCSP := 1, nCDP := 2, provider := some stubP }
end Ex

/-- the twin case on the repaired code: the OneCRL holds (subject of `La`, SHA-256 of `La`'s own
    SubjectPublicKeyInfo) and the flag is set … -/
example : (verify Ex.V Ex.G Ex.La Ex.oOwn).map (·.inRevocationSet) = .ok true := by decide +kernel
/-- … an entry with the hash of the OTHER encoding of the key does not list `La` and does not set it -/
example : (verify Ex.V Ex.G Ex.La Ex.oCanon).map (·.inRevocationSet) = .ok false := by decide +kernel
/-- **the former finding** (counter-example to "set exactly when the supplied OneCRL lists the certificate"
    under the old rule): own-encoding entry missed, other-encoding entry hit -/
example : (OneCRL.mk [] [(2, 101)]).checkOld Ex.La = false ∧ (OneCRL.mk [] [(2, 100)]).checkOld Ex.La = true := by
  decide
/-- hypotheses of `checkOld_eq_check` / `oneCRL_alt_entry_dead_old` / `oneCRL_twins_old` -/
example : canonKey Ex.La.key ≠ Ex.La.key ∧ canonKey Ex.L.key = Ex.L.key ∧
    canonKey Ex.La.key = canonKey ({ Ex.La with key := 100 } : Cert).key := by decide +kernel

/-- hypotheses of `clock_irrelevant` / `zero_time_is_clock` / `expired_zero_time` -/
example : Ex.o1.time.isZero = false ∧
    ({ Ex.o1 with time := { sec := zeroSec, nsec := 0 }, clock := Time.ofSec 45 } : Opts).time.isZero = true ∧
    (Time.ofSec 45).isZero = false := ⟨rfl, rfl, rfl⟩
/-- with `VerifyTime` zero and the clock at 45 the result is that of `VerifyTime = 45` -/
example : verify Ex.V Ex.G Ex.L { Ex.o1 with time := { sec := zeroSec, nsec := 0 }, clock := Time.ofSec 45 } =
    verify Ex.V Ex.G Ex.L Ex.o1 := by decide +kernel
/-- 1 ns before NotAfter the certificate is still valid, at NotAfter it is not (`validAt_subsec`, `validAt_wholeSec`) -/
example : 0 < Ex.tBefore.nsec ∧ Ex.tBefore.nsec < 1000000000 ∧ ValidAt [Ex.L, Ex.R] Ex.tBefore ∧
    ¬ ValidAt [Ex.L, Ex.R] (Time.ofSec 50) := by decide +kernel
/-- hypothesis of `ocsp_switch` / `crl_switch`: both checks run, the answers are copied (revoked with an error too) -/
example : (verify Ex.V Ex.G Ex.L Ex.oStub).map (fun r => (r.ocspCall, r.ocsp, r.crlCall, r.crl)) =
    .ok (some (some Ex.R), { revoked := true, info := none, err := true }, true,
         { revoked := false, info := some 3, err := false }) := by decide +kernel


/-! ### 13. T1: constants and tables taken from the source tree on every run (`ZV.Generated.C12`) -/

/-- the model's `c.notAfter - 1` is the source's `c.NotAfter.Add(-time.Second)`: the duration expression in
    verifier/verifier.go evaluates to minus one second -/
theorem expiration_offset : Gen.expirationOffsetNs = -1 * Gen.nsPerSec := rfl

/-- the model's `zeroSec` is `time.Time{}.Unix()` relative to the harness epoch -/
theorem zeroSec_def : zeroSec = Gen.zeroUnix - Gen.harnessEpoch := rfl

/-- `IsZero()` holds for `time.Unix(zeroUnix, 0)` but not 1 ns or 1 s later, as `Time.isZero` says -/
theorem zero_probe :
    Gen.zeroProbe = [Time.isZero { sec := zeroSec, nsec := 0 }, Time.isZero { sec := zeroSec, nsec := 1 },
      Time.isZero { sec := zeroSec + 1, nsec := 0 }] := rfl

/-- the four certificate types have distinct values and distinct JSON names, the zero value is "unknown", and the
    names are the ones the driver prints -/
theorem certificateTypes_table :
    (Gen.certificateTypes.map (·.1)).Nodup ∧ (Gen.certificateTypes.map (·.2)).Nodup ∧
    Gen.certificateTypes.head? = some (0, "unknown") ∧
    Gen.certificateTypes.map (·.2) = ["unknown", "leaf", "intermediate", "root"] := ⟨by decide +kernel, by decide +kernel, rfl, rfl⟩

end ZV.C12
