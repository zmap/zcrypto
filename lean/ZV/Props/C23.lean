import ZV.Model.C23
import ZV.Proofs.C23
import ZV.Proofs.C23Bytes
import ZV.Proofs.C23Hash
import ZV.Proofs.C23Pss
import ZV.Proofs.C23Sign
import ZV.Proofs.C23Oaep
import ZV.Proofs.C23Key
import ZV.Proofs.C23Enc
/-!
  C23 — the RSA fork computes what standard RSA computes.

  * `crt_eq_plain`: for every key that satisfies what `PrivateKey.Validate` checks and carries the values
    `Precompute` derives, the CRT branch of `decrypt` (Garner recombination with the sign fix-up) returns
    exactly `c^d mod n` — for every `c`, so the two branches of `decrypt` are interchangeable.
  * `decrypt_encrypt` / `encrypt_decrypt`: textbook RSA correctness for any number of distinct primes,
    hence `check_redundant`: the re-encryption check of `decrypt` never fires on a valid key.
  * `pkcs1_verify_iff`, `pkcs1_verify_numeric`, `pkcs1_unique`, `pkcs1_digest_binding`:
    the decision logic of `VerifyPKCS1v15`, for all inputs.
  * `malformed_pub_is_error`: no public operation succeeds or panics on a malformed public key.
  * `stripTo_zeros`, `stripTo_nonzero_head`, `verifyPSS_leading_octet`: `VerifyPSS` drops octets of `s^e mod n` above
    the `emLen = ⌈(modBits-1)/8⌉` octets of the encoded message only if they are zero (moduli of 8k+1 bits).
  * `pss_encode_ok_iff`, `pss_verify_encode`: for every hash whose output has `outSize > 0` octets (`HashOk`; proved for
    MD5 … SHA-512 from the definitions), every digest, salt and `emBits` with `emLen ≥ hLen + sLen + 2`, `emsaPSSVerify`
    accepts what `emsaPSSEncode` builds — explicit salt length, auto (0) and equals-hash (-1).
  * `pss_verify_iff`, `verifyPSS_iff`, `verifyPSS_never_panics`: `emsaPSSVerify` accepts EXACTLY the outputs of
    `emsaPSSEncode` (some salt the option allows); decision logic of `VerifyPSS` for all inputs; it never panics.
  * `pkcs1_sign_verify`, `pkcs1_verify_iff_sign`: on a valid key `SignPKCS1v15` succeeds whenever the encoded message can
    be built, `VerifyPKCS1v15` accepts its output, and accepts nothing else.
  * `pss_sign_verify`, `pss_verify_of_sign`: the same for `signPSSWithSalt` / `SignPSS` and `VerifyPSS` (all salt modes).
  * `oaep_unpad_pad`, `oaep_decrypt_encrypt`: EME-OAEP padding round trip for every seed of `hLen` octets, composed with
    RSA: `decryptOAEP (EncryptOAEP m) = m` for every message within the length bound.
  * `oaep_unpad_iff`, `oaep_decrypt_iff`: the unpadding accepts EXACTLY the paddings; on a valid key `decryptOAEP` returns
    `msg` exactly for the (zero-extended) `EncryptOAEP` outputs of `msg`.
  * `pkcs1_decrypt_of_encrypt`, `pkcs1_decrypt_encrypt`: EME-PKCS1-v1_5 round trip (zero-free padding string of ≥ 8 octets,
    separator scan), for every random stream including the zero re-draws; `pkcs1_decrypt_iff`: decision logic of
    `DecryptPKCS1v15` on a valid key for all ciphertexts.
  * `decrypt_total`, `decryptPKCS1v15_never_panics`, `decryptOAEP_never_panics`: on a valid key the private operations
    return an error or a result, never the out-of-range panics the model makes explicit.
  * `hashPrefixes_wellformed` (T1): every row of the generated DigestInfo table is a DER header whose
    length bytes agree with the digest size `crypto.Hash.Size()` reports.
  * `verifyPSSOpts_ignores_hash`, `signPSSOpts_override` / `_unset`, `pss_opts_sign_verify`, `privDecrypt_sessionKeyLen` /
    `_plain` / `_oaep_mgf_default`, `decryptPKCS1v15_core`, `decryptSessionKey_length` / `_content` / `_total`: the options
    structs (`PSSOptions`, `OAEPOptions`, `PKCS1v15DecryptOptions`) and `DecryptPKCS1v15SessionKey`.
  * `encryptOAEPSt_result` / `_clean`, `decryptOAEPSt_label`, `step_clean`, `states_clean`, `step_decOAEP_clean`: the
    caller-owned `hash.Hash` and `io.Reader` as explicit state — a library call that finds the hash reset leaves it reset,
    so in a sequence of calls every `DecryptOAEP` / `EncryptOAEP` returns what the stateless function returns.
-/
namespace ZV.C23
open ZV ZV.Hash

/-- FLAGSHIP.  Whatever branch `decrypt` takes (CRT with precomputed values for two primes, or plain),
    the value it computes is `c^d mod n`. -/
theorem crt_eq_plain {k : Priv} (h : KeyOk k) (c : Nat) : decryptCore k c = c ^ k.d % k.n :=
  h.decryptCore_eq c

/-- decrypting an encrypted message gives the message back (two- or multi-prime, either branch). -/
theorem decrypt_encrypt {k : Priv} (h : KeyOk k) (m : Nat) (hm : m < k.n) :
    decryptCore k (modPow m k.e k.n) = m := by
  rw [crt_eq_plain h, modPow_eq, h.n_eq]
  exact rsa_roundtrip k.primes k.e k.d h.primes_prime h.nodup h.ed m (h.n_eq ▸ hm)

/-- the public operation undoes the private one (sign, then verify). -/
theorem encrypt_decrypt {k : Priv} (h : KeyOk k) (c : Nat) (hc : c < k.n) :
    modPow (decryptCore k c) k.e k.n = c := by
  rw [crt_eq_plain h, modPow_eq, ← Nat.pow_mod, ← pow_mul, Nat.mul_comm, h.pow_ed hc]

/-- on a valid key the fault check of `decrypt` (re-encrypt and compare) never rejects. -/
theorem check_redundant {k : Priv} (h : KeyOk k) (ct : Bytes) :
    decrypt k ct true = decrypt k ct false := by
  rw [h.decrypt_eq, h.decrypt_eq]

/-- x ↦ x^e mod n is injective on [0, n) for a valid key -/
theorem rsa_injective {k : Priv} (h : KeyOk k) (a b : Nat) (ha : a < k.n) (hb : b < k.n)
    (hab : a ^ k.e % k.n = b ^ k.e % k.n) : a = b := by
  have h1 := decrypt_encrypt h a ha
  have h2 := decrypt_encrypt h b hb
  rw [modPow_eq] at h1 h2
  rw [← h1, ← h2, hab]

theorem pkcs1_verify_iff (pub : Pub) (h : Nat) (dg sig : Bytes) :
    verifyPKCS1v15 pub h dg sig = .ok () ↔
      ∃ n e em, checkPub pub = .ok (n, e) ∧ sig.length = sizeBytes n ∧ os2ip sig < n ∧
        constructEM (sizeBytes n) h dg = .ok em ∧
        natToBytesBE (sizeBytes n) (os2ip sig ^ e % n) = em := by
  constructor
  · intro hv
    cases hc : checkPub pub with
    | ok ne =>
      obtain ⟨h1, em, h2, h3⟩ := (verifyPKCS1v15_ok_iff hc h dg sig).1 hv
      rw [encrypt_eq] at h3
      obtain ⟨h4, h5⟩ := accept_eq_ok.1 h3
      exact ⟨_, _, em, rfl, h1, h4, h2, h5⟩
    | _ => rw [verifyPKCS1v15, hc] at hv; contradiction
  · rintro ⟨n, e, em, hc, h1, h2, h3, h4⟩
    exact (verifyPKCS1v15_ok_iff hc h dg sig).2 ⟨h1, em, h3, by rw [encrypt_eq, if_pos h2, h4]⟩

/-- numeric reading: an accepted signature is an e-th root of the encoded message modulo n. -/
theorem pkcs1_verify_numeric {pub : Pub} {h : Nat} {dg sig : Bytes}
    (hv : verifyPKCS1v15 pub h dg sig = .ok ()) :
    ∃ n e em, checkPub pub = .ok (n, e) ∧ constructEM (sizeBytes n) h dg = .ok em ∧
      os2ip sig ^ e % n = os2ip em := by
  obtain ⟨n, e, em, hc, _, hlt, hem, hb⟩ := (pkcs1_verify_iff pub h dg sig).1 hv
  refine ⟨n, e, em, hc, hem, ?_⟩
  rw [← hb, os2ip_natToBytesBE_of_lt (mod_lt_pow_sizeBytes _ (Nat.zero_lt_of_lt hlt))]

/-- injectivity of the public operation on [0,n) (what `rsa_injective` proves for valid keys) -/
def RsaInj (n e : Nat) : Prop := ∀ a b, a < n → b < n → a ^ e % n = b ^ e % n → a = b

/-- under an injective public operation there is at most ONE accepted signature per (key, hash, digest):
    any accepted signature is the genuine one, byte for byte. -/
theorem pkcs1_unique {pub : Pub} {h : Nat} {dg s₁ s₂ : Bytes} {n e : Nat}
    (hpub : checkPub pub = .ok (n, e)) (hinj : RsaInj n e)
    (h1 : verifyPKCS1v15 pub h dg s₁ = .ok ()) (h2 : verifyPKCS1v15 pub h dg s₂ = .ok ()) : s₁ = s₂ := by
  obtain ⟨hl1, em, hem, he1⟩ := (verifyPKCS1v15_ok_iff hpub h dg s₁).1 h1
  obtain ⟨hl2, em', hem', he2⟩ := (verifyPKCS1v15_ok_iff hpub h dg s₂).1 h2
  cases hem.symm.trans hem'
  obtain ⟨hlt1, _, hv1⟩ := encrypt_ok_iff.1 he1
  obtain ⟨hlt2, _, hv2⟩ := encrypt_ok_iff.1 he2
  exact be256_inj s₁ s₂ (hl1.trans hl2.symm) (hinj _ _ hlt1 hlt2 (hv1.symm.trans hv2))

/-- the encoded message determines the digest (same hash id, digests of the same length) -/
theorem constructEM_inj {k h : Nat} {d₁ d₂ em : Bytes} (hlen : d₁.length = d₂.length)
    (h1 : constructEM k h d₁ = .ok em) (h2 : constructEM k h d₂ = .ok em) : d₁ = d₂ := by
  obtain ⟨p, hp, _, rfl⟩ := constructEM_ok_iff.1 h1
  obtain ⟨p', hp', _, he⟩ := constructEM_ok_iff.1 h2
  cases (hlen ▸ hp).symm.trans hp'
  rw [hlen] at he
  simpa using he

/-- so a signature accepted for two digests forces the digests to be equal: changing the signed digest is always
    detected. -/
theorem pkcs1_digest_binding {pub : Pub} {h : Nat} {d₁ d₂ sig : Bytes} (hlen : d₁.length = d₂.length)
    (h1 : verifyPKCS1v15 pub h d₁ sig = .ok ()) (h2 : verifyPKCS1v15 pub h d₂ sig = .ok ()) : d₁ = d₂ := by
  obtain ⟨n, e, em, hc, _, hlt, hem1, hb⟩ := (pkcs1_verify_iff pub h d₁ sig).1 h1
  obtain ⟨_, em', hem2, henc⟩ := (verifyPKCS1v15_ok_iff hc h d₂ sig).1 h2
  rw [encrypt_eq, if_pos hlt, hb] at henc
  cases henc
  exact constructEM_inj hlen hem1 hem2

def Malformed (p : Pub) : Prop :=
  p.n = none ∨ (∃ n, p.n = some n ∧ n ≤ 0) ∨ p.e = none ∨ (∃ e, p.e = some e ∧ e < 2)

theorem checkPub_malformed {p : Pub} (h : Malformed p) : checkPub p = .err := by
  unfold checkPub
  rcases h with h | ⟨n, hn, hle⟩ | h | ⟨e, he, hlt⟩
  · rw [h]
  · rw [hn]; simp [hle]
  · cases hn : p.n with
    | none => rfl
    | some n => by_cases hle : n ≤ 0 <;> simp [hle, h]
  · cases hn : p.n with
    | none => rfl
    | some n => by_cases hle : n ≤ 0 <;> simp [hle, he, hlt]

/-- every public operation returns an error (never succeeds, never panics) on a malformed public key:
    N missing / zero / negative, E missing / below 2. -/
theorem malformed_pub_is_error {p : Pub} (h : Malformed p) :
    (∀ hash dg sig, verifyPKCS1v15 p hash dg sig = .err) ∧
    (∀ ha dg sig sl, verifyPSS p ha dg sig sl = .err) ∧
    (∀ rnd msg, encryptPKCS1v15 p rnd msg = .err) ∧
    (∀ ha rnd msg label, encryptOAEP ha p rnd msg label = .err) := by
  have hc := checkPub_malformed h
  refine ⟨?_, ?_, ?_, ?_⟩
  · intro hash dg sig; unfold verifyPKCS1v15; rw [hc]
  · intro ha dg sig sl; unfold verifyPSS; rw [hc]
  · intro rnd msg; unfold encryptPKCS1v15; rw [hc]
  · intro ha rnd msg label; unfold encryptOAEP; rw [hc]

/-- conversely `checkPub` accepts every key with N ≥ 1 and E ≥ 2 (no upper bound on E in the fork). -/
theorem checkPub_ok {n e : Int} (hn : 0 < n) (he : 2 ≤ e) : checkPub ⟨some n, some e⟩ = .ok (n.toNat, e.toNat) :=
  checkPub_some hn he

/-- a DigestInfo prefix `30 L1 30 L2 06 … 04 Lh` for a digest of `sz` bytes: outer length covers the rest
    of the prefix plus the digest, and the last byte is the OCTET STRING length = digest size. -/
def prefixOk (p : Bytes) (sz : Nat) : Bool :=
  match p with
  | [] => true
  | t :: l :: rest =>
    t == 0x30 && l.toNat == rest.length + sz && rest.getLast? == some (UInt8.ofNat sz) &&
      (rest.dropLast.getLast? == some 0x04)
  | _ => false

/-- every row of zcrypto's `hashPrefixes` (generated from the working tree) is consistent with the digest
    size `crypto.Hash.Size()` reports for that id; ids are unique. -/
theorem hashPrefixes_wellformed :
    (Gen.C23.hashPrefixes.all fun r => match hashSize r.1 with
      | some sz => prefixOk r.2 sz
      | none => false) = true ∧
    (Gen.C23.hashPrefixes.map (·.1)).Nodup := by
  decide +kernel

/-- `emsaPSSEncode` succeeds exactly on digests of the hash's length when the encoded message has room for hash, salt and
    the two fixed octets, and then returns the RFC 8017 §9.1.1 message `maskedDB ‖ H ‖ bc` (`pssEM`). -/
theorem pss_encode_ok_iff (h : HashAlg) (mHash : Bytes) (emBits : Nat) (salt em : Bytes) :
    emsaPSSEncode h mHash emBits salt = .ok em ↔
      mHash.length = h.outSize ∧ h.outSize + salt.length + 2 ≤ (emBits + 7) / 8 ∧ em = pssEM h mHash emBits salt :=
  emsaPSSEncode_ok_iff h mHash emBits salt em

/-- For EVERY hash algorithm whose `hash` returns `outSize > 0` octets, every digest of that length, every salt and every
    `emBits` with `emLen ≥ hLen + sLen + 2`: `emsaPSSEncode` succeeds and `emsaPSSVerify` accepts its output — with the
    salt length that was used, with `PSSSaltLengthAuto` (0: the salt is located by the 01 separator) and, when the salt
    has the length of the hash, with `PSSSaltLengthEqualsHash` (-1). -/
theorem pss_verify_encode {h : HashAlg} (hk : HashOk h) (mHash salt : Bytes) (emBits : Nat)
    (hmh : mHash.length = h.outSize) (hbound : h.outSize + salt.length + 2 ≤ (emBits + 7) / 8) :
    ∃ em, emsaPSSEncode h mHash emBits salt = .ok em ∧
      emsaPSSVerify h mHash em emBits salt.length = .ok () ∧
      emsaPSSVerify h mHash em emBits 0 = .ok () ∧
      (salt.length = h.outSize → emsaPSSVerify h mHash em emBits (-1) = .ok ()) :=
  have hv (sl : Int) (hm : sl = 0 ∨ sl = salt.length ∨ (sl = -1 ∧ salt.length = h.outSize)) :
      emsaPSSVerify h mHash (pssEM h mHash emBits salt) emBits sl = .ok () :=
    (emsaPSSVerify_ok_iff hk ..).2 ⟨salt, rfl, hmh, hbound, hm⟩
  ⟨_, (pss_encode_ok_iff ..).2 ⟨hmh, hbound, rfl⟩, hv _ (Or.inr (Or.inl rfl)), hv _ (Or.inl rfl),
    fun hs => hv _ (Or.inr (Or.inr ⟨rfl, hs⟩))⟩

/-- any signature `SignPKCS1v15` returns verifies -/
theorem pkcs1_verify_of_sign {k : Priv} (hk : KeyOk k) (he : 2 ≤ k.e) {h : Nat} {dg sig : Bytes}
    (hs : signPKCS1v15 k h dg = .ok sig) : verifyPKCS1v15 k.pub h dg sig = .ok () := by
  obtain ⟨em, hem, hdec⟩ := signPKCS1v15_ok_iff.1 hs
  have hl := (hk.decrypt_ok_iff.1 hdec).2.1
  exact (verifyPKCS1v15_ok_iff (hk.checkPub_eq he) ..).2
    ⟨hl, em, hem, (hk.encrypt_iff_decrypt true hl (constructEM_length hem).1).2 hdec⟩

/-- Whenever the encoded message can be built (known hash id, digest of the right length, modulus of at least
    `11 + len(DigestInfo)` octets), `SignPKCS1v15` on a valid key succeeds — the encoded message `00 01 …` is below the
    modulus and the fault check passes — and `VerifyPKCS1v15` accepts the signature under the public half of the key. -/
theorem pkcs1_sign_verify {k : Priv} (hk : KeyOk k) (he : 2 ≤ k.e) {h : Nat} {dg em : Bytes}
    (hem : constructEM (sizeBytes k.n) h dg = .ok em) :
    ∃ sig, signPKCS1v15 k h dg = .ok sig ∧ verifyPKCS1v15 k.pub h dg sig = .ok () := by
  obtain ⟨hl, rest, rfl⟩ := constructEM_length hem
  -- the encoded message starts with 00, hence is below the modulus
  obtain ⟨sig, hs⟩ := hk.decrypt_isOk true (os2ip_00_lt hk.pos rest hl)
  have hsig := signPKCS1v15_ok_iff.2 ⟨_, hem, hs⟩
  exact ⟨sig, hsig, pkcs1_verify_of_sign hk he hsig⟩

/-- and conversely the ONLY byte string `VerifyPKCS1v15` accepts for (key, hash, digest) is the one `SignPKCS1v15`
    produces: verification and signing define the same relation on a valid key. -/
theorem pkcs1_verify_iff_sign {k : Priv} (hk : KeyOk k) (he : 2 ≤ k.e) (h : Nat) (dg s : Bytes) :
    verifyPKCS1v15 k.pub h dg s = .ok () ↔ signPKCS1v15 k h dg = .ok s := by
  refine ⟨fun hv => ?_, pkcs1_verify_of_sign hk he⟩
  obtain ⟨hl, em, hem, henc⟩ := (verifyPKCS1v15_ok_iff (hk.checkPub_eq he) ..).1 hv
  exact signPKCS1v15_ok_iff.2 ⟨em, hem, (hk.encrypt_iff_decrypt true hl (constructEM_length hem).1).1 henc⟩

/-- For every valid key, every hash with the length property, every digest of the hash's length and every salt that fits
    (`emLen = ⌈(modBits-1)/8⌉ ≥ hLen + sLen + 2`): `signPSSWithSalt` succeeds (the encoded message is below
    `2^(modBits-1) ≤ n`, the fault check passes) and `VerifyPSS` accepts the signature with the salt length used, with
    `PSSSaltLengthAuto` and — for `sLen = hLen` — with `PSSSaltLengthEqualsHash`.  Covers moduli of 8k+1 bits, where
    the encoded message is one octet shorter than the modulus and `VerifyPSS` strips the leading zero octet. -/
theorem pss_sign_verify {k : Priv} (hk : KeyOk k) (he : 2 ≤ k.e) {h : HashAlg} (hh : HashOk h) (hashed salt : Bytes)
    (hmh : hashed.length = h.outSize) (hbound : h.outSize + salt.length + 2 ≤ (bitLen k.n - 1 + 7) / 8) :
    ∃ sig, signPSSWithSalt k h hashed salt = .ok sig ∧
      verifyPSS k.pub h hashed sig salt.length = .ok () ∧
      verifyPSS k.pub h hashed sig 0 = .ok () ∧
      (salt.length = h.outSize → verifyPSS k.pub h hashed sig (-1) = .ok ()) := by
  obtain ⟨sig, hs⟩ := hk.signPSSWithSalt_isOk hh hmh hbound
  have hv (sl : Int) (hsl : -1 ≤ sl) (hm : sl = 0 ∨ sl = salt.length ∨ (sl = -1 ∧ salt.length = h.outSize)) :=
    (verifyPSS_iff_sign hk he hh hashed sig sl).2 ⟨hsl, salt, hs, hm⟩
  exact ⟨sig, hs, hv _ (by omega) (Or.inr (Or.inl rfl)), hv _ (by omega) (Or.inl rfl),
    fun hsz => hv _ (by omega) (Or.inr (Or.inr ⟨rfl, hsz⟩))⟩

/-- `SignPSS` followed by `VerifyPSS` with the same options: every signature `SignPSS` returns — for
    `PSSSaltLengthAuto` (0: the largest salt that fits), `PSSSaltLengthEqualsHash` (-1) or an explicit positive salt
    length, whatever the random stream — is accepted. -/
theorem pss_verify_of_sign {k : Priv} (hk : KeyOk k) (he : 2 ≤ k.e) {h : HashAlg} (hh : HashOk h)
    {digest rnd sig : Bytes} {saltLength : Int} (hs : signPSS k h digest saltLength rnd = .ok sig) :
    verifyPSS k.pub h digest sig saltLength = .ok () :=
  (verifyPSS_iff_sign hk he hh digest sig saltLength).2 (signPSS_ok_inv hs)

/-- the padding layer alone: for every hash with the length property, every seed of `hLen` octets, every message and
    label, unpadding the padded message gives the message back (`oaepPad`/`oaepUnpad` are the bodies of
    `EncryptOAEP`/`decryptOAEP` around the RSA operation: `encryptOAEP_eq`, `decryptOAEP_eq`). -/
theorem oaep_unpad_pad {h : HashAlg} (hk : HashOk h) (k : Nat) (seed msg label : Bytes)
    (hseed : seed.length = h.outSize) : oaepUnpad h h (oaepPad h k seed msg label) label = .ok msg := by
  obtain ⟨db, hdb⟩ : ∃ db, db = h.hash label ++ pssDB (k - 2 * h.outSize - 2 - msg.length) msg := ⟨_, rfl⟩
  have hl1 : (mgf1XOR h seed (mgf1XOR h db seed)).length = h.outSize := by rw [mgf1XOR_length hk, hseed]
  unfold oaepUnpad oaepPad
  simp only [List.append_assoc, ← pssDB.eq_1, ← hdb]
  -- the MGF1 mask is an involution (twice); what is left is the scan of `lHash ‖ PS ‖ 01 ‖ M`
  rw [← hl1, List.take_left', List.drop_left', mgf1XOR_cancel hk, mgf1XOR_cancel hk, hl1, hdb]
  · rw [← hk.len label, List.take_left' rfl, List.drop_left' rfl, pssDB_findIdx]
    dsimp only
    rw [pssDB_take, pssDB_drop_succ]
    simp
  · rfl
  · rfl

/-- Whatever `EncryptOAEP` returns under the public half of a valid key, `decryptOAEP` (same hash for the label and for
    MGF1, same label) decrypts to the message. -/
theorem oaep_decrypt_of_encrypt {k : Priv} (hk : KeyOk k) (he : 2 ≤ k.e) {h : HashAlg} (hh : HashOk h)
    {rnd msg label c : Bytes} (henc : encryptOAEP h k.pub rnd msg label = .ok c) :
    decryptOAEP h h k c label = .ok msg := by
  obtain ⟨hmsg, hrnd, henc⟩ := (encryptOAEP_ok_iff (hk.checkPub_eq he)).1 henc
  have hseed : (rnd.take h.outSize).length = h.outSize := List.length_take_of_le hrnd
  have hlen := oaepPad_length hh (sizeBytes k.n) (rnd.take h.outSize) msg label hseed hmsg
  have hcl := (encrypt_ok_iff.1 henc).2.1
  exact (decryptOAEP_ok_iff (hk.checkPub_eq he)).2
    ⟨hcl.le, by omega, _, (hk.encrypt_iff_decrypt false hlen hcl).1 henc, oaep_unpad_pad hh _ _ _ _ hseed⟩

/-- and `EncryptOAEP` does succeed for every message within the RFC 8017 length bound `mLen ≤ k - 2hLen - 2` given
    `hLen` octets of randomness (the padded message starts with 00, hence is below the modulus): the full round trip. -/
theorem oaep_decrypt_encrypt {k : Priv} (hk : KeyOk k) (he : 2 ≤ k.e) {h : HashAlg} (hh : HashOk h)
    (rnd msg label : Bytes) (hmsg : msg.length + 2 * h.outSize + 2 ≤ sizeBytes k.n) (hrnd : h.outSize ≤ rnd.length) :
    ∃ c, encryptOAEP h k.pub rnd msg label = .ok c ∧ decryptOAEP h h k c label = .ok msg := by
  have hlen := oaepPad_length hh (sizeBytes k.n) (rnd.take h.outSize) msg label (List.length_take_of_le hrnd) hmsg
  -- the padded message starts with 00
  have hlt : os2ip (oaepPad h (sizeBytes k.n) (rnd.take h.outSize) msg label) < k.n := os2ip_00_lt hk.pos _ hlen
  have hc := (encryptOAEP_ok_iff (hk.checkPub_eq he)).2 ⟨hmsg, hrnd, by rw [encrypt_eq, if_pos hlt]⟩
  exact ⟨_, hc, oaep_decrypt_of_encrypt hk he hh hc⟩


/-- the OAEP unpadding accepts EXACTLY the paddings: a `k`-octet string (`k ≥ 2hLen + 2`) unpads to `msg` iff it is
    `oaepPad` of `msg` under some seed of `hLen` octets (and `msg` respects the length bound) -/
theorem oaep_unpad_iff {h : HashAlg} (hk : HashOk h) (k : Nat) (em label msg : Bytes)
    (hlen : em.length = k) (hk2 : 2 * h.outSize + 2 ≤ k) :
    oaepUnpad h h em label = .ok msg ↔
      ∃ seed, seed.length = h.outSize ∧ msg.length + 2 * h.outSize + 2 ≤ k ∧ em = oaepPad h k seed msg label := by
  constructor
  · exact oaepUnpad_ok_inv hk k hlen hk2
  · rintro ⟨seed, hs, _, rfl⟩
    exact oaep_unpad_pad hk k seed msg label hs

/-- On a valid key `decryptOAEP` returns `msg` for EXACTLY the ciphertexts that are (up to leading zero octets, which
    `decryptOAEP` tolerates) an `EncryptOAEP` of `msg` under some seed: nothing else decrypts. -/
theorem oaep_decrypt_iff {k : Priv} (hk : KeyOk k) (he : 2 ≤ k.e) {h : HashAlg} (hh : HashOk h) (c label msg : Bytes) :
    decryptOAEP h h k c label = .ok msg ↔
      c.length ≤ sizeBytes k.n ∧ ∃ seed, seed.length = h.outSize ∧
        encryptOAEP h k.pub seed msg label = .ok (List.replicate (sizeBytes k.n - c.length) 0 ++ c) := by
  have hpub := hk.checkPub_eq he
  rw [decryptOAEP_ok_iff hpub]
  constructor
  · rintro ⟨hcl, hk2, em, hdec, hu⟩
    obtain ⟨hel, henc⟩ := (hk.decrypt_iff_encrypt hcl).1 hdec
    obtain ⟨seed, hs, hm, rfl⟩ := oaepUnpad_ok_inv hh _ hel hk2 hu
    exact ⟨hcl, seed, hs, (encryptOAEP_ok_iff hpub).2 ⟨hm, hs.ge, by rw [List.take_of_length_le hs.le]; exact henc⟩⟩
  · rintro ⟨hcl, seed, hs, henc⟩
    obtain ⟨hm, _, henc⟩ := (encryptOAEP_ok_iff hpub).1 henc
    rw [List.take_of_length_le hs.le] at henc
    have hlen := oaepPad_length hh (sizeBytes k.n) seed msg label hs hm
    exact ⟨hcl, by omega, _, (hk.decrypt_iff_encrypt hcl).2 ⟨hlen, henc⟩, oaep_unpad_pad hh _ _ _ _ hs⟩

/-- Whatever `EncryptPKCS1v15` returns under the public half of a valid key — for every random stream, including the
    re-draws of zero octets — `DecryptPKCS1v15` decrypts to the message: the padding string has no zero octet and at
    least 8 octets, so the separator scan stops exactly in front of the message. -/
theorem pkcs1_decrypt_of_encrypt {k : Priv} (hk : KeyOk k) (he : 2 ≤ k.e) {rnd msg c : Bytes}
    (henc : encryptPKCS1v15 k.pub rnd msg = .ok c) : decryptPKCS1v15 k c = .ok msg := by
  obtain ⟨hmsg, ps, hps, henc⟩ := (encryptPKCS1v15_ok_iff (hk.checkPub_eq he)).1 henc
  obtain ⟨hpl, hnz⟩ := nonZeroRandomBytes_spec hps
  obtain ⟨hlen, h8⟩ := pkcs1_em_length hmsg hpl
  exact (decryptPKCS1v15_ok_iff (hk.checkPub_eq he)).2 ⟨by omega, _,
    (hk.encrypt_iff_decrypt false hlen (encrypt_ok_iff.1 henc).2.1).1 henc, (pkcs1Unpad_ok_iff _ _).2 ⟨ps, hnz, h8, rfl⟩⟩

/-- and `EncryptPKCS1v15` succeeds for every message of at most `k - 11` octets whenever the random stream suffices
    for the padding string (`00 02 …` is below the modulus): the full round trip. -/
theorem pkcs1_decrypt_encrypt {k : Priv} (hk : KeyOk k) (he : 2 ≤ k.e) (rnd msg ps : Bytes)
    (hmsg : msg.length + 11 ≤ sizeBytes k.n)
    (hps : nonZeroRandomBytes (sizeBytes k.n - msg.length - 3) rnd = some ps) :
    ∃ c, encryptPKCS1v15 k.pub rnd msg = .ok c ∧ decryptPKCS1v15 k c = .ok msg := by
  have hlen := (pkcs1_em_length hmsg (nonZeroRandomBytes_spec hps).1).1
  -- the padded message starts with 00
  have hlt := os2ip_00_lt hk.pos _ hlen
  have hc := (encryptPKCS1v15_ok_iff (hk.checkPub_eq he)).2 ⟨hmsg, ps, hps, by rw [encrypt_eq, if_pos hlt]⟩
  exact ⟨_, hc, pkcs1_decrypt_of_encrypt hk he hc⟩

/-- decision logic of `DecryptPKCS1v15` on a valid key, for all ciphertexts: it returns `msg` exactly when the
    ciphertext is (as an integer) below the modulus, the modulus has at least 11 octets, and `c^d mod n` written on
    `Size()` octets is `00 02 ‖ PS ‖ 00 ‖ msg` with a zero-free `PS` of at least 8 octets. -/
theorem pkcs1_decrypt_iff {k : Priv} (hk : KeyOk k) (he : 2 ≤ k.e) (c msg : Bytes) :
    decryptPKCS1v15 k c = .ok msg ↔
      11 ≤ sizeBytes k.n ∧ os2ip c < k.n ∧ ∃ ps, (∀ b ∈ ps, b ≠ 0) ∧ 8 ≤ ps.length ∧
        natToBytesBE (sizeBytes k.n) (os2ip c ^ k.d % k.n) = 0 :: 2 :: (ps ++ 0 :: msg) := by
  rw [decryptPKCS1v15_eq, hk.checkPub_eq he, hk.decrypt_eq]
  simp only [guard_ok_iff, Nat.not_lt]
  by_cases hlt : os2ip c < k.n
  · simp only [hlt, if_true, true_and, pkcs1Unpad_ok_iff]
  · simp [hlt]

theorem checkPub_never_panics (p : Pub) : checkPub p ≠ .panic := by
  unfold checkPub
  split
  · simp
  · split
    · simp
    · split
      · simp
      · split <;> simp

/-- `decrypt` on a valid key returns an error (input ≥ n) or exactly `Size()` octets — the slice expression of the
    big-endian copy (`Res.panic` in the model) is out of reach because the result is below the modulus. -/
theorem decrypt_total {k : Priv} (hk : KeyOk k) (c : Bytes) (check : Bool) :
    decrypt k c check = .err ∨ ∃ em, decrypt k c check = .ok em ∧ em.length = sizeBytes k.n := by
  rw [hk.decrypt_eq]
  split
  · exact Or.inr ⟨_, rfl, natToBytesBE_length _ _⟩
  · exact Or.inl rfl

/-- `DecryptPKCS1v15` never panics on a valid key, whatever the ciphertext (the `em[0]`, `em[1]` accesses are in range) -/
theorem decryptPKCS1v15_never_panics {k : Priv} (hk : KeyOk k) (c : Bytes) : decryptPKCS1v15 k c ≠ .panic := by
  rw [decryptPKCS1v15_eq]
  split
  · simp
  · next hp => exact absurd hp (checkPub_never_panics _)
  · rw [guard_ne_panic]
    intro h11
    rcases decrypt_total hk c false with he | ⟨em, he, hl⟩
    · rw [he]; simp
    · rw [he]
      exact pkcs1Unpad_ne_panic (by omega)

/-- `decryptOAEP` never panics on a valid key, whatever the ciphertext, label and hashes (the `em[0]` access is in range) -/
theorem decryptOAEP_never_panics {k : Priv} (hk : KeyOk k) (h mgf : HashAlg) (c label : Bytes) :
    decryptOAEP h mgf k c label ≠ .panic := by
  rw [decryptOAEP_eq]
  split
  · simp
  · next hp => exact absurd hp (checkPub_never_panics _)
  · split
    · simp
    · next hg =>
      rcases decrypt_total hk c false with he | ⟨em, he, hl⟩
      · rw [he]; simp
      · rw [he]
        dsimp only
        unfold oaepUnpad
        cases em with
        | nil => simp at hl; omega
        | cons b0 body =>
          dsimp only
          split
          · simp
          · split <;> simp

/-- p = 11, q = 13, e = 7, d = 103 with the values `Precompute` derives -/
def toyKey : Priv := ⟨143, 7, 103, [11, 13], some (3, 7, 6)⟩

example : KeyOk toyKey where
  primes_prime := by
    intro p hp
    simp [toyKey] at hp
    rcases hp with rfl | rfl
    · exact prime_11
    · exact prime_13
  nodup := by decide
  n_eq := by decide
  ed := by
    intro p hp
    simp [toyKey] at hp
    rcases hp with rfl | rfl <;> decide
  pre_ok := by
    intro dp dq qinv hpre p q hpq
    simp [toyKey] at hpre hpq
    obtain ⟨rfl, rfl, rfl⟩ := hpre
    obtain ⟨rfl, rfl⟩ := hpq
    decide

example : Malformed ⟨some 0, some 65537⟩ := Or.inr (Or.inl ⟨0, rfl, by decide⟩)
example : Malformed ⟨some 143, none⟩ := Or.inr (Or.inr (Or.inl rfl))

/-! ### the hypotheses of the padding theorems are satisfiable (real SHA-256, a 622-bit 40-prime key) -/

/-- the length hypothesis holds for the real SHA-256 (and for every algorithm `hashAlg` returns: `hashAlg_ok`) -/
example : HashOk HashAlg.sha256 := hashOk_sha256
example : ∀ m, (HashAlg.sha256.hash m).length = HashAlg.sha256.outSize := sha256_length
example : ∀ id a, hashAlg id = some a → HashOk a := fun _ _ => hashAlg_ok

/-- `key40` (`ZV.Proofs.C23Key`): 40 distinct 16-bit primes, e = 65537, d = e⁻¹ mod lcm(pᵢ-1) — a valid 622-bit key -/
theorem key40_ok : KeyOk key40 where
  primes_prime := key40_primes
  nodup := by decide +kernel
  n_eq := by decide +kernel
  ed := key40_ed
  pre_ok := by
    intro dp dq qinv hpre
    simp [key40] at hpre

/-- `pss_verify_encode` with SHA-256, a 32-octet salt and a 1024-bit modulus (`emBits = 1023`) -/
example (mHash salt : Bytes) (h1 : mHash.length = 32) (h2 : salt.length = 32) :
    ∃ em, emsaPSSEncode .sha256 mHash 1023 salt = .ok em ∧ emsaPSSVerify .sha256 mHash em 1023 (-1) = .ok () := by
  obtain ⟨em, he, _, _, hv⟩ := pss_verify_encode hashOk_sha256 mHash salt 1023 h1 (by rw [h2]; decide)
  exact ⟨em, he, hv h2⟩

/-- `pkcs1_sign_verify` / `pkcs1_verify_iff_sign`: SHA-256 DigestInfo under `key40` -/
example (dg : Bytes) (hd : dg.length = 32) :
    ∃ sig, signPKCS1v15 key40 5 dg = .ok sig ∧ verifyPKCS1v15 key40.pub 5 dg sig = .ok () := by
  have hem : ∃ em, constructEM (sizeBytes key40.n) 5 dg = .ok em := by
    unfold constructEM emPrefix
    rw [hd, key40_size.1]
    exact ⟨_, rfl⟩
  obtain ⟨em, hem⟩ := hem
  exact pkcs1_sign_verify key40_ok (by decide) hem

/-- `pss_sign_verify` / `pss_verify_of_sign`: SHA-256, salt of 32 octets under `key40` (emLen = 78 ≥ 32 + 32 + 2) -/
example (dg salt : Bytes) (hd : dg.length = 32) (hs : salt.length = 32) :
    ∃ sig, signPSSWithSalt key40 .sha256 dg salt = .ok sig ∧ verifyPSS key40.pub .sha256 dg sig (-1) = .ok () := by
  obtain ⟨sig, h1, _, _, h4⟩ := pss_sign_verify key40_ok (by decide) hashOk_sha256 dg salt hd
    (by rw [hs, key40_size.2]; decide)
  exact ⟨sig, h1, h4 hs⟩

/-- `oaep_decrypt_encrypt`: SHA-256, messages up to 78 - 66 = 12 octets under `key40` -/
example (rnd msg label : Bytes) (hm : msg.length ≤ 12) (hr : 32 ≤ rnd.length) :
    ∃ c, encryptOAEP .sha256 key40.pub rnd msg label = .ok c ∧ decryptOAEP .sha256 .sha256 key40 c label = .ok msg :=
  oaep_decrypt_encrypt key40_ok (by decide) hashOk_sha256 rnd msg label
    (by rw [key40_size.1]; show msg.length + 2 * 32 + 2 ≤ 78; omega) hr

/-- `pkcs1_decrypt_encrypt` under `key40`: an all-nonzero stream needs no re-draw -/
example : ∃ c, encryptPKCS1v15 key40.pub (List.replicate 72 7) [1, 2, 3] = .ok c ∧
    decryptPKCS1v15 key40 c = .ok [1, 2, 3] :=
  pkcs1_decrypt_encrypt key40_ok (by decide) _ _ (List.replicate 72 7)
    (by rw [key40_size.1]; decide) (by rw [key40_size.1]; decide)

/-! ### RSASSA-PSS: the octets above the encoded message (modulus bit length = 1 mod 8, `emLen = k-1`) -/

/-- The leading-octet stripping loop of `VerifyPSS` (modulus of 8k+1 bits: `emLen = k-1`) only ever removes ZERO octets,
    and removes exactly as many as needed: if it succeeds, the input was `0…0 ++ em'` with `em'` the last
    `min em.length emLen` octets.  (Replacing the loop by a plain slice to `emLen` — dropping a non-zero leading octet of
    `s^e mod n` unchecked — falsifies this.) -/
theorem stripTo_zeros (emLen : Nat) (em em' : Bytes) (h : stripTo emLen em = some em') :
    em = List.replicate (em.length - em'.length) 0 ++ em' ∧ em'.length = min em.length emLen :=
  stripTo_inv h

/-- a non-zero octet in front of more than `emLen` octets is rejected -/
theorem stripTo_nonzero_head (emLen : Nat) (b : UInt8) (rest : Bytes) (hb : b ≠ 0) (hl : emLen ≤ rest.length) :
    stripTo emLen (b :: rest) = none := by
  rw [stripTo_eq, List.length_cons, Nat.succ_sub hl, List.take_succ_cons, if_neg]
  exact fun h => hb (h b List.mem_cons_self)

/-- hence `VerifyPSS` rejects whenever `s^e mod n`, written on `k` octets, starts with a non-zero octet that lies above the
    `emLen` octets of the encoded message (`emLen < k`, i.e. modulus bit length = 1 mod 8) -/
theorem verifyPSS_leading_octet {pub : Pub} {h : HashAlg} {dg sig : Bytes} {sl : Int} {n e : Nat} {b : UInt8} {rest : Bytes}
    (hp : checkPub pub = .ok (n, e)) (henc : encrypt n e sig = .ok (b :: rest)) (hb : b ≠ 0)
    (hl : (bitLen n - 1 + 7) / 8 ≤ rest.length) :
    verifyPSS pub h dg sig sl ≠ .ok () := by
  intro hv
  obtain ⟨_, _, em₀, em, he₀, hst, _⟩ := (verifyPSS_ok_iff hp ..).1 hv
  cases henc.symm.trans he₀
  rw [stripTo_nonzero_head _ b rest hb hl] at hst
  contradiction

example : stripTo 2 [0, 0, 5, 6] = some [5, 6] := by decide
example : stripTo 2 [1, 5, 6] = none := by decide

/-- `emsaPSSVerify` accepts EXACTLY the outputs of `emsaPSSEncode`: `em` is accepted for salt-length option `sl` iff it is
    the encoding of the digest under some salt whose length the option allows (`0` = any length, `-1` = `hLen`).
    So a verified message has the RFC 8017 §9.1.1 shape for all inputs, not only on generated ones. -/
theorem pss_verify_iff {h : HashAlg} (hk : HashOk h) (mHash em : Bytes) (emBits : Nat) (sl : Int) :
    emsaPSSVerify h mHash em emBits sl = .ok () ↔
      ∃ salt, emsaPSSEncode h mHash emBits salt = .ok em ∧
        (sl = 0 ∨ sl = salt.length ∨ (sl = -1 ∧ salt.length = h.outSize)) := by
  rw [emsaPSSVerify_ok_iff hk]
  constructor
  · rintro ⟨salt, hem, h1, h2, h3⟩
    exact ⟨salt, (pss_encode_ok_iff ..).2 ⟨h1, h2, hem⟩, h3⟩
  · rintro ⟨salt, he, hmode⟩
    obtain ⟨h1, h2, hem⟩ := (pss_encode_ok_iff ..).1 he
    exact ⟨salt, hem, h1, h2, hmode⟩

/-- `VerifyPSS` never panics, whatever the key, signature, digest and salt-length option (no hypothesis on the hash):
    the index expressions of `emsaPSSVerify` are guarded and the representative `s^e mod n` always fits `Size()` octets. -/
theorem verifyPSS_never_panics (pub : Pub) (h : HashAlg) (dg sig : Bytes) (sl : Int) :
    verifyPSS pub h dg sig sl ≠ .panic := by
  unfold verifyPSS
  cases hc : checkPub pub with
  | err => simp
  | panic => exact absurd hc (checkPub_never_panics _)
  | ok ne =>
    obtain ⟨n, e⟩ := ne
    simp only [encrypt_eq, guard_ne_panic, Int.not_lt]
    intro _ hsl
    split
    · simp
    · next hp => split at hp <;> contradiction
    · split
      · simp
      · exact emsaPSSVerify_ne_panic _ _ _ _ _ hsl

/-- decision logic of `VerifyPSS` for all inputs: it accepts exactly when the key is well-formed, the signature has
    `Size()` octets and is below the modulus, the option is ≥ -1, and `s^e mod n` written on `Size()` octets is
    zero octets (none, or one for moduli of 8k+1 bits) followed by an EMSA-PSS encoding of the digest on
    `emBits = modBits - 1` bits under a salt the option allows. -/
theorem verifyPSS_iff {h : HashAlg} (hk : HashOk h) (pub : Pub) (dg sig : Bytes) (sl : Int) :
    verifyPSS pub h dg sig sl = .ok () ↔
      ∃ n e salt em, checkPub pub = .ok (n, e) ∧ sig.length = sizeBytes n ∧ os2ip sig < n ∧ -1 ≤ sl ∧
        emsaPSSEncode h dg (bitLen n - 1) salt = .ok em ∧
        (sl = 0 ∨ sl = salt.length ∨ (sl = -1 ∧ salt.length = h.outSize)) ∧
        natToBytesBE (sizeBytes n) (os2ip sig ^ e % n) = List.replicate (sizeBytes n - em.length) 0 ++ em := by
  constructor
  · intro hv
    cases hc : checkPub pub with
    | ok ne =>
      obtain ⟨hl, hsl, em₀, em, he₀, hst, hv⟩ := (verifyPSS_ok_iff hc ..).1 hv
      rw [encrypt_eq] at he₀
      obtain ⟨hlt, rfl⟩ := accept_eq_ok.1 he₀
      obtain ⟨salt, he, hmode⟩ := (pss_verify_iff hk ..).1 hv
      obtain ⟨z1, _⟩ := stripTo_zeros _ _ _ hst
      rw [natToBytesBE_length] at z1
      exact ⟨_, _, salt, em, rfl, hl, hlt, hsl, he, hmode, z1⟩
    | _ => rw [verifyPSS, hc] at hv; contradiction
  · rintro ⟨n, e, salt, em, hc, hl, hlt, hsl, he, hmode, hb⟩
    obtain ⟨_, hbound, hem⟩ := (pss_encode_ok_iff ..).1 he
    have hemlen : em.length = (bitLen n - 1 + 7) / 8 := by rw [hem]; exact pssEM_length hk _ _ _ hbound
    refine (verifyPSS_ok_iff hc ..).2 ⟨hl, hsl, _, em, by rw [encrypt_eq, if_pos hlt], ?_, (pss_verify_iff hk ..).2 ⟨salt, he, hmode⟩⟩
    rw [hb, stripTo_pad _ _ _ hemlen]

example : HashOk HashAlg.sha512 := hashOk_sha512

/-! ### options structs and stateful arguments (the `seq` stream) -/

/-- `VerifyPSS` never looks at `opts.Hash`: two options values that differ only in `Hash` give the same verdict, which
    is the verdict under the positional `hash` (a verifier that lets `opts.Hash` override `hash` breaks this). -/
theorem verifyPSSOpts_ignores_hash (pub : Pub) (hash : Nat) (dg sig : Bytes) (sl : Int) (h₁ h₂ : Nat) :
    verifyPSSOpts pub hash dg sig (some ⟨sl, h₁⟩) = verifyPSSOpts pub hash dg sig (some ⟨sl, h₂⟩) := rfl

/-- nil options are `PSSSaltLengthAuto` -/
theorem verifyPSSOpts_nil (pub : Pub) (hash : Nat) (dg sig : Bytes) (h₁ : Nat) :
    verifyPSSOpts pub hash dg sig none = verifyPSSOpts pub hash dg sig (some ⟨0, h₁⟩) := rfl

/-- `SignPSS`: a set `opts.Hash` replaces the positional hash entirely … -/
theorem signPSSOpts_override (k : Priv) (hash hash' : Nat) (dg rnd : Bytes) (o : PSSOpts) (ho : o.hash ≠ 0) :
    signPSSOpts k hash dg (some o) rnd = signPSSOpts k hash' dg (some o) rnd := by
  simp [signPSSOpts, signPSSHash, ho]

/-- … and an unset one (or nil options) leaves it alone. -/
theorem signPSSOpts_unset (k : Priv) (hash : Nat) (dg rnd : Bytes) (sl : Int) {ha : HashAlg} (hh : hashAlg hash = some ha) :
    signPSSOpts k hash dg (some ⟨sl, 0⟩) rnd = some (signPSS k ha dg sl rnd) ∧
    signPSSOpts k hash dg none rnd = some (signPSS k ha dg 0 rnd) := by
  simp [signPSSOpts, signPSSHash, pssSaltLength, hh]

/-- sign with options, verify with the same options under the hash `SignPSS` really used: accepted, whatever the
    `Hash` field of the verifier's options says. -/
theorem pss_opts_sign_verify {k : Priv} (hk : KeyOk k) (he : 2 ≤ k.e) {hash : Nat} {dg rnd sig : Bytes}
    {o : Option PSSOpts} (hs : signPSSOpts k hash dg o rnd = some (.ok sig)) (hv : Nat) :
    verifyPSSOpts k.pub (signPSSHash hash o) dg sig (some ⟨pssSaltLength o, hv⟩) = some (.ok ()) := by
  unfold signPSSOpts at hs
  unfold verifyPSSOpts
  cases hh : hashAlg (signPSSHash hash o) with
  | none => rw [hh] at hs; contradiction
  | some ha =>
    rw [hh] at hs
    simp only [Option.some.injEq] at hs
    have := pss_verify_of_sign hk he (hashAlg_ok hh) hs
    simp only [pssSaltLength] at this ⊢
    rw [this]

/-- the reader-tracking variants compute what the plain functions compute -/
theorem signPSSR_fst (k : Priv) (h : HashAlg) (dg : Bytes) (sl : Int) (rnd : Bytes) :
    (signPSSR k h dg sl rnd).1 = signPSS k h dg sl rnd := by
  unfold signPSSR signPSS readFull
  dsimp only
  split <;> try rfl
  by_cases hl : rnd.length < ‹Nat› <;> simp [hl]

theorem fixZerosR_fst (s rnd : Bytes) : (fixZerosR s rnd).1 = fixZeros s rnd := by
  induction s generalizing rnd with
  | nil => rfl
  | cons b bs ih =>
    unfold fixZerosR fixZeros
    split
    · cases redraw rnd with
      | none => rfl
      | some p => simp [ih]
    · simp [ih]

theorem nonZeroRandomBytesR_fst (n : Nat) (rnd : Bytes) :
    (nonZeroRandomBytesR n rnd).1 = nonZeroRandomBytes n rnd := by
  unfold nonZeroRandomBytesR nonZeroRandomBytes
  split
  · rfl
  · exact fixZerosR_fst _ _

theorem encryptPKCS1v15R_fst (pub : Pub) (rnd msg : Bytes) :
    (encryptPKCS1v15R pub rnd msg).1 = encryptPKCS1v15 pub rnd msg := by
  unfold encryptPKCS1v15R encryptPKCS1v15
  cases checkPub pub with
  | err => rfl
  | panic => rfl
  | ok ne =>
    obtain ⟨n, e⟩ := ne
    dsimp only
    split
    · rfl
    · rw [← nonZeroRandomBytesR_fst]
      cases nonZeroRandomBytesR (sizeBytes n - msg.length - 3) rnd with
      | mk a b => cases a <;> rfl

/-- `EncryptOAEP` on a caller-owned hash computes what the stateless model computes, whatever was written to the hash
    before (it starts with `Reset`) … -/
theorem encryptOAEPSt_result (h : HashAlg) (pend : Bytes) (pub : Pub) (rnd msg label : Bytes) :
    (encryptOAEPSt h pend pub rnd msg label).1 = encryptOAEP h pub rnd msg label := by
  unfold encryptOAEPSt encryptOAEP readFull
  cases checkPub pub with
  | err => rfl
  | panic => rfl
  | ok ne =>
    obtain ⟨n, e⟩ := ne
    dsimp only
    split
    · rfl
    · by_cases hl : rnd.length < h.outSize
      · rw [if_pos hl, if_pos hl]
      · rw [if_neg hl, if_neg hl]

/-- … and leaves the hash RESET on every path once the key passed `checkPub` — in particular on the
    `ErrMessageTooLong` path and when the reader runs dry (an `EncryptOAEP` that hashes the label before the length
    check and returns without `Reset` breaks this). -/
theorem encryptOAEPSt_clean (h : HashAlg) (pend : Bytes) (pub : Pub) (rnd msg label : Bytes) {ne : Nat × Nat}
    (hc : checkPub pub = .ok ne) : (encryptOAEPSt h pend pub rnd msg label).2.1 = [] := by
  fun_cases encryptOAEPSt h pend pub rnd msg label with
  | case1 he => cases hc.symm.trans he
  | case2 he => cases hc.symm.trans he
  | case3 => rfl
  | case4 => rfl
  | case5 => rfl

/-- in any case it never leaves MORE in the hash than it found -/
theorem encryptOAEPSt_pend (h : HashAlg) (pend : Bytes) (pub : Pub) (rnd msg label : Bytes) :
    (encryptOAEPSt h pend pub rnd msg label).2.1 = pend ∨ (encryptOAEPSt h pend pub rnd msg label).2.1 = [] := by
  cases hc : checkPub pub with
  | err => left; unfold encryptOAEPSt; rw [hc]
  | panic => left; unfold encryptOAEPSt; rw [hc]
  | ok ne => right; exact encryptOAEPSt_clean h pend pub rnd msg label hc

/-- `DecryptOAEP` does NOT reset the hash before hashing the label: on a hash that still holds `pend` it decrypts as
    if the label were `pend ++ label`. -/
theorem decryptOAEPSt_label (h : HashAlg) (pend : Bytes) (k : Priv) (ct label : Bytes) :
    (decryptOAEPSt h pend k ct label).1 = decryptOAEP h h k ct (pend ++ label) := by
  unfold decryptOAEPSt decryptOAEP
  cases checkPub k.pub with
  | err => rfl
  | panic => rfl
  | ok ne =>
    dsimp only
    split
    · rfl
    · cases decrypt k ct false with
      | err => rfl
      | panic => rfl
      | ok em =>
        cases em with
        | nil => rfl
        | cons b0 body =>
          dsimp only
          split
          · rfl
          · split <;> rfl

/-- on a reset hash it is the stateless `decryptOAEP` (both hashes the same object) -/
theorem decryptOAEPSt_clean_start (h : HashAlg) (k : Priv) (ct label : Bytes) :
    (decryptOAEPSt h [] k ct label).1 = decryptOAEP h h k ct label := by
  rw [decryptOAEPSt_label]; rfl

/-- it leaves the hash as it found it (a return before the hash is used) or reset -/
theorem decryptOAEPSt_pend (h : HashAlg) (pend : Bytes) (k : Priv) (ct label : Bytes) :
    (decryptOAEPSt h pend k ct label).2 = pend ∨ (decryptOAEPSt h pend k ct label).2 = [] := by
  -- the five returns up to and including `decrypt`, then the four after `Sum`
  fun_cases decryptOAEPSt h pend k ct label
  · exact .inl rfl
  · exact .inl rfl
  · exact .inl rfl
  · exact .inl rfl
  · exact .inl rfl
  · exact .inr rfl
  · exact .inr rfl
  · exact .inr rfl
  · exact .inr rfl

/-- a step is a library call (not the caller writing to the shared hash) -/
def Step.isCall : Step → Bool
  | .hashWrite _ => false
  | _ => true

/-- INVARIANT of the shared hash: a library call that finds the hash reset leaves it reset — whether it succeeds or
    fails, and whichever call it is. -/
theorem step_clean (h : HashAlg) (st st' : SeqState) (s : Step) (r : Res Bytes) (hp : st.pend = [])
    (hs : s.isCall = true) (hstep : step h st s = some (r, st')) : st'.pend = [] := by
  cases s with
  | hashWrite b => cases hs
  | encOAEP msg label =>
    cases hstep
    exact (encryptOAEPSt_pend h st.pend st.key.pub st.rnd msg label).elim (·.trans hp) id
  | decOAEP ct label =>
    cases hstep
    exact (decryptOAEPSt_pend h st.pend st.key ct label).elim (·.trans hp) id
  | keyDecrypt ct opts =>
    simp only [step] at hstep
    split at hstep
    · cases hstep
    · cases hstep; exact hp
  | signPSS hash digest opts =>
    simp only [step] at hstep
    split at hstep
    · cases hstep
    · cases hstep; exact hp
  | verifyPSS hash digest sig opts =>
    simp only [step] at hstep
    split at hstep
    · cases hstep
    · cases hstep; exact hp
  | keySign digest opts =>
    simp only [step] at hstep
    split at hstep
    · cases hstep; exact hp
    · split at hstep
      · cases hstep
      · cases hstep; exact hp
  -- every other call returns `st` itself or `st` with another reader or key
  | _ => cases hstep; exact hp

/-- the states a sequence passes through (it stops at a call the model has no hash for) -/
def states (h : HashAlg) : SeqState → List Step → List SeqState
  | st, [] => [st]
  | st, s :: rest =>
    st :: (match step h st s with
           | none => []
           | some (_, st') => states h st' rest)

/-- a sequence of library calls started on a reset hash never leaves anything in the hash between two calls … -/
theorem states_clean (h : HashAlg) (steps : List Step) (st : SeqState) (hp : st.pend = [])
    (hcalls : ∀ s ∈ steps, s.isCall = true) : ∀ st' ∈ states h st steps, st'.pend = [] := by
  induction steps generalizing st with
  | nil => intro st' hm; simp only [states, List.mem_singleton] at hm; rw [hm]; exact hp
  | cons s rest ih =>
    intro st' hm
    simp only [states, List.mem_cons] at hm
    rcases hm with rfl | hm
    · exact hp
    · cases hs : step h st s with
      | none => rw [hs] at hm; simp at hm
      | some p =>
        obtain ⟨r, st2⟩ := p
        rw [hs] at hm
        exact ih st2 (step_clean h st st2 s r hp (hcalls s (by simp)) hs)
          (fun s' hs' => hcalls s' (by simp [hs'])) st' hm

/-- … so every `DecryptOAEP` of such a sequence — after any number of failed or successful earlier calls — returns
    what the stateless function returns for its own ciphertext and label, and every `EncryptOAEP` likewise. -/
theorem step_decOAEP_clean (h : HashAlg) (st : SeqState) (ct label : Bytes) (hp : st.pend = []) :
    ∃ st', step h st (.decOAEP ct label) = some (decryptOAEP h h st.key ct label, st') ∧ st'.pend = [] := by
  refine ⟨{ st with pend := (decryptOAEPSt h st.pend st.key ct label).2 }, ?_, ?_⟩
  · simp only [step]
    rw [← decryptOAEPSt_clean_start, hp]
  · show (decryptOAEPSt h st.pend st.key ct label).2 = []
    rcases decryptOAEPSt_pend h st.pend st.key ct label with h1 | h1
    · exact h1.trans hp
    · exact h1

theorem step_encOAEP_result (h : HashAlg) (st : SeqState) (msg label : Bytes) :
    ∃ st', step h st (.encOAEP msg label) = some (encryptOAEP h st.key.pub st.rnd msg label, st') := by
  refine ⟨{ st with pend := (encryptOAEPSt h st.pend st.key.pub st.rnd msg label).2.1,
                      rnd := (encryptOAEPSt h st.pend st.key.pub st.rnd msg label).2.2 }, ?_⟩
  simp only [step]
  rw [encryptOAEPSt_result]

/-- what goes wrong otherwise: after the caller (or a call that forgot to `Reset`) left `junk` in the hash, `DecryptOAEP`
    checks the ciphertext against the label `junk ++ label`. -/
theorem step_decOAEP_dirty (h : HashAlg) (st : SeqState) (ct label : Bytes) :
    ∃ st', step h st (.decOAEP ct label) = some (decryptOAEP h h st.key ct (st.pend ++ label), st') := by
  refine ⟨{ st with pend := (decryptOAEPSt h st.pend st.key ct label).2 }, ?_⟩
  simp only [step]
  rw [decryptOAEPSt_label]

/-- `DecryptPKCS1v15` is the unexported `decryptPKCS1v15` plus the `valid` test -/
theorem decryptPKCS1v15_core (k : Priv) (ct : Bytes) {ne : Nat × Nat} (hc : checkPub k.pub = .ok ne) :
    decryptPKCS1v15 k ct =
      match decryptPKCS1v15Core k ct with
      | .err => .err
      | .panic => .panic
      | .ok (valid, em, index) => if valid then .ok (em.drop index) else .err := by
  rw [decryptPKCS1v15_eq, decryptPKCS1v15Core_eq, hc]
  dsimp only
  split
  · rfl
  · cases decrypt k ct false with
    | err => rfl
    | panic => rfl
    | ok em =>
      dsimp only
      cases hu : pkcs1Unpad em with
      | err => rfl
      | panic => rfl
      | ok msg =>
        obtain ⟨pre, rfl⟩ := pkcs1Unpad_suffix hu
        dsimp only
        rw [if_pos rfl, List.length_append, Nat.add_sub_cancel, List.drop_left]

/-- `DecryptPKCS1v15SessionKey` never changes the LENGTH of the key buffer … -/
theorem decryptSessionKey_length {k : Priv} {ct key key' : Bytes} (h : decryptSessionKey k ct key = .ok key') :
    key'.length = key.length := by
  obtain ⟨_, em, _, _, _, _, rfl⟩ := decryptSessionKey_ok_iff.1 h
  split
  · split
    · assumption
    · rfl
  · rfl

/-- … and its content is either left alone or replaced by exactly the message `DecryptPKCS1v15` returns (which then has
    the length of the buffer). -/
theorem decryptSessionKey_content {k : Priv} {ct key key' : Bytes} (h : decryptSessionKey k ct key = .ok key') :
    key' = key ∨ (decryptPKCS1v15 k ct = .ok key' ∧ key'.length = key.length) := by
  obtain ⟨ne, em, hc, hroom, hd, _, rfl⟩ := decryptSessionKey_ok_iff.1 h
  split
  · next msg hu =>
    split
    · next hm => exact Or.inr ⟨(decryptPKCS1v15_ok_iff hc).2 ⟨by omega, em, hd, hu⟩, hm⟩
    · exact Or.inl rfl
  · exact Or.inl rfl

/-- `PrivateKey.Decrypt` with `SessionKeyLen = l > 0` returns `l` octets whenever it returns at all. -/
theorem privDecrypt_sessionKeyLen {k : Priv} {rnd ct pt rnd' : Bytes} {l : Int} (hl : 0 < l)
    (h : privDecrypt k rnd ct (.v15 l) = some (.ok pt, rnd')) : (pt.length : Int) = l := by
  simp only [privDecrypt, readFull] at h
  rw [if_pos (show l > 0 from hl)] at h
  by_cases hr : rnd.length < l.toNat
  · simp [hr] at h
  · simp only [hr, if_false] at h
    cases hd : decryptSessionKey k ct (rnd.take l.toNat) with
    | err => rw [hd] at h; simp at h
    | panic => rw [hd] at h; simp at h
    | ok key' =>
      rw [hd] at h
      simp only [Option.some.injEq, Prod.mk.injEq, Res.ok.injEq] at h
      have := decryptSessionKey_length hd
      rw [← h.1, this, List.length_take]
      omega

/-- with `SessionKeyLen ≤ 0` (or nil options) it is `DecryptPKCS1v15` and reads nothing. -/
theorem privDecrypt_plain (k : Priv) (rnd ct : Bytes) {l : Int} (hl : l ≤ 0) :
    privDecrypt k rnd ct (.v15 l) = some (decryptPKCS1v15 k ct, rnd) ∧
    privDecrypt k rnd ct .nil = some (decryptPKCS1v15 k ct, rnd) := by
  simp only [privDecrypt]
  rw [if_neg (show ¬ l > 0 by omega)]
  exact ⟨rfl, trivial⟩

/-- `OAEPOptions.MGFHash = 0` means "the label hash" -/
theorem privDecrypt_oaep_mgf_default (k : Priv) (rnd ct label : Bytes) (hash : Nat) :
    privDecrypt k rnd ct (.oaep hash 0 label) = privDecrypt k rnd ct (.oaep hash hash label) := by
  simp only [privDecrypt, ite_self, if_true]

example : privDecrypt toyKey [] [5] (.v15 0) = some (decryptPKCS1v15 toyKey [5], []) := (privDecrypt_plain _ _ _ (by decide)).1

/-- the point of `DecryptPKCS1v15SessionKey`: on a valid key, for every ciphertext below the modulus and every key
    buffer that leaves room for the minimal padding, it returns NO error — valid and invalid paddings are not
    distinguishable by the result kind (only by the buffer contents, `decryptSessionKey_content`). -/
theorem decryptSessionKey_total {k : Priv} (hk : KeyOk k) (he : 2 ≤ k.e) (ct key : Bytes)
    (hroom : key.length + 11 ≤ sizeBytes k.n) (hlt : os2ip ct < k.n) :
    ∃ key', decryptSessionKey k ct key = .ok key' := by
  obtain ⟨em, hd⟩ := hk.decrypt_isOk false hlt
  exact ⟨_, decryptSessionKey_ok_iff.2 ⟨_, em, hk.checkPub_eq he, hroom, hd, (hk.decrypt_ok_iff.1 hd).2.1, rfl⟩⟩

/-- the hypotheses hold for `key40` (78 octets) and a 16-octet session key: the buffer keeps its length -/
example (key : Bytes) (h16 : key.length = 16) :
    ∃ key', decryptSessionKey key40 [] key = .ok key' ∧ key'.length = 16 := by
  obtain ⟨key', h⟩ := decryptSessionKey_total key40_ok (by decide) [] key (by rw [h16, key40_size.1]; decide)
    (by show 0 < key40.n; exact key40_ok.pos)
  exact ⟨key', h, (decryptSessionKey_length h).trans h16⟩

/-- `signPSSOpts` under `key40`: the positional hash says SHA-1 (3), `opts.Hash` says SHA-256 (5) and wins; the
    signature verifies under SHA-256 whatever the verifier's `opts.Hash` says (`pss_opts_sign_verify`). -/
example (dg salt : Bytes) (hd : dg.length = 32) (hs : salt.length = 32) :
    ∃ sig, signPSSOpts key40 3 dg (some ⟨-1, 5⟩) salt = some (.ok sig) ∧
      verifyPSSOpts key40.pub 5 dg sig (some ⟨-1, 3⟩) = some (.ok ()) := by
  obtain ⟨sig, h1, _, _, _⟩ := pss_sign_verify key40_ok (by decide) hashOk_sha256 dg salt hd
    (by rw [hs, key40_size.2]; decide)
  have hsign : signPSSOpts key40 3 dg (some ⟨-1, 5⟩) salt = some (.ok sig) := by
    have : signPSS key40 .sha256 dg (-1) salt = .ok sig := by
      unfold signPSS
      simp only [show ((-1 : Int) = 0) = False by decide, if_false, if_true]
      show (if salt.length < 32 then Res.err else signPSSWithSalt key40 .sha256 dg (salt.take 32)) = .ok sig
      rw [if_neg (by omega), ← hs, List.take_length]
      exact h1
    simp [signPSSOpts, signPSSHash, hashAlg, pssSaltLength, this]
  exact ⟨sig, hsign, pss_opts_sign_verify key40_ok (by decide) hsign 3⟩

end ZV.C23
