import ZV.Proofs.C32
import ZV.Proofs.C32Kx
/-!
  C32 — TLS endpoints survive arbitrary peer behaviour.

  Proved here, for EVERY byte stream and every reader state, about the model of the record reader's framing loop
  (readRecordOrCCS + retryReadRecord + readHandshake, no cipher yet — the state in which an arbitrary peer talks to us):

  * `reader_total`              one call of the record reader never panics (every index expression is guarded), and either
                                returns an error or has consumed at least one whole record (≥ 5 bytes); the consumed byte
                                count is exactly the advance of the stream.
  * `useless_records_bounded`   the consecutive-useless-record counter never exceeds `maxUselessRecords` after a successful read
                                (so at most 16 warning alerts / TLS 1.3 CCS records are skipped in a row).
  * `record_adds_at_most_maxPlaintext`  a successful read adds between 1 and maxPlaintext bytes to the reassembly buffer.
  * `handshake_buffer_bounded`  readHandshake never panics; a delivered message has at most 4 + maxHandshake bytes and the
                                reassembly buffer always stays below 4 + maxHandshake + maxPlaintext bytes.
  * `handshake_progress`        every delivered message took ≥ 4 bytes out of the stream+buffer: the loop terminates.
  and, for EVERY record length, record content and result of the cryptographic primitives, about the model of
  `halfConn.decrypt` + `extractPadding` (stream, CBC with implicit / explicit IV, AEAD with explicit / implicit nonce,
  TLS 1.3; the decrypted bytes and the MAC / tag verdict are inputs of the model, no cryptography is modelled):

  * `decrypt_no_panic`          no slice, index or modulus expression of decrypt can fail: a protected record of any length
                                (0 included) and any content is answered with a plaintext or an alert, never a panic.
  * `cbc_short_record_rejected` a CBC record shorter than explicit IV + MAC + one padding byte — the empty record in
                                particular — is answered with bad_record_mac before anything is sliced.
  * `aead_short_record_rejected` an AEAD record shorter than its explicit nonce is answered with bad_record_mac.
  * `mac_delivers_only_authenticated` the MAC tail hands out a plaintext only when the MAC comparison succeeded.
  and, for EVERY message (any bytes, any length), every protocol version and every client configuration, about the model
  of the key-exchange parameter parsers of tls/key_agreement.go (ZV.Model.C32Kx: serverKeyExchangeMsg.unmarshal +
  ecdheKeyAgreement.processServerKeyExchange; + dheKeyAgreement.processServerKeyExchange + verifyParameters;
  clientKeyExchangeMsg.unmarshal + processClientKeyExchange of the RSA, ECDHE and DHE key agreements) in which every Go
  index expression and every slice expression is a partial operation that yields `.panic` when out of range:

  * `skx_parse_no_panic`        the ECDHE ServerKeyExchange parser never panics (curve type, curve id, point length, share,
                                2-byte algorithm at TLS 1.2, 2-byte length, signature: every access is behind a guard).
  * `skx_dhe_parse_no_panic`    the DHE ServerKeyExchange parser (p, g, Ys, signature block incl. the hash-id lookup of
                                verifyParameters) never panics — unconditionally, for every client (signature, hash) list.
                                (The guard that carries this is the comma-ok lookup `supportedHashFunc[id]` of
                                verifyParameters / signParameters: defect D40 in known_findings.json.)
  * `skx_dhe_unknown_hash_is_error`  the lookup failure is an error: at TLS ≥ 1.2 an accepted DHE message names a hash id
                                with an entry in `supportedHashFunc` (1..6), whatever the client configured;
                                `skx_hash_lookup_rejected`: the replay input of D40 is refused.
  * `skx_sig_guard_load_bearing` without the `len(sig) < 2` guards the signature tail does panic (non-vacuity).
  * `ckx_parse_no_panic`        the three ClientKeyExchange parsers (RSA encrypted pre-master secret with its 2-byte length,
                                ECDHE point with its 1-byte length, DHE Yc) never panic.
  * `skx_consumes_all` / `skx_dhe_consumes_all` / `ckx_consumes_all`   consumption: an accepted message is EXACTLY the
                                concatenation header ‖ fields with every length prefix equal to the length of its field —
                                no byte is skipped, none is read twice, nothing trails; share ≤ 255 bytes, signature /
                                parameters ≤ 65535 bytes; the DHE share satisfies 0 < Ys < p; the signed DHE parameters are
                                the body without the signature block.
  * `dhe_parser_guarantees_modulus` / `dhe_gen_panics_iff` / `dhe_client_step_no_panic` (+ `…_verified`)   the step BEHIND
                                the parser: generateClientKeyExchange hands `ka.p` to crypto/rand.Int, which panics on a
                                bound ≤ 0 — the step panics exactly when p = 0; the parser (0 < Ys < p) guarantees p ≥ 2, for
                                the verifying and for the InsecureSkipVerify client (`skx_dhe_skipverify_no_panic`: dropping
                                the signature verdict lets no panic through either), so no accepted ServerKeyExchange makes
                                the client step panic, whatever exponent is drawn. The margin is exactly 2
                                (`dhe_modulus_two_accepted`): a bound `p - k`, k ≥ 2, handed to rand.Int is NOT covered.
  * `dhe_ckx_roundtrip`         the ClientKeyExchange the client then sends (2-byte length ‖ Yc, Yc = g^x mod p, any x) is
                                accepted by the server-side parser for the same modulus whenever Yc ≠ 0, and parsed
                                back to Yc (Yc = 0 is refused: `ckx_consumes_all` gives 0 < Yc); the pre-master secret is
                                Ys^x mod p.
  The state machines on top of the reader, the other message parsers and the cryptography of the encrypted phase are
  NOT modelled: they are explored by the T3 matrix (every position of genuine transcripts in the thorough tier,
  structured forgeries with consistent framing).
-/
namespace ZV.C32

theorem reader_total (vers : Nat) (st : St) (s : Bytes) :
    readRecord vers st s ≠ .panic ∧
    ∀ st' rest, readRecord vers st s = .ok st' rest →
      rest.length + 5 ≤ s.length ∧ st'.pos - st.pos = s.length - rest.length ∧ st.pos ≤ st'.pos := by
  have h := readRecord_good vers st s
  refine ⟨fun hp => (hp ▸ h : Good st s .panic), fun st' rest he => ?_⟩
  obtain ⟨h1, h2, -⟩ : Good st s (.ok st' rest) := he ▸ h
  exact ⟨h1, by omega⟩

theorem useless_records_bounded (vers : Nat) (st : St) (s : Bytes) (h0 : st.retry ≤ maxUselessRecords)
    (st' : St) (rest : Bytes) (he : readRecord vers st s = .ok st' rest) :
    st'.retry ≤ maxUselessRecords :=
  Nat.max_eq_right h0 ▸ (he ▸ readRecord_good vers st s : Good st s (.ok st' rest)).2.2.1

theorem record_adds_at_most_maxPlaintext (vers : Nat) (st : St) (s : Bytes) (st' : St) (rest : Bytes)
    (he : readRecord vers st s = .ok st' rest) :
    st.hand.length < st'.hand.length ∧ st'.hand.length ≤ st.hand.length + maxPlaintext :=
  (he ▸ readRecord_good vers st s : Good st s (.ok st' rest)).2.2.2

theorem handshake_buffer_bounded (vers : Nat) (st : St) (s : Bytes) (h0 : st.hand.length < bufBound) :
    readHandshake vers st s ≠ .panic ∧
    (∀ t len st' rest, readHandshake vers st s = .msg t len st' rest →
        len ≤ 4 + maxHandshake ∧ st'.hand.length < bufBound ∧ st'.retry ≤ max st.retry maxUselessRecords) ∧
    (∀ st', readHandshake vers st s = .complex st' → st'.hand.length < bufBound) := by
  have h := readHandshake_good vers st s h0
  refine ⟨?_, ?_, ?_⟩
  · intro hp; rw [hp] at h; exact h
  · intro t len st' rest he
    rw [he] at h
    exact ⟨h.2.1, h.2.2.1, h.2.2.2.2⟩
  · intro st' he
    rw [he] at h
    exact h.1

theorem handshake_progress (vers : Nat) (st : St) (s : Bytes) (h0 : st.hand.length < bufBound)
    (t len : Nat) (st' : St) (rest : Bytes) (he : readHandshake vers st s = .msg t len st' rest) :
    4 ≤ len ∧ rest.length ≤ s.length := by
  have h := readHandshake_good vers st s h0
  rw [he] at h
  exact ⟨h.1, h.2.2.2.1⟩

/-- the hypotheses are satisfiable (initial state) and the success case is inhabited -/
example : ∃ st' rest, readRecord 0x0303 ⟨[], 0, 0⟩ [22, 3, 3, 0, 1, 14] = .ok st' rest := by
  exact ⟨⟨[14], 0, 6⟩, [], by decide +kernel⟩
example : (⟨[], 0, 0⟩ : St).retry ≤ maxUselessRecords := by decide
example : (⟨[], 0, 0⟩ : St).hand.length < bufBound := by decide

theorem decrypt_no_panic (hc : HC) (hwf : hc.WF) (typ : Nat) (payload dec : Bytes) (auth : Bool) :
    decrypt hc typ payload dec auth ≠ .panic := by
  have tail : ∀ body pl good, ∀ t n, macPart hc t n body pl good auth ≠ .panic :=
    fun _ _ _ _ _ => macPart_ne_panic _ _ _ _ _ _ _
  unfold decrypt
  by_cases hccs : hc.vers = 0x0304 ∧ typ = 20
  · rw [if_pos hccs]; nofun
  rw [if_neg hccs]
  cases hk : hc.kind with
  | none => exact macPart_ne_panic _ _ _ _ _ _ _
  | stream => exact tls13Part_ne_panic _ _ _ _ (tail _ _ _)
  | aead =>
    simp only
    by_cases hlen : payload.length < explicitNonceLen hc
    · rw [if_pos hlen]; nofun
    rw [if_neg hlen, sliceTo_eq _ _ (by omega), sliceFrom_eq _ _ (by omega)]
    simp only
    by_cases hov : ¬auth = true ∨ (payload.drop (explicitNonceLen hc)).length < hc.overhead
    · rw [if_pos hov]; nofun
    · rw [if_neg hov]; exact tls13Part_ne_panic _ _ _ _ (tail _ _ _)
  | cbc =>
    obtain ⟨hb, hm⟩ := hwf hk
    simp only
    rw [if_neg (by simp [hm]), show roundUp (hc.macSize + 1) hc.block = .ok _ from if_neg (by omega)]
    simp only
    by_cases hg : payload.length % hc.block ≠ 0 ∨ payload.length <
        explicitNonceLen hc + (hc.macSize + 1 + (hc.block - (hc.macSize + 1) % hc.block) % hc.block)
    · rw [if_pos hg]; nofun
    · rw [if_neg hg]
      obtain ⟨body, hbe, hbm⟩ := stripIV_ok hc hk payload (by omega) (by omega)
      rw [hbe]
      simp only
      rw [if_neg (by omega)]
      obtain ⟨r, hr⟩ := extractPadding_ok (if dec.length = body.length then dec else body)
      rw [hr]
      exact tls13Part_ne_panic _ _ _ _ (tail _ _ _)

theorem cbc_short_record_rejected (hc : HC) (hwf : hc.WF) (hk : hc.kind = .cbc) (typ : Nat) (payload dec : Bytes) (auth : Bool)
    (hccs : ¬ (hc.vers = 0x0304 ∧ typ = 20))
    (hlen : payload.length < explicitNonceLen hc + hc.macSize + 1) :
    decrypt hc typ payload dec auth = .alert alertBadRecordMAC := by
  obtain ⟨hb, hm⟩ := hwf hk
  unfold decrypt
  rw [if_neg hccs]
  simp only [hk]
  rw [if_neg (not_not_intro hm), roundUp, if_neg (Nat.ne_of_gt hb)]
  exact if_pos (.inr (Nat.lt_of_lt_of_le hlen (Nat.add_le_add_left (Nat.le_add_right (hc.macSize + 1) _) _)))

theorem aead_short_record_rejected (hc : HC) (hk : hc.kind = .aead) (typ : Nat) (payload dec : Bytes) (auth : Bool)
    (hccs : ¬ (hc.vers = 0x0304 ∧ typ = 20)) (hlen : payload.length < hc.nonce) :
    decrypt hc typ payload dec auth = .alert alertBadRecordMAC := by
  unfold decrypt
  rw [if_neg hccs]
  simp only [hk]
  rw [if_pos]
  simp [explicitNonceLen, hk, hlen]

theorem mac_delivers_only_authenticated (hc : HC) (typ pl : Nat) (payload : Bytes) (padLen : Nat) (good auth : Bool) (t n : Nat)
    (hm : hc.hasMac = true) (h : macPart hc typ pl payload padLen good auth = .plain t n) : auth = true := by
  by_cases hag : (auth && good) = true
  · simp at hag; exact hag.1
  · unfold macPart at h
    rw [if_pos hm] at h
    split at h
    · simp at h
    · simp only at h
      split at h <;> simp at h

/-- the hypotheses are satisfiable: AES-128-CBC-SHA at TLS 1.2 is well-formed, and its EMPTY record is short -/
example : (⟨.cbc, 0x0303, 16, 0, 0, true, 20⟩ : HC).WF := fun _ => ⟨by decide, rfl⟩
example : ([] : Bytes).length < explicitNonceLen ⟨.cbc, 0x0303, 16, 0, 0, true, 20⟩ + 20 + 1 := by decide
example : decrypt ⟨.cbc, 0x0303, 16, 0, 0, true, 20⟩ 23 [] [] false = .alert alertBadRecordMAC :=
  cbc_short_record_rejected _ (fun _ => ⟨by decide, rfl⟩) rfl 23 [] [] false (by decide) (by decide)
example : ([] : Bytes).length < (⟨.aead, 0x0303, 0, 8, 16, false, 0⟩ : HC).nonce := by decide

/-! ## key-exchange parameter parsers -/

/-- ECDHE ServerKeyExchange: no message, version, suite, certificate key or client list makes the parser panic -/
theorem skx_parse_no_panic (c : EcdheCtx) (msg : Bytes) : ecdheSKXMsg c msg ≠ .panic :=
  (ecdheSKXMsg_spec c msg).ne_panic

/-- DHE ServerKeyExchange: no message, version, suite signature or client (signature, hash) list makes the parser panic -/
theorem skx_dhe_parse_no_panic (c : DheCtx) (msg : Bytes) : dheSKXMsg c msg ≠ .panic :=
  (dheSKXMsg_spec c msg).ne_panic

/-- the hash-id lookup failure is an ERROR: whatever pairs the client configured, a DHE ServerKeyExchange that is
    parsed to the end at TLS ≥ 1.2 names a hash with an entry in `supportedHashFunc` -/
theorem skx_dhe_unknown_hash_is_error (c : DheCtx) (msg : Bytes) (o : DheSkx) (h : dheSKXMsg c msg = .ok o)
    (hv : c.vers ≥ versionTLS12) : hashKnown o.hashId = true :=
  ((dheSKXMsg_spec c msg).of_ok h).1 hv

/-- the replay input of defect D40: a client whose Config.SignatureAndHashes contains
    (RSA, hash 0) REFUSES this 17-byte DHE_RSA ServerKeyExchange at TLS 1.2 (p = 0x17, g = 5, Ys = 8, algorithm bytes
    00 01, empty signature) instead of panicking.  Same line on the Go code: `c32 kx dskx 771 0 1:0,1:4 …` -/
theorem skx_hash_lookup_rejected : dheSKXMsg ⟨0x0303, signatureRSA, [(1, 0), (1, 4)]⟩
    [0x0c, 0, 0, 0x0d, 0, 1, 0x17, 0, 1, 5, 0, 1, 8, 0, 1, 0, 0] = .err := by decide +kernel
/-- … while a known hash at TLS 1.2 is parsed -/
example : (dheSKXMsg ⟨0x0303, signatureRSA, [(1, 0), (1, 4)]⟩
    [0x0c, 0, 0, 0x0d, 0, 1, 0x17, 0, 1, 5, 0, 1, 8, 4, 1, 0, 0]).isOk = true := by decide +kernel
example : (dheSKXMsg ⟨0x0303, signatureRSA, defaultSKXSignatureAlgorithms⟩
    [12, 0, 0, 14, 0, 1, 0x17, 0, 1, 5, 0, 1, 8, 4, 1, 0, 1, 9]).isOk = true ∧ (0x0303 : Nat) ≥ versionTLS12 := by decide +kernel

/-- the guards are load-bearing (the no-panic theorems are not vacuous): handed a signature block shorter than two bytes —
    what the `len(sig) < 2` checks of processServerKeyExchange exclude — the tail of the ECDHE parser DOES panic -/
theorem skx_sig_guard_load_bearing (c : EcdheCtx) (curve : Nat) (pub : Bytes) (t h : Nat) (sig : Bytes)
    (hs : sig.length < 2) (hr : (decide (t = signaturePKCS1v15) || decide (t = signatureRSAPSS)) = c.isRSA) :
    ecdheSigTail c curve pub t h sig = .panic := by
  unfold ecdheSigTail
  rw [if_neg (by simp [hr])]
  match sig, hs with
  | [], _ => rfl
  | [_], _ => rfl

example : ([7] : Bytes).length < 2 := by decide

/-- ClientKeyExchange (RSA / ECDHE / DHE): no message makes the server-side parser panic -/
theorem ckx_parse_no_panic (k : CkxKind) (msg : Bytes) : ckxMsg k msg ≠ .panic :=
  (ckxMsg_spec k msg).ne_panic

/-- consumption, ECDHE ServerKeyExchange: an accepted message is exactly
    header(4) ‖ 03 ‖ curve(2) ‖ len(1) ‖ share ‖ [algorithm(2) at TLS ≥ 1.2] ‖ len(2) ‖ signature -/
theorem skx_consumes_all (c : EcdheCtx) (msg : Bytes) (o : EcdheSkx) (h : ecdheSKXMsg c msg = .ok o) :
    ∃ hdr c1 c2 pl algB l1 l2,
      msg = hdr ++ 3 :: c1 :: c2 :: pl :: (o.pub ++ (algB ++ l1 :: l2 :: o.sig)) ∧ hdr.length = 4 ∧
      o.curve = be16 c1 c2 ∧ curveSupported o.curve = true ∧ pl.toNat = o.pub.length ∧ be16 l1 l2 = o.sig.length ∧
      algB.length = (if c.vers ≥ versionTLS12 then 2 else 0) ∧
      (∀ a b, algB = [a, b] → typeAndHash (be16 a b) = some (o.sigType, o.hashId) ∧ c.clientSigAlgs.contains (be16 a b) = true) ∧
      msg.length = 4 + 4 + o.pub.length + algB.length + 2 + o.sig.length ∧
      o.pub.length ≤ 255 ∧ o.sig.length ≤ 65535 :=
  (ecdheSKXMsg_spec c msg).of_ok h

/-- consumption, DHE ServerKeyExchange: an accepted message is exactly
    header(4) ‖ len‖p ‖ len‖g ‖ len‖Ys ‖ [hash, signature at TLS ≥ 1.2] ‖ len(2) ‖ signature,
    0 < Ys < p, and the signed parameters are the body up to the signature block -/
theorem skx_dhe_consumes_all (c : DheCtx) (msg : Bytes) (o : DheSkx)
    (h : dheSKXMsg c msg = .ok o) :
    ∃ hdr a1 a2 b1 b2 c1 c2 algB l1 l2,
      msg = hdr ++ a1 :: a2 :: (o.p ++ b1 :: b2 :: (o.g ++ c1 :: c2 :: (o.ys ++ (algB ++ l1 :: l2 :: o.sig)))) ∧
      hdr.length = 4 ∧ be16 a1 a2 = o.p.length ∧ be16 b1 b2 = o.g.length ∧ be16 c1 c2 = o.ys.length ∧
      be16 l1 l2 = o.sig.length ∧ 0 < natOf o.ys ∧ natOf o.ys < natOf o.p ∧
      o.params = a1 :: a2 :: (o.p ++ b1 :: b2 :: (o.g ++ c1 :: c2 :: o.ys)) ∧
      algB.length = (if c.vers ≥ versionTLS12 then 2 else 0) ∧
      (∀ hb sb, algB = [hb, sb] → o.hashId = hb.toNat ∧ sb.toNat = c.sigType ∧ (c.sigType, hb.toNat) ∈ c.clientSigHashes) ∧
      msg.length = 4 + 6 + o.p.length + o.g.length + o.ys.length + algB.length + 2 + o.sig.length ∧
      o.p.length ≤ 65535 ∧ o.g.length ≤ 65535 ∧ o.ys.length ≤ 65535 ∧ o.sig.length ≤ 65535 :=
  ((dheSKXMsg_spec c msg).of_ok h).2

/-! ## the client step behind the DHE parser -/

/-- an InsecureSkipVerify client (the signature verdict is dropped): still no panic, for every message -/
theorem skx_dhe_skipverify_no_panic (c : DheCtx) (msg : Bytes) : dheSKXSkipVerifyMsg c msg ≠ .panic :=
  (dheSKXSkipVerifyMsg_spec c msg).ne_panic

/-- WHAT THE PARSER GUARANTEES about the group it hands on: 0 < Ys < p, hence p ≥ 2, and fields of at most 65535 bytes -/
theorem dhe_parser_guarantees_modulus (c : DheCtx) (msg p g ys : Bytes)
    (h : dheSKXSkipVerifyMsg c msg = .ok (p, g, ys)) :
    0 < natOf ys ∧ natOf ys < natOf p ∧ 2 ≤ natOf p ∧ p.length ≤ 65535 :=
  (dheSKXSkipVerifyMsg_spec c msg).of_ok h

/-- WHAT THE CLIENT STEP NEEDS: `rand.Int(rand, p)` panics exactly when p ≤ 0; nothing else in generateClientKeyExchange can -/
theorem dhe_gen_panics_iff (p g ys : Bytes) (x : Nat) : dheGenCKX p g ys x = .panic ↔ natOf p = 0 := by
  unfold dheGenCKX
  by_cases h : natOf p = 0
  · rw [if_pos h]; simp [h]
  · rw [if_neg h]; simp [h]

/-- the load-bearing direction, concretely: p = 0 (a zero-length dh_p) would make the step panic — the range guard on Ys
    is what keeps it out -/
example : dheGenCKX [] [2] [1] 5 = .panic := rfl

/-- no ServerKeyExchange an InsecureSkipVerify client accepts makes generateClientKeyExchange panic, whatever exponent
    is drawn -/
theorem dhe_client_step_no_panic (c : DheCtx) (msg p g ys : Bytes)
    (h : dheSKXSkipVerifyMsg c msg = .ok (p, g, ys)) (x : Nat) : dheGenCKX p g ys x ≠ .panic := by
  have := dhe_parser_guarantees_modulus c msg p g ys h
  rw [Ne, dhe_gen_panics_iff]
  omega

/-- the same for the verifying client -/
theorem dhe_client_step_no_panic_verified (c : DheCtx) (msg : Bytes) (o : DheSkx)
    (h : dheSKXMsg c msg = .ok o) (x : Nat) : dheGenCKX o.p o.g o.ys x ≠ .panic := by
  obtain ⟨_, _, _, _, _, _, _, _, _, _, -, -, -, -, -, -, h0, hlt, -⟩ := skx_dhe_consumes_all c msg o h
  rw [Ne, dhe_gen_panics_iff]
  omega

/-- the margin is exactly 2: p = 2 (g = 1, Ys = 1) IS accepted — so the guarantee does not cover a bound `p - k`, k ≥ 2 -/
theorem dhe_modulus_two_accepted :
    dheSKXSkipVerifyMsg ⟨0x0301, signatureRSA, defaultSKXSignatureAlgorithms⟩
      [12, 0, 0, 9, 0, 1, 2, 0, 1, 1, 0, 1, 1] = .ok ([2], [1], [1]) := by decide +kernel
example : (dheSKXMsg ⟨0x0301, signatureRSA, defaultSKXSignatureAlgorithms⟩
    [12, 0, 0, 12, 0, 1, 3, 0, 1, 2, 0, 1, 1, 0, 1, 9]).isOk = true := by decide +kernel

/-- the ClientKeyExchange produced behind an accepted ServerKeyExchange is well-formed: whatever exponent x is drawn, the
    server-side parser for the same modulus accepts `type ‖ len24 ‖ len16 ‖ Yc` whenever Yc = g^x mod p ≠ 0, and reads Yc
    back; the pre-master secret is the number Ys^x mod p -/
theorem dhe_ckx_roundtrip (c : DheCtx) (msg p g ys : Bytes) (h : dheSKXSkipVerifyMsg c msg = .ok (p, g, ys))
    (x : Nat) (t a b d : UInt8) :
    ∃ ct pms, dheGenCKX p g ys x = .ok (ct, pms) ∧ natOf pms = natOf ys ^ x % natOf p ∧
      (be24 a b d = ct.length → natOf g ^ x % natOf p ≠ 0 →
        ckxMsg (.dhe p) (t :: a :: b :: d :: ct) = .ok (bytesOfNat (natOf g ^ x % natOf p))) := by
  obtain ⟨_, _, h2, hl⟩ := dhe_parser_guarantees_modulus c msg p g ys h
  exact dheGenCKX_roundtrip p g ys x hl (by omega) t a b d

example : (dheSKXSkipVerifyMsg ⟨0x0303, signatureRSA, defaultSKXSignatureAlgorithms⟩
    [12, 0, 0, 9, 0, 1, 0x17, 0, 1, 5, 0, 1, 8]).isOk = true := by decide +kernel

/-- consumption, ClientKeyExchange: an accepted message is exactly  type ‖ len(3) ‖ len ‖ field  (RSA: 2-byte length +
    encrypted pre-master secret; ECDHE: 1-byte length + point, which was a valid share; DHE: 2-byte length + Yc, 0 < Yc < p) -/
theorem ckx_consumes_all (k : CkxKind) (msg n : Bytes) (h : ckxMsg k msg = .ok n) :
    ∃ t a b c, be24 a b c + 4 = msg.length ∧
      match k with
      | .rsa => ∃ x y, msg = t :: a :: b :: c :: x :: y :: n ∧ be16 x y = n.length
      | .ecdhe ok => ∃ x, msg = t :: a :: b :: c :: x :: n ∧ x.toNat = n.length ∧ ok = true
      | .dhe p => ∃ x y, msg = t :: a :: b :: c :: x :: y :: n ∧ be16 x y = n.length ∧ 0 < natOf n ∧ natOf n < natOf p := by
  cases k <;> exact (ckxMsg_spec _ msg).of_ok h

/-- the hypotheses are satisfiable: an X25519 ECDHE_RSA ServerKeyExchange at TLS 1.2 (1-byte share for brevity — the model
    takes the verdict on the share as an input), a DHE one, and the three ClientKeyExchange forms are accepted -/
example : (ecdheSKXMsg ⟨0x0303, true, .rsa, [0x0804], true⟩ [12, 0, 0, 10, 3, 0, 29, 1, 9, 8, 4, 0, 1, 7]).isOk = true := by decide +kernel
example : (ecdheSKXMsg ⟨0x0301, false, .ecdsa, [], true⟩ [12, 0, 0, 8, 3, 0, 23, 1, 9, 0, 1, 7]).isOk = true := by decide +kernel
example : (dheSKXMsg ⟨0x0303, signatureRSA, defaultSKXSignatureAlgorithms⟩
    [12, 0, 0, 14, 0, 1, 0x17, 0, 1, 5, 0, 1, 8, 4, 1, 0, 1, 9]).isOk = true := by decide +kernel
example : ckxMsg .rsa [16, 0, 0, 4, 0, 2, 7, 8] = .ok [7, 8] := by decide +kernel
example : ckxMsg (.ecdhe true) [16, 0, 0, 3, 2, 7, 8] = .ok [7, 8] := by decide +kernel
example : ckxMsg (.dhe [0x17]) [16, 0, 0, 3, 0, 1, 8] = .ok [8] := by decide +kernel

end ZV.C32