import ZV.Model.C03
import ZV.Props.C23
import ZV.Proofs.C03Dsa
import ZV.Proofs.C03Sign
/-!
  C03 — signature verification accepts exactly the genuine signatures.

  T1 (generated tables, `decide` over the whole table):
  * `sign_verify_agree`: for every (creation API, requested algorithm, key type) the API accepts, the scheme it
    REALLY asks the signer for (PKCS #1 v1.5 / PSS, hash — recorded at run time) is the scheme
    `CheckSignatureFromKey` checks for the algorithm identifier written into the object (D7: the row
    (CreateCertificateRequest, *WithRSAPSS) fails when the request is signed without the PSS signer options).
  * `sign_rows_cover`, `details_consistent`, `pss_algos_total`, `der_trailing_uniform` (D18).
  Universal theorems about the model:
  * `derArm_accept_iff`, `parseSig_shape`, `csfk_der_accept`, `csfk_dsa_accept`: a DSA/ECDSA signature is accepted only if it parses as
    SEQUENCE{r,s} with nothing after S inside or after the SEQUENCE (D18/D19), r,s > 0 and the primitive accepts.
  * `dsa_range`: `dsa.Verify` accepts only 0 < r,s < q.
  * `csfk_rsa_pkcs1` (hash binding) and, through C23, `csfk_rsa_unique`, `csfk_rsa_message_binding`.
  * `csfk_unsupported`, `csfk_other_key`.
  DSA correctness (helpers in ZV.Proofs.C03Dsa): `dsaVerify_of_dsaSign` (re-exported as `dsa_sign_verify`), `csfk_dsa_genuine`;
  what `dsa.Sign` returns and refuses: `dsaSign_range`, `dsaSign_odd_order`, `dsa_digest_as_integer`.
  Claimed algorithm: `csfk_family_blind`, `csfk_family_mismatch` (the known finding as a theorem), `csfk_rsa_scheme`.
  Signer side (model of both `signingParamsForPublicKey`, `GetSignatureAlgorithmFromAI`, signer options):
  `signing_params_match_verify`, `signing_params_match_verify_ocsp`, `signing_params_no_panic`,
  `created_rsa_verified_as_signed`, `sign_rows_match_model` / `refused_rows_match_model` (T1 rows of the real creation
  APIs = the model).
-/
namespace ZV.C03
open ZV ZV.Hash

/-- every object a creation API agrees to sign is signed with exactly the scheme its own verifier
    will check for the algorithm identifier written into it, and that identifier belongs to the key's family. -/
theorem sign_verify_agree :
    (Gen.C03.signRows.all fun r =>
      verifyScheme r.2.2.1 r.2.2.2.1 == some (r.2.2.2.2.1, r.2.2.2.2.2) &&
      detailsFamily r.2.2.2.1 == some (keyFamily r.2.2.1)) = true :=
  recorded_rows_ok.2.2.1

/-- the sweep behind `sign_verify_agree` is not empty: every API accepts at least the default algorithm
    for every key type it supports, and the three RSA-PSS algorithms are accepted by the certificate, CSR and
    revocation-list APIs. -/
theorem sign_rows_cover :
    ((["cert", "csr", "rl"].all fun api => [13, 14, 15].all fun a =>
        Gen.C03.signRows.any fun r => r.1 == api && r.2.1 == a && r.2.2.1 == "rsa") &&
     (["cert", "csr", "crl", "rl", "ocsp"].all fun api =>
        Gen.C03.signRows.any fun r => r.1 == api && r.2.1 == 0)) = true :=
  recorded_rows_ok.2.2.2

/-- both signatureAlgorithmDetails tables (x509, ocsp) name the hash the verifier's switch uses. -/
theorem details_consistent :
    ((Gen.C03.x509Details ++ Gen.C03.ocspDetails).all fun r =>
      r.2.2 == 0 || algoHash r.1 == some (some r.2.2)) = true := by
  decide +kernel

/-- every RSA-PSS algorithm has a hash the model (and `crypto.Hash.New`) implements: the `.panic` branch
    of the RSA arm is unreachable. -/
theorem pss_algos_total :
    (Gen.C03.pssAlgos.all fun a => match algoHash a with
      | some (some h) => (C23.hashAlg h).isSome && detailsFamily a == some "RSA"
      | _ => false) = true := by
  decide +kernel

/-- all three DER-coded arms of the key-type switch reject bytes after the signature (D18). -/
theorem der_trailing_uniform :
    rejectsTrailing "*dsa.PublicKey" = true ∧ rejectsTrailing "*ecdsa.PublicKey" = true ∧
    rejectsTrailing "*AugmentedECDSA" = true := by
  decide +kernel

theorem derArm_accept_iff (arm : String) (sig : Bytes) (prim : Int → Int → Bool) :
    derArm arm sig prim = .ok () ↔
      ∃ r s rest, parseSig sig = some (r, s, rest) ∧ (rejectsTrailing arm = true → rest = []) ∧
        0 < r ∧ 0 < s ∧ prim r s = true := by
  unfold derArm
  cases hp : parseSig sig with
  | none => simp
  | some v =>
    obtain ⟨r, s, rest⟩ := v
    simp only [guard_ok_iff, accept_eq_ok, Option.some.injEq, Prod.mk.injEq]
    constructor
    · rintro ⟨h1, h2, h3, _⟩
      exact ⟨r, s, rest, ⟨rfl, rfl, rfl⟩, fun ht => by simpa [ht] using h1, by omega, by omega, h3⟩
    · rintro ⟨_, _, _, ⟨rfl, rfl, rfl⟩, ht, hr, hs, hpr⟩
      exact ⟨fun h => by simp at h; exact h.2 (ht h.1), by omega, hpr, trivial⟩

/-- `parseSig` succeeds only on `30 len (02 len R) (02 len S)` with NOTHING left inside the SEQUENCE after S
    (D19), and returns the bytes after the SEQUENCE untouched. -/
theorem parseSig_shape {sig : Bytes} {r s : Int} {rest : Bytes} (h : parseSig sig = some (r, s, rest)) :
    ∃ inner rc in2 sc, parseTLV 0x30 sig = some (inner, rest) ∧ parseTLV 0x02 inner = some (rc, in2) ∧
      parseTLV 0x02 in2 = some (sc, []) ∧ parseBigInt rc = some r ∧ parseBigInt sc = some s := by
  revert h
  fun_cases parseSig sig
  · nofun
  · nofun
  · nofun
  · nofun
  · nofun
  · nofun
  · next inner rest' h0 rc in2 h1 r' h2 sc in3 h3 s' h4 h5 =>
    intro h
    obtain ⟨rfl, rfl, rfl⟩ : r' = r ∧ s' = s ∧ rest' = rest := by simpa using h
    obtain rfl : in3 = [] := List.length_eq_zero_iff.1 (by simpa using h5)
    exact ⟨inner, rc, in2, sc, h0, h1, h3, h2, h4⟩

/-- an accepted DSA / ECDSA signature (either Go key type) has no trailing bytes, positive r and s, and the
    primitive accepted the parsed pair. -/
theorem csfk_der_accept {key : Key} {algo : Nat} {signed sig : Bytes} {o : Bool}
    (hk : key = .ecdsa ∨ key = .augEcdsa)
    (h : checkSignatureFromKey key algo signed sig o = .ok ()) :
    o = true ∧ ∃ r s, parseSig sig = some (r, s, []) ∧ 0 < r ∧ 0 < s := by
  unfold checkSignatureFromKey at h
  split at h <;> try contradiction
  split at h <;> try contradiction
  rcases hk with rfl | rfl
  · simp only [dispatchKey] at h
    obtain ⟨r, s, rest, hp, ht, hr, hs, ho⟩ := (derArm_accept_iff _ _ _).1 h
    have := ht der_trailing_uniform.2.1
    subst this
    exact ⟨ho, r, s, hp, hr, hs⟩
  · simp only [dispatchKey] at h
    obtain ⟨r, s, rest, hp, ht, hr, hs, ho⟩ := (derArm_accept_iff _ _ _).1 h
    have := ht der_trailing_uniform.2.2
    subst this
    exact ⟨ho, r, s, hp, hr, hs⟩

/-- `dsa.Verify` accepts only 0 < r < q and 0 < s < q. -/
theorem dsa_range {p q g y : Nat} {hash : Bytes} {r s : Int} (h : dsaVerify p q g y hash r s = true) :
    0 < r ∧ r < q ∧ 0 < s ∧ s < q := by
  unfold dsaVerify at h
  simp only [Bool.if_false_left, Bool.and_eq_true, Bool.not_eq_eq_eq_not, Bool.not_true, decide_eq_false_iff_not] at h
  omega

theorem csfk_dsa_accept {p q g y algo : Nat} {signed sig : Bytes} {o : Bool}
    (h : checkSignatureFromKey (.dsa p q g y) algo signed sig o = .ok ()) :
    ∃ r s, parseSig sig = some (r, s, []) ∧ 0 < r ∧ r < q ∧ 0 < s ∧ s < q := by
  unfold checkSignatureFromKey at h
  split at h <;> try contradiction
  split at h <;> try contradiction
  simp only [dispatchKey] at h
  obtain ⟨r, s, rest, hp, ht, _, _, ho⟩ := (derArm_accept_iff _ _ _).1 h
  have := ht der_trailing_uniform.1
  subst this
  exact ⟨r, s, hp, dsa_range ho⟩

/-! ### RSA: reduction to the C23 verifier -/

/-- hash binding: for a PKCS #1 v1.5 algorithm the verdict on an RSA key is the C23 verifier's verdict on
    the digest of the signed bytes — the signed bytes matter only through their digest. -/
theorem csfk_rsa_pkcs1 {pub : C23.Pub} {algo h : Nat} {ha : HashAlg} (signed sig : Bytes) (o : Bool)
    (halgo : algoHash algo = some (some h)) (hh : h ≠ 0) (hha : C23.hashAlg h = some ha)
    (hpss : isPSS algo = false) :
    checkSignatureFromKey (.rsa pub) algo signed sig o = C23.verifyPKCS1v15 pub h (ha.hash signed) sig := by
  unfold checkSignatureFromKey
  rw [halgo]
  simp [digestOf, dispatchKey, hh, hha, hpss]

/-- at most one signature is accepted per (key, algorithm, message) when the public operation is injective
    (which `C23.rsa_injective` proves for every valid key). -/
theorem csfk_rsa_unique {pub : C23.Pub} {algo h n e : Nat} {ha : HashAlg} {signed s₁ s₂ : Bytes} {o₁ o₂ : Bool}
    (halgo : algoHash algo = some (some h)) (hh : h ≠ 0) (hha : C23.hashAlg h = some ha)
    (hpss : isPSS algo = false) (hpub : C23.checkPub pub = .ok (n, e)) (hinj : C23.RsaInj n e)
    (h1 : checkSignatureFromKey (.rsa pub) algo signed s₁ o₁ = .ok ())
    (h2 : checkSignatureFromKey (.rsa pub) algo signed s₂ o₂ = .ok ()) : s₁ = s₂ := by
  rw [csfk_rsa_pkcs1 signed s₁ o₁ halgo hh hha hpss] at h1
  rw [csfk_rsa_pkcs1 signed s₂ o₂ halgo hh hha hpss] at h2
  exact C23.pkcs1_unique hpub hinj h1 h2

/-- a signature accepted for two messages forces a digest collision (for a hash with fixed output length). -/
theorem csfk_rsa_message_binding {pub : C23.Pub} {algo h : Nat} {ha : HashAlg} {m₁ m₂ sig : Bytes} {o₁ o₂ : Bool}
    (halgo : algoHash algo = some (some h)) (hh : h ≠ 0) (hha : C23.hashAlg h = some ha)
    (hpss : isPSS algo = false) (hlen : ∀ x, (ha.hash x).length = ha.outSize)
    (h1 : checkSignatureFromKey (.rsa pub) algo m₁ sig o₁ = .ok ())
    (h2 : checkSignatureFromKey (.rsa pub) algo m₂ sig o₂ = .ok ()) : ha.hash m₁ = ha.hash m₂ := by
  rw [csfk_rsa_pkcs1 m₁ sig o₁ halgo hh hha hpss] at h1
  rw [csfk_rsa_pkcs1 m₂ sig o₂ halgo hh hha hpss] at h2
  exact C23.pkcs1_digest_binding (by rw [hlen, hlen]) h1 h2

/-- algorithms outside the switch (Unknown, values ≥ 17) and MD2WithRSA are rejected for every key. -/
theorem csfk_unsupported (key : Key) (algo : Nat) (signed sig : Bytes) (o : Bool)
    (h : algoHash algo = none ∨ algoHash algo = some none) :
    checkSignatureFromKey key algo signed sig o = .err := by
  unfold checkSignatureFromKey
  rcases h with h | h <;> rw [h]

/-- a public key of any Go type outside the type switch (crypto/rsa's key, a key passed by value, nil) verifies
    nothing, under any algorithm. -/
theorem csfk_other_key (algo : Nat) (signed sig : Bytes) (o : Bool) :
    checkSignatureFromKey .other algo signed sig o = .err := by
  unfold checkSignatureFromKey
  split <;> try rfl
  split <;> rfl

example : algoHash 4 = some (some 5) ∧ (5 : Nat) ≠ 0 ∧ C23.hashAlg 5 = some HashAlg.sha256 ∧ isPSS 4 = false :=
  ⟨by decide, by decide, rfl, by decide⟩
example : algoHash 0 = none ∧ algoHash 1 = some none ∧ algoHash 17 = none := by decide

/-! ### signer side: `signingParamsForPublicKey` against the verifier -/

/-- FULL (signer side, x509): for EVERY key and EVERY requested algorithm, when `signingParamsForPublicKey` succeeds the
    algorithm `GetSignatureAlgorithmFromAI` reads back from the identifier written into the object (a) belongs to the
    key's family and (b) is verified by `CheckSignatureFromKey` with exactly the padding (PSS or not) and hash that
    CreateCertificate / CreateCertificateRequest / CreateRevocationList hand to the signer. -/
theorem signing_params_match_verify {label : String} {req : Nat} {sp : SignParams}
    (h : signingParams x509Pkg label req = .ok sp) :
    ∃ fam, labelFamily x509Pkg label = some fam ∧
      detailsFamily (algoFromAI sp.oid sp.params) = some fam ∧
      verifyScheme (ktOf fam) (algoFromAI sp.oid sp.params) = some (signerOpts req sp.hash) := by
  obtain ⟨fam, hf, h1, h2, _⟩ := signRowOk_ok sign_tables_ok.1 h
  exact ⟨fam, hf, h1, h2⟩

theorem signing_params_match_verify_ocsp {label : String} {req : Nat} {sp : SignParams}
    (h : signingParams ocspPkg label req = .ok sp) :
    ∃ fam, labelFamily ocspPkg label = some fam ∧
      detailsFamily (algoFromOID sp.oid) = some fam ∧
      verifyScheme (ktOf fam) (algoFromOID sp.oid) = some (signerOptsOcsp sp.hash) := by
  obtain ⟨fam, hf, h1, h2, _⟩ := signRowOk_ok sign_tables_ok.2 h
  exact ⟨fam, hf, h1, h2⟩

/-- neither copy of `signingParamsForPublicKey` can panic (`rsaPSSParameters` is only reached with SHA-256/384/512). -/
theorem signing_params_no_panic (label : String) (req : Nat) :
    signingParams x509Pkg label req ≠ .panic ∧ signingParams ocspPkg label req ≠ .panic := by
  constructor
  · intro h
    have hk := signRowOk_all sign_tables_ok.1 label req
    simp [signRowOk, h] at hk
  · intro h
    have hk := signRowOk_all sign_tables_ok.2 label req
    simp [signRowOk, h] at hk

/-! ### the claimed algorithm reaches the verdict only through its hash and `isRSAPSS` -/

/-- `CheckSignatureFromKey` never looks at the key family of the claimed algorithm: two algorithms with the same hash in
    the first switch and the same `isRSAPSS` get the same verdict on EVERY key, message and signature. -/
theorem csfk_family_blind (key : Key) {a b : Nat} (signed sig : Bytes) (o : Bool)
    (hh : algoHash a = algoHash b) (hp : isPSS a = isPSS b) :
    checkSignatureFromKey key a signed sig o = checkSignatureFromKey key b signed sig o := by
  unfold checkSignatureFromKey
  rw [hh]
  split <;> try rfl
  split <;> try rfl
  cases key <;> simp only [dispatchKey, hp]

/-- the key-family mismatch (known finding, corpus/C03/finding-family-mismatch.line): with an RSA key, ECDSAWithSHA256
    (10) and DSAWithSHA256 (8) are verified exactly as SHA256WithRSA (4): PKCS #1 v1.5 with SHA-256 — so an RSA signature
    relabelled with an ECDSA / DSA identifier is accepted; likewise every RSA or DSA identifier on an ECDSA key.  The
    clause "verification fails whenever the claimed algorithm is changed" therefore holds only up to (hash, isRSAPSS). -/
theorem csfk_family_mismatch (pub : C23.Pub) (signed sig : Bytes) (o : Bool) :
    checkSignatureFromKey (.rsa pub) 10 signed sig o = checkSignatureFromKey (.rsa pub) 4 signed sig o ∧
    checkSignatureFromKey (.rsa pub) 8 signed sig o = checkSignatureFromKey (.rsa pub) 4 signed sig o ∧
    checkSignatureFromKey .ecdsa 4 signed sig o = checkSignatureFromKey .ecdsa 10 signed sig o ∧
    detailsFamily 10 = some "ECDSA" ∧ detailsFamily 8 = some "DSA" ∧ detailsFamily 4 = some "RSA" :=
  ⟨csfk_family_blind _ _ _ _ (by decide) (by decide), csfk_family_blind _ _ _ _ (by decide) (by decide),
   csfk_family_blind _ _ _ _ (by decide) (by decide), by decide, by decide, by decide⟩

/-- what the family of the claimed algorithm DOES guarantee: an RSA-PSS verification is only ever run for an
    algorithm of the RSA family (`pss_algos_total`), and the PSS / PKCS #1 v1.5 choice is the only use of the identifier
    beyond its hash. -/
theorem csfk_rsa_scheme {pub : C23.Pub} {algo h : Nat} {ha : HashAlg} (signed sig : Bytes) (o : Bool)
    (halgo : algoHash algo = some (some h)) (hh : h ≠ 0) (hha : C23.hashAlg h = some ha) :
    checkSignatureFromKey (.rsa pub) algo signed sig o =
      if isPSS algo then C23.verifyPSS pub ha (ha.hash signed) sig (-1)
      else C23.verifyPKCS1v15 pub h (ha.hash signed) sig := by
  unfold checkSignatureFromKey
  rw [halgo]
  simp only [digestOf, hh, if_false, hha, dispatchKey]

example : algoHash 13 = some (some 5) ∧ (5 : Nat) ≠ 0 ∧ C23.hashAlg 5 = some HashAlg.sha256 ∧ isPSS 13 = true :=
  ⟨by decide, by decide, rfl, by decide⟩

/-! ### DSA: what `dsa.Sign` makes, `CheckSignatureFromKey` accepts -/

theorem signLoop_range {p q g x n : Nat} {hash : Bytes} (fuel : Nat) (rnd : Bytes) {r s : Nat}
    (hq : 0 < q) (h : signLoop p q g x hash n fuel rnd = .ok (r, s)) : 0 < r ∧ r < q ∧ 0 < s ∧ s < q := by
  obtain ⟨k, _, _, hr, hr0, hs, hs0⟩ := signLoop_spec fuel rnd h
  exact ⟨Nat.pos_of_ne_zero hr0, hr ▸ Nat.mod_lt _ hq, Nat.pos_of_ne_zero hs0, hs ▸ Nat.mod_lt _ hq⟩

/-- every signature `dsa.Sign` returns has `0 < r < q` and `0 < s < q`, i.e. it passes the range checks of `dsa.Verify`
    (`dsa_range`) and of `CheckSignatureFromKey` (`csfk_dsa_accept`), whatever the digest length. -/
theorem dsaSign_range {p q g x : Nat} {hash rnd : Bytes} {r s : Nat} (h : dsaSign p q g x hash rnd = .ok (r, s)) :
    0 < r ∧ r < q ∧ 0 < s ∧ s < q := by
  unfold dsaSign at h
  split at h
  · contradiction
  · next hc =>
    exact signLoop_range 10 rnd (by omega) h

/-- `dsa.Sign` refuses parameters whose group order is not a whole number of octets, as `dsa.Verify` does. -/
theorem dsaSign_odd_order {p q g x : Nat} (hash rnd : Bytes) (hq : C23.bitLen q % 8 ≠ 0) :
    dsaSign p q g x hash rnd = .err ∧ ∀ y r s, dsaVerify p q g y hash r s = false := by
  constructor
  · unfold dsaSign; simp [hq]
  · intro y r s
    unfold dsaVerify
    cases modInverse s.toNat q <;> simp [hq]

/-- neither side truncates the digest: both read it as ONE integer, so a digest and the same digest with leading zero
    octets are the same message to `Sign` and to `Verify` (and a digest longer than `q` is NOT cut to the length of `q`:
    a signer that cuts it and a verifier that does not would disagree on every digest longer than `q`). -/
theorem dsa_digest_as_integer {p q g x y : Nat} (hash rnd : Bytes) (r s : Int) (z : Nat) :
    dsaSign p q g x (List.replicate z 0 ++ hash) rnd = dsaSign p q g x hash rnd ∧
    dsaVerify p q g y (List.replicate z 0 ++ hash) r s = dsaVerify p q g y hash r s := by
  have hz := C23.os2ip_replicate_zero z hash
  constructor
  · unfold dsaSign
    split
    · rfl
    · generalize (10 : Nat) = fuel
      induction fuel generalizing rnd with
      | zero => rfl
      | succ a ih =>
        unfold signLoop
        cases readK (C23.bitLen q / 8) q rnd with
        | none => rfl
        | some kr =>
          obtain ⟨k, rnd'⟩ := kr
          dsimp only
          rw [hz, ih]
  · unfold dsaVerify
    rw [hz]

/-- DSA correctness at the level of `CheckSignatureFromKey`: for a prime `q`, `g^q ≡ 1 (mod p)` and the public key
    `y = g^x mod p`, the DER coding of ANY pair `dsa.Sign` returns for the digest of the signed bytes (any random stream)
    is accepted, under every algorithm with a real hash. -/
theorem csfk_dsa_genuine {p q g x algo h r s : Nat} {ha : HashAlg} {signed rnd sig : Bytes} (o : Bool)
    (hq : Nat.Prime q) (hg : g ^ q % p = 1)
    (halgo : algoHash algo = some (some h)) (hh : h ≠ 0) (hha : C23.hashAlg h = some ha)
    (hs : dsaSign p q g x (ha.hash signed) rnd = .ok (r, s))
    (hsig : parseSig sig = some ((r : Int), (s : Int), [])) :
    checkSignatureFromKey (.dsa p q g (C23.modPow g x p)) algo signed sig o = .ok () := by
  unfold checkSignatureFromKey
  rw [halgo]
  simp only [digestOf, hh, if_false, hha, dispatchKey]
  rw [derArm_accept_iff]
  have hr := dsaSign_range hs
  exact ⟨r, s, [], hsig, fun _ => rfl, by omega, by omega, dsaVerify_of_dsaSign hq hg hs⟩

/-- the hypotheses of `dsaVerify_of_dsaSign` hold together for these parameters -/
example : Nat.Prime 251 ∧ 4 ^ 251 % 503 = 1 ∧ dsaSign 503 251 4 5 [9] [7] = .ok (37, 207) :=
  ⟨by norm_num, by norm_num, dsaSign_example⟩

example : dsaVerify 503 251 4 (C23.modPow 4 5 503) [9] 37 207 = true :=
  dsaVerify_of_dsaSign (by norm_num) (by norm_num) dsaSign_example

example : Nat.Prime 251 ∧ 4 ^ 251 % 503 = 1 ∧ dsaSign 503 251 4 5 [9] [7] = .ok (37, 207) ∧
    parseSig [0x30, 0x07, 0x02, 0x01, 37, 0x02, 0x02, 0x00, 207] = some (37, 207, []) :=
  ⟨by norm_num, by norm_num, dsaSign_example, by decide⟩

/-! ### the recorded behaviour of the real creation APIs is the model's -/

/-- every row recorded at run time from the REAL CreateCertificate / CreateCertificateRequest / CreateCRL /
    CreateRevocationList / ocsp.CreateResponse (algorithm the parser reads back, options the signer received) is what
    the model of `signingParamsForPublicKey` + `GetSignatureAlgorithmFromAI` + the signer-option rule computes. -/
theorem sign_rows_match_model : (Gen.C03.signRows.all signRowMatches) = true :=
  recorded_rows_ok.1

/-- every (API, algorithm, key) the real creation APIs refuse is one the model refuses (CreateCRL has no algorithm
    parameter: the harness refuses every non-zero request itself). -/
theorem refused_rows_match_model : (Gen.C03.refusedRows.all refusedRowMatches) = true :=
  recorded_rows_ok.2.1

/-- DSA correctness, all inputs: whatever the digest and the random stream, a pair `dsa.Sign` returns is accepted by
    `dsa.Verify` under the matching public key `y = g^x mod p`, for `q` prime and `g^q ≡ 1 (mod p)` (proof in
    ZV.Proofs.C03Dsa: Bezout for the model's extended Euclid, Fermat modulo `q`, exponent reduction mod `q`). -/
theorem dsa_sign_verify {p q g x : Nat} {hash rnd : Bytes} {r s : Nat}
    (hq : Nat.Prime q) (hg : g ^ q % p = 1) (h : dsaSign p q g x hash rnd = .ok (r, s)) :
    dsaVerify p q g (C23.modPow g x p) hash (r : Int) (s : Int) = true :=
  dsaVerify_of_dsaSign hq hg h

/-- an object created with an RSA key is verified with the padding and hash its signer was asked for: for every
    requested algorithm the x509 creation APIs accept with an RSA key, `CheckSignatureFromKey` on the algorithm read back
    from the object IS `VerifyPSS` (salt length = hash length) when the signer got `*rsa.PSSOptions`, `VerifyPKCS1v15`
    otherwise, with the signer's hash, on the digest of the signed bytes under that hash. -/
theorem created_rsa_verified_as_signed {req : Nat} {sp : SignParams}
    (h : signingParams x509Pkg "*rsa.PublicKey" req = .ok sp) :
    ∃ ha, C23.hashAlg sp.hash = some ha ∧ ∀ (pub : C23.Pub) (signed sig : Bytes) (o : Bool),
      checkSignatureFromKey (.rsa pub) (algoFromAI sp.oid sp.params) signed sig o =
        if (signerOpts req sp.hash).1 then C23.verifyPSS pub ha (ha.hash signed) sig (-1)
        else C23.verifyPKCS1v15 pub sp.hash (ha.hash signed) sig := by
  obtain ⟨fam, hf, _, hv, h3⟩ := signRowOk_ok sign_tables_ok.1 h
  have hf' : labelFamily x509Pkg "*rsa.PublicKey" = some "RSA" := by decide
  obtain rfl := Option.some.inj (hf'.symm.trans hf)
  have hrsa : ("RSA" != "RSA") = false := by decide
  rw [hrsa, Bool.false_or, Bool.and_eq_true] at h3
  have hne : sp.hash ≠ 0 := bne_iff_ne.1 h3.1
  obtain ⟨ha, hha⟩ := Option.isSome_iff_exists.1 h3.2
  refine ⟨ha, hha, ?_⟩
  intro pub signed sig o
  have hkt : ktOf "RSA" = "rsa" := by decide
  rw [hkt] at hv
  unfold verifyScheme at hv
  split at hv
  · next h' halgo =>
    have hv := Option.some.inj hv
    have hkk : ("rsa" == "rsa") = true := by decide
    simp only [signerOpts, Prod.mk.injEq, hkk, Bool.true_and] at hv
    obtain ⟨hp, rfl⟩ := hv
    rw [csfk_rsa_scheme signed sig o halgo hne hha]
    simp only [signerOpts, ← hp]
  · contradiction

example : ∃ sp, signingParams x509Pkg "*rsa.PublicKey" 13 = .ok sp ∧ algoFromAI sp.oid sp.params = 13 ∧
    signerOpts 13 sp.hash = (true, 5) := ⟨⟨5, Gen.C03.pssOid, .pss 5⟩, by decide +kernel⟩
example : ∃ sp, signingParams x509Pkg "*ecdsa.PublicKey:P384" 0 = .ok sp ∧ algoFromAI sp.oid sp.params = 11 :=
  ⟨⟨6, [1, 2, 840, 10045, 4, 3, 3], .absent⟩, by decide +kernel⟩
example : ∃ sp, signingParams ocspPkg "*rsa.PublicKey" 4 = .ok sp ∧ algoFromOID sp.oid = 4 :=
  ⟨⟨5, [1, 2, 840, 113549, 1, 1, 11], .null⟩, by decide +kernel⟩
/-- what the signer side refuses: another family's algorithm, MD2, RSA-PSS in ocsp, unknown curve / key type -/
example : signingParams x509Pkg "*rsa.PublicKey" 10 = .err ∧ signingParams x509Pkg "*rsa.PublicKey" 1 = .err ∧
    signingParams ocspPkg "*rsa.PublicKey" 13 = .err ∧ signingParams ocspPkg "ed25519.PublicKey" 0 = .err ∧
    signingParams x509Pkg "*ecdsa.PublicKey:other" 0 = .err := by decide +kernel

end ZV.C03
