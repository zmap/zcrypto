import ZV.Model.C13
import ZV.Proofs.C13
import ZV.Proofs.C13Der
import ZV.Proofs.C13Shape
import ZV.Props.C18
import ZV.Generated.C03
import ZV.Generated.C13
import ZV.Proofs.C13Time
/-!
  C13 — OCSP messages round-trip and bind to the issuer's signature.

  The first part is about `parse` (= `ParseResponseForCert` after ASN.1 decoding, see ZV.Model.C13) for an
  ARBITRARY signature primitive `verify` and arbitrary key / byte-string types; `parse … none issuer` is
  `ParseResponse`.  The later sections put the ASN.1 leg in front of it (ocsp.go's struct types as schema terms of
  ZV.Model.C18: request round trip, `bytes_accept_implies_sig` from the DER bytes), pin the model's tables to the
  generated ones (T1), and treat the encoding side of `CreateResponse` (times, status arms, algorithm identifier).
  What the code guarantees about acceptance, exactly:
  * with an issuer, acceptance implies the response signature verifies under the issuer key, or under the key
    of the FIRST embedded certificate whose own signature verifies under the issuer key.  Nothing else is
    checked about the embedded certificate (no OCSP-signing EKU, no validity period, no responder-id match);
    further embedded certificates are ignored;
  * with a nil issuer and no embedded certificate NO signature is checked at all (`accept_nil_issuer`).
-/
namespace ZV.C13
variable {K B : Type} (verify : K → Nat → B → B → Bool)

/-- **binding to the issuer's signature**: accepted with an issuer ⇒ the response signature verifies
    under the issuer, directly, or through the first embedded certificate, which the issuer signed. -/
theorem resp_accept_implies_sig (inp : Input K B) (cert : Option Int) (ik : K) (o : Out K B)
    (h : parse verify inp cert (some ik) = .ok o) :
    (inp.certs = [] ∧ o.certificate = none ∧ verify ik inp.alg inp.tbs inp.sig = true) ∨
    (∃ e rest, inp.certs = some e :: rest ∧ o.certificate = some e ∧
      verify e.key inp.alg inp.tbs inp.sig = true ∧ verify ik e.alg e.tbs e.sig = true) := by
  rcases checkSigs_some verify inp (some ik) o.certificate ((parse_ok_iff verify inp cert (some ik) o).mp h).sigs with
    ⟨h1, h2, h3⟩ | ⟨e, rest, h1, h2, h3, h4⟩
  · exact Or.inl ⟨h1, h2, h3 ik rfl⟩
  · exact Or.inr ⟨e, rest, h1, h2, h3, h4 ik rfl⟩

/-- what is (not) guaranteed when the caller passes a nil issuer: only an embedded certificate, if any,
    is used; without one nothing is verified. -/
theorem accept_nil_issuer (inp : Input K B) (cert : Option Int) (o : Out K B)
    (h : parse verify inp cert none = .ok o) :
    (inp.certs = [] ∧ o.certificate = none) ∨
    (∃ e rest, inp.certs = some e :: rest ∧ o.certificate = some e ∧ verify e.key inp.alg inp.tbs inp.sig = true) := by
  rcases checkSigs_some verify inp none o.certificate ((parse_ok_iff verify inp cert none o).mp h).sigs with
    ⟨h1, h2, _⟩ | ⟨e, rest, h1, h2, h3, _⟩
  · exact Or.inl ⟨h1, h2⟩
  · exact Or.inr ⟨e, rest, h1, h2, h3⟩

/-- **tampering is rejected** (no embedded certificate): whatever bytes arrive as TBSResponseData and
    signature, if they do not verify under the issuer key the response is not accepted. -/
theorem tamper_rejected (inp : Input K B) (cert : Option Int) (ik : K)
    (hno : inp.certs = []) (hbad : verify ik inp.alg inp.tbs inp.sig = false) :
    ∀ o, parse verify inp cert (some ik) ≠ .ok o := by
  intro o h
  rcases resp_accept_implies_sig verify inp cert ik o h with ⟨_, _, hv⟩ | ⟨e, rest, hc, _⟩
  · rw [hbad] at hv; cases hv
  · rw [hno] at hc; cases hc

/-- **tampering is rejected** (embedded responder certificate): a response is refused when its signature
    does not verify under the embedded key, when the embedded certificate (TBS, signature) does not verify under
    the issuer key, or when the embedded certificate does not parse. -/
theorem tamper_rejected_embedded (inp : Input K B) (cert : Option Int) (ik : K) (c : Option (ECert K B))
    (rest : List (Option (ECert K B))) (hc : inp.certs = c :: rest)
    (hbad : ∀ e, c = some e → verify e.key inp.alg inp.tbs inp.sig = false ∨ verify ik e.alg e.tbs e.sig = false) :
    ∀ o, parse verify inp cert (some ik) ≠ .ok o := by
  intro o h
  rcases resp_accept_implies_sig verify inp cert ik o h with ⟨hn, _⟩ | ⟨e, rest', hc', _, hv1, hv2⟩
  · rw [hn] at hc; cases hc
  · rw [hc] at hc'
    injection hc' with h1 _
    rcases hbad e h1 with hb | hb
    · rw [hb] at hv1; cases hv1
    · rw [hb] at hv2; cases hv2

/-- only the first embedded certificate matters ("ignore all but the first"). -/
theorem embedded_rest_ignored (inp : Input K B) (cert : Option Int) (issuer : Option K)
    (c : Option (ECert K B)) (r1 r2 : List (Option (ECert K B))) :
    parse verify { inp with certs := c :: r1 } cert issuer = parse verify { inp with certs := c :: r2 } cert issuer :=
  rfl

/-- **ParseResponseForCert returns the first single response whose serial matches** (and it is a
    member of the response, at the reported position). -/
theorem forcert_first_match (inp : Input K B) (s : Int) (issuer : Option K) (o : Out K B)
    (h : parse verify inp (some s) issuer = .ok o) :
    inp.singles[o.idx]? = some o.single ∧ o.single.serial = s ∧
    ∀ j, j < o.idx → ∀ y, inp.singles[j]? = some y → y.serial ≠ s := by
  have hs := ((parse_ok_iff verify inp (some s) issuer o).mp h).sel
  rw [selectSingle] at hs
  split at hs
  · rename_i r hf
    cases hs
    obtain ⟨j, hj, hrest⟩ := findSerial_spec s inp.singles 0 o.idx o.single hf
    rw [hj, Nat.zero_add]
    exact hrest
  · cases hs

/-- the Go `Responses[0]` is never evaluated on an empty slice. -/
theorem parse_never_panics (inp : Input K B) (cert : Option Int) (issuer : Option K) :
    parse verify inp cert issuer ≠ .panic := (parse_inv verify inp cert issuer).ne_panic

/-- no single response carries the certificate's serial ⇒ error. -/
theorem forcert_none_match (inp : Input K B) (s : Int) (issuer : Option K)
    (hnone : ∀ x ∈ inp.singles, x.serial ≠ s) : parse verify inp (some s) issuer = .err := by
  cases hp : parse verify inp (some s) issuer with
  | err => rfl
  | panic => exact absurd hp (parse_never_panics verify inp (some s) issuer)
  | ok o =>
    obtain ⟨hm, hser, _⟩ := forcert_first_match verify inp s issuer o hp
    exact absurd hser (hnone _ (List.mem_of_getElem? hm))

/-- `cert == nil` (ParseResponse): accepted only when the response holds exactly one single response, which
    is the one returned. -/
theorem nil_cert_single (inp : Input K B) (issuer : Option K) (o : Out K B)
    (h : parse verify inp none issuer = .ok o) : inp.singles = [o.single] ∧ o.idx = 0 := by
  have a := (parse_ok_iff verify inp none issuer o).mp h
  have hc := a.count
  have hs := a.sel
  cases hl : inp.singles with
  | nil => rw [hl] at hs; cases hs
  | cons x t =>
    rw [hl] at hs hc
    cases t with
    | cons y u => exact absurd (Or.inr ⟨rfl, Nat.succ_lt_succ (Nat.succ_pos _)⟩) hc
    | nil =>
      injection hs with hs
      injection hs with hi hx
      rw [hx]
      exact ⟨rfl, hi.symm⟩

/-- status mapping: CHOICE arm [0] ⇒ good; else [2] ⇒ unknown; else revoked, carrying the decoded
    RevocationTime and reason; plus the other acceptance conditions of the selected single response. -/
theorem accepted_status (inp : Input K B) (cert : Option Int) (issuer : Option K) (o : Out K B)
    (h : parse verify inp cert issuer = .ok o) :
    inp.status = 0 ∧ inp.typeOk = true ∧ o.single.critical = false ∧ o.single.hash ≠ 0 ∧
    (o.status = .good ↔ o.single.good = true) ∧
    (o.status = .unknown ↔ (o.single.good = false ∧ o.single.unknown = true)) ∧
    (∀ t r, o.status = .revoked t r →
      o.single.good = false ∧ o.single.unknown = false ∧ t = o.single.revokedAt ∧ r = o.single.reason) := by
  have a := (parse_ok_iff verify inp cert issuer o).mp h
  refine ⟨a.status, a.type, a.crit, a.hash, ?_⟩
  rw [a.st]
  unfold statusOf
  cases o.single.good <;> cases o.single.unknown <;> simp

/-! ### CreateResponse → ParseResponse round trip (decoded level) -/

/-- **round trip**: for a correct signature scheme (`verify k _ m (sign k m)`), a response created from a
    template with status Good/Revoked/Unknown, a supported issuer hash, no critical extra extension, signed by
    the issuer itself or by an embedded responder whose certificate the issuer key verifies, parses back
    (with that issuer) to the same serial, times, status (revocation time and reason when revoked), hash,
    responder-by-name and embedded certificate. -/
theorem create_parse_roundtrip (encode : List Single → B) (sign : K → B → B)
    (hsig : ∀ k a m, verify k a m (sign k m) = true)
    (alg : Nat) (t : Template) (signer ik : K) (embed : Option (ECert K B))
    (hst : t.status = 0 ∨ t.status = 1 ∨ t.status = 2)
    (hh : hashSupported (if t.hash = 0 then 3 else t.hash) = true)
    (hcrit : t.critical = false)
    (hchain : (embed = none ∧ signer = ik) ∨
              (∃ e, embed = some e ∧ e.key = signer ∧ verify ik e.alg e.tbs e.sig = true)) :
    ∃ inp o, create encode sign true alg t signer embed = .ok inp ∧
      parse verify inp none (some ik) = .ok o ∧
      o.idx = 0 ∧ o.single.serial = t.serial ∧ o.single.thisUpdate = t.thisUpdate ∧
      o.single.nextUpdate = t.nextUpdate ∧ o.single.hash = (if t.hash = 0 then 3 else t.hash) ∧
      o.byName = true ∧ o.certificate = embed ∧
      o.status = (if t.status = 0 then .good else if t.status = 2 then .unknown
                  else .revoked t.revokedAt t.reason) := by
  have hne : (if t.hash = 0 then 3 else t.hash) ≠ 0 := by
    intro h0; rw [h0] at hh; cases hh
  obtain ⟨s, hs, hser, hthis, hnext, hhash, hscrit, hstat⟩ : ∃ s, createSingle t = .ok s ∧ s.serial = t.serial ∧
      s.thisUpdate = t.thisUpdate ∧ s.nextUpdate = t.nextUpdate ∧ s.hash = (if t.hash = 0 then 3 else t.hash) ∧
      s.critical = t.critical ∧ statusOf s = (if t.status = 0 then .good else if t.status = 2 then .unknown
        else .revoked t.revokedAt t.reason) := by
    refine ⟨_, if_neg (by rw [hh]; nofun), rfl, rfl, rfl, rfl, rfl, ?_⟩
    rcases hst with h | h | h <;> simp [statusOf, h]
  refine ⟨_, ⟨0, s, statusOf s, true, embed⟩, by unfold create; rw [hs]; rfl, ?_, rfl, hser, hthis, hnext, hhash, rfl, rfl, hstat⟩
  refine (parse_ok_iff verify _ none (some ik) _).mpr
    ⟨rfl, rfl, rfl, rfl, by simp, rfl, rfl, ?_, hscrit.trans hcrit, hhash ▸ hne, rfl⟩
  rcases hchain with ⟨rfl, rfl⟩ | ⟨e, rfl, rfl, hv⟩
  · simp only [checkSigs, hsig, Bool.true_eq_false, if_false]
  · simp only [checkSigs, hsig, hv, Bool.true_eq_false, if_false]

/-- a quirk the round trip above excludes by `hst`: `CreateResponse` does not reject a template status
    outside {Good, Revoked, Unknown}; it emits a single response with no CHOICE arm, which parses as
    *revoked* at the zero time. -/
theorem create_status_out_of_domain (t : Template) (s : Single)
    (hst : t.status ≠ 0 ∧ t.status ≠ 1 ∧ t.status ≠ 2) (h : createSingle t = .ok s) :
    statusOf s = .revoked zeroTime 0 := by
  refine Res.Sat.of_ok (P := fun s => statusOf s = .revoked zeroTime 0) ?_ h
  unfold createSingle
  refine .guard fun _ => ?_
  show statusOf _ = _
  simp [statusOf, hst.1, hst.2.1, hst.2.2]

/-- a response signed by a key other than the issuer's, with no embedded certificate, is refused whenever
    the scheme is unforgeable in the sense "a signature verifies only under the key that made it". -/
theorem create_wrong_signer_rejected (encode : List Single → B) (sign : K → B → B)
    (hunf : ∀ k k' a m, verify k a m (sign k' m) = true → k = k')
    (alg : Nat) (t : Template) (signer ik : K) (hne : ik ≠ signer) (inp : Input K B)
    (hc : create encode sign true alg t signer none = .ok inp) :
    ∀ cert o, parse verify inp cert (some ik) ≠ .ok o := by
  intro cert
  unfold create at hc
  split at hc
  · cases hc
  · cases hc
  · rename_i s _
    simp only [Bool.true_eq_false, if_false] at hc
    cases hc
    apply tamper_rejected verify _ cert ik rfl
    cases hv : verify ik alg (encode [s]) (sign signer (encode [s])) with
    | false => rfl
    | true => exact absurd (hunf ik signer alg _ hv) hne

/-! ### `signingParamsForPublicKey`: the digest that is signed is the digest the verifier recomputes -/

/-- every signable row of `signatureAlgorithmDetails` names the digest `CheckSignatureFromKey` uses for it
    (whole table, by evaluation). -/
theorem sigDetails_rows_consistent :
    ∀ r ∈ sigDetails, r.hash ≠ 0 → verifyHash r.algo = some r.hash := by decide +kernel

/-- **signing and verification agree on the digest**: whenever `signingParamsForPublicKey` accepts a signer key
    (RSA, P-224, P-256, P-384, P-521) and a requested algorithm (0 = default), the digest it has the key sign is
    exactly the digest `x509.CheckSignatureFromKey` computes for the algorithm identifier it writes into the
    response — so a response made by `CreateResponse` with a correct signer verifies under that signer's key
    (the hypothesis `hsig` of `create_parse_roundtrip`), for every key kind and every requested algorithm. -/
theorem signing_digest_is_verified_digest (k : KeyKind) (req h a : Nat)
    (hs : signingParams k req = .ok (h, a)) : verifyHash a = some h ∧ h ≠ 0 := by
  obtain ⟨pka, _, _, _, hrow, hne, _⟩ := (signingParams_ok k req).of_ok hs
  exact ⟨sigDetails_rows_consistent _ hrow hne, hne⟩

/-- an explicitly requested algorithm is the one written (never silently replaced), and it belongs to the
    signer key's family. -/
theorem signing_requested_is_written (k : KeyKind) (req h a : Nat) (hreq : req ≠ 0)
    (hs : signingParams k req = .ok (h, a)) :
    a = req ∧ ∃ pka h0 a0 r, defaultParams k = some (pka, h0, a0) ∧ r ∈ sigDetails ∧ r.algo = req ∧ r.pka = pka := by
  obtain ⟨pka, h0, a0, hd, hrow, _, hsel⟩ := (signingParams_ok k req).of_ok hs
  rw [if_neg hreq] at hsel
  exact ⟨hsel, pka, h0, a0, _, hd, hrow, hsel, rfl⟩

/-- unknown curves and non-RSA/ECDSA keys (Ed25519 …) are refused whatever is requested. -/
theorem signing_refuses_other_keys (req : Nat) :
    signingParams .otherCurve req = .err ∧ signingParams .otherKey req = .err := by
  simp [signingParams, defaultParams]

/-! ### non-vacuity: concrete inputs satisfying the hypotheses -/
section examples
def exVerify (k : Nat) (_ : Nat) (m s : List Nat) : Bool := s == k :: m
def exSingle (ser : Int) (g : Bool) : Single :=
  { serial := ser, good := g, unknown := false, thisUpdate := 100, nextUpdate := 200, revokedAt := 50,
    reason := 1, hash := 3, critical := false }
def exInput (certs : List (Option (ECert Nat (List Nat)))) (sig : List Nat) : Input Nat (List Nat) :=
  { outerOk := true, status := 0, typeOk := true, basicOk := true, tbs := [9], sig := sig, alg := 0,
    responderTag := 1, responderOk := true, singles := [exSingle 5 true, exSingle 7 false, exSingle 7 true], certs := certs }
def exCert : ECert Nat (List Nat) := { key := 4, alg := 0, tbs := [8], sig := [1, 8] }

-- accepted directly under issuer key 1; second single response (first with serial 7) is returned
example : (parse exVerify (exInput [] [1, 9]) (some 7) (some 1)).map (fun o => (o.idx, o.status)) = .ok (1, .revoked 50 1) := by decide +kernel
-- accepted through the embedded certificate (key 4 signed by issuer 1)
example : (parse exVerify (exInput [some exCert] [4, 9]) (some 5) (some 1)).map (fun o => o.idx) = .ok 0 := by decide +kernel
-- tamper_rejected hypotheses: no embedded certificate, signature not by the issuer
example : (exInput [] [2, 9]).certs = [] ∧ exVerify 1 0 (exInput [] [2, 9]).tbs (exInput [] [2, 9]).sig = false := by decide +kernel
example : (parse exVerify (exInput [] [2, 9]) (some 7) (some 1)).map (fun o => o.idx) = .err := by decide +kernel
-- tamper_rejected_embedded: embedded certificate not signed by the issuer (issuer 3)
example : (parse exVerify (exInput [some exCert] [4, 9]) (some 5) (some 3)).map (fun o => o.idx) = .err := by decide +kernel
-- forcert_none_match
example : ∀ x ∈ (exInput [] [1, 9]).singles, x.serial ≠ 6 := by decide +kernel
-- nil_cert_single: three single responses and cert = nil ⇒ error
example : (parse exVerify (exInput [] [1, 9]) none (some 1)).map (fun o => o.idx) = .err := by decide +kernel
-- create_parse_roundtrip hypotheses with the toy scheme sign k m = k :: m
example : ∀ k a m, exVerify k a m ((fun k m => k :: m) k m) = true := by
  intro k a m; simp [exVerify]
example : ∀ k k' a m, exVerify k a m ((fun k m => k :: m) k' m) = true → k = k' := by
  intro k k' a m h; simp [exVerify] at h; exact h.symm
example : hashSupported (if (0 : Nat) = 0 then 3 else 0) = true := by decide +kernel
-- signing_digest_is_verified_digest / signing_requested_is_written: P-521 default, P-521 with ECDSA-SHA1 requested, RSA with an ECDSA algorithm
example : signingParams .p521 0 = .ok (7, 12) := by decide +kernel
example : signingParams .p521 9 = .ok (3, 9) := by decide +kernel
example : signingParams .p224 0 = .ok (5, 10) := by decide +kernel
example : signingParams .rsa 10 = .err := by decide +kernel
example : signingParams .rsa 1 = .err := by decide +kernel
end examples

/-! ### the ASN.1 leg: ocsp.go's struct types as schema terms of the encoding/asn1 model (ZV.Model.C13Der)

  `marshalRequest` / `parseRequest` model `(*Request).Marshal` / `ParseRequest`, `decodeOuter` / `decodeBasic` the two
  `asn1.Unmarshal` calls of `ParseResponseForCert` with the read-out of every decoded field; all of them run the
  deep-embedded `Marshal` / `Unmarshal` of ZV.Model.C18 on the schema terms `ocspRequestS`, `responseASN1S`,
  `basicResponseRS`, … written after the struct tags of ocsp.go.  They are tied to the Go code by the T2 streams
  `c13 rq`, `c13 rqd`, `c13 der` (through a hook that unmarshals into the package's own unexported types) and `c13 time`. -/

/-- the value level of the round trip below, in front of any `rest`: strict `Unmarshal(Marshal(req) ++ rest)` is the request
    value — with `Parameters.FullBytes` of the NULL filled in, which is all that distinguishes it from the value
    `Request.Marshal` builds (`RawValue{Tag: 5}`) — and exactly `rest`. -/
theorem ocsp_request_value_roundtrip (r : Req) (oid : List Int) (ho : hashOID r.hash = some oid) (der rest : Bytes)
    (hm : marshalRequest r = .ok der) (hl : der.length < 2147483648) :
    C18.unmarshal false ocspRequestS {} (der ++ rest) = .ok (reqVal oid [5, 0] r, rest) ∧
    C18.marshal ocspRequestS {} (reqVal oid [5, 0] r) = .ok der := by
  have hh : hashSupported r.hash = true := by
    cases hs : hashSupported r.hash with
    | true => rfl
    | false => rw [hashOID_unsupported r.hash hs] at ho; cases ho
  obtain ⟨oid', ho', hok, _⟩ := hashOID_supported r.hash hh
  rw [ho] at ho'; cases ho'
  obtain ⟨body, hb, _⟩ := C18.parseOID_makeOID oid hok
  obtain ⟨der', hder⟩ := marshal_reqVal oid body hb r
  have : der' = der := by
    have h1 := hder [] (Or.inl rfl)
    simp only [marshalRequest, ho] at hm
    rw [h1] at hm; cases hm; rfl
  subst this
  obtain ⟨hd, he⟩ := inDomain_reqVal oid hok r
  exact ⟨C18.unmarshal_marshal ocspRequestS {} (reqVal oid [5, 0] r) der' rest hd he (hder [5, 0] (Or.inr rfl)) hl
    (fun ho => by simp [ocspRequestS, C18.omitted, C18.isSliceKind] at ho), hder [5, 0] (Or.inr rfl)⟩

/-- **OCSP requests round-trip** (instance of C18 `unmarshal_marshal` at `ocspRequestS`).  For every request with one of the
    four supported hashes — any NameHash / IssuerKeyHash bytes, any serial, negative and arbitrarily large included —
    `Request.Marshal` succeeds, and `ParseRequest` of the bytes (< 2^31 of them) returns exactly the request. -/
theorem ocsp_request_roundtrip (r : Req) (hh : hashSupported r.hash = true) :
    ∃ der, marshalRequest r = .ok der ∧ (der.length < 2147483648 → parseRequest der = .ok r) := by
  obtain ⟨oid, ho, hok, hinv⟩ := hashOID_supported r.hash hh
  obtain ⟨body, hb, _⟩ := C18.parseOID_makeOID oid hok
  obtain ⟨der, hder⟩ := marshal_reqVal oid body hb r
  have hm : marshalRequest r = .ok der := by
    rw [marshalRequest, ho]
    exact hder [] (Or.inl rfl)
  refine ⟨der, hm, fun hl => ?_⟩
  have hu := (ocsp_request_value_roundtrip r oid ho der [] hm hl).1
  rw [List.append_nil] at hu
  have hne : hashOfOID oid ≠ 0 := by
    rw [hinv]; simp only [hashSupported, decide_eq_true_eq] at hh; omega
  simp only [parseRequest, hu, List.length_nil, gt_iff_lt, Nat.lt_irrefl, if_false, reqOfVal_reqVal oid [5, 0] r hne, hinv]

/-- `ParseRequest` refuses a marshalled request followed by anything ("trailing data in OCSP request") -/
theorem ocsp_request_trailing_rejected (r : Req) (der : Bytes) (x : UInt8) (rest : Bytes)
    (hm : marshalRequest r = .ok der) (hl : der.length < 2147483648) : parseRequest (der ++ x :: rest) = .err := by
  cases ho : hashOID r.hash with
  | none => rw [marshalRequest, ho] at hm; cases hm
  | some oid =>
    rw [parseRequest, (ocsp_request_value_roundtrip r oid ho der (x :: rest) hm hl).1]
    exact if_pos (Nat.succ_pos _)

/-- … and `Request.Marshal` refuses every other hash ("Unknown hash algorithm") -/
theorem ocsp_request_unsupported_hash (r : Req) (hh : hashSupported r.hash = false) : marshalRequest r = .err := by
  rw [marshalRequest, hashOID_unsupported r.hash hh]

/-- the hypotheses are satisfiable: SHA-256, empty and non-empty hashes, a negative serial -/
example : hashSupported ({ hash := 5, nameHash := [], keyHash := [1, 2, 3], serial := -129 } : Req).hash = true := by decide +kernel
example : parseRequest [0x30, 0x1d, 0x30, 0x1b, 0x30, 0x19, 0x30, 0x17, 0x30, 0x15, 0x30, 0x09, 0x06, 0x05, 0x2b, 0x0e, 0x03, 0x02, 0x1a, 0x05, 0x00,
      0x04, 0x01, 0xaa, 0x04, 0x02, 0xbb, 0xcc, 0x02, 0x01, 0x80] =
    .ok { hash := 3, nameHash := [0xaa], keyHash := [0xbb, 0xcc], serial := -128 } := by decide +kernel

/-- **no panic**: every `asn1.Unmarshal` the package performs — `responseASN1`, `basicResponse` (with the elements of
    `Responses` kept raw, with the TBS kept raw, and as one term), `singleResponse`, its field loops in front of and after
    `NextUpdate`, `ocspRequest` — on every byte string, strict and permissive mode (instances of C01
    `asn1_unmarshal_no_panic` / `asn1_fields_no_panic`) -/
theorem ocsp_asn1_no_panic (perm : Bool) (bs : Bytes) :
    C18.unmarshal perm responseASN1S {} bs ≠ .panic ∧ C18.unmarshal perm basicResponseS {} bs ≠ .panic ∧
    C18.unmarshal perm basicResponseRS {} bs ≠ .panic ∧ C18.unmarshal perm basicResponseRawS {} bs ≠ .panic ∧
    C18.unmarshal perm singleResponseS {} bs ≠ .panic ∧ C18.parseFields perm singlePrefixF bs ≠ .panic ∧
    C18.parseFields perm singleSuffixF bs ≠ .panic ∧ C18.unmarshal perm ocspRequestS {} bs ≠ .panic :=
  ⟨((C01Asn1.engine_spec _ _).1 _ _).ne_panic, ((C01Asn1.engine_spec _ _).1 _ _).ne_panic, ((C01Asn1.engine_spec _ _).1 _ _).ne_panic,
   ((C01Asn1.engine_spec _ _).1 _ _).ne_panic, ((C01Asn1.engine_spec _ _).1 _ _).ne_panic, ((C01Asn1.engine_spec _ _).2 _).ne_panic,
   ((C01Asn1.engine_spec _ _).2 _).ne_panic, ((C01Asn1.engine_spec _ _).1 _ _).ne_panic⟩

/-- **never reads past the input**: what each of these calls returns as `rest` is a suffix of what it was given, and it
    is at least two bytes shorter than the input: none of these types is OPTIONAL at top level, so a whole element is
    consumed (instances of C01 `asn1_unmarshal_consumed` and of the in-bounds lemmas behind `asn1_element_in_bounds`) -/
theorem ocsp_asn1_consumed (perm : Bool) (s : C18.Schema)
    (hs : s = responseASN1S ∨ s = basicResponseS ∨ s = basicResponseRS ∨ s = basicResponseRawS ∨ s = singleResponseS ∨ s = ocspRequestS)
    (bs : Bytes) (v : C18.Val) (rest : Bytes) (h : C18.unmarshal perm s {} bs = .ok (v, rest)) :
    rest <:+ bs ∧ rest.length + 2 ≤ bs.length := by
  -- none of the calls passes OPTIONAL parameters: that, not the particular type, is why a whole element is consumed
  exact (C01Asn1.required_present perm s {} rfl h).2

/-- the two decoding steps of `ParseResponseForCert` as modelled (`decodeOuter`, `decodeBasic`: schema decode + read-out of the
    fields + time contents + `NextUpdate`): the `rest` they hand to the `len(rest) > 0` tests is a suffix of their input, at
    least two bytes shorter -/
theorem ocsp_decode_rest (der : Bytes) :
    (∀ st ty body rest, decodeOuter der = .ok (st, ty, body, rest) → rest <:+ der ∧ rest.length + 2 ≤ der.length) ∧
    (∀ b rest, decodeBasic der = .ok (b, rest) → rest <:+ der ∧ rest.length + 2 ≤ der.length) := by
  constructor
  · intro st ty body rest h
    have hs := decodeOuter_spec der
    rw [h] at hs
    obtain ⟨v, hu⟩ := hs
    exact ocsp_asn1_consumed false _ (Or.inl rfl) _ _ _ hu
  · intro b rest h
    have hs := decodeBasic_spec der
    rw [h] at hs
    obtain ⟨v, hu⟩ := hs
    exact ocsp_asn1_consumed false _ (Or.inr (Or.inr (Or.inl rfl))) _ _ _ hu

/-- **the decoder that is tied to the code reads `singleResponse` as its schema term does**, part 1: the field loop of the struct
    arm over the seven fields of `singleResponseS` IS the field loop over `singlePrefixF` (CertID, Good, Revoked, Unknown,
    ThisUpdate), then the [0] element, then the field loop over `singleSuffixF` (SingleExtensions), each on what the
    previous one left — the decomposition `decodeSingle` uses, with `parseNext` in place of the RawValue in the middle. -/
theorem ocsp_single_fields_split (perm : Bool) (bs : Bytes) :
    singleResponseS = .struct (fapp singlePrefixF (.fcons nextRawP .raw singleSuffixF)) ∧
    C18.parseFields perm (fapp singlePrefixF (.fcons nextRawP .raw singleSuffixF)) bs =
      (match C18.parseFields perm singlePrefixF bs with
       | .ok (pv, r1) =>
         (match C18.parseField perm .raw nextRawP r1 with
          | .ok (nv, r2) =>
            (match C18.parseFields perm singleSuffixF r2 with
             | .ok (sv, r3) => .ok (vapp pv (.vcons nv sv), r3)
             | .err => .err
             | .panic => .panic)
          | .err => .err
          | .panic => .panic)
       | .err => .err
       | .panic => .panic) := by
  refine ⟨rfl, ?_⟩
  rw [parseFields_fapp perm singlePrefixF _ (by decide) bs]
  cases C18.parseFields perm singlePrefixF bs with
  | err => rfl
  | panic => rfl
  | ok x =>
    simp only [C18.parseFields]
    cases C18.parseField perm .raw nextRawP x.2 with
    | err => rfl
    | panic => rfl
    | ok y =>
      obtain ⟨nv, r2⟩ := y
      dsimp only
      cases C18.parseFields perm singleSuffixF r2 <;> rfl

/-- part 2, **where a RawValue stands in for `NextUpdate time.Time "explicit,tag:0,optional"` exactly**: if the RawValue field
    of `singleResponseS` accepts the bytes and `nextOfRaw` of its value is not `inexact` — i.e. the field is absent, or the [0]
    wrapper is empty, or it holds exactly one primitive universal element with tag 23 / 24 — then the `time.Time` reading
    `parseNext` of the same bytes gives the same answer (absent / that time / error) and leaves the same bytes.  Outside
    (`inexact`: the wrapper holds something else, or more, or less) the Go decoder continues after the INNER element and
    the two readings differ — there `decodeSingle`, which uses `parseNext`, is the model, and it is what T2 compares. -/
theorem ocsp_next_update_raw_exact (bs : Bytes) (v : C18.Val) (r2 : Bytes)
    (h : C18.parseField false .raw nextRawP bs = .ok (v, r2)) :
    (nextOfRaw v = .absent → parseNext bs = .ok (none, bs) ∧ r2 = bs) ∧
    (∀ x, nextOfRaw v = .at x → parseNext bs = .ok (some x, r2)) ∧
    (nextOfRaw v = .err → parseNext bs = .err) := by
  rw [C18.parseField_leaf .raw false _ bs rfl, C18.primField] at h
  generalize hN : parseNext bs = N
  unfold parseNext at hN
  by_cases he : bs.isEmpty = true
  · rw [if_pos he] at h hN
    cases h
    exact ⟨fun _ => ⟨hN.symm, rfl⟩, nofun, nofun⟩
  rw [if_neg he] at h hN
  unfold C18.parsePre at h
  cases hp : C18.parseTL false bs with
  | err => rw [hp] at h; cases h
  | panic => rw [hp] at h; cases h
  | ok x =>
    obtain ⟨t0, r0⟩ := x
    rw [hp] at h hN
    dsimp only at h hN
    -- the stages below are evaluated by unfolding: the parameters are closed terms
    by_cases hc : t0.cls = 2 ∧ some t0.tag = some 0 ∧ (t0.len = 0 ∨ t0.compound = true)
    swap
    · have e1 : C18.explicitStage false .raw nextRawP t0 r0 = .dflt := if_neg hc
      have e2 : C18.explicitStage false .bool nextP t0 r0 = .dflt := if_neg hc
      rw [e1] at h
      rw [e2] at hN
      cases h
      exact ⟨fun _ => ⟨hN.symm, rfl⟩, nofun, nofun⟩
    have e1 : C18.explicitStage false .raw nextRawP t0 r0 = .cont t0 r0 := if_pos hc
    rw [e1] at h
    dsimp only at h
    by_cases hl : t0.len > r0.length
    · have e3 : C18.matchStage .raw nextRawP t0 r0 = .err := if_pos hl
      rw [e3] at h
      cases h
    have e3 : C18.matchStage .raw nextRawP t0 r0 = .go t0 0 (r0.take t0.len) (r0.drop t0.len) := if_neg hl
    rw [e3] at h
    cases h
    have hfull : C18.takeFull bs (r0.drop t0.len) ≠ [] :=
      takeFull_ne_nil bs _ (by have := (C01Asn1.parseTL_adv false bs t0 r0 hp).1.2; rw [List.length_drop]; omega)
    rw [nextOfRaw, if_neg (mt List.isEmpty_iff.mp hfull)]
    by_cases hpos : t0.len > 0
    swap
    · have e2 : C18.explicitStage false .bool nextP t0 r0 = .err := (if_pos hc).trans (if_neg hpos)
      rw [e2] at hN
      rw [Nat.eq_zero_of_not_pos hpos, List.take_zero]
      exact ⟨nofun, nofun, fun _ => hN.symm⟩
    have hr0 : r0 ≠ [] := fun e => by rw [e] at hl; exact hl hpos
    rw [if_neg fun e => (List.take_eq_nil_iff.mp (List.isEmpty_iff.mp e)).elim (Nat.ne_of_gt hpos) hr0]
    cases hi : C18.parseTL false (r0.take t0.len) with
    | err => exact ⟨nofun, nofun, nofun⟩
    | panic => exact ⟨nofun, nofun, nofun⟩
    | ok x =>
      obtain ⟨t, r⟩ := x
      dsimp only
      by_cases hin : t.cls = 0 ∧ (t.tag = 23 ∨ t.tag = 24) ∧ t.compound = false ∧ t.len = r.length
      swap
      · rw [if_neg hin]
        exact ⟨nofun, nofun, nofun⟩
      rw [if_pos hin]
      obtain ⟨hcls, htag, hcomp, hlen⟩ := hin
      -- the header inside the wrapper is the one `parseNext` reads after the wrapper's own
      have hw : C18.parseTL false r0 = .ok (t, r ++ r0.drop t0.len) := by
        have := parseTL_append false _ (r0.drop t0.len) t r hi
        rwa [List.take_append_drop] at this
      have e2 : C18.explicitStage false .bool nextP t0 r0 = .cont t (r ++ r0.drop t0.len) :=
        (if_pos hc).trans ((if_pos hpos).trans ((if_neg (mt List.isEmpty_iff.mp hr0)).trans (by rw [hw])))
      have hu : (if t.cls = 0 ∧ t.tag = 24 then 24 else 23) = t.tag := by
        rcases htag with e | e
        · rw [e, if_neg (by omega)]
        · rw [e, if_pos ⟨hcls, rfl⟩]
      rw [e2] at hN
      dsimp only at hN
      rw [hu, if_neg (by simp [hcls, hcomp]), hlen, if_neg (by rw [List.length_append]; omega), List.take_left' rfl,
        List.drop_left' rfl] at hN
      subst hN
      cases parseTime t.tag r with
      | ok x => exact ⟨nofun, fun y e => by cases e; rfl, nofun⟩
      | _ => exact ⟨nofun, nofun, fun _ => rfl⟩

/-- the three exact cases and the inexact one, on concrete bytes -/
example : (match C18.parseField false .raw nextRawP [0x30, 0x00] with | .ok (v, _) => some (nextOfRaw v) | _ => none) = some .absent ∧
    (match C18.parseField false .raw nextRawP [0xa0, 0x11, 0x18, 0x0f, 0x32, 0x30, 0x32, 0x34, 0x30, 0x31, 0x30, 0x31, 0x30, 0x30, 0x30, 0x30, 0x30, 0x30, 0x5a] with
      | .ok (v, _) => some (nextOfRaw v) | _ => none) = some (.at 1704067200) ∧
    (match C18.parseField false .raw nextRawP [0xa0, 0x00] with | .ok (v, _) => some (nextOfRaw v) | _ => none) = some .err ∧
    (match C18.parseField false .raw nextRawP [0xa0, 0x03, 0x02, 0x01, 0x05] with | .ok (v, _) => some (nextOfRaw v) | _ => none) = some .inexact := by
  decide +kernel

/-- `NextUpdate` (`parseNext`, the `time.Time` arm of `parseField` under `explicit,tag:0,optional`): the remainder is a
    suffix of the input, and an absent field consumes nothing -/
theorem ocsp_next_update_consumed (bs : Bytes) (x : Option Int) (r : Bytes) (h : parseNext bs = .ok (x, r)) :
    r <:+ bs ∧ (x = none → r = bs) := by
  refine Res.Sat.of_ok (P := fun p : Option Int × Bytes => p.2 <:+ bs ∧ (p.1 = none → p.2 = bs)) ?_ h
  have hd : Res.Sat (fun p : Option Int × Bytes => p.2 <:+ bs ∧ (p.1 = none → p.2 = bs)) (.ok (none, bs)) :=
    ⟨List.suffix_refl _, fun _ => rfl⟩
  unfold parseNext
  refine .ite hd ?_
  refine (C01Asn1.parseTL_sat false bs).elim (fun x hx => ?_) trivial
  dsimp only
  cases he : C18.explicitStage false .bool nextP x.1 x.2 with
  | err => trivial
  | dflt => exact hd
  | flag _ => trivial
  | cont t r =>
    dsimp only
    refine .ite hd (.guard fun _ => ?_)
    cases parseTime _ (r.take t.len) with
    | ok y => exact ⟨((List.drop_suffix _ _).trans (C01Asn1.explicitStage_cont _ _ _ _ _ _ _ he).1.1).trans hx.1.1, nofun⟩
    | err => trivial
    | panic => trivial

example : parseNext [0xa0, 0x11, 0x18, 0x0f, 0x32, 0x30, 0x32, 0x34, 0x30, 0x31, 0x30, 0x31, 0x30, 0x30, 0x30, 0x30, 0x30, 0x30, 0x5a, 0xa1] =
    .ok (some 1704067200, [0xa1]) := by decide +kernel
/-- the wrapper's own length is not looked at (here it claims 0x7f bytes), an inner element that is not a time means
    "absent", an empty wrapper is an error -/
example : parseNext [0xa0, 0x7f, 0x18, 0x0f, 0x32, 0x30, 0x32, 0x34, 0x30, 0x31, 0x30, 0x31, 0x30, 0x30, 0x30, 0x30, 0x30, 0x30, 0x5a] =
    .ok (some 1704067200, []) := by decide +kernel
example : parseNext [0xa0, 0x03, 0x02, 0x01, 0x05] = .ok (none, [0xa0, 0x03, 0x02, 0x01, 0x05]) ∧ parseNext [0xa0, 0x00] = .err := by
  decide +kernel

/-! ### ParseResponseForCert from the bytes

  `parseBytes verify tbsOf sigOf algOf certOf der cert issuer` = decode `der` (`decodeOuter`, `decodeBasic`), build the
  abstract input, run `parse`.  Abstract: the signature primitive `verify`, how byte strings are presented to it (`tbsOf`,
  `sigOf` = RightAlign of the BIT STRING, `algOf` = getSignatureAlgorithmFromOID) and `x509.ParseCertificate` (`certOf`).
  Tied to the real `ParseResponseForCert` by the T2 stream `c13 bytes` (the Lean side gets the DER, the
  x509.ParseCertificate outcome and the three signature-primitive bits, nothing else). -/

/-- **binding to the issuer's signature, from the bytes**: if `ParseResponseForCert(der, cert, issuer)` accepts with a
    non-nil issuer, then `der` is exactly one OCSPResponse (no trailing data) with status `successful` and type
    id-pkix-ocsp-basic, its `response` OCTET STRING is exactly one BasicOCSPResponse, and the signature BIT STRING of THAT
    element verifies, with the algorithm named by ITS signatureAlgorithm OID, over the bytes of ITS tbsResponseData element —
    under the issuer key, or under the key of the first embedded certificate, which the issuer signed. -/
theorem bytes_accept_implies_sig (tbsOf : Bytes → B) (sigOf : Bytes → Int → B) (algOf : List Int → Nat)
    (certOf : Bytes → Option (ECert K B)) (der : Bytes) (cert : Option Int) (ik : K) (o : Out K B)
    (h : parseBytes verify tbsOf sigOf algOf certOf der cert (some ik) = .ok (.ok o)) :
    ∃ body b, decodeOuter der = .ok (0, idBasic, body, []) ∧ decodeBasic body = .ok (b, []) ∧
      ((b.certs = [] ∧ o.certificate = none ∧
          verify ik (algOf b.sigOid) (tbsOf b.tbs) (sigOf b.sigBytes b.sigBitLen) = true) ∨
       (∃ c rest e, b.certs = c :: rest ∧ certOf c = some e ∧ o.certificate = some e ∧
          verify e.key (algOf b.sigOid) (tbsOf b.tbs) (sigOf b.sigBytes b.sigBitLen) = true ∧
          verify ik e.alg e.tbs e.sig = true)) := by
  obtain ⟨inp, hinp, hfull⟩ := inputOfBytes_spec tbsOf sigOf algOf certOf der
  rw [parseBytes, hinp] at h
  simp only [Dec.ok.injEq] at h
  have hacc := (parse_ok_iff verify inp cert (some ik) o).mp h
  obtain ⟨st, ty, body, b, hout, hbas, rfl⟩ := hfull hacc.basic
  obtain rfl : st = 0 := Int.natAbs_eq_zero.mp hacc.status
  obtain rfl : ty = idBasic := of_decide_eq_true hacc.type
  refine ⟨body, b, hout, hbas, ?_⟩
  rcases resp_accept_implies_sig verify _ cert ik o h with ⟨hn, hc, hv⟩ | ⟨e, rest, hc, ho, hv1, hv2⟩
  · exact Or.inl ⟨List.map_eq_nil_iff.mp hn, hc, hv⟩
  · obtain ⟨c, cs, hcs, h1, _⟩ := List.map_eq_cons_iff.mp hc
    exact Or.inr ⟨c, cs, e, hcs, h1, ho, hv1, hv2⟩

/-- **tampering is rejected, from the bytes**: bytes whose decoded TBS / signature / algorithm do not verify under the issuer
    key (no embedded certificate) are never accepted — whatever else they contain -/
theorem bytes_tamper_rejected (tbsOf : Bytes → B) (sigOf : Bytes → Int → B) (algOf : List Int → Nat)
    (certOf : Bytes → Option (ECert K B)) (der body : Bytes) (b : DBasic) (cert : Option Int) (ik : K)
    (hout : decodeOuter der = .ok (0, idBasic, body, [])) (hbas : decodeBasic body = .ok (b, [])) (hno : b.certs = [])
    (hbad : verify ik (algOf b.sigOid) (tbsOf b.tbs) (sigOf b.sigBytes b.sigBitLen) = false) :
    ∀ o, parseBytes verify tbsOf sigOf algOf certOf der cert (some ik) ≠ .ok (.ok o) := by
  intro o h
  simp only [parseBytes, inputOfBytes, hout, hbas, List.length_nil, gt_iff_lt, Nat.lt_irrefl, if_false] at h
  exact tamper_rejected verify _ cert ik (congrArg (List.map certOf) hno) hbad o (Dec.ok.inj h)

/-- **typing of the asn1 decoder** (for every Go type of the model's type language, every parameter-less top-level call, both
    modes): what `Unmarshal` returns is a value of the shape of the type (`Pres`): integers for the integer kinds, a field list
    of the right length for a struct with every field either a present value of its type or — OPTIONAL fields only — the
    default the decoder assigns, a `vnil`-terminated list of element values for a slice, a RawValue with non-empty
    `FullBytes` for a RawValue.  (The `Pres` component of `C01Asn1.engine_spec`, Proofs/C01Alloc; Props/C18 and Props/C01 do
    not state it, the OCSP read-out needs it.) -/
theorem ocsp_asn1_typed (perm : Bool) (s : C18.Schema) (bs : Bytes) (v : C18.Val) (rest : Bytes)
    (h : C18.unmarshal perm s {} bs = .ok (v, rest)) : Pres s v := (C01Asn1.required_present perm s {} rfl h).1

/-- **the read-out is total**: the values the two decoding steps get from `Unmarshal` always have the shape the read-out
    expects — `decodeOuter` / `decodeBasic` answer a decoded structure or `err`, never `shape`, on every byte string; hence the
    abstract input of the decision model is always built and `parseBytes` always returns a decision of `parse` (which never
    panics: `parse_never_panics`) -/
theorem ocsp_decode_total (der : Bytes) :
    ¬ (decodeOuter der matches .shape) ∧ ¬ (decodeBasic der matches .shape) :=
  ⟨decodeOuter_no_shape der, decodeBasic_no_shape der⟩

/-- from the bytes the model always returns a decision of `parse`, and that decision is never a panic -/
theorem bytes_total (tbsOf : Bytes → B) (sigOf : Bytes → Int → B) (algOf : List Int → Nat)
    (certOf : Bytes → Option (ECert K B)) (der : Bytes) (cert : Option Int) (issuer : Option K) :
    ∃ r, parseBytes verify tbsOf sigOf algOf certOf der cert issuer = .ok r ∧ r ≠ .panic := by
  obtain ⟨inp, hinp, _⟩ := inputOfBytes_spec tbsOf sigOf algOf certOf der
  exact ⟨parse verify inp cert issuer, by simp [parseBytes, hinp], parse_never_panics verify inp cert issuer⟩

/-- on concrete bytes: an error response (status 1, no responseBytes) is decoded and refused by the status test -/
example : (parseBytes (fun (_ : Nat) _ (_ : Nat) _ => true) (fun _ => 0) (fun _ _ => 0) (fun _ => 0) (fun _ => (none : Option (ECert Nat Nat)))
    [0x30, 0x03, 0x0a, 0x01, 0x01] none none matches .ok .err) = true := by decide +kernel

/-! ### T1: the tables of the model against the tables GENERATED from the working tree

  `ZV.Gen.C03.ocspDetailsOid` / `ocspSignDefaults` / `verifyHash` (go/ast + run time, extractor go/extract/c03) and
  `ZV.Gen.C13.hashOIDs` / `idPKIXOCSPBasic` (run time through the hook, extractor go/extract/c13) are rewritten from the
  zcrypto working tree on every check run; the theorems below re-check the model's tables against them, so an edited row
  of `signatureAlgorithmDetails`, `hashOIDs`, an arm of the type / curve switch of `signingParamsForPublicKey` or of the
  digest switch of `x509.CheckSignatureFromKey` fails a named theorem. -/

/-- `x509.PublicKeyAlgorithm` number of the generated key-algorithm name -/
def pkaNum (s : String) : Nat :=
  if s = "RSA" then 1 else if s = "DSA" then 2 else if s = "ECDSA" then 3 else if s = "Ed25519" then 4 else 0

/-- the model's `sigDetails` IS the generated `signatureAlgorithmDetails` of ocsp.go, row for row, in order -/
theorem sigDetails_generated :
    sigDetails = Gen.C03.ocspDetailsOid.map (fun r => ⟨r.1, pkaNum r.2.2.1, r.2.2.2⟩) := by decide +kernel

/-- the OID column: pairwise distinct OIDs and pairwise distinct `algo`s, so `getSignatureAlgorithmFromOID` (first row with
    the OID) maps the OID written by `signingParamsForPublicKey` for a row back to that row's `algo` — the model's
    representation of the OID column by `algo` loses nothing -/
theorem sigDetails_oid_column_injective :
    (Gen.C03.ocspDetailsOid.map (fun r => r.2.1)).Nodup ∧ (Gen.C03.ocspDetailsOid.map (fun r => r.1)).Nodup := by decide +kernel

/-- the Go type / curve names of the arms of the type switch -/
def kindName : KeyKind → Option String
  | .rsa => some "*rsa.PublicKey"
  | .p224 => some "*ecdsa.PublicKey:P224"
  | .p256 => some "*ecdsa.PublicKey:P256"
  | .p384 => some "*ecdsa.PublicKey:P384"
  | .p521 => some "*ecdsa.PublicKey:P521"
  | _ => none

/-- the generated arm for a Go type name: (public-key algorithm, default digest, `algo` of the default OID) -/
def genDefault (n : String) : Option (Nat × Nat × Nat) :=
  match Gen.C03.ocspSignDefaults.find? (fun r => r.1 == n) with
  | none => none
  | some r =>
    match Gen.C03.ocspDetailsOid.find? (fun d => d.2.1 == r.2.2.2.1) with
    | none => none
    | some d => some (pkaNum r.2.1, r.2.2.1, d.1)

/-- the model's `defaultParams` IS the generated type / curve switch of ocsp `signingParamsForPublicKey` (every arm of the
    model is an arm of the code with the same key algorithm, digest and OID; the code has no further arm) -/
theorem defaultParams_generated :
    (∀ k, defaultParams k = (match kindName k with | some n => genDefault n | none => none)) ∧
    Gen.C03.ocspSignDefaults.map (fun r => r.1) = [KeyKind.rsa, .p224, .p256, .p384, .p521].filterMap kindName := by
  refine ⟨fun k => ?_, by decide⟩
  cases k <;> decide

/-- NULL parameters are written exactly for the RSA arm (what `createDER` passes as `nullParams`) -/
theorem defaultParams_null_generated :
    Gen.C03.ocspSignDefaults.map (fun r => (r.2.1, r.2.2.2.2.1)) =
      [("RSA", true), ("ECDSA", false), ("ECDSA", false), ("ECDSA", false), ("ECDSA", false)] := by decide +kernel

/-- the model's `verifyHash` IS the generated first switch of `x509.CheckSignatureFromKey`, for EVERY algorithm number
    (insecure and unsupported algorithms both have no digest) -/
theorem verifyHash_generated (a : Nat) :
    verifyHash a = (match Gen.C03.verifyHash.lookup a with | some h => h | none => none) := by
  by_cases h : a ≤ 16
  · have : ∀ a, a ≤ 16 → verifyHash a = (match Gen.C03.verifyHash.lookup a with | some h => h | none => none) := by decide +kernel
    exact this a h
  · -- past the last row every test of either side fails by computation on `n + 17`
    obtain ⟨n, rfl⟩ : ∃ n, a = n + 17 := ⟨a - 17, by omega⟩
    rfl

/-- the model's `hashOID` IS the generated `hashOIDs` map, for EVERY hash number; `hashSupported` is its key set and
    `hashOfOID` its inverse -/
theorem hashOID_generated (h : Nat) :
    hashOID h = Gen.C13.hashOIDs.lookup h ∧ hashSupported h = (Gen.C13.hashOIDs.lookup h).isSome := by
  by_cases hh : h ≤ 7
  · have : ∀ h, h ≤ 7 → (hashOID h = Gen.C13.hashOIDs.lookup h ∧ hashSupported h = (Gen.C13.hashOIDs.lookup h).isSome) := by
      decide +kernel
    exact this h hh
  · obtain ⟨n, rfl⟩ : ∃ n, h = n + 8 := ⟨h - 8, by omega⟩
    exact ⟨rfl, rfl⟩

theorem hashOfOID_generated :
    (∀ r ∈ Gen.C13.hashOIDs, hashOfOID r.2 = r.1 ∧ r.1 ≠ 0) ∧
    (∀ o, hashOfOID o ≠ 0 → (hashOfOID o, o) ∈ Gen.C13.hashOIDs) := by
  refine ⟨by decide +kernel, fun o ho => ?_⟩
  unfold hashOfOID at ho ⊢
  by_cases h1 : o = [1, 3, 14, 3, 2, 26]
  · rw [if_pos h1, h1]; decide +kernel
  rw [if_neg h1] at ho ⊢
  by_cases h2 : o = [2, 16, 840, 1, 101, 3, 4, 2, 1]
  · rw [if_pos h2, h2]; decide +kernel
  rw [if_neg h2] at ho ⊢
  by_cases h3 : o = [2, 16, 840, 1, 101, 3, 4, 2, 2]
  · rw [if_pos h3, h3]; decide +kernel
  rw [if_neg h3] at ho ⊢
  by_cases h4 : o = [2, 16, 840, 1, 101, 3, 4, 2, 3]
  · rw [if_pos h4, h4]; decide +kernel
  · exact absurd (if_neg h4) ho

/-- `idBasic` IS the generated `idPKIXOCSPBasic` -/
theorem idBasic_generated : idBasic = Gen.C13.idPKIXOCSPBasic := by decide +kernel

/-! ### the ENCODING side of `CreateResponse` (ZV.Model.C13Enc; tied to the real function byte for byte by T2 `c13 enc`) -/

/-- **times, to the second**: for every instant whose UTC year is 0..9999, the element `CreateResponse` writes for a
    `time.Time "generalized"` field (`ProducedAt`, `ThisUpdate`, `RevocationTime`, and inside `[0]` `NextUpdate`) is a
    primitive universal GeneralizedTime whose content `encoding/asn1`'s `parseGeneralizedTime` (ZV.Model.Time, strict or
    permissive) reads back as exactly that instant, in UTC. -/
theorem ocsp_time_roundtrip (perm : Bool) (u : Int) (hy0 : 0 ≤ (utcTime u).year) (hy1 : (utcTime u).year ≤ 9999) :
    ∃ body, timeRaw u = .ok (mkRaw 0 24 false body) ∧
      ZV.Time.EA.parseTimeBody perm 24 body = .ok (utcTime u) :=
  ⟨_, timeRaw_ok u hy0 hy1, (if_neg (by decide)).trans (parseGeneralizedTime_utc perm u hy0 hy1)⟩

/-- … and outside those years `CreateResponse` fails (asn1.Marshal: "cannot represent time as GeneralizedTime") -/
theorem ocsp_time_out_of_range (u : Int) (h : (utcTime u).year < 0 ∨ (utcTime u).year > 9999) : timeRaw u = .err := by
  rw [timeRaw_eq, ZV.Time.appendGeneralizedTime_err (utcTime u) h]

/-- `NextUpdate`: `time.Time{}` is left out, everything else is `[0] { GeneralizedTime }` -/
theorem ocsp_next_absent : nextRaw zeroTime = .ok (C18.zeroVal .raw) := by simp [nextRaw]

/-- the status arms written by `CreateResponse` are exactly the template's status: `Good` ⇒ [0], `Unknown` ⇒ [2], and
    the revoked arm [1] is present iff the status is `Revoked` and (RevokedAt, reason) is not the zero pair; any other
    status writes NO arm (and reads back as `Revoked` at `time.Time{}` — `create_status_out_of_domain`) -/
theorem ocsp_revoked_arm (t : RTemplate) (h : t.status ≠ 1 ∨ (t.revokedAt = zeroTime ∧ t.reason = 0)) :
    revokedVal t = .ok (C18.zeroVal revokedInfoS) := by
  have : ¬ (t.status = 1 ∧ ¬ (t.revokedAt = zeroTime ∧ t.reason = 0)) := by
    rcases h with h | h
    · exact fun x => h x.1
    · exact fun x => x.2 h
  unfold revokedVal
  rw [if_neg this]

/-- `CreateResponse` refuses exactly the issuer hashes outside the GENERATED `hashOIDs` (0 standing for SHA-1) -/
theorem ocsp_create_unsupported_hash (t : RTemplate) (nh kh : Bytes)
    (h : Gen.C13.hashOIDs.lookup (if t.hash = 0 then 3 else t.hash) = none) : singleVal t nh kh = .err := by
  have := (hashOID_generated (if t.hash = 0 then 3 else t.hash)).1
  simp only [singleVal, this, h]

/-- the algorithm identifier written is the GENERATED OID of the algorithm `signingParams` answers with: for every key
    kind and requested algorithm that is accepted, that OID exists, and `getSignatureAlgorithmFromOID` (first row with
    the OID) maps it back to the same algorithm number -/
theorem ocsp_sig_oid_written (k : KeyKind) (req h a : Nat) (hs : signingParams k req = .ok (h, a)) :
    ∃ oid, sigOidOf a = some oid ∧
      (Gen.C03.ocspDetailsOid.find? (fun r => r.2.1.map Int.ofNat == oid)).map (fun r => r.1) = some a := by
  have hrows : ∀ r ∈ sigDetails, ∃ oid, sigOidOf r.algo = some oid ∧
      (Gen.C03.ocspDetailsOid.find? (fun d => d.2.1.map Int.ofNat == oid)).map (fun d => d.1) = some r.algo := by decide +kernel
  obtain ⟨pka, _, _, _, hrow, _⟩ := (signingParams_ok k req).of_ok hs
  exact hrows _ hrow

/-- the hypotheses of the encoding theorems are satisfiable -/
example : 0 ≤ (utcTime 1700000000).year ∧ (utcTime 1700000000).year ≤ 9999 := by decide +kernel
example : (utcTime 253402300800).year > 9999 := by decide +kernel
example : (RTemplate.mk 0 5 0 0 7 1 0 none).status ≠ 1 ∨ ((7 : Int) = zeroTime ∧ (1 : Int) = 0) := by decide +kernel
example : Gen.C13.hashOIDs.lookup (if (4 : Nat) = 0 then 3 else 4) = none := by decide +kernel
example : signingParams .p384 0 = .ok (6, 11) := by decide +kernel
/-- on concrete values: a revoked response with reason 1, SHA-256 issuer hash, one extension, P-256 signer: the bytes exist -/
example : (createResponse (RTemplate.mk 1 (-129) 1700000000 zeroTime 1600000000 1 5 (some [([2, 5, 29, 20], false, [1])])) [1, 2] [3] [0x30, 0x00] 946684800 .p256 0 [9, 9] none matches .ok _) = true := by decide +kernel

/-! ### the time leg through the decoder that is tied to the code (`C13Der.parseTime` / `timeOfRaw`) -/

/-- **`C13Der.parseTime` agrees with ZV.Model.Time on the image of the encoder**: for every instant with UTC year 0..9999,
    the content `appendGeneralizedTime` writes is read by `parseTime 24` (the decoder of `decodeBasic`, T2 `c13 time`) and by
    `EA.parseGeneralizedTime` (ZV.Model.Time) as the same instant -/
theorem ocsp_parseTime_agrees (perm : Bool) (u : Int) (hy0 : 0 ≤ (utcTime u).year) (hy1 : (utcTime u).year ≤ 9999) :
    ∃ body, ZV.Time.EA.appendGeneralizedTime (utcTime u) = .ok body ∧ parseTime 24 body = .ok u ∧
      ZV.Time.EA.parseGeneralizedTime perm body = .ok (utcTime u) :=
  ⟨_, ZV.Time.appendGeneralizedTime_eq _ hy0 hy1, parseTime_genText u hy0 hy1, parseGeneralizedTime_utc perm u hy0 hy1⟩

/-- **times, to the second, through the response decoder**: the element `CreateResponse` writes for `ProducedAt` /
    `ThisUpdate` / `RevocationTime` is read by `timeOfRaw` — what `decodeBasic` / `decodeSingle` / `revokedOf` apply to those
    fields — as exactly the template's Unix seconds, whatever `FullBytes` the decoder attached -/
theorem ocsp_time_decode_roundtrip (u : Int) (hy0 : 0 ≤ (utcTime u).year) (hy1 : (utcTime u).year ≤ 9999) :
    ∃ body full, timeRaw u = .ok (.raw 0 24 false body full) ∧ ∀ full', timeOfRaw (.raw 0 24 false body full') = .ok u := by
  refine ⟨_, _, timeRaw_ok u hy0 hy1, fun full' => ?_⟩
  rw [timeOfRaw, if_pos ⟨rfl, Or.inr rfl, rfl⟩]
  exact parseTime_genText u hy0 hy1

end ZV.C13
