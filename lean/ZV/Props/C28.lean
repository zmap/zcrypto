import ZV.Proofs.C28Kx
import ZV.Proofs.C28CH
import ZV.Proofs.C28SH
import ZV.Proofs.C28Sched
/-!
  C28 — the client handshake log records what was actually exchanged.

  What is proved here, for ALL byte strings: the log-mapping model (the real parsers followed by the real
  `MakeLog` builders, tied to the Go code by the T2 stream `c28`) is faithful to the wire:

  * `skx_sighash_eq_wire`     ECDHE, TLS 1.2: the logged (signature, hash) pair is the one NAMED by the two
                              SignatureScheme bytes on the wire (`tlsHashOf` / `sigKindOf` are the spec-side reading of
                              those bytes); for the classic `(hash, signature)` layout the logged hash IS wire byte 0.
  * `skx_sighash_eq_wire_dhe` DHE, TLS 1.2: logged hash = wire byte 0 and logged signature = wire byte 1, literally.
  * `skx_log_bytes_complete`  ECDHE: the message is exactly  03 ‖ curve ‖ len ‖ point ‖ [alg] ‖ len ‖ logged signature,
                              the logged curve id is the wire curve id and the logged signature has the wire length.
  * `skx_dhe_log_eq_wire`     DHE: the message is  len‖p ‖ len‖g ‖ len‖Ys ‖ signature block, and the logged p, g, Ys are those
                              byte strings (as numbers: leading zeros dropped).
  * `skx_pre12_no_sighash`    before TLS 1.2 no signature_and_hash_type is logged (none is on the wire).
  * `sh_log_eq_wire`          ServerHello: version, random (32 bytes), session id, cipher suite and compression method of
                              the log are the corresponding wire fields.
  * `cert_log_eq_wire`        Certificate: leaf ‖ chain of the log are exactly the 24-bit-framed entries of the message.
  * `cert13_log_eq_wire`      TLS 1.3 Certificate: leaf ‖ chain are the `cert_data` fields of ALL entries, in wire order.
  * `fin_log_eq_wire`         Finished: verify_data is the whole body.
  * `ch_log_eq_wire`          ClientHello, for every accepted byte string: the message is exactly
                              hdr(4) ‖ version ‖ random(32) ‖ len8‖session id ‖ len16‖suites ‖ len8‖compression methods ‖ ext,
                              the logged version / random / session id / suites (big-endian pairs, `pairsBE`, even length) /
                              compression methods are those fields, `ext` is empty or len16 ‖ blk with blk EXACTLY the
                              concatenation of id ‖ len ‖ data of an extension list `es` (`FramedExts`; the list is unique,
                              `ext_block_determined`), the extension loop ran over `es` starting from
                              `renegSup := SCSV offered`, and every extension-derived log field is the function of `es`
                              spelled out in `CHExtSpec` (= `ch_log_ext_eq_wire`), field by field, duplicates included
                              (no distinctness hypothesis):
      `ch_log_ext_shapes`       wire shape of every logged extension (`CHExtShape`: length prefixes, non-emptiness, evenness)
      `ch_log_ext_curves` / `ch_log_ext_versions`   supported_groups (10) / supported_versions (43): concatenation, in wire
                                order, of the uint16 lists of ALL such extensions
      `ch_log_ext_sighashes`    signature_algorithms (13): likewise, then mapped through `sigAlgLookup` with unknown schemes
                                dropped; `sigAlgLookup_table`: the lookup is membership in `sigAlgTable`
      `ch_log_ext_alpn`         ALPN (16): concatenation of the protocol lists (8-bit-length-prefixed, non-empty) of all ALPN exts
      `ch_log_ext_points` / `ch_log_ext_xrand`      ec_point_formats (11) / extended_random (0x28): the LAST one wins
      `ch_log_ext_ticket`       session_ticket (35): flag = presence; ticket record = (length, data) of the LAST one, present
                                iff that data is non-empty
      `ch_log_ext_reneg`        renegotiation_info (0xff01): as MakeLog computes it (supported ∧ last payload non-empty), which
                                is: the last such extension carries more than its length byte; the SCSV alone or an empty
                                renegotiation_info is logged as false
      `ch_log_ext_ocsp`         status_request (5): NOT presence — `status_type = 1` of the LAST status_request
      `ch_log_ext_flags`        SCT (18), extended_master_secret (23): presence
      `ch_log_ext_sni`          server_name (0): the name loop runs over the lists of ALL server_name extensions; either no
                                host_name entry (nothing logged) or exactly ONE, non-empty, without trailing dot = the log
      `ch_log_no_ext`           no extensions: every one of these fields has its default value
  * `sh_log_ext_eq_wire`      ServerHello incl. extensions: fixed part as in `sh_log_eq_wire`, the block framing as above, the
                              logged extension identifiers are exactly the identifiers of `es` in wire order, and every
                              extension-derived field is the function of `es` in `SHExtSpec`:
      `sh_log_ext_shapes`, `sh_log_ext_flags` (5 / 35 / 23 = presence), `sh_log_ext_reneg`, `sh_log_ext_alpn` (the single
      protocol of the last ALPN ext), `sh_log_ext_scts` (all SCT lists concatenated), `sh_log_ext_version_keyshare` (43: last
      wins; 51: as MakeLog computes it), `sh_log_ext_unknown` (every extension without an arm of its own, VERBATIM wire bytes,
      in order).
  * `ext_lists_determined`    the decoded ALPN / SNI / SCT lists in the statements above are determined by the bytes.
  * `sched_*`                 (second part of the file) the logging schedule `clientLog`: which received item each record is built from.
  Nothing of the ClientHello / ServerHello log mapping is left to correspondence only.  What the theorems do not say:
  the converse (which byte strings are ACCEPTED) is only given as necessary shapes, not as an iff; the extensions that
  never reach the log (ClientHello 50, 44, 51, 42, 45, 41; ServerHello 44, 41, 11) are proved to leave the record unchanged
  (`chExt_other`, `shExt_nolog`) but their own syntax checks are exercised by T2 only.
-/
namespace ZV.C28

/-- position-based (spec-side) reading of the wire: the two algorithm bytes that follow the ECDHE parameters -/
def ecdheAlgBytes (key : Bytes) : Option (UInt8 × UInt8) :=
  match key with
  | _ :: _ :: _ :: pl :: rest =>
    match rest.drop pl.toNat with
    | a :: b :: _ => some (a, b)
    | _ => none
  | _ => none

theorem skx_sighash_eq_wire {vers : Nat} {isRSA : Bool} {kt : KeyType} {algs : List Nat} {ok : Bool}
    {cr sr key : Bytes} {l : ECDHELog}
    (h : ecdheLog vers isRSA kt algs ok cr sr key = some l) (hv : vers ≥ 0x0303) :
    ∃ a b, ecdheAlgBytes key = some (a, b) ∧ l.sig.hasSigHash = true ∧
      l.sig.hash = tlsHashOf a b ∧ l.sig.sig = sigKindOf a b ∧
      (a.toNat ≤ 6 → l.sig.hash = a.toNat) := by
  obtain ⟨c1, c2, pl, pub, algB, l1, l2, hkey, hpub, _, _, hhas, _, h12⟩ := ecdheLog_inv h
  rw [if_pos hv] at h12
  obtain ⟨a, b, rfl, hta, _⟩ := h12
  obtain ⟨e1, e2⟩ := typeAndHash_wire hta
  refine ⟨a, b, ?_, by rw [hhas]; exact decide_eq_true hv, e1, e2, fun ha => by rw [e1, tlsHashOf, if_pos ha]⟩
  rw [hkey, ecdheAlgBytes, List.append_assoc, ← hpub, List.drop_left]
  rfl

example : ecdheLog 0x0303 true .rsa [0x0804] true [] [] [3, 0, 29, 1, 9, 8, 4, 0, 1, 7] ≠ none := by decide

theorem skx_pre12_no_sighash {vers : Nat} {isRSA : Bool} {kt : KeyType} {algs : List Nat} {ok : Bool}
    {cr sr key : Bytes} {l : ECDHELog}
    (h : ecdheLog vers isRSA kt algs ok cr sr key = some l) (hv : vers < 0x0303) :
    l.sig.hasSigHash = false := by
  obtain ⟨_, _, _, _, _, _, _, _, _, _, _, hhas, _⟩ := ecdheLog_inv h
  rw [hhas]
  exact decide_eq_false (Nat.not_le_of_lt hv)

/-- the message is reconstructed from the log: nothing is truncated, nothing invented -/
theorem skx_log_bytes_complete {vers : Nat} {isRSA : Bool} {kt : KeyType} {algs : List Nat} {ok : Bool}
    {cr sr key : Bytes} {l : ECDHELog}
    (h : ecdheLog vers isRSA kt algs ok cr sr key = some l) :
    ∃ c1 c2 pl pub algB l1 l2,
      key = 3 :: c1 :: c2 :: pl :: (pub ++ algB ++ (l1 :: l2 :: l.sig.raw)) ∧
      pub.length = pl.toNat ∧ l.curve = u16 c1 c2 ∧ u16 l1 l2 = l.sig.raw.length ∧
      algB.length = (if vers ≥ 0x0303 then 2 else 0) ∧ l.sig.version = vers := by
  obtain ⟨c1, c2, pl, pub, algB, l1, l2, hkey, hpub, hc, hl, _, hver, h12⟩ := ecdheLog_inv h
  refine ⟨c1, c2, pl, pub, algB, l1, l2, hkey, hpub, hc, hl, ?_, hver⟩
  by_cases hv : vers ≥ 0x0303
  · rw [if_pos hv] at h12 ⊢
    obtain ⟨a, b, rfl, _⟩ := h12
    rfl
  · rw [if_neg hv] at h12 ⊢
    rw [h12.1]
    rfl

theorem skx_dhe_log_eq_wire {vers : Nat} {cr sr key : Bytes} {l : DHELog} (h : dheLog vers cr sr key = some l) :
    ∃ p g ys sigBlock a1 a2 b1 b2 c1 c2,
      key = a1 :: a2 :: (p ++ b1 :: b2 :: (g ++ c1 :: c2 :: (ys ++ sigBlock))) ∧
      u16 a1 a2 = p.length ∧ u16 b1 b2 = g.length ∧ u16 c1 c2 = ys.length ∧
      l.p = stripZeros p ∧ l.g = stripZeros g ∧ l.ys = stripZeros ys ∧
      l.sig = (dheSigPart vers cr sr (key.take (key.length - sigBlock.length)) sigBlock).1 := by
  unfold dheLog at h
  obtain ⟨p, k1, h1, h⟩ := bindBB h
  obtain ⟨g, k2, h2, h⟩ := bindBB h
  obtain ⟨ys, sig0, h3, h⟩ := bindBB h
  obtain ⟨_, h⟩ := guard_some h
  cases h
  obtain ⟨a1, a2, rfl, e1⟩ := readVec16_spec h1
  obtain ⟨b1, b2, rfl, e2⟩ := readVec16_spec h2
  obtain ⟨c1, c2, rfl, e3⟩ := readVec16_spec h3
  exact ⟨p, g, ys, sig0, a1, a2, b1, b2, c1, c2, rfl, e1, e2, e3, rfl, rfl, rfl, rfl⟩

/-- DHE, TLS 1.2: the two logged algorithm ids are literally the two wire bytes that follow the parameters, and the
    logged signature (when one is logged) is the complete length-prefixed byte string after them -/
theorem skx_sighash_eq_wire_dhe {vers : Nat} {cr sr key : Bytes} {l : DHELog}
    (h : dheLog vers cr sr key = some l) (hv : vers ≥ 0x0303) :
    ∃ p g ys a1 a2 b1 b2 c1 c2 sigBlock,
      key = a1 :: a2 :: (p ++ b1 :: b2 :: (g ++ c1 :: c2 :: (ys ++ sigBlock))) ∧
      ∀ hb sb rest, sigBlock = hb :: sb :: rest →
        l.sig.hasSigHash = true ∧ l.sig.hash = hb.toNat ∧ l.sig.sig = sb.toNat ∧
        (l.sig.raw = [] ∨ ∃ x y, rest = x :: y :: l.sig.raw ∧ u16 x y = l.sig.raw.length) := by
  obtain ⟨p, g, ys, sig0, a1, a2, b1, b2, c1, c2, hk, _, _, _, _, _, _, hs⟩ := skx_dhe_log_eq_wire h
  refine ⟨p, g, ys, a1, a2, b1, b2, c1, c2, sig0, hk, ?_⟩
  rintro hb sb rest rfl
  rw [hs]
  exact dheSigPart_tls12 hv

example : dheLog 0x0303 [] [] [0, 1, 7, 0, 1, 2, 0, 1, 3, 4, 1, 0, 1, 9] ≠ none := by decide

theorem cert_log_eq_wire {msg : Bytes} {cs : List Bytes} (h : parseCerts msg = some cs) :
    Framed24 (msg.drop 7) cs ∧ msg.length ≥ 7 ∧
      (cs ≠ [] → (certLog cs).leaf :: (certLog cs).chain = cs) := by
  unfold parseCerts at h
  by_cases h7 : msg.length < 7
  · rw [if_pos h7] at h; cases h
  rw [if_neg h7] at h
  match h1 : readU24 (msg.drop 4), h with
  | some (n, d), h =>
    simp only at h
    by_cases hn : msg.length ≠ n + 7
    · rw [if_pos hn] at h; cases h
    rw [if_neg hn] at h
    obtain ⟨a, b, c, e, _⟩ := readU24_spec h1
    have hd : d = msg.drop 7 := by
      have : (msg.drop 4).drop 3 = d := by rw [e]; rfl
      rw [← this, List.drop_drop]
    exact ⟨hd ▸ certEntries_framed d cs h, Nat.le_of_not_lt h7, certLog_cons⟩

/-- TLS 1.3 Certificate: the message is  4 header bytes ‖ 00 (empty request context) ‖ len24 ‖ entries,  the entries are
    exactly `len24 ‖ cert_data ‖ len16 ‖ extensions` back to back, and the logged leaf ‖ chain are the `cert_data` fields
    of ALL entries, in wire order (nothing skipped, shifted or duplicated). -/
theorem cert13_log_eq_wire {msg : Bytes} {r : Cert13} (h : parseCerts13 msg = some r) :
    ∃ hdr a b c lst es, msg = hdr ++ (0 :: a :: b :: c :: lst) ∧ hdr.length = 4 ∧
      a.toNat * 65536 + b.toNat * 256 + c.toNat = lst.length ∧ Framed13 lst es ∧
      (es ≠ [] → (cert13Log r).leaf :: (cert13Log r).chain = es.map (·.1)) ∧
      (es = [] → (cert13Log r).leaf = [] ∧ (cert13Log r).chain = []) := by
  unfold parseCerts13 at h
  obtain ⟨h4, h⟩ := guard_some h
  match h1 : readVec8 (msg.drop 4), h with
  | some ([], r1), h =>
    simp only at h
    match h2 : readVec24 r1, h with
    | some (lst, []), h =>
      simp only at h
      match h3 : cert13Entries lst, h with
      | some es, hx =>
        simp only at hx
        obtain ⟨z, e1, hz⟩ := readVec8_spec h1
        obtain ⟨a, b, c, e2, hl⟩ := readVec24_spec h2
        obtain rfl : z = 0 := UInt8.toNat_inj.mp hz
        have hm : msg = msg.take 4 ++ (0 :: a :: b :: c :: lst) := by
          have := (List.take_append_drop 4 msg).symm
          rw [e1, e2] at this
          simpa using this
        -- whatever the leaf's extensions say, the logged certificates are the `cert_data` of all entries
        have hc : r.certs = es.map (·.1) := by
          by_cases hall : (es.all fun e => (splitExts e.2).isSome) = true
          · rw [if_pos hall] at hx
            match es, hx with
            | [], hx =>
              cases hx
              rfl
            | (c0, ex) :: t, hx =>
              simp only at hx
              match splitExts ex, hx with
              | some xs, hx =>
                simp only at hx
                match cert13LeafExts false false xs, hx with
                | some (o, s), hx =>
                  cases hx
                  rfl
          · rw [if_neg hall] at hx
            cases hx
        refine ⟨msg.take 4, a, b, c, lst, es, hm, List.length_take_of_le (Nat.le_of_not_lt h4), hl,
          cert13Entries_framed lst es h3, ?_, ?_⟩
        · intro hne
          unfold cert13Log
          rw [hc]
          exact certLog_cons (mt List.map_eq_nil_iff.mp hne)
        · rintro rfl
          unfold cert13Log
          rw [hc]
          exact ⟨rfl, rfl⟩

theorem fin_log_eq_wire {msg v : Bytes} (h : parseFin msg = some v) :
    ∃ t a b c, msg = t :: a :: b :: c :: v ∧ a.toNat * 65536 + b.toNat * 256 + c.toNat = v.length := by
  unfold parseFin at h
  match msg, h with
  | t :: r, h =>
    simp only at h
    match h1 : readVec24 r, h with
    | some (v', []), h =>
      simp only [Option.some.injEq] at h
      subst h
      obtain ⟨a, b, c, rfl, hl⟩ := readVec24_spec h1
      exact ⟨t, a, b, c, by simp, hl⟩

/-! ## ClientHello: `clientHelloMsg.unmarshal` + `MakeLog`, extension by extension

  Throughout, `es` is the list of (identifier, data) pairs of the extension block in WIRE ORDER (`FramedExts blk es`,
  see `ch_log_eq_wire`), duplicates included: no "identifiers are distinct" hypothesis anywhere.
  `es.filter (isId k)` = the extensions with identifier `k`, in wire order; `lastExt (isId k) es` = the data of the
  last one.  The hypothesis `chExts { renegSup := r } es = some m` is what `parseCH` establishes (`r` = SCSV offered). -/

/-- every logged-extension's data has the shape its RFC prescribes (anything else makes the parser fail) -/
theorem ch_log_ext_shapes {r : Bool} {es : List (Nat × Bytes)} {m : CHMsg}
    (h : chExts { renegSup := r } es = some m) : ∀ e ∈ es, CHExtShape e := by
  exact fold_all chExts_loop chExt_shape h

/-- supported_groups (10): the logged curve list is the concatenation, in wire order, of the big-endian uint16 lists of
    ALL supported_groups extensions (each `len16 ‖ body`, see `ch_log_ext_shapes`) -/
theorem ch_log_ext_curves {r : Bool} {es : List (Nat × Bytes)} {f : CHFixed} {m : CHMsg}
    (h : chExts { renegSup := r } es = some m) :
    (chLog f m).curves = ((es.filter (isId 10)).map (fun e => pairsBE (e.2.drop 2))).flatten := by
  exact fold_app chExts_loop CHMsg.curves (isId 10) (fun e => pairsBE (e.2.drop 2)) (fun hs => (chExt_effect hs).curves) h

/-- signature_algorithms (13): the logged (signature, hash) pairs are the schemes of ALL signature_algorithms
    extensions, in wire order, looked up in `signatureAlgorithms` (`sigAlgTable`); schemes not in the table are dropped -/
theorem ch_log_ext_sighashes {r : Bool} {es : List (Nat × Bytes)} {f : CHFixed} {m : CHMsg}
    (h : chExts { renegSup := r } es = some m) :
    (chLog f m).sigHashes =
      (((es.filter (isId 13)).map (fun e => pairsBE (e.2.drop 2))).flatten).filterMap sigAlgLookup := by
  exact congrArg (List.filterMap sigAlgLookup)
    (fold_app chExts_loop CHMsg.sigAlgs (isId 13) (fun e => pairsBE (e.2.drop 2)) (fun hs => (chExt_effect hs).sigAlgs) h)

/-- what `sigAlgLookup` is: the first (and only) row of the table with that scheme -/
theorem sigAlgLookup_table (s sg hh : Nat) : sigAlgLookup s = some (sg, hh) ↔ (s, sg, hh) ∈ sigAlgTable := by
  unfold sigAlgLookup
  constructor
  · intro h
    cases hf : sigAlgTable.find? (fun e => e.1 == s) with
    | none => simp only [hf] at h; cases h
    | some t =>
      obtain ⟨s', sg', h'⟩ := t
      simp only [hf, Option.some.injEq, Prod.mk.injEq] at h
      obtain ⟨rfl, rfl⟩ := h
      have hm := List.mem_of_find?_eq_some hf
      have hs := List.find?_some hf
      simp only [beq_iff_eq] at hs
      subst hs
      exact hm
  · have : ∀ e ∈ sigAlgTable, sigAlgLookup e.1 = some e.2 := by decide
    exact this (s, sg, hh)

/-- supported_versions (43): concatenation, in wire order, of the uint16 lists (`len8 ‖ body`) of all such extensions -/
theorem ch_log_ext_versions {r : Bool} {es : List (Nat × Bytes)} {f : CHFixed} {m : CHMsg}
    (h : chExts { renegSup := r } es = some m) :
    (chLog f m).sv = ((es.filter (isId 43)).map (fun e => pairsBE (e.2.drop 1))).flatten := by
  exact fold_app chExts_loop CHMsg.sv (isId 43) (fun e => pairsBE (e.2.drop 1)) (fun hs => (chExt_effect hs).sv) h

/-- ALPN (16): the logged protocol list is the concatenation, in wire order, of the protocol lists of all ALPN
    extensions; each is `len16 ‖ (len8 ‖ proto)*` with non-empty protocols (`AlpnExt`, which determines the list) -/
theorem ch_log_ext_alpn {r : Bool} {es : List (Nat × Bytes)} {f : CHFixed} {m : CHMsg}
    (h : chExts { renegSup := r } es = some m) :
    ∃ ls, ListRel (fun e l => AlpnExt e.2 l) (es.filter (isId 16)) ls ∧ (chLog f m).alpn = ls.flatten := by
  exact fold_acc chExts_loop CHMsg.alpn (isId 16) (fun e l => AlpnExt e.2 l)
    (fun hp hs => by
      cases isId_true.mp hp
      obtain ⟨p, hp, e⟩ := chExt_alpn hs
      exact ⟨p, hp, by rw [e]⟩)
    (fun hp hs => (chExt_effect hs).alpn hp) h

/-- ec_point_formats (11): the LAST extension wins; its data is `len8 ‖ formats` and `formats` is logged -/
theorem ch_log_ext_points {r : Bool} {es : List (Nat × Bytes)} {f : CHFixed} {m : CHMsg}
    (h : chExts { renegSup := r } es = some m) :
    (chLog f m).points = (match lastExt (isId 11) es with | some d => d.drop 1 | none => []) := by
  exact fold_last chExts_loop CHMsg.points (isId 11) (fun d => d.drop 1) (fun hs => (chExt_effect hs).points) h

/-- session_ticket (35): the flag is mere presence; the logged ticket is the data of the LAST extension, and a ticket
    record exists iff that data is non-empty -/
theorem ch_log_ext_ticket {r : Bool} {es : List (Nat × Bytes)} {f : CHFixed} {m : CHMsg}
    (h : chExts { renegSup := r } es = some m) :
    (chLog f m).ticket = es.any (isId 35) ∧
    (chLog f m).sessionTicket =
      (match lastExt (isId 35) es with
       | some d => if d.length > 0 then some (d.length, d) else none
       | none => none) ∧
    (∀ n v, (chLog f m).sessionTicket = some (n, v) ↔ lastExt (isId 35) es = some v ∧ v ≠ [] ∧ n = v.length) := by
  refine ⟨fold_flag chExts_loop CHMsg.tick (isId 35) (fun hs => (chExt_effect hs).tick) h, ?_⟩
  unfold chLog
  rw [fold_last chExts_loop CHMsg.ticket (isId 35) (fun d => d) (fun hs => (chExt_effect hs).ticket) h]
  -- no ticket extension; an empty one (no record); a non-empty one (the record is its length and data)
  rcases lastExt (isId 35) es with _ | _ | ⟨a, t⟩
  · exact ⟨rfl, fun n v => ⟨fun hx => absurd hx.symm (Option.some_ne_none _), fun hx => absurd hx.1.symm (Option.some_ne_none _)⟩⟩
  · exact ⟨rfl, fun n v => ⟨fun hx => absurd hx.symm (Option.some_ne_none _), fun hx => absurd (Option.some.inj hx.1).symm hx.2.1⟩⟩
  · exact ⟨rfl, fun n v => ⟨fun hx => by cases hx; exact ⟨rfl, List.cons_ne_nil a t, rfl⟩, fun hx => by cases hx.1; rw [hx.2.2]; rfl⟩⟩

/-- renegotiation_info (0xff01): exactly as `MakeLog` computes it — "supported" (SCSV among the suites, or any
    renegotiation_info extension) AND the renegotiated_connection of the LAST extension non-empty — which boils down
    to: the last renegotiation_info extension carries more than its length byte.  NOTE what this says: an initial
    handshake's empty renegotiation_info (`ff01 0001 00`), and the SCSV alone, are both logged as `false`. -/
theorem ch_log_ext_reneg {r : Bool} {es : List (Nat × Bytes)} {f : CHFixed} {m : CHMsg}
    (h : chExts { renegSup := r } es = some m) :
    (chLog f m).secureReneg =
      ((r || es.any (isId 0xff01)) &&
        decide (0 < (match lastExt (isId 0xff01) es with | some d => d.drop 1 | none => []).length)) ∧
    (chLog f m).secureReneg = (match lastExt (isId 0xff01) es with | some d => decide (1 < d.length) | none => false) := by
  show (m.renegSup && decide (m.reneg.length > 0)) = _ ∧ (m.renegSup && decide (m.reneg.length > 0)) = _
  rw [fold_flag chExts_loop CHMsg.renegSup (isId 0xff01) (fun hs => (chExt_effect hs).renegSup) h,
    fold_last chExts_loop CHMsg.reneg (isId 0xff01) (fun d => d.drop 1) (fun hs => (chExt_effect hs).reneg) h]
  exact ⟨rfl, reneg_last r _ es⟩

/-- extended_random (0x28): the LAST extension wins; `len16 ‖ value`, `value` is logged -/
theorem ch_log_ext_xrand {r : Bool} {es : List (Nat × Bytes)} {f : CHFixed} {m : CHMsg}
    (h : chExts { renegSup := r } es = some m) :
    (chLog f m).xrand = (match lastExt (isId 0x28) es with | some d => d.drop 2 | none => []) := by
  exact fold_last chExts_loop CHMsg.xrand (isId 0x28) (fun d => d.drop 2) (fun hs => (chExt_effect hs).xrand) h

/-- status_request (5): what holds is NOT "present ⇒ true": the logged flag is `status_type = 1` of the LAST
    status_request extension (false when there is none) -/
theorem ch_log_ext_ocsp {r : Bool} {es : List (Nat × Bytes)} {f : CHFixed} {m : CHMsg}
    (h : chExts { renegSup := r } es = some m) :
    (chLog f m).ocsp = (match lastExt (isId 5) es with | some d => ocspStatusIs1 d | none => false) := by
  exact fold_last chExts_loop CHMsg.ocsp (isId 5) ocspStatusIs1 (fun hs => (chExt_effect hs).ocsp) h

/-- signed_certificate_timestamp (18) and extended_master_secret (23): presence flags (the data must be empty) -/
theorem ch_log_ext_flags {r : Bool} {es : List (Nat × Bytes)} {f : CHFixed} {m : CHMsg}
    (h : chExts { renegSup := r } es = some m) :
    (chLog f m).scts = es.any (isId 18) ∧ (chLog f m).ems = es.any (isId 23) := by
  exact ⟨fold_flag chExts_loop CHMsg.scts (isId 18) (fun hs => (chExt_effect hs).scts) h,
    fold_flag chExts_loop CHMsg.ems (isId 23) (fun hs => (chExt_effect hs).ems) h⟩

/-- server_name (0): the name loop runs over the name lists of ALL server_name extensions, in wire order
    (`xs` = those lists, each `len16 ‖ (type ‖ len16 ‖ name)*` with non-empty names).  Either there is no host_name
    (type 0) entry at all and nothing is logged, or there is EXACTLY ONE in all the lists together, it is non-empty,
    does not end in '.', and is the logged name. -/
theorem ch_log_ext_sni {r : Bool} {es : List (Nat × Bytes)} {f : CHFixed} {m : CHMsg}
    (h : chExts { renegSup := r } es = some m) :
    ∃ xs, ListRel (fun e ents => SniExt e.2 ents) (es.filter (isId 0)) xs ∧
      ((sniHosts xs.flatten = [] ∧ (chLog f m).sni = []) ∨
       (sniHosts xs.flatten = [(chLog f m).sni] ∧ (chLog f m).sni ≠ [] ∧ (chLog f m).sni.getLast? ≠ some 46)) := by
  obtain ⟨xs, hrel, hne, hpick⟩ := chExts_sni h
  exact ⟨xs, hrel, sniPick_spec hne hpick⟩

/-- the extension-derived part of the ClientHello log as a function of the wire extension list -/
structure CHExtSpec (es : List (Nat × Bytes)) (L : CHLog) : Prop where
  shapes : ∀ e ∈ es, CHExtShape e
  curves : L.curves = ((es.filter (isId 10)).map (fun e => pairsBE (e.2.drop 2))).flatten
  sigHashes : L.sigHashes = (((es.filter (isId 13)).map (fun e => pairsBE (e.2.drop 2))).flatten).filterMap sigAlgLookup
  sv : L.sv = ((es.filter (isId 43)).map (fun e => pairsBE (e.2.drop 1))).flatten
  alpn : ∃ ls, ListRel (fun e l => AlpnExt e.2 l) (es.filter (isId 16)) ls ∧ L.alpn = ls.flatten
  points : L.points = (match lastExt (isId 11) es with | some d => d.drop 1 | none => [])
  ticket : L.ticket = es.any (isId 35)
  sessionTicket : L.sessionTicket =
    (match lastExt (isId 35) es with
     | some d => if d.length > 0 then some (d.length, d) else none
     | none => none)
  secureReneg : L.secureReneg = (match lastExt (isId 0xff01) es with | some d => decide (1 < d.length) | none => false)
  xrand : L.xrand = (match lastExt (isId 0x28) es with | some d => d.drop 2 | none => [])
  ocsp : L.ocsp = (match lastExt (isId 5) es with | some d => ocspStatusIs1 d | none => false)
  scts : L.scts = es.any (isId 18)
  ems : L.ems = es.any (isId 23)
  sni : ∃ xs, ListRel (fun e ents => SniExt e.2 ents) (es.filter (isId 0)) xs ∧
      ((sniHosts xs.flatten = [] ∧ L.sni = []) ∨
       (sniHosts xs.flatten = [L.sni] ∧ L.sni ≠ [] ∧ L.sni.getLast? ≠ some 46))

/-- all extension-derived ClientHello log fields at once -/
theorem ch_log_ext_eq_wire {r : Bool} {es : List (Nat × Bytes)} {f : CHFixed} {m : CHMsg}
    (h : chExts { renegSup := r } es = some m) : CHExtSpec es (chLog f m) :=
  { shapes := ch_log_ext_shapes h, curves := ch_log_ext_curves h, sigHashes := ch_log_ext_sighashes h,
    sv := ch_log_ext_versions h, alpn := ch_log_ext_alpn h, points := ch_log_ext_points h,
    ticket := (ch_log_ext_ticket h).1, sessionTicket := (ch_log_ext_ticket h).2.1,
    secureReneg := (ch_log_ext_reneg h).2, xrand := ch_log_ext_xrand h, ocsp := ch_log_ext_ocsp h,
    scts := (ch_log_ext_flags h).1, ems := (ch_log_ext_flags h).2, sni := ch_log_ext_sni h }

/-- without extensions every extension-derived field has its default value (in particular `secureReneg = false`
    even when the SCSV 0x00ff is among the suites) -/
theorem ch_log_no_ext {L : CHLog} (h : CHExtSpec [] L) :
    L.curves = [] ∧ L.sigHashes = [] ∧ L.sv = [] ∧ L.alpn = [] ∧ L.points = [] ∧ L.ticket = false ∧
    L.sessionTicket = none ∧ L.secureReneg = false ∧ L.xrand = [] ∧ L.ocsp = false ∧ L.scts = false ∧
    L.ems = false ∧ L.sni = [] := by
  refine ⟨h.curves, h.sigHashes, h.sv, ?_, h.points, h.ticket, h.sessionTicket, h.secureReneg, h.xrand, h.ocsp,
    h.scts, h.ems, ?_⟩
  · obtain ⟨ls, hrel, e⟩ := h.alpn
    cases hrel
    exact e
  · obtain ⟨xs, hrel, hs⟩ := h.sni
    cases hrel
    rcases hs with ⟨_, e⟩ | ⟨e, _⟩
    · exact e
    · cases e

/-- ClientHello, whole message: the bytes are exactly
      hdr(4) ‖ version ‖ random(32) ‖ len8‖session_id ‖ len16‖suites ‖ len8‖compression_methods ‖ ext
    with the logged version / random / session id / suites (big-endian pairs, even length) / compression methods being
    those fields; `ext` is empty (then `es = []`) or `len16 ‖ blk` where `blk` is EXACTLY the concatenation of
    id ‖ len ‖ data of the extension list `es`; and every extension-derived log field is the function of `es` given
    by `CHExtSpec`. -/
theorem ch_log_eq_wire {msg : Bytes} {f : CHFixed} {m : CHMsg} (h : parseCH msg = some (f, m)) :
    ∃ hdr v1 v2 sl s1 s2 suiteBytes cl ext es,
      msg = hdr ++ (v1 :: v2 :: ((chLog f m).random ++ (sl :: ((chLog f m).sessionID ++
              (s1 :: s2 :: (suiteBytes ++ (cl :: ((chLog f m).comps ++ ext)))))))) ∧
      hdr.length = 4 ∧ (chLog f m).version = u16 v1 v2 ∧ (chLog f m).random.length = 32 ∧
      sl.toNat = (chLog f m).sessionID.length ∧ u16 s1 s2 = suiteBytes.length ∧
      u16s suiteBytes = some (chLog f m).suites ∧ (chLog f m).suites = pairsBE suiteBytes ∧
      suiteBytes.length % 2 = 0 ∧ cl.toNat = (chLog f m).comps.length ∧
      ((ext = [] ∧ es = []) ∨
       (∃ e1 e2 blk, ext = e1 :: e2 :: blk ∧ u16 e1 e2 = blk.length ∧ FramedExts blk es ∧
          blk = (es.map (fun e => extBytes e.1 e.2)).flatten)) ∧
      chExts { renegSup := (chLog f m).suites.contains 0x00ff } es = some m ∧
      CHExtSpec es (chLog f m) := by
  unfold parseCH at h
  obtain ⟨hdr, b0, h0, h⟩ := bindBB h
  obtain ⟨vers, b1, h1, h⟩ := bindNB h
  obtain ⟨random, b2, h2, h⟩ := bindBB h
  obtain ⟨sid, b3, h3, h⟩ := bindBB h
  obtain ⟨cs, b4, h4, h⟩ := bindBB h
  match h5 : u16s cs, h with
  | some suites, hx =>
    simp only at hx
    obtain ⟨comps, b5, h6, hext⟩ := bindBB hx
    obtain ⟨rfl, hl0⟩ := takeN_spec h0
    obtain ⟨v1, v2, rfl, rfl⟩ := readU16_spec h1
    obtain ⟨rfl, hl2⟩ := takeN_spec h2
    obtain ⟨sl, rfl, hsl⟩ := readVec8_spec h3
    obtain ⟨s1, s2, rfl, hs⟩ := readVec16_spec h4
    obtain ⟨cl, rfl, hcl⟩ := readVec8_spec h6
    obtain ⟨hp, hev⟩ := u16s_spec cs suites h5
    refine ⟨hdr, v1, v2, sl, s1, s2, cs, cl, b5, ?_⟩
    rcases extBlock_inv hext with ⟨rfl, hm⟩ | ⟨e1, e2, blk, es, rfl, hb, hfr, hk⟩
    · cases hm
      exact ⟨[], rfl, hl0, rfl, hl2, hsl, hs, h5, hp, hev, hcl, .inl ⟨rfl, rfl⟩, rfl, ch_log_ext_eq_wire rfl⟩
    · match hch : chExts { renegSup := suites.contains 0x00ff } es, hk with
      | some m', hk =>
        cases hk
        exact ⟨es, rfl, hl0, rfl, hl2, hsl, hs, h5, hp, hev, hcl,
          .inr ⟨e1, e2, blk, rfl, hb, hfr, framedExts_bytes hfr⟩, hch, ch_log_ext_eq_wire hch⟩

/-! ## ServerHello: the extension part of `serverHelloMsg.unmarshal` + `MakeLog` -/

theorem sh_log_ext_shapes {es : List (Nat × Bytes)} {m : SHMsg} (h : shExts {} es = some m) :
    ∀ e ∈ es, SHExtShape e := by
  exact fold_all shExts_loop shExt_shape h

/-- status_request (5), session_ticket (35), extended_master_secret (23): presence (data must be empty) -/
theorem sh_log_ext_flags {es : List (Nat × Bytes)} {f : SHFixed} {m : SHMsg} {ids : Option (List Nat)}
    (h : shExts {} es = some m) :
    (shLog f m ids).ocsp = es.any (isId 5) ∧ (shLog f m ids).ticket = es.any (isId 35) ∧
    (shLog f m ids).ems = es.any (isId 23) := by
  exact ⟨fold_flag shExts_loop SHMsg.ocsp (isId 5) (fun hs => (shExt_effect hs).ocsp) h,
    fold_flag shExts_loop SHMsg.tick (isId 35) (fun hs => (shExt_effect hs).tick) h,
    fold_flag shExts_loop SHMsg.ems (isId 23) (fun hs => (shExt_effect hs).ems) h⟩

/-- renegotiation_info (0xff01): as `MakeLog` computes it, and what that amounts to on the wire -/
theorem sh_log_ext_reneg {es : List (Nat × Bytes)} {f : SHFixed} {m : SHMsg} {ids : Option (List Nat)}
    (h : shExts {} es = some m) :
    (shLog f m ids).secureReneg =
      (es.any (isId 0xff01) &&
        decide (0 < (match lastExt (isId 0xff01) es with | some d => d.drop 1 | none => []).length)) ∧
    (shLog f m ids).secureReneg =
      (match lastExt (isId 0xff01) es with | some d => decide (1 < d.length) | none => false) := by
  show (m.renegSup && decide (m.reneg.length > 0)) = _ ∧ (m.renegSup && decide (m.reneg.length > 0)) = _
  rw [fold_flag shExts_loop SHMsg.renegSup (isId 0xff01) (fun hs => (shExt_effect hs).renegSup) h,
    fold_last shExts_loop SHMsg.reneg (isId 0xff01) (fun d => d.drop 1) (fun hs => (shExt_effect hs).reneg) h]
  exact ⟨rfl, reneg_last false _ es⟩

/-- ALPN (16): the single protocol of the LAST ALPN extension (`len16 ‖ len8 ‖ proto`) -/
theorem sh_log_ext_alpn {es : List (Nat × Bytes)} {f : SHFixed} {m : SHMsg} {ids : Option (List Nat)}
    (h : shExts {} es = some m) :
    (shLog f m ids).alpn = (match lastExt (isId 16) es with | some d => d.drop 3 | none => []) := by
  exact fold_last shExts_loop SHMsg.alpn (isId 16) (fun d => d.drop 3) (fun hs => (shExt_effect hs).alpn) h

/-- signed_certificate_timestamp (18): the SCT lists of all such extensions, concatenated in wire order -/
theorem sh_log_ext_scts {es : List (Nat × Bytes)} {f : SHFixed} {m : SHMsg} {ids : Option (List Nat)}
    (h : shExts {} es = some m) :
    ∃ ls, ListRel (fun e l => SctExt e.2 l) (es.filter (isId 18)) ls ∧ (shLog f m ids).scts = ls.flatten := by
  exact fold_acc shExts_loop SHMsg.scts (isId 18) (fun e l => SctExt e.2 l)
    (fun hp hs => by
      cases isId_true.mp hp
      obtain ⟨p, hp, e⟩ := shExt_scts hs
      exact ⟨p, hp, by rw [e]⟩)
    (fun hp hs => (shExt_effect hs).scts hp) h

/-- supported_versions (43): the LAST one wins.  key_share (51): as `MakeLog` computes it — only when a
    selected version is present; the group of the last key_share carrying a key, else (if that is absent or names
    group 0) the group of the last 2-byte (HelloRetryRequest-style) key_share. -/
theorem sh_log_ext_version_keyshare {es : List (Nat × Bytes)} {f : SHFixed} {m : SHMsg} {ids : Option (List Nat)}
    (h : shExts {} es = some m) :
    (shLog f m ids).selectedVersion = (match lastExt (isId 43) es with | some d => be16 d | none => 0) ∧
    (shLog f m ids).keyShareGroup =
      (if (shLog f m ids).selectedVersion ≠ 0 then
         (if lastGroup isShare es ≠ 0 then lastGroup isShare es else lastGroup isSel es)
       else 0) := by
  have e2 : m.shareGroup = lastGroup isShare es :=
    fold_last shExts_loop SHMsg.shareGroup isShare be16 (fun hs => (shExt_effect hs).shareGroup) h
  have e3 : m.selGroup = lastGroup isSel es :=
    fold_last shExts_loop SHMsg.selGroup isSel be16 (fun hs => (shExt_effect hs).selGroup) h
  refine ⟨fold_last shExts_loop SHMsg.sv (isId 43) be16 (fun hs => (shExt_effect hs).sv) h, ?_⟩
  rw [← e2, ← e3]
  rfl

/-- every extension without an arm of its own is logged VERBATIM (`extBytes` = its wire bytes, see
    `sh_log_ext_eq_wire`), in wire order; the others never are -/
theorem sh_log_ext_unknown {es : List (Nat × Bytes)} {f : SHFixed} {m : SHMsg} {ids : Option (List Nat)}
    (h : shExts {} es = some m) :
    (shLog f m ids).unknown = (es.filter isUnknown).map (fun e => extBytes e.1 e.2) := by
  rw [← flatten_map_singleton]
  exact fold_app shExts_loop SHMsg.unknown isUnknown (fun e => [extBytes e.1 e.2]) (fun hs => (shExt_effect hs).unknown) h

/-- the extension-derived part of the ServerHello log as a function of the wire extension list -/
structure SHExtSpec (es : List (Nat × Bytes)) (L : SHLog) : Prop where
  shapes : ∀ e ∈ es, SHExtShape e
  extIds : L.extIds = es.map (·.1)
  ocsp : L.ocsp = es.any (isId 5)
  ticket : L.ticket = es.any (isId 35)
  ems : L.ems = es.any (isId 23)
  secureReneg : L.secureReneg = (match lastExt (isId 0xff01) es with | some d => decide (1 < d.length) | none => false)
  alpn : L.alpn = (match lastExt (isId 16) es with | some d => d.drop 3 | none => [])
  scts : ∃ ls, ListRel (fun e l => SctExt e.2 l) (es.filter (isId 18)) ls ∧ L.scts = ls.flatten
  selectedVersion : L.selectedVersion = (match lastExt (isId 43) es with | some d => be16 d | none => 0)
  keyShareGroup : L.keyShareGroup =
    (if L.selectedVersion ≠ 0 then (if lastGroup isShare es ≠ 0 then lastGroup isShare es else lastGroup isSel es)
     else 0)
  unknown : L.unknown = (es.filter isUnknown).map (fun e => extBytes e.1 e.2)

/-- ServerHello, whole message incl. extensions: after the fixed part (`sh_log_eq_wire`) comes `ext`, which is empty
    (no identifiers logged) or `len16 ‖ blk` with `blk` EXACTLY the concatenation of id ‖ len ‖ data of the list `es`;
    the logged extension identifiers are those of `es` in wire order, and every extension-derived log field is the
    function of `es` given by `SHExtSpec`. -/
theorem sh_log_ext_eq_wire {msg : Bytes} {f : SHFixed} {m : SHMsg} {ids : Option (List Nat)}
    (h : parseSH msg = some (f, m, ids)) :
    ∃ hdr v1 v2 sl c1 c2 cm ext es,
      msg = hdr ++ (v1 :: v2 :: ((shLog f m ids).random ++ (sl :: ((shLog f m ids).sessionID ++ (c1 :: c2 :: cm :: ext))))) ∧
      hdr.length = 4 ∧ (shLog f m ids).version = u16 v1 v2 ∧ (shLog f m ids).random.length = 32 ∧
      sl.toNat = (shLog f m ids).sessionID.length ∧ (shLog f m ids).cipherSuite = u16 c1 c2 ∧
      (shLog f m ids).compression = cm.toNat ∧
      ((ext = [] ∧ es = [] ∧ ids = none) ∨
       (∃ e1 e2 blk, ext = e1 :: e2 :: blk ∧ u16 e1 e2 = blk.length ∧ FramedExts blk es ∧
          blk = (es.map (fun e => extBytes e.1 e.2)).flatten ∧ ids = some (es.map (·.1)))) ∧
      shExts {} es = some m ∧
      SHExtSpec es (shLog f m ids) := by
  unfold parseSH at h
  obtain ⟨hdr, b0, h0, h⟩ := bindBB h
  obtain ⟨vers, b1, h1, h⟩ := bindNB h
  obtain ⟨random, b2, h2, h⟩ := bindBB h
  obtain ⟨sid, b3, h3, h⟩ := bindBB h
  obtain ⟨suite, b4, h4, h⟩ := bindNB h
  obtain ⟨comp, b5, h5, hext⟩ := bindNB h
  obtain ⟨rfl, hl0⟩ := takeN_spec h0
  obtain ⟨v1, v2, rfl, rfl⟩ := readU16_spec h1
  obtain ⟨rfl, hl2⟩ := takeN_spec h2
  obtain ⟨sl, rfl, hsl⟩ := readVec8_spec h3
  obtain ⟨c1, c2, rfl, rfl⟩ := readU16_spec h4
  obtain ⟨cm, rfl, rfl⟩ := readU8_spec h5
  refine ⟨hdr, v1, v2, sl, c1, c2, cm, b5, ?_⟩
  have spec : ∀ {es}, shExts {} es = some m → (shLog f m ids).extIds = es.map (·.1) → SHExtSpec es (shLog f m ids) :=
    fun hs hid =>
      { shapes := sh_log_ext_shapes hs, extIds := hid, ocsp := (sh_log_ext_flags hs).1,
        ticket := (sh_log_ext_flags hs).2.1, ems := (sh_log_ext_flags hs).2.2,
        secureReneg := (sh_log_ext_reneg hs).2, alpn := sh_log_ext_alpn hs, scts := sh_log_ext_scts hs,
        selectedVersion := (sh_log_ext_version_keyshare hs).1, keyShareGroup := (sh_log_ext_version_keyshare hs).2,
        unknown := sh_log_ext_unknown hs }
  rcases extBlock_inv hext with ⟨rfl, hm⟩ | ⟨e1, e2, blk, es, rfl, hb, hfr, hk⟩
  · cases hm
    exact ⟨[], rfl, hl0, rfl, hl2, hsl, rfl, rfl, .inl ⟨rfl, rfl, rfl⟩, rfl, spec rfl rfl⟩
  · match hsh : shExts {} es, hk with
    | some m', hk =>
      cases hk
      exact ⟨es, rfl, hl0, rfl, hl2, hsl, rfl, rfl, .inr ⟨e1, e2, blk, rfl, hb, hfr, framedExts_bytes hfr, rfl⟩, hsh,
        spec hsh rfl⟩

theorem sh_log_eq_wire {msg : Bytes} {f : SHFixed} {m : SHMsg} {ids : Option (List Nat)}
    (h : parseSH msg = some (f, m, ids)) :
    ∃ hdr v1 v2 sl c1 c2 cm ext,
      msg = hdr ++ (v1 :: v2 :: ((shLog f m ids).random ++ (sl :: ((shLog f m ids).sessionID ++ (c1 :: c2 :: cm :: ext))))) ∧
      hdr.length = 4 ∧ (shLog f m ids).version = u16 v1 v2 ∧ (shLog f m ids).random.length = 32 ∧
      sl.toNat = (shLog f m ids).sessionID.length ∧ (shLog f m ids).cipherSuite = u16 c1 c2 ∧
      (shLog f m ids).compression = cm.toNat ∧ (ext = [] → (shLog f m ids).extIds = []) := by
  obtain ⟨hdr, v1, v2, sl, c1, c2, cm, ext, es, h1, h2, h3, h4, h5, h6, h7, hext, _, hs⟩ := sh_log_ext_eq_wire h
  refine ⟨hdr, v1, v2, sl, c1, c2, cm, ext, h1, h2, h3, h4, h5, h6, h7, ?_⟩
  rintro rfl
  rcases hext with ⟨_, rfl, _⟩ | ⟨_, _, _, he, _⟩
  · exact hs.extIds
  · cases he


/-- the decoded lists are DETERMINED by the wire bytes: the existentials in `CHExtSpec.alpn`, `CHExtSpec.sni` and
    `SHExtSpec.scts` have exactly one witness -/
theorem ext_lists_determined {l : List (Nat × Bytes)} :
    (∀ {ls ls'}, ListRel (fun e x => AlpnExt e.2 x) l ls → ListRel (fun e x => AlpnExt e.2 x) l ls' → ls = ls') ∧
    (∀ {xs xs'}, ListRel (fun e x => SniExt e.2 x) l xs → ListRel (fun e x => SniExt e.2 x) l xs' → xs = xs') ∧
    (∀ {ls ls'}, ListRel (fun e x => SctExt e.2 x) l ls → ListRel (fun e x => SctExt e.2 x) l ls' → ls = ls') := by
  refine ⟨?_, ?_, ?_⟩
  · intro ls ls' h h'
    exact ListRel.unique (fun (e : Nat × Bytes) x x' (h1 : AlpnExt e.2 x) (h2 : AlpnExt e.2 x') => alpnExt_unique h1 h2) h h'
  · intro xs xs' h h'
    exact ListRel.unique (fun (e : Nat × Bytes) x x' (h1 : SniExt e.2 x) (h2 : SniExt e.2 x') => sniExt_unique h1 h2) h h'
  · intro ls ls' h h'
    exact ListRel.unique (fun (e : Nat × Bytes) x x' (h1 : SctExt e.2 x) (h2 : SctExt e.2 x') => sctExt_unique h1 h2) h h'

/-- … and so is the extension list itself: a block has one framing -/
theorem ext_block_determined {blk : Bytes} {es es' : List (Nat × Bytes)} (h : FramedExts blk es)
    (h' : FramedExts blk es') : es = es' :=
  Option.some.inj ((framedExts_split h).symm.trans (framedExts_split h'))

/-! ### the hypotheses are satisfiable: a ClientHello and a ServerHello with many (also repeated) extensions -/

/-- ClientHello: SNI "ab.c", renegotiation_info (empty), supported_groups [29,23], ec_point_formats, signature_algorithms
    (one unknown scheme), ALPN h2 + http/1.1, supported_versions, session_ticket 010203, EMS, SCT, status_request,
    extended_random, a SECOND supported_groups [24], an unknown extension, key_share, a SECOND renegotiation_info (07) -/
def chEx : Bytes :=
    [1, 0, 0, 186, 3, 3, 0, 1, 2, 3, 4, 5, 6, 7, 8, 9, 10, 11, 12, 13, 14, 15, 16, 17, 18, 19, 20, 21, 22, 23, 24,
   25, 26, 27, 28, 29, 30, 31, 2, 170, 187, 0, 6, 19, 1, 192, 47, 0, 255, 1, 0, 0, 137, 0, 0, 0, 9, 0, 7, 0, 0, 4,
   97, 98, 46, 99, 255, 1, 0, 1, 0, 0, 10, 0, 6, 0, 4, 0, 29, 0, 23, 0, 11, 0, 2, 1, 0, 0, 13, 0, 8, 0, 6, 8, 4, 4,
   3, 18, 52, 0, 16, 0, 14, 0, 12, 2, 104, 50, 8, 104, 116, 116, 112, 47, 49, 46, 49, 0, 43, 0, 5, 4, 3, 4, 3, 3, 0,
   35, 0, 3, 1, 2, 3, 0, 23, 0, 0, 0, 18, 0, 0, 0, 5, 0, 5, 1, 0, 0, 0, 0, 0, 40, 0, 4, 0, 2, 170, 187, 0, 10, 0, 4,
   0, 2, 0, 24, 18, 52, 0, 2, 222, 173, 0, 51, 0, 8, 0, 6, 0, 29, 0, 2, 9, 9, 255, 1, 0, 2, 1, 7]
def chExEs : List (Nat × Bytes) :=
    [(0, [0, 7, 0, 0, 4, 97, 98, 46, 99]), (65281, [0]), (10, [0, 4, 0, 29, 0, 23]), (11, [1, 0]), (13, [0, 6, 8, 4,
   4, 3, 18, 52]), (16, [0, 12, 2, 104, 50, 8, 104, 116, 116, 112, 47, 49, 46, 49]), (43, [4, 3, 4, 3, 3]), (35, [1,
   2, 3]), (23, []), (18, []), (5, [1, 0, 0, 0, 0]), (40, [0, 2, 170, 187]), (10, [0, 2, 0, 24]), (4660, [222,
   173]), (51, [0, 6, 0, 29, 0, 2, 9, 9]), (65281, [1, 7])]

def chExMsg : CHMsg :=
  { renegSup := true, reneg := [7], ocsp := true, tick := true, ticket := [1, 2, 3], sni := [97, 98, 46, 99],
    scts := true, curves := [29, 23, 24], points := [0], sv := [772, 771], sigAlgs := [2052, 1027, 4660],
    alpn := [[104, 50], [104, 116, 116, 112, 47, 49, 46, 49]], ems := true, xrand := [170, 187] }

set_option maxRecDepth 8000 in
example : parseCH chEx =
    some ({ vers := 771, random := (List.range 32).map UInt8.ofNat, sid := [170, 187], suites := [4865, 49199, 255],
            comps := [0] }, chExMsg) := by decide +kernel

example : chExts { renegSup := true } chExEs = some chExMsg := by decide +kernel

-- the spec side on that list: both supported_groups extensions contribute, the LAST renegotiation_info decides
example : ((chExEs.filter (isId 10)).map (fun e => pairsBE (e.2.drop 2))).flatten = [29, 23, 24] := by decide +kernel
example : lastExt (isId 0xff01) chExEs = some [1, 7] ∧ lastExt (isId 35) chExEs = some [1, 2, 3] := by decide +kernel
example : (((chExEs.filter (isId 13)).map (fun e => pairsBE (e.2.drop 2))).flatten).filterMap sigAlgLookup
    = [(sigRSA, hSHA256), (sigECDSA, hSHA256)] := by decide +kernel

/-- ServerHello: renegotiation_info (empty), ALPN h2, an unknown extension, SCT list (2), supported_versions 0304,
    key_share x25519, EMS, session_ticket, status_request, a second unknown extension, a SECOND SCT list (1), a SECOND
    renegotiation_info (07 08) -/
def shEx : Bytes :=
    [2, 0, 0, 126, 3, 3, 0, 1, 2, 3, 4, 5, 6, 7, 8, 9, 10, 11, 12, 13, 14, 15, 16, 17, 18, 19, 20, 21, 22, 23, 24,
   25, 26, 27, 28, 29, 30, 31, 2, 170, 187, 19, 1, 0, 0, 84, 255, 1, 0, 1, 0, 0, 16, 0, 5, 0, 3, 2, 104, 50, 18, 52,
   0, 2, 222, 173, 0, 18, 0, 10, 0, 8, 0, 3, 1, 2, 3, 0, 1, 4, 0, 43, 0, 2, 3, 4, 0, 51, 0, 7, 0, 29, 0, 3, 9, 9, 9,
   0, 23, 0, 0, 0, 35, 0, 0, 0, 5, 0, 0, 86, 120, 0, 0, 0, 18, 0, 6, 0, 4, 0, 2, 5, 6, 255, 1, 0, 3, 2, 7, 8]
def shExEs : List (Nat × Bytes) :=
    [(65281, [0]), (16, [0, 3, 2, 104, 50]), (4660, [222, 173]), (18, [0, 8, 0, 3, 1, 2, 3, 0, 1, 4]), (43, [3, 4]),
   (51, [0, 29, 0, 3, 9, 9, 9]), (23, []), (35, []), (5, []), (22136, []), (18, [0, 4, 0, 2, 5, 6]), (65281, [2, 7,
   8])]

def shExMsg : SHMsg :=
  { ocsp := true, tick := true, renegSup := true, reneg := [7, 8], ems := true, alpn := [104, 50],
    scts := [[1, 2, 3], [4], [5, 6]], sv := 772, shareGroup := 29, selGroup := 0,
    unknown := [[18, 52, 0, 2, 222, 173], [86, 120, 0, 0]] }

set_option maxRecDepth 8000 in
example : parseSH shEx =
    some ({ vers := 771, random := (List.range 32).map UInt8.ofNat, sid := [170, 187], suite := 4865, comp := 0 },
      shExMsg, some [65281, 16, 4660, 18, 43, 51, 23, 35, 5, 22136, 18, 65281]) := by decide +kernel

example : shExts {} shExEs = some shExMsg := by decide +kernel

example : (shExEs.filter isUnknown).map (fun e => extBytes e.1 e.2) = [[18, 52, 0, 2, 222, 173], [86, 120, 0, 0]] ∧
    lastGroup isShare shExEs = 29 ∧ lastExt (isId 16) shExEs = some [0, 3, 2, 104, 50] := by decide +kernel

-- a framed block and a CHExtSpec / ListRel instance exist (hypotheses of `ext_block_determined`, `ch_log_no_ext`,
-- `ext_lists_determined`)
example : FramedExts [0, 23, 0, 0, 0, 10, 0, 4, 0, 2, 0, 29] [(23, []), (10, [0, 2, 0, 29])] :=
  splitExts_framed _ _ (by decide +kernel)
example : CHExtSpec [] (chLog ⟨771, [], [], [], []⟩ {}) := ch_log_ext_eq_wire (r := false) rfl
example : ListRel (fun (e : Nat × Bytes) x => AlpnExt e.2 x) [(16, [0, 3, 2, 104, 50])] [[[104, 50]]] :=
  ListRel.cons ⟨0, 3, [2, 104, 50], rfl, rfl, by simp, Framed8s.cons 2 [104, 50] [] [] rfl Framed8s.nil, by simp⟩
    ListRel.nil

example : parseCerts [11, 0, 0, 7, 0, 0, 4, 0, 0, 1, 9] = some [[9]] := by decide +kernel
example : parseFin [20, 0, 0, 2, 1, 2] = some [1, 2] := by decide
-- two entries (leaf `09` with an ignored extension, then `07 08`): leaf and chain come out in wire order
example : parseCerts13 [11, 0, 0, 0, 0, 0, 0, 17, 0, 0, 1, 9, 0, 4, 0x12, 0x34, 0, 0, 0, 0, 2, 7, 8, 0, 0]
    = some ⟨[[9], [7, 8]], false, false⟩ := by decide +kernel

/-! ## The logging schedule of the client handshake (model `ZV.C28.clientLog`, tied by the T2 op `c28 sched`)

`ins` is the sequence of items the record layer hands to the handshake code (with the outcome of the checks the
code makes on each); positions are positions in `ins`. -/

/-- Nothing is logged — not even the ClientHello that was sent — when the first read fails. -/
theorem sched_nothing_before_first_read (offered : Bool) : clientLog offered [] = {} := rfl

/-- The ServerHello record is built from the FIRST item, and that item is a ServerHello. -/
theorem sched_sh_src (offered : Bool) (ins : List Item) (i : Nat)
    (h : (clientLog offered ins).serverHello = some i) : i = 0 ∧ ∃ a, ins[0]? = some (.serverHello a) := by
  obtain ⟨rfl, _, hx, a, rfl⟩ := (clientLog_inv offered ins).serverHello i h
  exact ⟨rfl, a, hx⟩

/-- The ServerKeyExchange record is built from an item that IS a ServerKeyExchange which the key agreement accepted. -/
theorem sched_skx_src (offered : Bool) (ins : List Item) (i : Nat)
    (h : (clientLog offered ins).skx = some i) : ins[i]? = some (.serverKeyExchange true) := by
  obtain ⟨_, hx, rfl⟩ := (clientLog_inv offered ins).skx i h
  exact hx

/-- The server Finished record is built from an item that IS a Finished message. -/
theorem sched_sfin_src (offered : Bool) (ins : List Item) (i : Nat)
    (h : (clientLog offered ins).serverFin = some i) : ∃ ok, ins[i]? = some (.finished ok) := by
  obtain ⟨_, hx, ok, rfl⟩ := (clientLog_inv offered ins).serverFin i h
  exact ⟨ok, hx⟩

/-- The session-ticket record is only written by a handshake that completed; it is either the ticket of a
    NewSessionTicket message that was received (position `i` holds one), or — when no new ticket came — the
    ticket of the cached session the client offered (`offered`), never anything else. -/
theorem sched_ticket_src (offered : Bool) (ins : List Item) :
    ((clientLog offered ins).ticket ≠ .none → (clientLog offered ins).done = true) ∧
    (∀ i, (clientLog offered ins).ticket = .msg i → ins[i]? = some .newSessionTicket) ∧
    ((clientLog offered ins).ticket = .cache → offered = true) := by
  have inv := clientLog_inv offered ins
  rcases inv.ticket with h0 | ⟨he, hd⟩
  · refine ⟨fun hne => absurd h0 hne, fun i hi => ?_, fun hi => ?_⟩
    · cases h0.symm.trans hi
    · cases h0.symm.trans hi
  · refine ⟨fun _ => hd, fun i hi => ?_, fun hi => inv.sessCache (he.symm.trans hi)⟩
    obtain ⟨_, hx, rfl⟩ := inv.sessMsg i (he.symm.trans hi)
    exact hx

/-- Key material (master secret) is logged only by a handshake that completed, i.e. after the key exchange and
    after a server Finished with the expected verify data was received and logged. -/
theorem sched_km_after_finished (offered : Bool) (ins : List Item)
    (h : (clientLog offered ins).keyMaterial = true) :
    (clientLog offered ins).done = true ∧
      ∃ i, (clientLog offered ins).serverFin = some i ∧ ins[i]? = some (.finished true) :=
  (clientLog_inv offered ins).keyMaterial h

/-- hypotheses satisfiable / the theorems are not vacuous: a full ECDHE handshake with a ticket, and cuts of it -/
def schedEx : List Item :=
  [.serverHello ⟨true, false, true, false, false, true, false, false, .ecdhe⟩, .certificate ⟨true, true, true, true⟩,
   .serverKeyExchange true, .serverHelloDone, .newSessionTicket, .ccs, .finished true]

example : clientLog false schedEx =
    { clientHello := true, serverHello := some 0, certs := some 1, parsed := true, skx := some 2, ckx := true,
      clientFin := true, serverFin := some 6, ticket := .msg 4, keyMaterial := true, done := true } := by decide
example : (clientLog false (schedEx.take 5)).ticket = .none ∧ (clientLog false (schedEx.take 5)).keyMaterial = false := by decide
example : (clientLog false (schedEx.take 2)).certs = none ∧ (clientLog false (schedEx.take 3)).certs = some 1 := by decide
example : (clientLog true [.serverHello ⟨true, false, true, true, false, false, false, false, .ecdhe⟩, .ccs, .finished true]).ticket
    = .cache := by decide

end ZV.C28
