import ZV.Proofs.C31
import ZV.Generated.C31
/-!
  C31 — sessions resume only from authentic tickets.

  Everything below holds for an ARBITRARY MAC function `hmac : key → msg → tag` and an arbitrary
  keystream function `ctr : aesKey → iv → n → bytes` (the code uses HMAC-SHA-256 and AES-128-CTR).
  Nothing is assumed about unforgeability: `modified_is_forgery` is the REDUCTION — whenever a ticket
  that the server never issued is accepted (and hence whenever a session resumes from one), the
  ticket exhibits a MAC forgery: a valid tag under the MAC key of a current ticket key on a message
  the server never MACed under that key.  The only hypotheses used anywhere are length facts the Go
  types guarantee (key name [16]byte, IV [16]byte, 32-byte tag) — each with a satisfiability `example`.
-/
namespace ZV.C31

section sealing
variable (hmac : Bytes → Bytes → Bytes) (ctr : Bytes → Bytes → Nat → Bytes)

/-- one issuance by the server: the ticket key in use (keys[0] at that time), the IV drawn, the state sealed -/
structure Issue where
  key : TicketKey
  iv : Bytes
  state : Bytes

/-- the message the server MACs when issuing -/
def Issue.body (r : Issue) : Bytes := r.key.name ++ r.iv ++ xorWith r.state (ctr r.key.aes r.iv r.state.length)
/-- the ticket handed out -/
def Issue.ticket (r : Issue) : Bytes := r.body ctr ++ hmac r.key.mac (r.body ctr)

/-- `Issue.ticket` IS what `encryptTicket` returns whenever `r.key` is the current (first) key. -/
theorem encrypt_eq_issue (r : Issue) (olds : List TicketKey) :
    encryptTicket hmac ctr (r.key :: olds) r.iv r.state = .ok (r.ticket hmac ctr) := rfl

theorem encrypt_no_keys (iv st : Bytes) : encryptTicket hmac ctr [] iv st = .err := rfl

/-- well-formedness the Go types guarantee: `keyName [16]byte`, `iv` = 16 bytes read, 32-byte tag -/
structure Issue.WF (r : Issue) : Prop where
  name : r.key.name.length = 16
  iv : r.iv.length = 16
  tag : (hmac r.key.mac (r.body ctr)).length = 32

/-- decryption of an issued ticket once the key search has settled on a key with the same MAC and AES key -/
theorem decrypt_issue_of_find (r : Issue) (wf : r.WF hmac ctr) (keys : List TicketKey) (i : Nat) (k : TicketKey)
    (hf : findKey r.key.name keys 0 = some (i, k)) (hm : k.mac = r.key.mac) (ha : k.aes = r.key.aes) :
    decryptTicket hmac ctr keys (r.ticket hmac ctr) = some (r.state, decide (i > 0)) := by
  obtain ⟨hn, hi, ht⟩ := wf
  unfold Issue.ticket Issue.body at *
  obtain ⟨hlen, hiv, hbody, htag, hct⟩ := layout _ _ (xorWith r.state (ctr r.key.aes r.iv r.state.length)) _ hn hi ht
  unfold decryptTicket
  rw [if_neg (by rw [hlen]; unfold ticketKeyNameLen ivLen macLen; omega)]
  simp only [layout_name _ _ _ _ hn, hiv, hbody, htag, hct, hf, hm, ha, xorWith_length, xorWith_involutive, if_true]

/-- **Tickets issued under the current key decrypt to the original state, `usedOldKey = false`.** -/
theorem decrypt_encrypt_current (r : Issue) (wf : r.WF hmac ctr) (olds : List TicketKey) :
    decryptTicket hmac ctr (r.key :: olds) (r.ticket hmac ctr) = some (r.state, false) := by
  simpa using decrypt_issue_of_find hmac ctr r wf _ _ r.key (findKey_skip _ [] _ olds 0 nofun rfl) rfl rfl

/-- **After rotation** (new keys in front, none of them carrying the old key's name) a ticket issued under
    the old key still decrypts to the original state, and reports `usedOldKey = true` (so that the
    server re-issues it under the current key). -/
theorem decrypt_encrypt_rotated (r : Issue) (wf : r.WF hmac ctr) (newer older : List TicketKey)
    (hne : newer ≠ []) (hdistinct : ∀ k' ∈ newer, r.key.name ≠ k'.name) :
    decryptTicket hmac ctr (newer ++ r.key :: older) (r.ticket hmac ctr) = some (r.state, true) := by
  have hf := findKey_skip r.key.name newer r.key older 0 hdistinct rfl
  have := decrypt_issue_of_find hmac ctr r wf _ _ r.key hf rfl rfl
  rw [this]
  have : newer.length > 0 := List.length_pos_iff.mpr hne
  simp; omega

/-- **Rotated-out / foreign keys**: when no current key carries the name found in the ticket, it is rejected
    (for ANY byte string, in particular for tickets issued under a key that has left the list). -/
theorem decrypt_rotated_out (keys : List TicketKey) (t : Bytes)
    (hout : ∀ k ∈ keys, ticketName t ≠ k.name) : decryptTicket hmac ctr keys t = none := by
  unfold decryptTicket
  split
  · rfl
  · rw [findKey_none.mpr hout]

/-- the same, phrased for an issued ticket -/
theorem decrypt_issue_rotated_out (r : Issue) (hn : r.key.name.length = 16) (keys : List TicketKey)
    (hout : ∀ k ∈ keys, r.key.name ≠ k.name) : decryptTicket hmac ctr keys (r.ticket hmac ctr) = none := by
  apply decrypt_rotated_out
  have e1 : ticketName (r.ticket hmac ctr) = r.key.name := layout_name _ _ _ _ hn
  rw [e1]; exact hout

/-- too short to contain name, IV and MAC: rejected -/
theorem decrypt_short (keys : List TicketKey) (t : Bytes) (h : t.length < 64) :
    decryptTicket hmac ctr keys t = none := by
  unfold decryptTicket ticketKeyNameLen ivLen macLen
  simp [h]

/-- **Acceptance implies a valid MAC under a current key**: the accepted ticket names a key of the list
    (the first one with that name, at index `i`), its last 32 bytes are that key's MAC of everything
    before them, `usedOldKey` is exactly `i > 0`, and the plaintext is the keystream-xor of the ciphertext. -/
theorem accept_implies_mac (keys : List TicketKey) (t : Bytes) (p : Bytes × Bool)
    (h : decryptTicket hmac ctr keys t = some p) :
    ∃ k ∈ keys, ticketName t = k.name ∧ hmac k.mac (ticketBody t) = ticketTag t ∧ 64 ≤ t.length ∧
      ∃ pre post, keys = pre ++ k :: post ∧ (∀ k' ∈ pre, ticketName t ≠ k'.name) ∧
        p = (xorWith (ticketCiphertext t) (ctr k.aes (ticketIV t) (ticketCiphertext t).length), decide (pre.length > 0)) := by
  unfold decryptTicket at h
  split at h
  · cases h
  · rename_i hlen
    split at h
    · cases h
    · rename_i i key hf
      split at h
      · rename_i htag
        obtain ⟨pre, post, he, hn, hp, hj⟩ := findKey_some hf
        refine ⟨key, by simp [he], hn, htag.symm, ?_, pre, post, he, hp, ?_⟩
        · unfold ticketKeyNameLen ivLen macLen at hlen; omega
        · simp only [Option.some.injEq] at h
          rw [← h, hj]; simp
      · cases h

/-- **Altered tickets are forgeries.**  Let `issued` be everything the server ever handed out (each under
    whatever key was current then).  If a ticket `t` that is not byte-equal to any issued ticket is
    accepted under the current key list, then `t` carries a valid MAC under the MAC key of a current
    ticket key `k` on a message (`ticketBody t`) that the server never MACed under that MAC key.
    No property of `hmac` or `ctr` is assumed; the conclusion is the forgery witness. -/
theorem modified_is_forgery (issued : List Issue) (keys : List TicketKey) (t : Bytes) (p : Bytes × Bool)
    (hacc : decryptTicket hmac ctr keys t = some p)
    (hnew : ∀ r ∈ issued, r.ticket hmac ctr ≠ t) :
    ∃ k ∈ keys, ticketName t = k.name ∧ hmac k.mac (ticketBody t) = ticketTag t ∧
      ∀ r ∈ issued, ¬ (r.key.mac = k.mac ∧ r.body ctr = ticketBody t) := by
  obtain ⟨k, hk, hn, hm, _, _⟩ := accept_implies_mac hmac ctr keys t p hacc
  refine ⟨k, hk, hn, hm, ?_⟩
  intro r hr ⟨h1, h2⟩
  apply hnew r hr
  unfold Issue.ticket
  rw [h1, h2, hm]
  exact body_append_tag t

/-- contrapositive reading: if the MAC is unforgeable in the sense that every valid (MAC key of a current
    key, message, tag) triple stems from an issuance, then every accepted ticket is byte-equal to an issued one. -/
theorem accepted_is_issued_of_unforgeable (issued : List Issue) (keys : List TicketKey) (t : Bytes) (p : Bytes × Bool)
    (hacc : decryptTicket hmac ctr keys t = some p)
    (hunf : ∀ k ∈ keys, ∀ m, hmac k.mac m = ticketTag t → ticketName t = k.name → m = ticketBody t →
              ∃ r ∈ issued, r.key.mac = k.mac ∧ r.body ctr = m) :
    ∃ r ∈ issued, r.ticket hmac ctr = t := by
  apply Classical.byContradiction
  intro hno
  have hnew : ∀ r ∈ issued, r.ticket hmac ctr ≠ t := fun r hr he => hno ⟨r, hr, he⟩
  obtain ⟨k, hk, hn, hm, hq⟩ := modified_is_forgery hmac ctr issued keys t p hacc hnew
  obtain ⟨r, hr, h1, h2⟩ := hunf k hk _ hm hn rfl
  exact hq r hr ⟨h1, h2⟩

end sealing

section decisions
variable (hmac : Bytes → Bytes → Bytes) (ctr : Bytes → Bytes → Nat → Bytes)

/-- **TLS 1.2: a resumed session keeps version and cipher suite, and stems from an accepted ticket.**
    If `checkForResumption` says "resume" with session state `st` and suite `suite` then
    tickets are enabled; the ticket decrypts (hence carries a valid MAC under a current key, see
    `accept_implies_mac`) to the encoding of `st`; `st.vers` is the negotiated version of this connection;
    `suite` is the session's suite, is offered by the client, configured on the server, implemented and
    usable with the server's key at this version; the ticket is not older than 7 days; and the stored
    client certificates match what `ClientAuth` demands. -/
theorem resume_keeps_version_suite (suiteByID : Nat → Option SuiteInfo) (x : Ctx12) (keys : List TicketKey)
    (ticket : Bytes) (st : SessionState) (suite : Nat)
    (h : checkForResumption12 hmac ctr suiteByID x keys ticket = some (st, suite)) :
    x.ticketsDisabled = false ∧
    (∃ pt old, decryptTicket hmac ctr keys ticket = some (pt, old) ∧ SessionState.unmarshal old pt = some st) ∧
    st.vers = x.vers ∧ suite = st.cipherSuite ∧ suite ∈ x.clientSuites ∧ suite ∈ x.serverSuites ∧
    (∃ c, suiteByID suite = some c ∧ cipherSuiteOk x c = true) ∧
    ticketExpired x.now st.createdAt = false ∧
    (requiresClientCert x.clientAuth = true → st.certificates ≠ []) ∧
    (st.certificates ≠ [] → x.clientAuth ≠ NoClientCert) := by
  obtain ⟨hdis, ⟨p, hd, hu⟩, hfresh, hv, hoff, hsel, hneed, hno⟩ :=
    (checkForResumption12_eq_some_iff hmac ctr suiteByID x keys ticket st suite).1 h
  obtain ⟨hm, hsup, hok⟩ := selectCipherSuite_some hsel
  have hsu : suite = st.cipherSuite := by simpa using hm
  exact ⟨hdis, ⟨p.1, p.2, hd, hu⟩, hv.symm, hsu, hsu ▸ hoff, hsup, hok, hfresh, hneed, hno⟩

/-- **TLS 1.2: no accepted ticket, no resumption** — whatever else the client hello says. With
    `modified_is_forgery` this is "altered / foreign / rotated-out tickets lead to a full handshake". -/
theorem no_resume_without_ticket (suiteByID : Nat → Option SuiteInfo) (x : Ctx12) (keys : List TicketKey) (ticket : Bytes)
    (h : decryptTicket hmac ctr keys ticket = none) :
    checkForResumption12 hmac ctr suiteByID x keys ticket = none := by
  simp [checkForResumption12, h]

/-- TLS 1.2, reduction form: resumption from a ticket that was never issued exhibits a MAC forgery. -/
theorem resume_from_modified_is_forgery (suiteByID : Nat → Option SuiteInfo) (x : Ctx12) (keys : List TicketKey)
    (issued : List Issue) (ticket : Bytes) (r : SessionState × Nat)
    (h : checkForResumption12 hmac ctr suiteByID x keys ticket = some r)
    (hnew : ∀ i ∈ issued, i.ticket hmac ctr ≠ ticket) :
    ∃ k ∈ keys, ticketName ticket = k.name ∧ hmac k.mac (ticketBody ticket) = ticketTag ticket ∧
      ∀ i ∈ issued, ¬ (i.key.mac = k.mac ∧ i.body ctr = ticketBody ticket) := by
  obtain ⟨_, ⟨pt, old, hdec, _⟩, _⟩ := resume_keeps_version_suite hmac ctr suiteByID x keys ticket r.1 r.2 h
  exact modified_is_forgery hmac ctr issued keys ticket _ hdec hnew

/-- **TLS 1.2: the decision is made on the NEGOTIATED version, never on the one the client offered.**
    `Ctx12.helloVers` (`hs.clientHello.vers`, the client's maximum) has no influence at all: a client that offers
    1.2 to a server capped at 1.0 / 1.1 is treated exactly like one whose maximum is the negotiated version. -/
theorem resumption_ignores_offered_version (suiteByID : Nat → Option SuiteInfo) (x : Ctx12) (v : Nat)
    (keys : List TicketKey) (ticket : Bytes) :
    checkForResumption12 hmac ctr suiteByID { x with helloVers := v } keys ticket
      = checkForResumption12 hmac ctr suiteByID x keys ticket := by
  have hok : cipherSuiteOk { x with helloVers := v } = cipherSuiteOk x := rfl
  unfold checkForResumption12
  rw [hok]

/-- **TLS 1.2: a ticket of another version is never resumed** — also when its version is the one the client
    offered (`st.vers = x.helloVers`): a TLS 1.2 ticket presented to a listener that shares the ticket keys but
    negotiates 1.1 leads to a full handshake. -/
theorem other_version_never_resumes (suiteByID : Nat → Option SuiteInfo) (x : Ctx12) (keys : List TicketKey)
    (ticket pt : Bytes) (old : Bool) (st : SessionState)
    (hd : decryptTicket hmac ctr keys ticket = some (pt, old)) (hu : SessionState.unmarshal old pt = some st)
    (hv : st.vers ≠ x.vers) :
    checkForResumption12 hmac ctr suiteByID x keys ticket = none := by
  refine Option.eq_none_iff_forall_ne_some.2 fun r h => ?_
  obtain ⟨_, ⟨pt', old', hd', hu'⟩, hvers, _⟩ := resume_keeps_version_suite hmac ctr suiteByID x keys ticket r.1 r.2 h
  rw [hd] at hd'
  cases hd'
  rw [hu] at hu'
  cases hu'
  exact hv hvers

/-- the invariant of the PSK identities loop -/
theorem pskLoop_accept (hash13 : Nat → Option Nat) (binderOk : Nat → SessionState13 → Bool) (x : Ctx13)
    (keys : List TicketKey) (i : Nat) (ids : List Bytes) (j : Nat) (st : SessionState13)
    (h : pskLoop hmac ctr hash13 binderOk x keys i ids = .accept j st) :
    i ≤ j ∧ j < maxClientPSKIdentities ∧
    ∃ label, ids[j - i]? = some label ∧ pskCandidate hmac ctr hash13 x keys label = some st ∧ binderOk j st = true := by
  induction ids generalizing i with
  | nil => cases h
  | cons label rest ih =>
    rw [pskLoop_cons] at h
    by_cases hmax : i ≥ maxClientPSKIdentities
    · rw [if_pos hmax] at h
      cases h
    cases hc : pskCandidate hmac ctr hash13 x keys label with
    | none =>
      simp only [if_neg hmax, hc] at h
      obtain ⟨h1, h2, l, h3, h4⟩ := ih (i + 1) h
      refine ⟨by omega, h2, l, ?_, h4⟩
      rw [show j - i = (j - (i + 1)) + 1 by omega]
      exact h3
    | some st' =>
      cases hb : binderOk i st' with
      | false => simp [hmax, hc, hb] at h
      | true =>
        simp only [if_neg hmax, hc, hb, if_true, Dec13.accept.injEq] at h
        obtain ⟨rfl, rfl⟩ := h
        exact ⟨Nat.le_refl _, by omega, label, by simp, hc, hb⟩

/-- **TLS 1.3: an accepted PSK stems from an accepted ticket of matching hash.**  If the PSK path accepts
    identity `i` with state `st` then tickets are enabled, the client offered `psk_dhe_ke`, `i` is one of the
    first five identities, its label decrypts (valid MAC under a current key) to the encoding of `st`
    (whose grammar fixes version 1.3), the ticket's suite has the hash of the negotiated suite, the
    binder verified, the ticket is not older than 7 days and the stored client certificates match
    `ClientAuth`. -/
theorem psk_accept_keeps_hash (hash13 : Nat → Option Nat) (binderOk : Nat → SessionState13 → Bool) (x : Ctx13)
    (keys : List TicketKey) (ids : List Bytes) (i : Nat) (st : SessionState13)
    (h : checkForResumption13 hmac ctr hash13 binderOk x keys ids = .accept i st) :
    x.ticketsDisabled = false ∧ pskModeDHE ∈ x.pskModes ∧ ids.length = x.nBinders ∧ i < 5 ∧
    ∃ label, ids[i]? = some label ∧
      (∃ pt old, decryptTicket hmac ctr keys label = some (pt, old) ∧ SessionState13.unmarshal pt = some st) ∧
      hash13 st.cipherSuite = some x.negHash ∧ binderOk i st = true ∧
      ticketExpired x.now st.createdAt = false ∧
      (requiresClientCert x.clientAuth = true → st.certificate.certificates ≠ []) ∧
      (st.certificate.certificates ≠ [] → x.clientAuth ≠ NoClientCert) := by
  obtain ⟨⟨⟩⟩ | ⟨⟨⟩⟩ | ⟨hdis, hmode, hlen, hloop⟩ := checkForResumption13_cases hmac ctr hash13 binderOk x keys ids _ h
  obtain ⟨_, h2, l, h3, hc, hb⟩ := pskLoop_accept hmac ctr hash13 binderOk x keys 0 ids i st hloop
  obtain ⟨⟨p, hd, hu⟩, hexp, hhash, hcert⟩ := (pskCandidate_eq_some_iff hmac ctr hash13 x keys l st).1 hc
  exact ⟨hdis, hmode, hlen, h2, l, h3, ⟨p.1, p.2, hd, hu⟩, hhash, hb, hexp, hcert⟩

/-- identities whose tickets do not decrypt are skipped: if none decrypts the loop ends without a PSK -/
theorem pskLoop_never_accepts_rejected (hash13 : Nat → Option Nat) (binderOk : Nat → SessionState13 → Bool) (x : Ctx13)
    (keys : List TicketKey) (i : Nat) (ids : List Bytes)
    (hrej : ∀ l ∈ ids, decryptTicket hmac ctr keys l = none) :
    pskLoop hmac ctr hash13 binderOk x keys i ids = .noPSK := by
  induction ids generalizing i with
  | nil => rfl
  | cons label rest ih =>
    rw [pskLoop_cons, pskCandidate, hrej label (by simp), ih (i + 1) (fun l hl => hrej l (List.mem_cons_of_mem _ hl))]
    exact ite_self _

/-- **TLS 1.3: if no offered identity is an accepted ticket the handshake proceeds without PSK**
    (or aborts on the binders/identities length mismatch) — never a resumption, never a binder check. -/
theorem no_psk_without_ticket (hash13 : Nat → Option Nat) (binderOk : Nat → SessionState13 → Bool) (x : Ctx13)
    (keys : List TicketKey) (ids : List Bytes)
    (hrej : ∀ l ∈ ids, decryptTicket hmac ctr keys l = none) :
    checkForResumption13 hmac ctr hash13 binderOk x keys ids = .noPSK ∨
    checkForResumption13 hmac ctr hash13 binderOk x keys ids = .errBinders := by
  obtain h | h | ⟨_, _, _, h⟩ := checkForResumption13_cases hmac ctr hash13 binderOk x keys ids _ rfl
  · exact .inl h
  · exact .inr h
  · exact .inl (h.symm.trans (pskLoop_never_accepts_rejected hmac ctr hash13 binderOk x keys 0 ids hrej))

/-- TLS 1.3, reduction form: a PSK accepted from an identity that is not an issued ticket exhibits a MAC forgery. -/
theorem psk_from_modified_is_forgery (hash13 : Nat → Option Nat) (binderOk : Nat → SessionState13 → Bool) (x : Ctx13)
    (keys : List TicketKey) (issued : List Issue) (ids : List Bytes) (i : Nat) (st : SessionState13)
    (h : checkForResumption13 hmac ctr hash13 binderOk x keys ids = .accept i st)
    (hnew : ∀ l ∈ ids, ∀ r ∈ issued, r.ticket hmac ctr ≠ l) :
    ∃ label ∈ ids, ∃ k ∈ keys, ticketName label = k.name ∧ hmac k.mac (ticketBody label) = ticketTag label ∧
      ∀ r ∈ issued, ¬ (r.key.mac = k.mac ∧ r.body ctr = ticketBody label) := by
  obtain ⟨_, _, _, _, label, hl, ⟨pt, old, hdec, _⟩, _⟩ := psk_accept_keeps_hash hmac ctr hash13 binderOk x keys ids i st h
  have hmem : label ∈ ids := List.mem_of_getElem? hl
  exact ⟨label, hmem, modified_is_forgery hmac ctr issued keys label _ hdec (hnew label hmem)⟩

end decisions

/-- within the field bounds of the wire format `marshal` neither errs nor panics (outside them a length prefix overflows) -/
theorem sessionState_marshal_ok (s : SessionState) (b : s.Bounded) : s.marshal = .ok s.bytes := by
  unfold SessionState.marshal SessionState.bytes
  rw [marshalCerts12_ok _ b.cert]
  simp [addVec, b.ms, b.certs, resAppend]

/-- **`sessionState.unmarshal (marshal s) = s`** for every state within the field bounds of the wire
    format (`usedOldKey` is not part of the encoding; it is preserved from the receiver). -/
theorem sessionState_roundtrip (s : SessionState) (b : s.Bounded) (old : Bool) :
    ∃ bytes, s.marshal = .ok bytes ∧ SessionState.unmarshal old bytes = some { s with usedOldKey := old } :=
  ⟨s.bytes, sessionState_marshal_ok s b, s.unmarshal_bytes b old⟩

section resume
variable (hmac : Bytes → Bytes → Bytes) (ctr : Bytes → Bytes → Nat → Bytes)

/-- the scenario in which the session `s` is resumable on this connection -/
structure Resumable (suiteByID : Nat → Option SuiteInfo) (x : Ctx12) (s : SessionState) : Prop where
  enabled : x.ticketsDisabled = false
  fresh : ticketExpired x.now s.createdAt = false
  vers : x.vers = s.vers
  offered : s.cipherSuite ∈ x.clientSuites
  configured : s.cipherSuite ∈ x.serverSuites
  usable : ∃ c, suiteByID s.cipherSuite = some c ∧ cipherSuiteOk x c = true
  needCert : requiresClientCert x.clientAuth = true → s.certificates ≠ []
  noCert : s.certificates ≠ [] → x.clientAuth ≠ NoClientCert

/-- decision on a ticket that decrypts to the encoding of `s` -/
theorem resume_of_decrypt (suiteByID : Nat → Option SuiteInfo) (x : Ctx12) (s : SessionState) (b : s.Bounded)
    (ok : Resumable suiteByID x s) (keys : List TicketKey) (t : Bytes) (old : Bool)
    (hd : decryptTicket hmac ctr keys t = some (s.bytes, old)) :
    checkForResumption12 hmac ctr suiteByID x keys t = some ({ s with usedOldKey := old }, s.cipherSuite) := by
  obtain ⟨c, hc, hok⟩ := ok.usable
  exact (checkForResumption12_eq_some_iff hmac ctr suiteByID x keys t _ _).2
    ⟨ok.enabled, ⟨_, hd, s.unmarshal_bytes b old⟩, ok.fresh, ok.vers, ok.offered,
      selectCipherSuite_single hc hok ok.configured, ok.needCert, ok.noCert⟩

/-- **Tickets issued under the current key always resume with the original session's version and cipher
    suite**: the server seals `marshal s` under its current key; when that ticket comes back in a scenario
    where `s` is resumable (same version negotiated, suite still offered / configured / usable, ticket
    younger than 7 days, client-certificate requirements met) the decision is "resume" with exactly `s`
    (`usedOldKey = false`) and `s`'s suite — for any MAC and keystream functions. -/
theorem issued_current_resumes (suiteByID : Nat → Option SuiteInfo) (x : Ctx12) (s : SessionState) (b : s.Bounded)
    (ok : Resumable suiteByID x s) (r : Issue) (wf : r.WF hmac ctr) (hst : r.state = s.bytes) (olds : List TicketKey) :
    checkForResumption12 hmac ctr suiteByID x (r.key :: olds) (r.ticket hmac ctr)
      = some ({ s with usedOldKey := false }, s.cipherSuite) := by
  apply resume_of_decrypt hmac ctr suiteByID x s b ok
  rw [← hst]
  exact decrypt_encrypt_current hmac ctr r wf olds

/-- … and after a key rotation they still resume, flagged `usedOldKey = true` (the server then re-issues). -/
theorem issued_rotated_resumes (suiteByID : Nat → Option SuiteInfo) (x : Ctx12) (s : SessionState) (b : s.Bounded)
    (ok : Resumable suiteByID x s) (r : Issue) (wf : r.WF hmac ctr) (hst : r.state = s.bytes)
    (newer older : List TicketKey) (hne : newer ≠ []) (hdistinct : ∀ k' ∈ newer, r.key.name ≠ k'.name) :
    checkForResumption12 hmac ctr suiteByID x (newer ++ r.key :: older) (r.ticket hmac ctr)
      = some ({ s with usedOldKey := true }, s.cipherSuite) := by
  apply resume_of_decrypt hmac ctr suiteByID x s b ok
  rw [← hst]
  exact decrypt_encrypt_rotated hmac ctr r wf newer older hne hdistinct

/-- a ticket created `d ≤ 7 days` ago is not expired, at any clock value (with the wrap-arounds the difference is `d` or `d - 2^64`) -/
theorem young_ticket_not_expired (now d : Nat) (hd : d ≤ 7 * 24 * 3600) :
    ticketExpired (Int.ofNat (now + d)) now = false := by
  unfold ticketExpired wrap64 unixToInternal maxSessionTicketLifetime
  simp only [decide_eq_false_iff_not, Int.ofNat_eq_natCast, Int.natCast_add]
  omega

/-- **FINDING (defect in zcrypto, left in place — see `tools/props/C31.json`)**: a ticket that decrypts and parses
    but is refused (for instance because it is older than 7 days) stays in `hs.sessionState`, and the ticket
    sealed by the full handshake that follows inherits ITS creation time instead of the current time … -/
theorem refused_ticket_ages_new_one (suiteByID : Nat → Option SuiteInfo) (x : Ctx12) (keys : List TicketKey)
    (ticket : Bytes) (st : SessionState) (old : Bool)
    (hd : decryptTicket hmac ctr keys ticket = some (st.bytes, old)) (b : st.Bounded)
    (hen : x.ticketsDisabled = false) (hexp : ticketExpired x.now st.createdAt = true)
    (vers suite now : Nat) (ms : Bytes) (certs : List Bytes) :
    checkForResumption12 hmac ctr suiteByID x keys ticket = none
    ∧ (issuedState12 vers suite now (sessionStateAfterCheck12 hmac ctr x keys ticket) ms certs).createdAt
        = st.createdAt := by
  constructor
  · unfold checkForResumption12
    simp [hen, hd, st.unmarshal_bytes b old, hexp]
  · unfold sessionStateAfterCheck12 issuedState12
    simp [hen, hd, st.unmarshal_bytes b old]

/-- … so the new ticket is expired from birth: presented at the very same instant it is refused again
    (`Sub(createdAt) > 7 days` still holds), for ever. -/
theorem refused_ticket_ages_new_one_expired (suiteByID : Nat → Option SuiteInfo) (x : Ctx12) (keys : List TicketKey)
    (ticket : Bytes) (st : SessionState) (old : Bool)
    (hd : decryptTicket hmac ctr keys ticket = some (st.bytes, old)) (b : st.Bounded)
    (hen : x.ticketsDisabled = false) (hexp : ticketExpired x.now st.createdAt = true)
    (vers suite now : Nat) (ms : Bytes) (certs : List Bytes) :
    ticketExpired x.now
      (issuedState12 vers suite now (sessionStateAfterCheck12 hmac ctr x keys ticket) ms certs).createdAt = true := by
  rw [(refused_ticket_ages_new_one hmac ctr suiteByID x keys ticket st old hd b hen hexp vers suite now ms certs).2]
  exact hexp

/-- When nothing leaked (`hs.sessionState` is nil after the decision: no ticket, foreign / altered / rotated-out
    ticket, tickets disabled) the ticket sealed by the full handshake carries the current time. -/
theorem fresh_ticket_createdAt_partial (x : Ctx12) (keys : List TicketKey) (ticket : Bytes)
    (hleak : sessionStateAfterCheck12 hmac ctr x keys ticket = none)
    (vers suite now : Nat) (ms : Bytes) (certs : List Bytes) :
    (issuedState12 vers suite now (sessionStateAfterCheck12 hmac ctr x keys ticket) ms certs).createdAt = now := by
  rw [hleak]; rfl

-- FULL: `fresh_ticket_after_refusal_resumes` without the hypothesis `hleak`: whenever `checkForResumption12 … = none`
-- the ticket of the following full handshake resumes during the next 7 days.  False on the code as it is
-- (`refused_ticket_ages_new_one_expired`); it holds with the one-line change "clear hs.sessionState when the decision is
-- not to resume", which however breaks the existing test TestResumption/TLSv12 (that test rewinds the clock and
-- relies on the inherited creation time): the code is unchanged and the finding is listed (`known_findings.json`, D-C31-1).
/-- … and then it resumes at any time within the next 7 days under the same conditions (version, suite still
    offered / configured / usable, client-certificate requirements), under the current key. -/
theorem fresh_ticket_after_refusal_resumes_partial (suiteByID : Nat → Option SuiteInfo) (x x' : Ctx12)
    (keys : List TicketKey) (ticket : Bytes)
    (hleak : sessionStateAfterCheck12 hmac ctr x keys ticket = none)
    (suite now d : Nat) (ms : Bytes) (certs : List Bytes) (hnow : now < 2 ^ 62) (hd : d ≤ 7 * 24 * 3600)
    (hx' : x'.now = Int.ofNat (now + d)) (enabled : x'.ticketsDisabled = false)
    (offered : suite ∈ x'.clientSuites) (configured : suite ∈ x'.serverSuites)
    (usable : ∃ c, suiteByID suite = some c ∧ cipherSuiteOk x' c = true)
    (needCert : requiresClientCert x'.clientAuth = true → certs ≠ [])
    (noCert : certs ≠ [] → x'.clientAuth ≠ NoClientCert)
    (s : SessionState)
    (hs : s = issuedState12 x'.vers suite now (sessionStateAfterCheck12 hmac ctr x keys ticket) ms certs)
    (b : s.Bounded) (r : Issue) (wf : r.WF hmac ctr) (hst : r.state = s.bytes) (olds : List TicketKey) :
    checkForResumption12 hmac ctr suiteByID x' (r.key :: olds) (r.ticket hmac ctr)
      = some ({ s with usedOldKey := false }, suite) := by
  subst hs
  refine issued_current_resumes hmac ctr suiteByID x' _ b ?_ r wf hst olds
  exact
    { enabled := enabled
      fresh := by
        rw [fresh_ticket_createdAt_partial hmac ctr x keys ticket hleak, hx']
        exact young_ticket_not_expired now d hd
      vers := rfl, offered := offered, configured := configured, usable := usable, needCert := needCert, noCert := noCert }

end resume

-- FULL: `SessionState13.unmarshal (marshal s) = some s` for every state whose OCSP staple is absent or non-empty and whose
-- SCT list is absent or a non-empty list of non-empty SCTs, and which stores them only together with a certificate.
-- Proved below for states without staple / SCTs (the leaf-extension grammar is covered by the T2 stream only).
/-- `sessionStateTLS13.unmarshal (marshal s) = s` for states within the field bounds that store no OCSP staple
    and no SCT list (what a server stores unless the CLIENT's certificate message carried them). -/
theorem sessionState13_roundtrip_partial (s : SessionState13) (b : s.Bounded) :
    ∃ bytes, s.marshal = .ok bytes ∧ SessionState13.unmarshal bytes = some s :=
  ⟨s.bytes, s.marshal_ok b, s.unmarshal_bytes b⟩

section resume13
variable (hmac : Bytes → Bytes → Bytes) (ctr : Bytes → Bytes → Nat → Bytes)

/-- the scenario in which the TLS 1.3 session `s` is acceptable as PSK on this connection -/
structure Resumable13 (hash13 : Nat → Option Nat) (x : Ctx13) (s : SessionState13) : Prop where
  enabled : x.ticketsDisabled = false
  mode : pskModeDHE ∈ x.pskModes
  fresh : ticketExpired x.now s.createdAt = false
  hash : hash13 s.cipherSuite = some x.negHash
  needCert : requiresClientCert x.clientAuth = true → s.certificate.certificates ≠ []
  noCert : s.certificate.certificates ≠ [] → x.clientAuth ≠ NoClientCert

/-- **TLS 1.3: a ticket issued under the current key, offered as the only identity with a verifying binder, is
    accepted as PSK with exactly the original state** (so the suite's hash is the original one). -/
theorem issued_current_psk (hash13 : Nat → Option Nat) (binderOk : Nat → SessionState13 → Bool) (x : Ctx13)
    (s : SessionState13) (b : s.Bounded) (ok : Resumable13 hash13 x s) (hb : binderOk 0 s = true) (hn : x.nBinders = 1)
    (r : Issue) (wf : r.WF hmac ctr) (hst : r.state = s.bytes) (olds : List TicketKey) :
    checkForResumption13 hmac ctr hash13 binderOk x (r.key :: olds) [r.ticket hmac ctr] = .accept 0 s := by
  have hd := decrypt_encrypt_current hmac ctr r wf olds
  rw [hst] at hd
  have hc := (pskCandidate_eq_some_iff hmac ctr hash13 x (r.key :: olds) (r.ticket hmac ctr) s).2
    ⟨⟨_, hd, s.unmarshal_bytes b⟩, ok.fresh, ok.hash, ok.needCert, ok.noCert⟩
  simp [checkForResumption13, ok.enabled, ok.mode, hn, pskLoop_cons, maxClientPSKIdentities, hc, hb]

end resume13

/-- `SetSessionTicketKeys` panics exactly on the empty list; otherwise the keys are kept in order
    (first = encryption key). -/
theorem setKeys_panic_iff (keys : List Bytes) (now : Int) : setSessionTicketKeys keys now = .panic ↔ keys = [] := by
  cases keys <;> simp [setSessionTicketKeys]

theorem setKeys_order (k : Bytes) (ks : List Bytes) (now : Int) :
    setSessionTicketKeys (k :: ks) now = .ok ((k :: ks).map (fun b => (ticketKeyFromBytes b, now))) := rfl

/-- **Auto-rotation**: while the current key is younger than `ticketKeyRotation` nothing changes; otherwise a
    new key is put in front and exactly the keys younger than `ticketKeyLifetime` are kept behind it, in order. -/
theorem rotateAuto_spec (c : KeyCfg) (r : Bytes) (rand : List Bytes) (now : Int) :
    rotateAuto c (r :: rand) now =
      if autoFresh c.auto now = true then .ok (c, r :: rand, c.auto)
      else .ok ({ c with auto := (ticketKeyFromBytes r, now) :: c.auto.filter (fun k => decide (now - k.2 < ticketKeyLifetime)) },
                rand, (ticketKeyFromBytes r, now) :: c.auto.filter (fun k => decide (now - k.2 < ticketKeyLifetime))) := rfl

/-- whatever `rotateAuto` does, a key that is younger than the lifetime is still accepted afterwards -/
theorem rotateAuto_keeps (c : KeyCfg) (rand : List Bytes) (now : Int) (c' : KeyCfg) (rand' : List Bytes) (ks : List AKey)
    (h : rotateAuto c rand now = .ok (c', rand', ks)) (k : AKey) (hk : k ∈ c.auto) (hy : now - k.2 < ticketKeyLifetime) :
    k ∈ ks ∧ c'.auto = ks := by
  obtain ⟨ha, ⟨rfl, _⟩ | ⟨r, rfl⟩⟩ := rotateAuto_ok h
  · exact ⟨hk, ha⟩
  · exact ⟨List.mem_cons_of_mem _ (List.mem_filter.2 ⟨hk, decide_eq_true hy⟩), ha⟩

/-- the encryption key after `rotateAuto` is never older than `ticketKeyRotation` -/
theorem rotateAuto_head_fresh (c : KeyCfg) (rand : List Bytes) (now : Int) (c' : KeyCfg) (rand' : List Bytes) (ks : List AKey)
    (h : rotateAuto c rand now = .ok (c', rand', ks)) : ∃ k rest, ks = k :: rest ∧ now - k.2 < ticketKeyRotation := by
  obtain ⟨_, ⟨rfl, hf⟩ | ⟨r, rfl⟩⟩ := rotateAuto_ok h
  · cases ha : c.auto with
    | nil => simp [autoFresh, ha] at hf
    | cons k rest => exact ⟨k, rest, rfl, by simpa [autoFresh, ha] using hf⟩
  · exact ⟨_, _, rfl, by simp [ticketKeyRotation]⟩

/-- **Expiry decision, exact, over the T1-extracted constant**: for every clock value and creation time in the
    non-wrapping range (0 ≤ now, both below 2^62 s — about 10^11 years), a ticket is refused as expired iff it is
    STRICTLY older than `maxSessionTicketLifetime` as extracted from the tree (a ticket of exactly 7 days resumes). -/
theorem ticketExpired_iff (now : Int) (created : Nat) (h0 : 0 ≤ now) (h1 : now < 2 ^ 62) (h2 : created < 2 ^ 62) :
    ticketExpired now created = true ↔ now - (created : Int) > Gen.maxSessionTicketLifetimeS := by
  unfold ticketExpired wrap64 unixToInternal maxSessionTicketLifetime Gen.maxSessionTicketLifetimeS
  simp only [decide_eq_true_eq, Int.ofNat_eq_natCast]
  omega

section decision12
variable (hmac : Bytes → Bytes → Bytes) (ctr : Bytes → Bytes → Nat → Bytes)

/-- **TLS ≤ 1.2 acceptance decision, exact**: for a ticket that authenticates and decrypts to the encoding of `s`
    the server resumes — with exactly `s` and `s`'s suite — IF AND ONLY IF the scenario is `Resumable`
    (tickets enabled, not older than 7 days, negotiated version = session version, suite offered, configured and
    usable, client-certificate requirements met); in every other scenario the decision is a full handshake. -/
theorem resume_iff (suiteByID : Nat → Option SuiteInfo) (x : Ctx12) (s : SessionState) (b : s.Bounded)
    (keys : List TicketKey) (t : Bytes) (old : Bool) (hd : decryptTicket hmac ctr keys t = some (s.bytes, old)) :
    (checkForResumption12 hmac ctr suiteByID x keys t = some ({ s with usedOldKey := old }, s.cipherSuite)
        ↔ Resumable suiteByID x s) ∧
    (checkForResumption12 hmac ctr suiteByID x keys t = none ↔ ¬ Resumable suiteByID x s) := by
  have fwd : ∀ p, checkForResumption12 hmac ctr suiteByID x keys t = some p → Resumable suiteByID x s := by
    intro ⟨st, suite⟩ h
    obtain ⟨hdis, ⟨pt, old', hdec, hun⟩, hv, hs, hoff, hconf, huse, hfresh, hneed, hno⟩ :=
      resume_keeps_version_suite hmac ctr suiteByID x keys t st suite h
    rw [hd] at hdec
    cases hdec
    rw [s.unmarshal_bytes b old] at hun
    cases hun
    subst hs
    exact ⟨hdis, hfresh, hv.symm, hoff, hconf, huse, hneed, hno⟩
  have bwd := fun ok => resume_of_decrypt hmac ctr suiteByID x s b ok keys t old hd
  refine ⟨⟨fwd _, bwd⟩, fun h ok => ?_, fun hn => Option.eq_none_iff_forall_ne_some.2 fun p hp => hn (fwd p hp)⟩
  rw [bwd ok] at h
  cases h

end decision12

section decision13
variable (hmac : Bytes → Bytes → Bytes) (ctr : Bytes → Bytes → Nat → Bytes)

/-- **TLS 1.3 PSK identity handling**: the client-reported `obfuscated_ticket_age` of the offered identities has
    no influence on the decision — two hellos offering the same tickets in the same order get the same decision
    whatever ages they report.  Freshness is decided by the server-side `createdAt` inside the authenticated
    ticket alone (`psk_accept_keeps_hash`, `ticketExpired_iff`).  (T2 runs the real `checkForResumption` with
    ages 0 / 7 d ± 1 ms / 2^31 / 2^32-1 / random against this model.) -/
theorem psk_ignores_obfuscated_age (hash13 : Nat → Option Nat) (binderOk : Nat → SessionState13 → Bool) (x : Ctx13)
    (keys : List TicketKey) (ids ids' : List PskIdentity) (h : ids.map (·.label) = ids'.map (·.label)) :
    checkForResumption13Id hmac ctr hash13 binderOk x keys ids = checkForResumption13Id hmac ctr hash13 binderOk x keys ids' := by
  unfold checkForResumption13Id
  rw [h]

/-- in particular every age list can be replaced by zeros -/
theorem psk_age_zero (hash13 : Nat → Option Nat) (binderOk : Nat → SessionState13 → Bool) (x : Ctx13)
    (keys : List TicketKey) (ids : List PskIdentity) :
    checkForResumption13Id hmac ctr hash13 binderOk x keys ids
      = checkForResumption13Id hmac ctr hash13 binderOk x keys (ids.map (fun i => { i with obfuscatedTicketAge := 0 })) := by
  apply psk_ignores_obfuscated_age
  simp [Function.comp_def]

end decision13

/-- a per-client Config (GetConfigForClient) with `SessionTicketsDisabled` yields NO keys, touches neither
    Config nor the random stream … -/
theorem ticketKeys_cfc_disabled (c f : KeyCfg) (rand : List Bytes) (now : Int) (hf : f.disabled = true) :
    ticketKeys c (some f) rand now = .ok (c, some f, rand, []) := by
  simp [ticketKeys, hf]

/-- … and with no keys nothing decrypts and nothing can be sealed: such a connection never resumes and never
    issues a ticket. -/
theorem no_keys_no_tickets (hmac : Bytes → Bytes → Bytes) (ctr : Bytes → Bytes → Nat → Bytes) (t iv st : Bytes) :
    decryptTicket hmac ctr [] t = none ∧ encryptTicket hmac ctr [] iv st = .err := by
  exact ⟨decrypt_rotated_out hmac ctr [] t nofun, rfl⟩

/-- explicit keys of the per-client Config win: they are returned as they are (first = encryption key) and the
    outer Config — in particular its auto-rotation state — is not touched. -/
theorem ticketKeys_cfc_explicit_wins (c f : KeyCfg) (rand : List Bytes) (now : Int) (hf : f.disabled = false)
    (hl : isZero f.legacy = false) (he : f.explicit ≠ []) :
    ticketKeys c (some f) rand now = .ok (c, some f, rand, f.explicit) := by
  simp [ticketKeys, hf, initLegacy, hl, List.isEmpty_eq_false_iff.2 he]

/-- **explicit keys switch auto-rotation off**: with `SetSessionTicketKeys` keys in place the connection's key
    list is exactly that list at every clock value — first key encrypts, all decrypt, nothing is ever dropped or
    added by time. -/
theorem ticketKeysOwn_explicit (c : KeyCfg) (rand : List Bytes) (now : Int) (hd : c.disabled = false)
    (hl : isZero c.legacy = false) (he : c.explicit ≠ []) :
    ticketKeysOwn c rand now = .ok (c, rand, c.explicit) := by
  simp [ticketKeysOwn, hd, initLegacy, hl, List.isEmpty_eq_false_iff.2 he]

theorem gen_ticketKeyNameLen : Gen.ticketKeyNameLen = ticketKeyNameLen := by decide
theorem gen_maxSessionTicketLifetime : Gen.maxSessionTicketLifetimeS = maxSessionTicketLifetime := by decide
theorem gen_ticketKeyLifetime : Gen.ticketKeyLifetimeS = ticketKeyLifetime := by decide
theorem gen_ticketKeyRotation : Gen.ticketKeyRotationS = ticketKeyRotation := by decide
theorem gen_maxClientPSKIdentities : Gen.maxClientPSKIdentities = maxClientPSKIdentities := by decide
/-- rotation happens strictly more often than keys expire, so a rotated-out key has been old for ≥ 6 days -/
theorem gen_rotation_lt_lifetime : Gen.ticketKeyRotationS < Gen.ticketKeyLifetimeS := by decide
/-- the TLS 1.3 suite table has distinct ids (the first-match lookup `cipherSuiteTLS13ByID` is unambiguous) -/
theorem gen_suiteTable13_nodup : (Gen.suiteTable13.map (·.1)).Nodup := by decide
/-- the three flag bits `cipherSuiteOk` tests are distinct single bits -/
theorem gen_flags_distinct : Gen.suiteECDHE = 1 ∧ Gen.suiteECSign = 2 ∧ Gen.suiteTLS12 = 4 := by decide

namespace Ex
/-- a (deliberately weak) 32-byte MAC: key bytes then message bytes, padded with zeros to 32 -/
def mac (k m : Bytes) : Bytes := ((k ++ m) ++ List.replicate 32 0).take 32
def ks (_k _iv : Bytes) (n : Nat) : Bytes := List.replicate n 0x5a
def k1 : TicketKey := { name := List.replicate 16 1, aes := List.replicate 16 2, mac := List.replicate 16 3 }
def k2 : TicketKey := { name := List.replicate 16 4, aes := List.replicate 16 5, mac := List.replicate 16 6 }
def st : SessionState :=
  { vers := 0x0303, cipherSuite := 0xc02f, createdAt := 1700000000, masterSecret := [7, 8, 9], certificates := [[0xff]], usedOldKey := false }
def iss : Issue := { key := k1, iv := List.replicate 16 9, state := st.bytes }
/-- another issuance, of a different state -/
def iss2 : Issue := { key := k1, iv := List.replicate 16 9, state := [1] }
def info (id : Nat) : Option SuiteInfo := if id = 0xc02f then some { ecdhe := true, ecSign := false, tls12 := true } else none
def ctx : Ctx12 :=
  { ticketsDisabled := false, now := 1700000100, vers := 0x0303, helloVers := 0x0303, clientSuites := [0xc02b, 0xc02f], serverSuites := [0xc02f],
    clientAuth := 1, ecdheOk := true, ecSignOk := false, rsaSignOk := true, rsaDecryptOk := false }

/-- a TLS 1.1 session of a client whose maximum is TLS 1.2 (server capped at 1.1) -/
def stLow : SessionState :=
  { vers := 0x0302, cipherSuite := 0xc013, createdAt := 1700000000, masterSecret := [7, 8, 9], certificates := [], usedOldKey := false }
def issLow : Issue := { key := k1, iv := List.replicate 16 9, state := stLow.bytes }
def infoCBC (id : Nat) : Option SuiteInfo := if id = 0xc013 then some { ecdhe := true, ecSign := false, tls12 := false } else none
def ctxLow : Ctx12 := { ctx with vers := 0x0302, helloVers := 0x0303, clientSuites := [0xc02f, 0xc013], serverSuites := [0xc02f, 0xc013] }

theorem mac_len (k m : Bytes) : (mac k m).length = 32 :=
  List.length_take_of_le (by rw [List.length_append, List.length_replicate]; omega)
theorem iss_wf : iss.WF mac ks := ⟨by decide, by decide, mac_len _ _⟩
theorem iss2_wf : iss2.WF mac ks := ⟨by decide, by decide, mac_len _ _⟩
theorem st_bounded : st.Bounded :=
  ⟨by decide, by decide, by decide, by decide, by decide, by decide, by decide⟩
theorem st_resumable : Resumable info ctx st :=
  ⟨rfl, by decide, rfl, by decide, by decide, ⟨_, rfl, by decide⟩, by decide, by decide⟩
end Ex

-- decrypt_encrypt_current / accept_implies_mac: an accepted ticket exists
example : decryptTicket Ex.mac Ex.ks [Ex.k1, Ex.k2] (Ex.iss.ticket Ex.mac Ex.ks) = some (Ex.st.bytes, false) :=
  decrypt_encrypt_current Ex.mac Ex.ks Ex.iss Ex.iss_wf [Ex.k2]
-- decrypt_encrypt_rotated: k2 was put in front of k1, names differ
example : decryptTicket Ex.mac Ex.ks ([Ex.k2] ++ Ex.k1 :: []) (Ex.iss.ticket Ex.mac Ex.ks) = some (Ex.st.bytes, true) :=
  decrypt_encrypt_rotated Ex.mac Ex.ks Ex.iss Ex.iss_wf [Ex.k2] [] (by decide) (by decide)
-- decrypt_rotated_out: only k2 is left
example : decryptTicket Ex.mac Ex.ks [Ex.k2] (Ex.iss.ticket Ex.mac Ex.ks) = none :=
  decrypt_issue_rotated_out Ex.mac Ex.ks Ex.iss (by decide) [Ex.k2] (by decide)
-- modified_is_forgery: the server issued `iss2` only; `iss.ticket` is accepted and differs from it — with the toy
-- MAC (which anybody can compute) the forgery witness exists, as the theorem says it must
example : ∃ k ∈ [Ex.k1], ticketName (Ex.iss.ticket Ex.mac Ex.ks) = k.name ∧
    Ex.mac k.mac (ticketBody (Ex.iss.ticket Ex.mac Ex.ks)) = ticketTag (Ex.iss.ticket Ex.mac Ex.ks) ∧
    ∀ r ∈ [Ex.iss2], ¬ (r.key.mac = k.mac ∧ r.body Ex.ks = ticketBody (Ex.iss.ticket Ex.mac Ex.ks)) :=
  modified_is_forgery Ex.mac Ex.ks [Ex.iss2] [Ex.k1] _ _
    (decrypt_encrypt_current Ex.mac Ex.ks Ex.iss Ex.iss_wf []) (by decide +kernel)
-- accepted_is_issued_of_unforgeable: hypotheses hold when the accepted ticket is the issued one
example : ∃ r ∈ [Ex.iss], r.ticket Ex.mac Ex.ks = Ex.iss.ticket Ex.mac Ex.ks := ⟨Ex.iss, by simp, rfl⟩
-- sessionState_roundtrip / resume_of_decrypt / issued_current_resumes / resume_keeps_version_suite: a resuming scenario
example : checkForResumption12 Ex.mac Ex.ks Ex.info Ex.ctx [Ex.k1, Ex.k2] (Ex.iss.ticket Ex.mac Ex.ks)
    = some ({ Ex.st with usedOldKey := false }, 0xc02f) :=
  issued_current_resumes Ex.mac Ex.ks Ex.info Ex.ctx Ex.st Ex.st_bounded Ex.st_resumable Ex.iss Ex.iss_wf rfl [Ex.k2]
example : checkForResumption12 Ex.mac Ex.ks Ex.info Ex.ctx ([Ex.k2] ++ Ex.k1 :: []) (Ex.iss.ticket Ex.mac Ex.ks)
    = some ({ Ex.st with usedOldKey := true }, 0xc02f) :=
  issued_rotated_resumes Ex.mac Ex.ks Ex.info Ex.ctx Ex.st Ex.st_bounded Ex.st_resumable Ex.iss Ex.iss_wf rfl [Ex.k2] []
    (by decide) (by decide)
-- offered ≠ negotiated version.  A TLS 1.1 session (CBC suite) with a client that offers 1.2 to a server capped at
-- 1.1: `Resumable` holds and the ticket resumes (issued_current_resumes; resumption_ignores_offered_version) …
example : Resumable Ex.infoCBC Ex.ctxLow Ex.stLow :=
  ⟨rfl, by decide, rfl, by decide, by decide, ⟨_, rfl, by decide⟩, by decide, by decide⟩
example : checkForResumption12 Ex.mac Ex.ks Ex.infoCBC Ex.ctxLow [Ex.k1] (Ex.issLow.ticket Ex.mac Ex.ks)
    = some (Ex.stLow, 0xc013) := by decide +kernel
example : Ex.ctxLow.helloVers ≠ Ex.ctxLow.vers := by decide
-- … and other_version_never_resumes: the TLS 1.2 ticket `iss` (its version IS the offered one) on that connection
example : checkForResumption12 Ex.mac Ex.ks Ex.info { Ex.ctxLow with clientSuites := [0xc02f], serverSuites := [0xc02f] } [Ex.k1]
    (Ex.iss.ticket Ex.mac Ex.ks) = none :=
  other_version_never_resumes Ex.mac Ex.ks Ex.info _ [Ex.k1] _ _ _ Ex.st
    (decrypt_encrypt_current Ex.mac Ex.ks Ex.iss Ex.iss_wf []) (Ex.st.unmarshal_bytes Ex.st_bounded false) (by decide)
-- no_resume_without_ticket / resume_from_modified_is_forgery
example : checkForResumption12 Ex.mac Ex.ks Ex.info Ex.ctx [Ex.k2] (Ex.iss.ticket Ex.mac Ex.ks) = none :=
  no_resume_without_ticket Ex.mac Ex.ks Ex.info Ex.ctx [Ex.k2] _
    (decrypt_issue_rotated_out Ex.mac Ex.ks Ex.iss (by decide) [Ex.k2] (by decide))

namespace Ex
def st13 : SessionState13 :=
  { cipherSuite := 0x1301, createdAt := 1700000000, resumptionSecret := [0xaa], certificate := { certificates := [], ocsp := none, scts := none } }
def st13bytes : Bytes := [3, 4, 0, 0x13, 1, 0, 0, 0, 0, 0x65, 0x53, 0xf1, 0, 1, 0xaa, 0, 0, 0]
def iss13 : Issue := { key := k1, iv := List.replicate 16 9, state := st13bytes }
def h13 (id : Nat) : Option Nat := if id = 0x1301 ∨ id = 0x1303 then some 5 else if id = 0x1302 then some 6 else none
def ctx13 : Ctx13 := { ticketsDisabled := false, now := 1700000100, negHash := 5, pskModes := [1], nBinders := 2, clientAuth := 0 }
end Ex

example : Ex.st13.marshal = .ok Ex.st13bytes := by decide +kernel
example : SessionState13.unmarshal Ex.st13bytes = some Ex.st13 := by decide +kernel
-- psk_accept_keeps_hash: a junk identity is skipped, the issued ticket behind it is accepted
example : checkForResumption13 Ex.mac Ex.ks Ex.h13 (fun _ _ => true) Ex.ctx13 [Ex.k1] [[1, 2, 3], Ex.iss13.ticket Ex.mac Ex.ks]
    = .accept 1 Ex.st13 := by decide +kernel
-- no_psk_without_ticket: the same identities against a server that only has k2
example : ∀ l ∈ [[1, 2, 3], Ex.iss13.ticket Ex.mac Ex.ks], decryptTicket Ex.mac Ex.ks [Ex.k2] l = none := by decide +kernel

-- sessionState13_roundtrip_partial / issued_current_psk: bounds and scenario are satisfiable
namespace Ex
theorem st13_bounded : st13.Bounded := ⟨by decide, by decide, by decide, by decide, rfl, rfl, by decide, by decide⟩
theorem st13_resumable : Resumable13 h13 { ctx13 with nBinders := 1 } st13 := ⟨rfl, by decide, by decide, by decide, by decide, by decide⟩
theorem iss13_wf : iss13.WF mac ks := ⟨by decide, by decide, mac_len _ _⟩
end Ex
example : checkForResumption13 Ex.mac Ex.ks Ex.h13 (fun _ _ => true) { Ex.ctx13 with nBinders := 1 } [Ex.k1, Ex.k2]
    [Ex.iss13.ticket Ex.mac Ex.ks] = .accept 0 Ex.st13 :=
  issued_current_psk Ex.mac Ex.ks Ex.h13 (fun _ _ => true) _ Ex.st13 Ex.st13_bounded Ex.st13_resumable rfl rfl
    Ex.iss13 Ex.iss13_wf rfl [Ex.k2]

namespace Ex
/-- the hypotheses of the refused-ticket theorems are satisfiable: an 8-day-old authentic ticket -/
def ctxLate : Ctx12 := { ctx with now := 1700000000 + 8 * 24 * 3600 }
example : ticketExpired ctxLate.now st.createdAt = true := by decide
example : ctxLate.ticketsDisabled = false := rfl
example : decryptTicket mac ks [k1] (iss.ticket mac ks) = some (st.bytes, false) :=
  decrypt_encrypt_current mac ks iss iss_wf []
/-- … and of `fresh_ticket_after_refusal_resumes_partial`: no ticket presented ⇒ nothing leaks -/
example : sessionStateAfterCheck12 mac ks ctx [k1] [] = none := by decide +kernel
end Ex

-- the hypotheses of `ticketExpired_iff`, `psk_ignores_obfuscated_age`, `ticketKeys_cfc_*` are satisfiable
example : (0:Int) ≤ 1700000100 ∧ (1700000100:Int) < 2 ^ 62 ∧ Ex.st.createdAt < 2 ^ 62 := by decide
example : ([⟨[1], 5⟩, ⟨[2], 604800001⟩] : List PskIdentity).map (·.label) = ([⟨[1], 0⟩, ⟨[2], 0⟩] : List PskIdentity).map (·.label) := rfl
example : ∃ f : KeyCfg, f.disabled = false ∧ isZero f.legacy = false ∧ f.explicit ≠ [] :=
  ⟨{ disabled := false, legacy := [1], explicit := [(Ex.k1, 0)], auto := [] }, rfl, by decide, by simp⟩
example : ∃ f : KeyCfg, f.disabled = true := ⟨{ disabled := true, legacy := [], explicit := [], auto := [] }, rfl⟩
end ZV.C31
