import ZV.Proofs.C34
import ZV.Proofs.C34Sync
import ZV.Proofs.C34Gen
/-!
  C34 — the Close/Write interlock of `tls.Conn` (`activeCall`), for ALL interleavings of the model.

  The theorems below quantify over every list of thread programs (sequences of Handshake / Write / Close /
  CloseWrite calls) and every schedule (list of thread ids; each step is one atomic operation of
  `ZV.Model.C34`).  They are statements about the MODEL.  Data-race freedom, absence of deadlock and
  byte-stream preservation of the real `Conn` are not theorems: they are explored by the stress rig under the
  race detector (tools/props/C34.json says so).
-/
namespace ZV.C34

/-- `activeCall` never goes negative (the deferred `AddInt32(-2)` never underflows). -/
theorem counter_never_negative (progs : List (List Op)) (sched : List Nat) :
    0 ≤ (run (init progs) sched).active :=
  (run_inv sched _ (init_inv progs)).nonneg

/-- The word means what its comment says, in every reachable state: the bits above bit 0 count exactly the
    goroutines between Write's gate and its deferred decrement, and bit 0 is set iff a Close has won its CAS. -/
theorem counter_counts_writers (progs : List (List Op)) (sched : List Nat) :
    (run (init progs) sched).active / 2 = (inflightOf (run (init progs) sched).threads : Int)
    ∧ (run (init progs) sched).active % 2 = (closeCount (run (init progs) sched).events : Int) := by
  have := reach_word progs sched
  constructor <;> omega

/-- No Write passes the gate after a Close's CAS has succeeded: in the event history of every run, below
    every `enter` there is no `closeWon`. -/
theorem no_write_after_close (progs : List (List Op)) (sched : List Nat) :
    NoEnterAfterClose (run (init progs) sched).events :=
  (run_inv sched _ (init_inv progs)).order

/-- At most one Close call ever wins (so the close_notify / underlying Close path runs at most once); every
    other Close returns `net.ErrClosed`. -/
theorem close_wins_at_most_once (progs : List (List Op)) (sched : List Nat) :
    closeCount (run (init progs) sched).events ≤ 1 :=
  (reach_word progs sched).2

/-- The value `x` on which the winning Close branches (`x != 0` ⇒ skip close_notify and just close the
    socket) is exactly twice the number of Writes inside the gate at the instant of its CAS: Close sends
    close_notify iff no Write is in flight at that instant — and by `no_write_after_close` none can start later. -/
theorem close_sees_writers_exactly (progs : List (List Op)) (sched : List Nat) :
    CloseSeesWriters (run (init progs) sched).events :=
  (run_inv sched _ (init_inv progs)).sees

/-- Once set, the closed bit stays set along every continuation of every run … -/
theorem closed_bit_sticky (s : Sys) (sched : List Nat) (h : s.active % 2 = 1) :
    (run s sched).active % 2 = 1 :=
  runs.inv (P := fun s => s.active % 2 = 1) step_bit_sticky sched s h

/-- … and a Write that begins (loads the word) while it is set returns `net.ErrClosed` without touching
    anything else. -/
theorem write_after_close_refused (i : Nat) (s : Sys) (t : Thread) (hi : s.threads[i]? = some t)
    (hpc : t.pc = .wStart) (h : s.active % 2 = 1) :
    (step i (step i s)).threads[i]? = some { t with pc := .idle, outs := .closed :: t.outs } := by
  have h1 := step_wStart i s t hi hpc
  have h2 : (step i s).threads[i]? = some { t with pc := .wLoaded s.active } := by
    rw [h1]; exact getElem?_set_self' _ _ _ _ hi
  have hodd : isOdd s.active = true := by simp [isOdd, h]
  rw [step_wLoaded_odd i (step i s) _ s.active h2 rfl hodd]
  exact getElem?_set_self' _ _ _ _ h2

/-- What the code does about in-flight writers is NOT to wait for them: from its first load, a Close running
    alone is refused or wins its CAS immediately, however many Writes are in flight … -/
theorem close_does_not_wait (i : Nat) (s : Sys) (t : Thread) (hi : s.threads[i]? = some t) (hpc : t.pc = .cStart) :
    (step i (step i s)).threads[i]? =
      some (if s.active % 2 = 1 then { t with pc := .idle, outs := .closed :: t.outs }
            else { t with pc := .cWon s.active }) := by
  have h1 := step_cStart i s t hi hpc
  have h2 : (step i s).threads[i]? = some { t with pc := .cLoaded s.active } := by
    rw [h1]; exact getElem?_set_self' _ _ _ _ hi
  have hact : (step i s).active = s.active := by rw [h1]
  by_cases h : s.active % 2 = 1
  · have hodd : isOdd s.active = true := by simp [isOdd, h]
    rw [step_cLoaded_odd i (step i s) _ s.active h2 rfl hodd, if_pos h]
    exact getElem?_set_self' _ _ _ _ h2
  · have hodd : isOdd s.active = false := by simp [isOdd, h]
    rw [step_cLoaded_win i (step i s) _ s.active h2 rfl hodd hact, if_neg h]
    exact getElem?_set_self' _ _ _ _ h2

/-- … and having won it returns after one more step with the underlying connection closed (result ok/err,
    never ErrClosed). -/
theorem close_winner_returns (i : Nat) (s : Sys) (t : Thread) (x : Int) (hi : s.threads[i]? = some t)
    (hpc : t.pc = .cWon x) :
    ∃ r, r ≠ Out.closed ∧ (step i s).threads[i]? = some { t with pc := .idle, outs := r :: t.outs }
      ∧ (step i s).connClosed = true := by
  unfold step
  simp only [hi, hpc]
  split
  · exact ⟨.ok, nofun, getElem?_set_self' _ _ _ _ hi, rfl⟩
  · split
    · have hs := closeNotify_same s
      cases hd : closeNotify s with
      | mk s1 e =>
        rw [hd] at hs
        exact ⟨if e = true then .err else .ok, by cases e <;> simp,
          getElem?_set_self' _ _ _ _ (hs.2.1 ▸ hi), rfl⟩
    · exact ⟨.ok, nofun, getElem?_set_self' _ _ _ _ hi, rfl⟩

/-- When every call has returned the word is 0 (never closed) or 1 (closed): no writer is leaked. -/
theorem quiescent_word (progs : List (List Op)) (sched : List Nat)
    (hq : quiescent (run (init progs) sched) = true) :
    (run (init progs) sched).active = (closeCount (run (init progs) sched).events : Int)
    ∧ closeCount (run (init progs) sched).events ≤ 1 := by
  have h := reach_word progs sched
  rw [inflight_zero_of_quiescent _ hq] at h
  exact ⟨h.1.trans (Int.zero_add _), h.2⟩

-- the hypotheses are satisfiable: two writers and two closers, an interleaving in which a Write is in flight
-- when Close wins (fast path, x = 2); the other Close loses its CAS, retries and is refused, as is the late Write
example :
    let s := run (init [[.write, .write], [.close], [.close]]) [0, 0, 0, 1, 2, 1, 2, 1, 2, 0, 0, 0, 0, 0, 1, 2, 2]
    quiescent s = true ∧ s.active = 1
      ∧ s.events.reverse = [.enter 0, .closeWon 1 2 1, .exit 0, .refusedW 0, .refusedC 2] := by decide +kernel

-- hypotheses of `write_after_close_refused` / `close_does_not_wait`: a Write about to load while the bit is set,
-- a Close about to load while a Write is in flight
example :
    let s := run (init [[.close], [.write]]) [0, 0, 0, 1]
    s.active % 2 = 1 ∧ (s.threads[1]?).map (·.pc) = some .wStart := by decide +kernel

example :
    let s := run (init [[.write], [.close]]) [0, 0, 0, 1]
    s.active = 2 ∧ (s.threads[1]?).map (·.pc) = some .cStart := by decide +kernel

example : runSeq [.handshake, .write, .closeWrite, .write, .close, .write, .close] =
    [.ok, .ok, .ok, .shutdown, .ok, .closed, .closed] := by decide +kernel


/-! ## The lock / atomic protocol of `tls.Conn` (handshakeMutex, in, out, handshakeStatus)

  Part A — T1 facts: theorems by `decide` over the WHOLE generated table `ZV.C34.Gen` (go/extract/c34 walks every
  function of package tls with go/ast on each run; a reordering of Lock / Store / flush in the source changes the
  generated lists and the named theorem stops compiling).
  Part B — the interleaving semantics `ZV.C34.Sync` (hand-written from the same step lists): invariants and
  freedom from lock deadlock for EVERY number of threads and EVERY schedule. -/

open Gen in
/-- every `Lock` in package tls on the three Conn mutexes is immediately followed by `defer Unlock` of the same
    mutex and there is no other Unlock: every Lock is matched on every path, a mutex is held to the end of the
    function that locked it. -/
theorem locks_balanced : Gen.funcs.all Gen.balanced = true := by decide +kernel

/-- the may-acquire sets used below are closed under own locks and calls (certificate check) -/
theorem acq_certificate_closed : Gen.acqClosed = true := by decide +kernel

/-- lock order: with handshakeMutex < in < out, every acquisition (own Lock or through a call, transitively)
    made while a mutex is held goes strictly upwards — with exactly ONE exception: `Conn.Read` holds `in` when it
    calls handlePostHandshakeMessage → handleRenegotiation, which locks handshakeMutex.  (The syntactic lock graph of
    tls.Conn is NOT acyclic; `no_lock_deadlock` below shows why the inversion cannot deadlock.) -/
theorem lock_order_acyclic_except_renegotiation :
    Gen.badEdges = [(Gen.id_Conn_Read, 1, 0)] := by decide +kernel

/-- the `underHM` set (functions only ever called with handshakeMutex held) is justified: none is exported and each
    call site holds handshakeMutex or is itself in the set; all four handshake implementations are in it. -/
theorem underHM_certificate_closed :
    Gen.underHMClosed = true
    ∧ [Gen.id_Conn_clientHandshake, Gen.id_Conn_serverHandshake, Gen.id_clientHandshakeState_handshake,
       Gen.id_clientHandshakeStateTLS13_handshake, Gen.id_serverHandshakeState_handshake,
       Gen.id_serverHandshakeStateTLS13_handshake].all (Gen.underHM.contains ·) = true := by decide +kernel

/-- the ONLY writes to handshakeStatus in package tls: `Store 0` in handleRenegotiation and `Store 1` in the
    four handshake implementations (no plain access, no other atomic). -/
theorem flag_store_sites :
    Gen.flagStores = [(Gen.id_Conn_handleRenegotiation, 0), (Gen.id_clientHandshakeStateTLS13_handshake, 1),
      (Gen.id_clientHandshakeState_handshake, 1), (Gen.id_serverHandshakeStateTLS13_handshake, 1),
      (Gen.id_serverHandshakeState_handshake, 1)] := by decide +kernel

/-- handshakeStatus is only stored while handshakeMutex is held. -/
theorem flag_stored_only_under_handshakeMutex : Gen.storesUnderHM = true := by decide +kernel

/-- in each handshake implementation `Store handshakeStatus 1` comes after the final flush: a flush precedes
    it, and after it there is no flush, no call and no Lock, only `return nil`. -/
theorem store_after_final_flush : Gen.storeAfterFinalFlush = true := by decide +kernel

/-- renegotiation clears the flag under handshakeMutex and before running the handshake again:
    handleRenegotiation ends with Lock hM, defer Unlock, Store 0, clientHandshake(). -/
theorem renegotiation_clears_under_handshakeMutex :
    ((Gen.rowOf Gen.id_Conn_handleRenegotiation).filter fun e => e != .call Gen.id_Conn_sendAlert
        && e != .call Gen.id_Conn_readHandshake) =
      [.lock 0, .deferUnlock 0, .store 0 0, .call Gen.id_Conn_clientHandshake] := by decide +kernel

/-- Conn.handshake tests the flag under handshakeMutex BEFORE locking `in` (the gate the model's `hChk` step is). -/
theorem handshake_gate_order :
    ((Gen.rowOf Gen.id_Conn_handshake).filter fun e => e != .retNil && e != .flush) =
      [.lock 0, .deferUnlock 0, .call Gen.id_Conn_handshakeComplete, .lock 1, .deferUnlock 1,
       .call Gen.id_Conn_clientHandshake, .call Gen.id_Conn_serverHandshake, .call Gen.id_Conn_handshakeComplete] := by
  decide +kernel

/-! ### Part B -/

/-- mutual exclusion: in every reachable state each mutex is held by at most one thread. -/
theorem mutual_exclusion {s : Sync.State} (h : Sync.Reach s) (m i j : Nat)
    (hi : Sync.holds m (s.pcs i) = true) (hj : Sync.holds m (s.pcs j) = true) : i = j :=
  (Sync.reach_inv h).mx m i j hi hj

/-- the inversion is harmless: whenever a Handshake call holding handshakeMutex is about to Lock `in` (it saw no
    error and the flag clear), NO thread holds `in` — in particular no Read that could ask for handshakeMutex. -/
theorem handshake_finds_in_free {s : Sync.State} (h : Sync.Reach s) {a : Nat} {r : Bool}
    (ha : s.pcs a = .hIn r) (b : Nat) : Sync.holds 1 (s.pcs b) = false :=
  Sync.in_free_at_hIn (Sync.reach_inv h) ha b

/-- NO LOCK DEADLOCK, any number of threads, any schedule: in every reachable state in which some call is in
    progress, some thread with a call in progress can take a step (so a set of calls can never all be waiting for
    each other's mutexes). -/
theorem no_lock_deadlock {s : Sync.State} (h : Sync.Reach s) {i : Nat} (hi : s.pcs i ≠ .idle) :
    ∃ j s', s.pcs j ≠ .idle ∧ Sync.Step j s s' := by
  obtain ⟨j, hj, s', hs⟩ := Sync.progress (Sync.reach_inv h) hi
  exact ⟨j, s', hj, hs⟩

/-- while handshakeMutex is free and a Read is past its gate, the connection is never seen "not complete and not
    failed": ConnectionState (which reads the flag under handshakeMutex) cannot observe HandshakeComplete = false
    between two successful handshakes. -/
theorem settled_while_reading {s : Sync.State} (h : Sync.Reach s) {i : Nat} (hi : Sync.inR (s.pcs i) = true)
    (hfree : ∀ j, Sync.holds 0 (s.pcs j) = false) : s.flag = true ∨ s.herr = true := by
  cases hf : s.flag
  · cases he : s.herr
    · exfalso
      rcases (Sync.reach_inv h).rd (by rw [hf, he]; rfl) with hn | ⟨k, hk⟩
      · rw [hn i] at hi; cases hi
      · have := Sync.inG_hm hk; rw [hfree k] at this; cases this
    · exact Or.inr rfl
  · exact Or.inl rfl

/-- the flag is only changed by a thread holding handshakeMutex (model counterpart of
    `flag_stored_only_under_handshakeMutex` and `renegotiation_clears_under_handshakeMutex`). -/
theorem model_flag_changes_under_handshakeMutex {pc pc' : Sync.Pc} {f e f' e' : Bool}
    (h : Sync.T pc f e pc' f' e') (hne : f' ≠ f ∨ e' ≠ e) : Sync.holds 0 pc = true := by
  rcases Sync.T_mod h with h0 | ⟨h1, h2⟩
  · exact h0
  · rcases hne with h | h
    · exact absurd h1 h
    · exact absurd h2 h

-- hypotheses satisfiable: a reachable state with a call in progress (thread 0 has entered Handshake from Read)
example : ∃ s, Sync.Reach s ∧ s.pcs 0 ≠ .idle :=
  ⟨{ flag := false, herr := false, pcs := Sync.setPc Sync.init.pcs 0 (.hWant true) },
   .step 0 .init ⟨.hWant true, false, false, .startH true false false,
     (fun m _ h => by obtain rfl | rfl | rfl := Sync.holds_range h <;> cases h), rfl⟩,
   nofun⟩

end ZV.C34
