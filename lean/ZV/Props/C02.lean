import ZV.Proofs.C01
import ZV.Proofs.C02Names
import ZV.Proofs.C02Views
import ZV.Proofs.C02Cert
import ZV.Proofs.C23Hash
import ZV.Props.C09
import Mathlib.Data.Nat.Bitwise
/-!
  C02 — operations on any parsed certificate are total and deterministic: the theorems.

  Models: `ZV.Model.C02` (policy loop of the parser + certificate-policies JSON, purgeNameDuplicates,
  signature-check dispatch on a parsed key), `ZV.Model.C02Names` (isValidName, CollectAllNames, Redacted flag),
  `ZV.Model.C02Views` (orMask / GeneralSubtreeIP JSON, KeyUsage JSON, algorithm-name tables, JsonifyExtensions
  split, BasicConstraints view), `ZV.Model.C02Cert` (ValidityPeriod, RSA key view, fingerprints) and `ZV.Model.C09`
  (VerifyHostname), tied to the Go code by the T2 streams `pol`, `names`, `coll`, `jnames`, `vh`, `gsi`, `ku`, `kan`,
  `san`, `jx`, `cf`, `rk` (and, for the dispatch, by C01's `edkey` / `rsapub`).

  -- FULL (not proved here): `∀ cert, ParseCertificate accepts cert → json.Marshal / VerifyHostname /
  -- CollectAllNames / CertPool.AddCert / Graph.AddCert do not panic` for the complete JSON view and the
  -- pool / graph code. Proved: the places where those operations index, slice, look up a table or call a
  -- primitive with a precondition on parser-produced data, and what the names / unknown-extension lists
  -- contain; pkix.Name, key views, the remaining field copies and encoding/json are explored by T3.
-/
namespace ZV.C02
open ZV.C01

/-! ### certificate policies JSON -/

/-- the parser gives every array exactly one entry per policy -/
theorem policies_arrays_aligned (ps : List PolicyIn) :
    let d := parsePolicies ps
    d.policyIds.length = ps.length ∧ d.cpsUri.length = ps.length ∧ d.explicitTexts.length = ps.length ∧
    d.noticeRefOrg.length = ps.length ∧ d.noticeRefNumbers.length = ps.length ∧ d.userNotices.length = ps.length := by
  simp [parsePolicies]

/-- `MarshalJSON` of the policies does not panic for any data whose per-policy arrays are aligned: every index it uses
    is a policy position -/
theorem policies_json_no_panic_of_aligned (d : PolData) (h : WellFormed d) : policiesJSON d ≠ .panic := by
  unfold policiesJSON
  refine List.foldlRecOn (motive := fun acc => acc ≠ Res.panic) _ _ nofun fun acc hacc i hi => ?_
  have hi := List.mem_range.mp hi
  obtain ⟨c, hc⟩ := at?_of_lt (h.1 ▸ hi)
  obtain ⟨u, hu⟩ := at?_of_lt (h.2 ▸ hi)
  cases acc with
  | ok out => simp [hc, hu]
  | err => simp
  | panic => exact absurd rfl hacc

/-- in particular `MarshalJSON` of the policies of ANY parsed certificate does not panic (every shape of policies,
    qualifiers and user notices) -/
theorem policies_json_no_panic (ps : List PolicyIn) : policiesJSON (parsePolicies ps) ≠ .panic :=
  policies_json_no_panic_of_aligned _ (parsePolicies_wellFormed ps)

example : WellFormed (parsePolicies [{ cps := ["u"], notices := [{ text := some "a", ref := none }] }]) := by
  simp [WellFormed, parsePolicies]

/-- D6: the previous index logic (explicit-text position used for the notice-reference arrays) does
    panic on parser output: two notices with text, only the second with a reference -/
example : policiesJSONOld (parsePolicies [{ cps := [], notices :=
    [{ text := some "a", ref := none }, { text := some "b", ref := some ("org", [1]) }] }]) = .panic := by
  rfl

/-- and the current one lists both notices, each with its own fields -/
example : policiesJSON (parsePolicies [{ cps := [], notices :=
    [{ text := some "a", ref := none }, { text := some "b", ref := some ("org", [1]) }] }]) =
    .ok [(0, [(some "a", none), (some "b", some ("org", [1]))])] := by
  rfl

/-! ### deterministic name list -/

/-- the name list does not depend on the order in which the names were collected (Go: map iteration
    order) — any permutation of the input gives the same output -/
theorem names_deterministic {α : Type} [LinearOrder α] (l₁ l₂ : List α) (h : l₁.Perm l₂) : purge l₁ = purge l₂ :=
  eq_of_sorted_of_mem_iff .ofLinearOrder _ _ (sorted_purge .ofLinearOrder l₁) (sorted_purge .ofLinearOrder l₂)
    (fun x => by rw [mem_purge, mem_purge]; exact h.mem_iff)

example : [3, 1, 2, 1].Perm [1, 1, 2, 3] := by decide

/-- it is strictly sorted (hence duplicate-free) and contains exactly the input names -/
theorem names_sorted_nodup {α : Type} [LinearOrder α] (l : List α) : (purge l).Pairwise (· < ·) :=
  sorted_purge .ofLinearOrder l

theorem names_complete {α : Type} [LinearOrder α] (l : List α) (x : α) : x ∈ purge l ↔ x ∈ l := mem_purge x l


/-! ### CollectAllNames and the names part of the JSON view (model `ZV.Model.C02Names`, T2 `coll` / `jnames`)

  `isURL` stands for `util.IsURL` (regular expression + `url.Parse`, not modelled): every statement holds for EVERY
  predicate, so nothing about it is assumed. -/

/-- `isValidName` never panics — the slice expression `name[2:]` is only reached when the name has the two-byte
    prefix `?.` or `*.` — and is `util.IsURL` of the name with all leading `?.` / `*.` labels removed -/
theorem isValidName_total (isURL : Str → Bool) (name : Str) :
    isValidName isURL name = .ok (isURL (stripMarks name)) := isValidName_eq isURL name

theorem isValidName_no_panic (isURL : Str → Bool) (name : Str) : isValidName isURL name ≠ .panic :=
  ne_panic_of_ok ⟨_, isValidName_eq isURL name⟩

/-- `CollectAllNames` is total: for every certificate name data it returns a list (no panic, no error) -/
theorem collectAllNames_total (isURL : Str → Bool) (c : NameCert) :
    ∃ names, collectAllNames isURL c = .ok names := ⟨_, collectAllNames_eq isURL c⟩

/-- … which is strictly sorted in Go's string order, hence duplicate-free -/
theorem collectAllNames_sorted (isURL : Str → Bool) (c : NameCert) (names : List Str)
    (h : collectAllNames isURL c = .ok names) : names.Pairwise (· < ·) := by
  rw [collectAllNames_eq] at h
  cases h
  exact sorted_purge strTotal _

theorem collectAllNames_nodup (isURL : Str → Bool) (c : NameCert) (names : List Str)
    (h : collectAllNames isURL c = .ok names) : names.Nodup :=
  strTotal.nodup (collectAllNames_sorted isURL c names h)

example : collectAllNames (fun s => s.length > 3)
    ⟨[97, 46, 98, 99], [[99, 111, 109], [97, 46, 98, 99]], [], []⟩ = .ok [[97, 46, 98, 99], [99, 111, 109]] := by
  decide +kernel

/-- … and contains exactly: the common name if valid; the DNS SANs that are valid or contain no dot; the URI SANs
    and IP SAN texts that `util.IsURL` accepts — nothing else, nothing missing -/
theorem collectAllNames_mem (isURL : Str → Bool) (c : NameCert) (names : List Str)
    (h : collectAllNames isURL c = .ok names) (x : Str) :
    x ∈ names ↔
      (x = c.commonName ∧ isURL (stripMarks x) = true) ∨
      (x ∈ c.dnsNames ∧ (isURL (stripMarks x) = true ∨ containsDot x = false)) ∨
      (x ∈ c.uris ∧ isURL x = true) ∨ (x ∈ c.ipTexts ∧ isURL x = true) := by
  rw [collectAllNames_eq] at h
  cases h
  rw [mem_purge, mem_candidates]
  simp [dnsKept]

/-- the output is independent of the order (and multiplicity) in which the SANs are listed — in particular of
    Go's map iteration order inside `purgeNameDuplicates`: certificates with the same common name and the same
    SETS of DNS / URI / IP names give the same list -/
theorem collectAllNames_order_independent (isURL : Str → Bool) (c₁ c₂ : NameCert)
    (hcn : c₁.commonName = c₂.commonName) (hd : ∀ x, x ∈ c₁.dnsNames ↔ x ∈ c₂.dnsNames)
    (hu : ∀ x, x ∈ c₁.uris ↔ x ∈ c₂.uris) (hi : ∀ x, x ∈ c₁.ipTexts ↔ x ∈ c₂.ipTexts) :
    collectAllNames isURL c₁ = collectAllNames isURL c₂ := by
  rw [collectAllNames_eq, collectAllNames_eq]
  congr 1
  apply eq_of_sorted_of_mem_iff strTotal _ _ (sorted_purge strTotal _) (sorted_purge strTotal _)
  intro x
  rw [mem_purge, mem_purge, mem_candidates, mem_candidates, hcn, hd, hu, hi]

example : ∀ x, x ∈ ([[1], [2], [1]] : List Str) ↔ x ∈ ([[2], [1]] : List Str) := by
  intro x; simp; tauto

/-- the whole names view (names + `redacted`) is total, and `redacted` says exactly that some listed name starts
    with `?` -/
theorem namesView_total (isURL : Str → Bool) (c : NameCert) :
    ∃ names, namesView isURL c = .ok (names, redacted names) ∧ collectAllNames isURL c = .ok names := by
  refine ⟨purge (candidates isURL c), ?_, collectAllNames_eq isURL c⟩
  simp [namesView, collectAllNames_eq]

theorem redacted_iff (names : List Str) : redacted names = true ↔ ∃ n ∈ names, ∃ rest, n = 63 :: rest := by
  unfold redacted
  rw [List.any_eq_true]
  constructor
  · rintro ⟨_ | ⟨x, rest⟩, hn, hq⟩
    · cases hq
    · exact ⟨_, hn, rest, eq_of_beq hq ▸ rfl⟩
  · rintro ⟨n, hn, rest, rfl⟩
    exact ⟨_, hn, rfl⟩


/-! ### JSON sub-views with index / table / slice logic (model `ZV.Model.C02Views`, T2 `gsi` `ku` `kan` `san` `jx`)

  Every model here is a pure function of the parsed value, so "two calls give the same output" holds by
  construction; the theorems are about totality and about what the view says. -/

/-- zcrypto `orMask` never indexes out of range, for ANY address and mask lengths (the length guards suffice) -/
theorem orMask_no_panic (ip mask : Bytes) : orMask ip mask ≠ .panic :=
  ne_panic_of_ok ⟨_, orMask_eq ip mask⟩

/-- … and the guard `len(ip) != len(mask)` is what makes it so: the bare loop panics on every shorter mask -/
theorem orMask_loop_needs_guard (ip mask : Bytes) (h : mask.length < ip.length) : orLoop mask 0 ip = .panic := by
  rw [orLoop_eq, if_pos ⟨List.ne_nil_of_length_pos (by omega), by omega⟩]

example : orLoop [0xff] 0 [10, 0, 0, 1] = .panic := orMask_loop_needs_guard _ _ (by decide)

/-- `(*GeneralSubtreeIP).MarshalJSON` is total for ANY `net.IPNet` (address and mask of any lengths, also the
    ones the parser never produces) -/
theorem subtreeIP_json_total (ip mask : Bytes) : ∃ v, subtreeIPView ip mask = .ok v := by
  unfold subtreeIPView
  rw [orMask_eq]
  dsimp only
  split
  · exact ⟨_, rfl⟩
  · exact ⟨_, rfl⟩

theorem subtreeIP_json_no_panic (ip mask : Bytes) : subtreeIPView ip mask ≠ .panic :=
  ne_panic_of_ok (subtreeIP_json_total ip mask)

/-- on what the parser produces (address and mask of the same length 4 or 16) the view is either CIDR-only (mask
    not a prefix) or has begin, end and mask, each of the address length -/
theorem subtreeIP_json_parser_shape (ip mask : Bytes) (h : ip.length = mask.length) (h4 : ip.length = 4 ∨ ip.length = 16) :
    ∃ v, subtreeIPView ip mask = .ok v ∧
      ((v.begin = none ∧ v.end_ = none ∧ v.mask = none) ∨
       ((∃ b, v.begin = some b ∧ b.length = ip.length) ∧ (∃ e, v.end_ = some e ∧ e.length = ip.length) ∧ v.mask = some mask)) := by
  have hm : ip.length = (invertMask mask).length := by rw [invertMask_length, h]
  unfold subtreeIPView
  rw [orMask_eq, if_pos ⟨h4, hm⟩, ipMask_of_length_eq ip mask h, if_pos (h ▸ h4)]
  dsimp only
  split
  · exact ⟨_, rfl, Or.inl ⟨rfl, rfl, rfl⟩⟩
  · exact ⟨_, rfl, Or.inr ⟨⟨_, rfl, by rw [List.length_zipWith, ← h, Nat.min_self]⟩,
      ⟨_, rfl, by rw [List.length_zipWith, ← hm, Nat.min_self]⟩, rfl⟩⟩

example : subtreeIPView [192, 0, 2, 77] [255, 255, 255, 0] =
    .ok ⟨some ([192, 0, 2, 77], .inl 24), some [192, 0, 2, 0], some [192, 0, 2, 255], some [255, 255, 255, 0]⟩ := by decide +kernel

/-- `KeyUsage.MarshalJSON`: flag `i` of the view is bit `i` of the value, for every value -/
theorem keyUsage_flags (k : Nat) : (keyUsageView k).1 = (List.range 9).map (fun i => k.testBit i) := by
  unfold keyUsageView
  simp only
  apply List.map_congr_left
  intro i _
  rw [Nat.one_shiftLeft, Nat.and_two_pow]
  cases k.testBit i <;> simp [Nat.two_pow_pos]

theorem keyUsage_value (k : Nat) : (keyUsageView k).2 < 4294967296 ∧ (k < 4294967296 → (keyUsageView k).2 = k) := by
  unfold keyUsageView
  exact ⟨Nat.mod_lt _ (by decide), fun h => Nat.mod_eq_of_lt h⟩

/-- T1, whole generated table: `total_key_algorithms` does not exceed `len(keyAlgorithmNames)` and entry 0 (the
    clamp target) exists. Editing the table or the enumeration in zcrypto re-checks THIS theorem. -/
theorem keyAlgTable_covers : KeyAlgTableCovers := by
  unfold KeyAlgTableCovers
  decide

/-- `PublicKeyAlgorithm.String` never indexes `keyAlgorithmNames` out of range, for every integer value -/
theorem keyAlgName_no_panic (p : Int) : keyAlgName p ≠ .panic :=
  ne_panic_of_ok (keyAlgName_ok keyAlgTable_covers p)

/-- T1, whole generated table: every signature algorithm of the enumeration (1 … len-1) has a non-empty name, so
    `String()` never prints an empty name, and the table is not empty (entry 0 = unknown) -/
theorem algoName_table_named : 0 < Gen.algoName.length ∧ ∀ s ∈ Gen.algoName.drop 1, s.length ≠ 0 := by
  simp only [ne_eq, String.length_eq_zero_iff]
  decide +kernel

/-- T1: the else-if chain of `JsonifyExtensions` tests sixteen pairwise different OIDs (no branch is dead), one per
    variable named in the source -/
theorem knownExtOids_table : Gen.knownExtOids.Nodup ∧ Gen.knownExtOids.length = 16 ∧
    Gen.knownExtOidVars.length = Gen.knownExtOids.length ∧ ∀ o ∈ Gen.knownExtOids, 2 ≤ o.length := by
  decide +kernel

/-- `SignatureAlgorithm.String` and the name of `jsonifySignatureAlgorithm` never index `algoName` out of range -/
theorem sigAlgName_no_panic (a : Int) : sigAlgString a ≠ .panic ∧ sigAlgJSONName a ≠ .panic := by
  obtain ⟨s, h⟩ := sigAlgString_ok a
  refine ⟨by simp [h], ?_⟩
  unfold sigAlgJSONName
  split
  · simp
  · simp [h]

/-- `JsonifyExtensions`: the unknown list is exactly the extensions whose OID is none of the sixteen known ones, in
    certificate order (nothing dropped, nothing duplicated) -/
theorem jsonify_unknown_exact (exts : List (List Nat)) :
    (jsonifySplit exts).2 = ((exts.zipIdx).filter (fun e => (knownExtOids.idxOf? e.1).isNone)).map (·.2) := by
  unfold jsonifySplit
  rw [jsonifySplit_fold_unknown]
  simp

/-- … and the view at position `k` of the chain is filled iff some extension carries the `k`-th known OID -/
theorem jsonify_known_exact (exts : List (List Nat)) (k : Nat) :
    k ∈ (jsonifySplit exts).1 ↔ ∃ oid ∈ exts, knownExtOids.idxOf? oid = some k := by
  unfold jsonifySplit
  rw [jsonifySplit_fold_known]
  simp only [List.not_mem_nil, false_or]
  constructor
  · rintro ⟨e, he, hk⟩
    exact ⟨e.1, (List.mem_zipIdx' he).2 ▸ List.getElem_mem _, hk⟩
  · rintro ⟨oid, ho, hk⟩
    obtain ⟨i, hi, rfl⟩ := List.getElem_of_mem ho
    exact ⟨(exts[i], i), by simp [List.mem_zipIdx_iff_getElem?, hi], hk⟩

example : jsonifySplit [[2, 5, 29, 19], [1, 2, 3], [2, 5, 29, 15], [2, 5, 29, 19]] = ([1, 0], [1]) := by decide +kernel

/-- the `BasicConstraints` view carries a path length iff `MaxPathLen > 0 || MaxPathLenZero` -/
theorem basicConstraints_pathlen_iff (isCA : Bool) (n : Int) (z : Bool) :
    ((basicConstraintsView isCA n z).2 = some n ↔ (n > 0 ∨ z = true)) ∧
    ((basicConstraintsView isCA n z).2 = none ↔ ¬ (n > 0 ∨ z = true)) := by
  unfold basicConstraintsView
  by_cases h : n > 0 ∨ z = true <;> simp [h]


/-! ### computed certificate-level fields (model `ZV.Model.C02Cert`, T2 `cf` / `rk`)

  All of these are total functions of the parsed value (no index, no partial operation), so totality and purity
  hold by construction; the theorems say what the values are. -/

/-- `Certificate.ValidityPeriod` (time.Time.Sub saturates) is the exact difference up to ±9223372036 s (≈ 292 years)
    and is clamped to that bound beyond it -/
theorem validityPeriod_exact_iff (nb na : Int) :
    (validityLength nb na = na - nb ↔ (-9223372036 ≤ na - nb ∧ na - nb ≤ 9223372036)) ∧
    -9223372036 ≤ validityLength nb na ∧ validityLength nb na ≤ 9223372036 := by
  rw [validityLength_eq]
  generalize na - nb = d
  split
  · omega
  · split <;> omega

/-- the `length` of the JSON view (computed by the promoted `(*validity).MarshalJSON` from the Unix times) and the
    parser's `ValidityPeriod` agree exactly on validities of at most ≈ 292 years -/
theorem validity_json_agrees_iff (nb na : Int) :
    validityLengthJSON nb na = validityLength nb na ↔ (-9223372036 ≤ na - nb ∧ na - nb ≤ 9223372036) := by
  have := (validityPeriod_exact_iff nb na).1
  unfold validityLengthJSON
  constructor
  · intro h; exact this.mp h.symm
  · intro h; exact (this.mpr h).symm

/-- OBSERVATION (replayed on the Go code by the `cf` boundary lines): for 1970-01-01 … 2262-04-11T23:47:17Z the JSON
    says 9223372037 and `Certificate.ValidityPeriod` says 9223372036 — `JSONValidity.ValidityPeriod` is never emitted -/
example : validityLengthJSON 0 9223372037 = 9223372037 ∧ validityLength 0 9223372037 = 9223372036 := by decide

/-- swapping the two dates negates both lengths -/
theorem validity_antisymm (nb na : Int) :
    validityLength na nb = - validityLength nb na ∧ validityLengthJSON na nb = - validityLengthJSON nb na := by
  refine ⟨?_, (Int.neg_sub na nb).symm⟩
  rw [validityLength_eq, validityLength_eq, ← Int.neg_sub na nb]
  generalize na - nb = d
  by_cases h1 : d > 9223372036
  · rw [if_pos h1, if_neg (by omega), if_pos (by omega)]
  · by_cases h2 : d < -9223372036
    · rw [if_neg h1, if_pos h2, if_pos (by omega)]; rfl
    · rw [if_neg h1, if_neg h2, if_neg (by omega), if_neg (by omega)]

/-- `(*big.Int).Bytes` as used for the RSA modulus: big-endian, no leading zero, and reads back to the magnitude -/
theorem rsaKeyView_modulus (n e : Int) :
    natOfBytes (rsaKeyView n e).1 = n.natAbs ∧ (rsaKeyView n e).1.head? ≠ some 0 ∧
    (rsaKeyView n e).2.2 = 8 * (rsaKeyView n e).1.length ∧ (rsaKeyView n e).2.1 = e := by
  unfold rsaKeyView
  exact ⟨natOfBytes_beBytes _, beBytes_head_ne_zero _, by simp [Nat.mul_comm], rfl⟩

/-- the sign of the modulus is lost in the view (permissive parsing lets negative moduli through) -/
theorem rsaKeyView_sign_lost (n e : Int) : (rsaKeyView (-n) e).1 = (rsaKeyView n e).1 := by
  unfold rsaKeyView; simp

/-- the fingerprints have the digest lengths (16 / 20 / 32 bytes) for every certificate, and depend on nothing but
    the raw pieces -/
theorem fingerprints_lengths (raw tbs spki subject : Bytes) :
    let f := fingerprints raw tbs spki subject
    f.md5.length = 16 ∧ f.sha1.length = 20 ∧ f.sha256.length = 32 ∧ f.spki.length = 32 ∧ f.tbs.length = 32 ∧
    f.spkiSubject.length = 32 := by
  simp only [fingerprints]
  exact ⟨ZV.C23.md5_length _, ZV.C23.sha1_length _, ZV.C23.sha256_length _, ZV.C23.sha256_length _,
    ZV.C23.sha256_length _, ZV.C23.sha256_length _⟩

-- FULL (not proved here): `intOfBytes (x :: rest) < 0 ↔ x.toNat ≥ 128` (sign of the serial number); the serial string is
-- only compared with the Go code by T2 `cf`.

/-! ### hostname verification (model and theorems of C09: `ZV.Model.C09`, T2 `c09 vh` / `mh` / `low` and `c02 vh`)

  C09 models `VerifyHostname`, `matchHostnames`, `toLowerCaseASCII` and `net.ParseIP` exactly and proves the matching
  rules; what C02 needs from it is totality on ANY certificate name data and ANY host string. -/

/-- `VerifyHostname` never panics (every index of `matchHostnames`, `h[0]`, `h[len(h)-1]`, `h[1:len(h)-1]` in range),
    for every certificate and every host -/
theorem verifyHostname_no_panic (c : ZV.C09.Cert) (h : ZV.C09.Str) : ZV.C09.verifyHostname c h ≠ .panic :=
  ne_panic_of_ok (ZV.C09.verifyHostname_total c h)

/-- `matchHostnames` never indexes `hostParts[i]` out of range, for every pattern and host -/
theorem matchHostnames_no_panic (pattern host : ZV.C09.Str) : ZV.C09.matchHostnames pattern host ≠ .panic :=
  ne_panic_of_ok (ZV.C09.match_no_panic pattern host)

/-! ### signature check against any candidate parent -/

/-- a parent key produced by `parsePublicKey` (RSA arm, either mode — including the negative or zero
    integers the permissive mode lets through) never makes `CheckSignatureFromKey` panic -/
theorem checkSig_rsa_parent_no_panic (perm : Bool) (n e : Int) (k : Key) (h : parseRsaKey perm n e = .ok k)
    (sigLen sig : Nat) : checkSig k sigLen sig ≠ .panic := by
  unfold parseRsaKey at h
  split at h
  · simp at h
  · simp at h; subst h; exact verify_no_panic _ _ _

example : parseRsaKey true (-35) (-1) = .ok (.rsa { n := some (-35), e := some (-1) }) := by decide

/-- the same for the Ed25519 / X25519 arms -/
theorem checkSig_ed_parent_no_panic (isEd : Bool) (keyLen : Nat) (pk : PubKey) (h : parseEdKey isEd keyLen = .ok pk)
    (sigLen sig : Nat) : checkSig (.ed pk) sigLen sig ≠ .panic := by
  rcases parseEdKey_ok_len _ _ _ h with ⟨l, hk⟩ | hk <;> subst hk <;> simp [checkSig, checkSigEd, ed25519Verify]

example : parseEdKey true 32 = .ok (.ed 32) := by decide

/-- keys of the remaining algorithms go to primitives without shape preconditions -/
theorem checkSig_other_no_panic (sigLen sig : Nat) : checkSig .other sigLen sig ≠ .panic := by
  simp [checkSig]

end ZV.C02
