import ZV.Proofs.C29
/-!
  C29 — fingerprinted ClientHellos are sent exactly as configured.

  Objects (all executable, tied to the Go code by the T2 streams `c29 marshal` / `c29 parse`):
  * `marshal cfg force rand time` — model of `(*ClientFingerprintConfiguration).marshal` (after `fix:` D25);
    `rand` = bytes the configured `Config.Rand` delivers, `time` = `time.Now().Unix()`.
  * `marshalExt e` — model of the `Marshal` methods of the built-in extension types.
  * `ZV.TlsHello.parseClientHello` / `parseExts` / `parseExt` — model of `(*clientHelloMsg).unmarshal`.

  Specification vocabulary: `lp8/lp16/lp24 b` = `b` preceded by its length; a length field is *correct*
  when the length fits the field (`lp*_read_back`: the cryptobyte reader then returns exactly `b`).

  Domain (stated minimally, per theorem):
  * layout: fewer than 32768 cipher suites and fewer than 65536 bytes of extensions (the code writes
    truncated length bytes beyond that, without an error); session id < 256, compression = [0] and
    body < 2^24 are enforced by `marshal` itself and are conclusions, not hypotheses.
  * parse-back (`extOk`): SNI with exactly one non-empty name without trailing dot and no host name
    parsed before; SNI with 0 or ≥ 2 names is OUTSIDE the domain (D13: the encoder emits a single
    name_type byte for the whole list, and the parser rejects a second host_name by design);
    ALPN non-empty with protocols of 1..255 bytes; curves / point formats / signature algorithms non-empty;
    every length within its field.
-/
namespace ZV.C29
open ZV.TlsHello

def lp8 (b : Bytes) : Bytes := u8 b.length ++ b
def lp16 (b : Bytes) : Bytes := u16 b.length ++ b
def lp24 (b : Bytes) : Bytes := u24 b.length ++ b

/-- the configured layout: 0x01 ‖ u24-prefixed body; body = version ‖ random ‖ u8-prefixed session id ‖
    u16-prefixed suites ‖ u8-prefixed compression methods ‖ (if any extension bytes) u16-prefixed
    concatenation of the extension encodings in configured order -/
def layoutBody (cfg : Cfg) (random : Bytes) : Bytes :=
  w16 cfg.vers ++ random ++ lp8 cfg.sessionId ++ lp16 (w16s cfg.suites) ++ lp8 cfg.comp ++
    (if marshalExts cfg.exts = [] then [] else lp16 (marshalExts cfg.exts))

def layout (cfg : Cfg) (random : Bytes) : Bytes := [1] ++ lp24 (layoutBody cfg random)

/-- a length field is correct when the length fits: the reader returns the body and what follows -/
theorem lp8_read_back (b r : Bytes) (h : b.length < 256) : readU8LP (lp8 b ++ r) = some (b, r) := by
  simpa [lp8] using readU8LP_lp b r h

theorem lp16_read_back (b r : Bytes) (h : b.length < 65536) : readU16LP (lp16 b ++ r) = some (b, r) := by
  simpa [lp16] using readU16LP_lp b r h

theorem lp24_read_back (b r : Bytes) (h : b.length < 16777216) : readU24LP (lp24 b ++ r) = some (b, r) := by
  simpa [lp24] using readU24LP_lp b r h

theorem helloBody_eq_layoutBody (cfg : Cfg) (random : Bytes) : helloBody cfg random = layoutBody cfg random := by
  have he : extBlock cfg.exts = if marshalExts cfg.exts = [] then [] else lp16 (marshalExts cfg.exts) := by
    simp only [extBlock, lp16]
    cases h : marshalExts cfg.exts with
    | nil => simp
    | cons a t => simp
  simp only [helloBody, layoutBody, suiteBlock_eq, he, lp8, lp16, List.append_assoc]

/-- For ALL configurations for which `marshal` succeeds, with fewer than 32768 suites and fewer than 65536
    extension bytes: the bytes are exactly the configured layout, the random has 32 bytes, and every
    length field is correct (each prefixed body fits its field, so `lp*_read_back` applies). -/
theorem fp_hello_layout (cfg : Cfg) (force : Bool) (rand : Bytes) (time : Nat) (out : Bytes)
    (h : marshal cfg force rand time = some out)
    (hs : cfg.suites.length < 32768) (he : (marshalExts cfg.exts).length < 65536) :
    ∃ random, randomField cfg rand time = some random ∧ random.length = 32 ∧
      out = layout cfg random ∧
      (layoutBody cfg random).length < 16777216 ∧ cfg.sessionId.length < 256 ∧
      (w16s cfg.suites).length < 65536 ∧ cfg.comp.length < 256 ∧ (marshalExts cfg.exts).length < 65536 := by
  obtain ⟨random, hr, _, _, hsid, hcomp, hlen, hout⟩ := marshal_some h
  refine ⟨random, hr, randomField_length hr, ?_, ?_, hsid, ?_, ?_, he⟩
  · rw [hout, helloBody_eq_layoutBody]; rfl
  · rw [← helloBody_eq_layoutBody]; exact hlen
  · rw [w16s_length]; omega
  · rw [hcomp]; decide

/-- the bytes equal the layout for every successful configuration (the domain hypotheses of
    `fp_hello_layout` are only needed for the length fields to be *correct*) -/
theorem fp_hello_bytes (cfg : Cfg) (force : Bool) (rand : Bytes) (time : Nat) (out : Bytes)
    (h : marshal cfg force rand time = some out) :
    ∃ random, randomField cfg rand time = some random ∧ out = layout cfg random := by
  obtain ⟨random, hr, _, _, _, _, _, hout⟩ := marshal_some h
  exact ⟨random, hr, by rw [hout, helloBody_eq_layoutBody]; rfl⟩

/-- what `marshal` refuses: a hello is only produced for a session id below 256 bytes, compression
    methods exactly `[0]`, implemented extensions contents, implemented suites unless ForceSuites, and a
    body below 2^24 bytes -/
theorem marshal_guards (cfg : Cfg) (force : Bool) (rand : Bytes) (time : Nat) (out : Bytes)
    (h : marshal cfg force rand time = some out) :
    cfg.sessionId.length < 256 ∧ cfg.comp = [0] ∧ cfg.exts.all checkExt = true ∧
      (force = true ∨ cfg.suites.all (fun s => Gen.implementedSuites.contains s.toNat) = true) ∧
      out.length < 16777216 + 4 := by
  obtain ⟨random, _, hchk, hsu, hsid, hcomp, hlen, hout⟩ := marshal_some h
  refine ⟨hsid, hcomp, hchk, hsu, ?_⟩
  rw [hout, List.length_cons, List.length_append, u24_length]
  omega

/-- bytes 6..38 of the hello are the client random: the configured value verbatim when it has 32 bytes;
    otherwise 32 fresh bytes from the randomness source; with InsertTimestamp the first four are the
    big-endian low 32 bits of the Unix time and the other 28 are fresh. -/
theorem random_rule (cfg : Cfg) (force : Bool) (rand : Bytes) (time : Nat) (out : Bytes)
    (h : marshal cfg force rand time = some out) :
    (cfg.random.length = 32 → (out.drop 6).take 32 = cfg.random) ∧
    (cfg.random.length ≠ 32 → cfg.insertTimestamp = false →
        32 ≤ rand.length ∧ (out.drop 6).take 32 = rand.take 32) ∧
    (cfg.random.length ≠ 32 → cfg.insertTimestamp = true →
        28 ≤ rand.length ∧ (out.drop 6).take 4 = u32 (time % 4294967296) ∧
        readU32 (out.drop 6) = some (time % 4294967296, out.drop 10) ∧
        (out.drop 10).take 28 = rand.take 28) := by
  obtain ⟨random, hr, _, _, _, _, _, hout⟩ := marshal_some h
  have hlen := randomField_length hr
  -- message type, three length bytes and the version precede the random
  obtain ⟨tail, hd6⟩ : ∃ tail, out.drop 6 = random ++ tail := ⟨_, by rw [hout]; rfl⟩
  have ht32 : (out.drop 6).take 32 = random := by rw [hd6, List.take_left' hlen]
  rw [randomField] at hr
  refine ⟨fun h32 => ?_, fun h32 hts => ?_, fun h32 hts => ?_⟩
  · rw [if_pos h32] at hr
    cases hr
    exact ht32
  · rw [if_neg h32, hts, if_neg Bool.false_ne_true] at hr
    obtain ⟨hl, hr⟩ := guard_some hr
    cases hr
    exact ⟨Nat.le_of_not_lt hl, ht32⟩
  · rw [if_neg h32, if_pos hts] at hr
    obtain ⟨hl, hr⟩ := guard_some hr
    cases hr
    rw [List.append_assoc] at hd6
    have h10 : out.drop 10 = rand.take 28 ++ tail := by
      rw [← List.drop_drop (j := 6) (i := 4), hd6, List.drop_left' (u32_length time)]
    refine ⟨Nat.le_of_not_lt hl, ?_, ?_, ?_⟩
    · rw [hd6, u32_mod, List.take_left' (u32_length time)]
    · rw [h10, hd6]
      exact readU32_u32 time _
    · rw [h10, List.take_left' (List.length_take_of_le (Nat.le_of_not_lt hl))]

/-- in the domain every built-in encoder produces a well-formed extension:
    type ‖ u16-prefixed extension_data with a correct length -/
theorem ext_well_formed (e : Ext) (m : ClientHello) (hn : e ≠ .null) (h : extOk e m = true) :
    marshalExt e = u16 (extType e) ++ lp16 (extBody e) ∧ (extBody e).length < 65536 ∧ extType e < 65536 :=
  ⟨by rw [marshalExt_frame e hn]; rfl, extBody_length_lt e m h, extType_lt e⟩

/-- all types at once, on the switch arm: the arm selected by the written type, applied to the written
    extension_data, passes the trailing-data check and stores the configured value -/
theorem ext_parse_back_arm (e : Ext) (m : ClientHello) (isLast : Bool) (hn : e ≠ .null) (h : extOk e m = true) :
    parseExt (extType e) (extBody e) isLast m = some (applyExt e m) :=
  parseExt_extBody e m isLast hn h

/-- all types at once, on the wire: the extension loop of the ClientHello parser consumes the encoded
    extension and continues with the configured value stored (NullExtension: nothing on the wire) -/
theorem ext_parse_back (e : Ext) (rest : Bytes) (m : ClientHello) (h : extOk e m = true) :
    parseExts (marshalExt e ++ rest) m = parseExts rest (applyExt e m) :=
  parseExts_marshalExt e rest m h

theorem ext_parse_back_sni (name rest : Bytes) (m : ClientHello)
    (h1 : name ≠ []) (h2 : name.getLast? ≠ some 46) (h3 : name.length < 65531) (h4 : m.serverName = []) :
    parseExts (marshalExt (.sni [name]) ++ rest) m = parseExts rest { m with serverName := name } :=
  parseExts_marshalExt (.sni [name]) rest m (by simp [extOk, h1, h2, h3, h4])

theorem ext_parse_back_alpn (ps : List Bytes) (rest : Bytes) (m : ClientHello)
    (h1 : ps ≠ []) (h2 : ∀ p ∈ ps, p ≠ [] ∧ p.length < 256) (h3 : (alpnProtos ps).length < 65534) :
    parseExts (marshalExt (.alpn ps) ++ rest) m =
      parseExts rest { m with alpnProtocols := m.alpnProtocols ++ ps } :=
  parseExts_marshalExt (.alpn ps) rest m (by simp only [extOk, decide_eq_true_eq]; exact ⟨h1, h2, h3⟩)

theorem ext_parse_back_reneg (rest : Bytes) (m : ClientHello) :
    parseExts (marshalExt .reneg ++ rest) m =
      parseExts rest { m with secureRenegotiation := [], secureRenegotiationSupported := true } :=
  parseExts_marshalExt .reneg rest m rfl

theorem ext_parse_back_ems (rest : Bytes) (m : ClientHello) :
    parseExts (marshalExt .ems ++ rest) m = parseExts rest { m with extendedMasterSecret := true } :=
  parseExts_marshalExt .ems rest m rfl

theorem ext_parse_back_status (rest : Bytes) (m : ClientHello) :
    parseExts (marshalExt .status ++ rest) m = parseExts rest { m with ocspStapling := true } :=
  parseExts_marshalExt .status rest m rfl

theorem ext_parse_back_sct (rest : Bytes) (m : ClientHello) :
    parseExts (marshalExt .sct ++ rest) m = parseExts rest { m with scts := true } :=
  parseExts_marshalExt .sct rest m rfl

theorem ext_parse_back_curves (l : List UInt16) (rest : Bytes) (m : ClientHello)
    (h1 : l ≠ []) (h2 : l.length < 32767) :
    parseExts (marshalExt (.curves l) ++ rest) m =
      parseExts rest { m with supportedCurves := m.supportedCurves ++ l.map (·.toNat) } :=
  parseExts_marshalExt (.curves l) rest m (by simp [extOk, h1, h2])

theorem ext_parse_back_points (l rest : Bytes) (m : ClientHello) (h1 : l ≠ []) (h2 : l.length < 256) :
    parseExts (marshalExt (.points l) ++ rest) m = parseExts rest { m with supportedPoints := l } :=
  parseExts_marshalExt (.points l) rest m (by simp [extOk, h1, h2])

theorem ext_parse_back_ticket (t rest : Bytes) (m : ClientHello) (h : t.length < 65536) :
    parseExts (marshalExt (.ticket t) ++ rest) m =
      parseExts rest { m with ticketSupported := true, sessionTicket := t } :=
  parseExts_marshalExt (.ticket t) rest m (by simp [extOk, h])

theorem ext_parse_back_sigalgs (l : List UInt16) (rest : Bytes) (m : ClientHello)
    (h1 : l ≠ []) (h2 : l.length < 32767) :
    parseExts (marshalExt (.sigalgs l) ++ rest) m =
      parseExts rest { m with sigAlgs := m.sigAlgs ++ l.map (·.toNat) } :=
  parseExts_marshalExt (.sigalgs l) rest m (by simp [extOk, h1, h2])

/-- what the parser holds after the fixed part of the hello -/
def baseHello (cfg : Cfg) (random : Bytes) : ClientHello :=
  { ClientHello.empty with
    vers := cfg.vers.toNat, random := random, sessionId := cfg.sessionId,
    cipherSuites := cfg.suites.map (·.toNat),
    secureRenegotiationSupported := (cfg.suites.map (·.toNat)).any (fun x => x == scsvRenegotiation),
    compressionMethods := cfg.comp }

/-- Whole hello: for every configuration for which `marshal` succeeds, inside the layout domain and
    with all extensions inside the parse-back domain (in order), the ClientHello parser accepts the
    bytes and returns version, random, session id, suites and compression methods as configured,
    and every extension's value stored in configured order (`applyExts`). -/
theorem hello_parse_back (cfg : Cfg) (force : Bool) (rand : Bytes) (time : Nat) (out : Bytes)
    (h : marshal cfg force rand time = some out)
    (hs : cfg.suites.length < 32768) (he : (marshalExts cfg.exts).length < 65536) :
    ∃ random, randomField cfg rand time = some random ∧
      (extsOk (baseHello cfg random) cfg.exts = true →
        parseClientHello out = some (applyExts (baseHello cfg random) cfg.exts)) := by
  obtain ⟨random, hr, _, _, hsid, hcomp, hlen, hout⟩ := marshal_some h
  refine ⟨random, hr, fun hok => ?_⟩
  have hskip : skip 4 out = some (helloBody cfg random) := by
    rw [hout]
    rfl
  have hsu : (w16s cfg.suites).length < 65536 := by rw [w16s_length]; omega
  have hp := parseExts_marshalExts cfg.exts _ hok
  -- each reader of `parseClientHello` meets its writer's output in `helloBody`; what is left is the extension block
  simp only [parseClientHello, hskip, helloBody, readU16_w16, readBytes_append random _ (randomField_length hr),
    readU8LP_lp _ _ hsid, suiteBlock_eq, List.append_assoc, readU16LP_lp _ _ hsu, readU16s_w16s,
    readU8LP_lp _ _ (show cfg.comp.length < 256 by rw [hcomp]; decide), extBlock]
  by_cases hemp : marshalExts cfg.exts = []
  · rw [hemp, parseExts_nil] at hp
    simp only [hemp, List.length_nil, Nat.lt_irrefl, if_false, List.isEmpty_nil, if_true]
    exact hp
  · have hl := readU16LP_lp (marshalExts cfg.exts) [] he
    rw [List.append_nil] at hl
    have hne : (u16 (marshalExts cfg.exts).length ++ marshalExts cfg.exts).isEmpty = false := rfl
    simp only [List.length_pos_iff.mpr hemp, if_true, hne, Bool.false_eq_true, if_false, hl, List.isEmpty_nil,
      Bool.not_true]
    exact hp

/-- header fields of the parsed hello: version, random (= bytes 6..38 on the wire), session id, suites and
    compression methods are the configured ones -/
theorem hello_parse_back_header (cfg : Cfg) (force : Bool) (rand : Bytes) (time : Nat) (out : Bytes)
    (h : marshal cfg force rand time = some out)
    (hs : cfg.suites.length < 32768) (he : (marshalExts cfg.exts).length < 65536)
    (hok : ∀ random, extsOk (baseHello cfg random) cfg.exts = true) :
    ∃ m, parseClientHello out = some m ∧ m.vers = cfg.vers.toNat ∧ m.random = (out.drop 6).take 32 ∧
      m.sessionId = cfg.sessionId ∧ m.cipherSuites = cfg.suites.map (·.toNat) ∧
      m.compressionMethods = cfg.comp := by
  obtain ⟨random, hr, hp⟩ := hello_parse_back cfg force rand time out h hs he
  obtain ⟨random', hr', _, _, _, _, _, hout⟩ := marshal_some h
  rw [hr] at hr'
  cases hr'
  have hh := applyExts_header cfg.exts (baseHello cfg random)
  refine ⟨_, hp (hok random), hh.1, ?_, hh.2.2.1, hh.2.2.2.1, hh.2.2.2.2.1⟩
  -- six bytes precede the random, which has 32 bytes
  rw [hh.2.1, hout]
  exact (List.take_left' (randomField_length hr)).symm

/-- extension fields of the parsed hello for an arbitrary in-domain extension list (duplicates allowed):
    presence flags for every configured presence extension; the single SNI name; curves, signature
    algorithms and ALPN protocols of all such extensions concatenated in configured order -/
theorem hello_parse_back_exts (cfg : Cfg) (force : Bool) (rand : Bytes) (time : Nat) (out : Bytes)
    (h : marshal cfg force rand time = some out)
    (hs : cfg.suites.length < 32768) (he : (marshalExts cfg.exts).length < 65536)
    (hok : ∀ random, extsOk (baseHello cfg random) cfg.exts = true) :
    ∃ m, parseClientHello out = some m ∧
      (.ems ∈ cfg.exts → m.extendedMasterSecret = true) ∧
      (.status ∈ cfg.exts → m.ocspStapling = true) ∧
      (.sct ∈ cfg.exts → m.scts = true) ∧
      (.reneg ∈ cfg.exts → m.secureRenegotiationSupported = true) ∧
      (∀ t, .ticket t ∈ cfg.exts → m.ticketSupported = true) ∧
      (∀ name, .sni [name] ∈ cfg.exts → m.serverName = name) ∧
      m.supportedCurves = cfg.exts.flatMap curvesOf ∧
      m.sigAlgs = cfg.exts.flatMap sigalgsOf ∧
      m.alpnProtocols = cfg.exts.flatMap alpnOf := by
  obtain ⟨random, hr, hp⟩ := hello_parse_back cfg force rand time out h hs he
  have hf := applyExts_flags cfg.exts (baseHello cfg random)
  have hl := applyExts_lists cfg.exts (baseHello cfg random)
  -- the three lists start empty in `baseHello`
  exact ⟨_, hp (hok random), hf.1, hf.2.1, hf.2.2.1, hf.2.2.2.1, hf.2.2.2.2,
    (applyExts_serverName cfg.exts _ (hok random)).2,
    hl.1.trans (List.nil_append _), hl.2.1.trans (List.nil_append _), hl.2.2.trans (List.nil_append _)⟩

/-- point formats / session ticket: the parser keeps the value of the last such extension -/
theorem hello_parse_back_last (cfg : Cfg) (force : Bool) (rand : Bytes) (time : Nat) (out : Bytes)
    (h : marshal cfg force rand time = some out)
    (hs : cfg.suites.length < 32768) (he : (marshalExts cfg.exts).length < 65536)
    (hok : ∀ random, extsOk (baseHello cfg random) cfg.exts = true) :
    ∃ m, parseClientHello out = some m ∧
      (∀ pre post l, cfg.exts = pre ++ .points l :: post → (∀ l', .points l' ∉ post) → m.supportedPoints = l) ∧
      (∀ pre post t, cfg.exts = pre ++ .ticket t :: post → (∀ t', .ticket t' ∉ post) → m.sessionTicket = t) := by
  obtain ⟨random, hr, hp⟩ := hello_parse_back cfg force rand time out h hs he
  refine ⟨_, hp (hok random), ?_, ?_⟩
  · intro pre post l heq hno; rw [heq]; exact applyExts_points_last pre post l _ hno
  · intro pre post t heq hno; rw [heq]; exact applyExts_ticket_last pre post t _ hno

/-- converse of the guards: a configuration that passes them is encoded (no other way to fail) -/
theorem marshal_succeeds (cfg : Cfg) (force : Bool) (rand : Bytes) (time : Nat) (random : Bytes)
    (hr : randomField cfg rand time = some random)
    (hchk : cfg.exts.all checkExt = true)
    (hsu : force = true ∨ cfg.suites.all (fun s => Gen.implementedSuites.contains s.toNat) = true)
    (hsid : cfg.sessionId.length < 256) (hcomp : cfg.comp = [0])
    (hlen : (layoutBody cfg random).length < 16777216) :
    marshal cfg force rand time = some (layout cfg random) := by
  rw [← helloBody_eq_layoutBody] at hlen
  rw [marshal_of_guards cfg force rand time random hr hchk hsu hsid hcomp hlen, helloBody_eq_layoutBody]
  rfl

/-! ### T1: the generated tables (re-checked whenever zcrypto's tables change) -/

/-- every table entry is a 16-bit value, and the tables are not empty -/
theorem tables_wellformed :
    Gen.curvePrefs.all (· < 65536) = true ∧ Gen.skxSigAlgs.all (· < 65536) = true ∧
    Gen.implementedSuites.all (· < 65536) = true ∧
    Gen.curvePrefs ≠ [] ∧ Gen.skxSigAlgs ≠ [] ∧ Gen.implementedSuites ≠ [] := by decide

/-- the renegotiation SCSV 0x00ff is not an implemented suite: it can only be configured with ForceSuites -/
theorem scsv_not_implemented : Gen.implementedSuites.contains scsvRenegotiation = false := by decide


/-! ### WriteToConfig (`c29 wtc`): what the fingerprint writes into the Config -/

/-- the full-Config loop refines the loop used by the wire model: same extension list, same ServerName -/
theorem wtcFullLoop_refines (fuel i : Nat) (exts : List WExt) (c : WCfg) :
    (wtcFullLoop fuel i exts c).1 = (wtcLoop fuel i exts c.serverName).1 ∧
      (wtcFullLoop fuel i exts c).2.serverName = (wtcLoop fuel i exts c.serverName).2 := by
  induction fuel generalizing i exts c with
  | zero => exact ⟨rfl, rfl⟩
  | succ n ih =>
    rw [wtcFullLoop, wtcLoop]
    cases exts[i]? with
    | none => exact ⟨rfl, rfl⟩
    | some w =>
      -- per type: both loops rewrite the list alike, and `wtcExt` sets `serverName` as `wtcLoop` does
      dsimp only
      cases w.e <;> exact ih _ _ _

/-- the fields `WriteToConfig` takes from the fingerprint itself, and the fields it clears, whatever the extensions
    (with or without Autopopulate): CipherSuites, MaxVersion = HandshakeVersion, ClientRandom; no heartbeat, no
    extended random -/
theorem wtcFullLoop_fixed (fuel i : Nat) (exts : List WExt) (c : WCfg) :
    let r := (wtcFullLoop fuel i exts c).2
    r.cipherSuites = c.cipherSuites ∧ r.maxVersion = c.maxVersion ∧ r.clientRandom = c.clientRandom ∧
      r.heartbeat = c.heartbeat ∧ r.extendedRandom = c.extendedRandom := by
  induction fuel generalizing i exts c with
  | zero => exact ⟨rfl, rfl, rfl, rfl, rfl⟩
  | succ n ih =>
    unfold wtcFullLoop
    cases exts[i]? with
    | none => exact ⟨rfl, rfl, rfl, rfl, rfl⟩
    | some w =>
      obtain ⟨h1, h2, h3, h4, h5⟩ := wtcExt_fixed w.e c
      rw [← h1, ← h2, ← h3, ← h4, ← h5]
      exact ih _ _ _

theorem writeToConfig_fixed (cfg : Cfg) (wexts : List WExt) (sn : Bytes) (sh0 : List (UInt8 × UInt8)) :
    let r := (writeToConfig cfg wexts sn sh0).2
    r.cipherSuites = cfg.suites ∧ r.maxVersion = cfg.vers ∧ r.clientRandom = cfg.random ∧
      r.heartbeat = false ∧ r.extendedRandom = false :=
  wtcFullLoop_fixed _ _ _ _

/-- plain lists (no Autopopulate): the loop is a left fold of the per-type effects — the last ALPN / curves /
    signature-algorithm extension wins, EMS / SCT / ticket set their flag — and the extension list is untouched -/
theorem wtcFullLoop_plain (exts : List WExt) (h : ∀ w ∈ exts, w.auto = false) (fuel i : Nat) (c : WCfg)
    (hf : exts.length ≤ i + fuel) :
    wtcFullLoop fuel i exts c = (exts, (exts.drop i).foldl (fun c w => wtcExt w.e c) c) := by
  induction fuel generalizing i c with
  | zero => rw [List.drop_of_length_le (by omega)]; rfl
  | succ n ih =>
    rw [wtcFullLoop]
    rcases Nat.lt_or_ge i exts.length with hi | hi
    · rw [List.getElem?_eq_getElem hi, List.drop_eq_getElem_cons hi, List.foldl_cons]
      dsimp only
      -- the entry at `i` is plain, so both arms of the rewrite return the list itself
      rw [h _ (List.getElem_mem hi), if_neg Bool.false_ne_true]
      split <;> exact ih (i + 1) _ (by omega)
    · rw [List.getElem?_eq_none hi, List.drop_of_length_le hi]
      rfl

theorem writeToConfig_plain (cfg : Cfg) (wexts : List WExt) (sn : Bytes) (sh0 : List (UInt8 × UInt8))
    (h : ∀ w ∈ wexts, w.auto = false) :
    writeToConfig cfg wexts sn sh0 = (wexts, wexts.foldl (fun c w => wtcExt w.e c) (wtcInit cfg sn sh0)) := by
  unfold writeToConfig
  rw [wtcFullLoop_plain wexts h _ 0 _ (by omega)]
  simp

/-- the wire model's `forceTicket` / extension rewrite is the one of the full `WriteToConfig` model -/
theorem writeToConfig_refines (cfg : Cfg) (wexts : List WExt) (sn : Bytes) (sh0 : List (UInt8 × UInt8)) :
    (writeToConfig cfg wexts sn sh0).1 = (wtcLoop wexts.length 0 wexts sn).1 :=
  (wtcFullLoop_refines _ _ _ _).1

def exampleCfgW : Cfg :=
  { vers := 0x0303, random := [], insertTimestamp := false, sessionId := [], suites := [0x002f], comp := [0], exts := [] }
example : (writeToConfig exampleCfgW [⟨.alpn [[104, 50]], false⟩, ⟨.ems, false⟩, ⟨.alpn [[120]], false⟩] [] []).2.nextProtos
    = [[120]] := by decide +kernel

/-! ### wire: what a real client sends (`c29 wire`, model `wireHello` of the fingerprint branch of clientHandshake) -/

/-- Whenever a ClientHello leaves the client, it is `marshal` of the effective configuration (the configured one
    after the `Autopopulate` rewrites), and it is a hello the client's own parser accepts: nothing between
    `marshal` and `WriteRecord` re-encodes it. Together with `fp_hello_layout` / `fp_hello_bytes` this gives
    the layout of the bytes in the first handshake record(s). -/
theorem wire_sent_is_marshal (cfg : Cfg) (wexts : List WExt) (sn : Bytes) (cache : FpCache) (rsid : Nat)
    (cc force : Bool) (rand : Bytes) (time : Nat) (hello : Bytes)
    (h : wireHello cfg wexts sn cache rsid cc force rand time = .sent hello) :
    ∃ cfg' rand', effectiveCfg cfg wexts sn cache rsid rand = some (cfg', rand') ∧
      marshal cfg' force rand' time = some hello ∧ (parseClientHello hello).isSome = true := by
  unfold wireHello wireHelloWith at h
  split at h
  · cases h
  · rename_i cfg' rand' he
    split at h
    · cases h
    · rename_i hb hm
      split at h
      · cases h
      · rename_i m hp
        split at h
        · cases h
        · cases h
          exact ⟨cfg', rand', he, hm, by simp [hp]⟩

/-- the rewrites only touch the extension list and the session id: version, random settings, cipher suites and
    compression methods of the effective configuration are the configured ones -/
theorem effectiveCfg_header (cfg cfg' : Cfg) (wexts : List WExt) (sn : Bytes) (cache : FpCache) (rsid : Nat)
    (rand rand' : Bytes) (h : effectiveCfg cfg wexts sn cache rsid rand = some (cfg', rand')) :
    cfg'.vers = cfg.vers ∧ cfg'.random = cfg.random ∧ cfg'.insertTimestamp = cfg.insertTimestamp ∧
      cfg'.suites = cfg.suites ∧ cfg'.comp = cfg.comp := by
  unfold effectiveCfg at h
  dsimp only at h
  split at h
  · cases h
  · split at h
    · cases h
    · cases h; simp

/-- without `Autopopulate` entries and without a cached session the effective configuration IS the configured one
    (whatever `Config.ServerName` and `RandomSessionID` are) and no randomness is consumed before `marshal` -/
theorem effectiveCfg_plain (cfg : Cfg) (wexts : List WExt) (sn : Bytes) (cache : FpCache) (rsid : Nat) (rand : Bytes)
    (hc : cfg.exts = wexts.map (·.e)) (h : ∀ w ∈ wexts, w.auto = false)
    (hcache : cache = FpCache.none ∨ cache = FpCache.empty) :
    effectiveCfg cfg wexts sn cache rsid rand = some (cfg, rand) := by
  unfold effectiveCfg
  -- the wire model's loop is the list component of `WriteToConfig`, which leaves a plain list as it is
  simp only [← writeToConfig_refines cfg wexts sn [], writeToConfig_plain cfg wexts sn [] h]
  rcases hcache with rfl | rfl <;> simp [ticketLoop_plain _ _ _ _ _ _ h, ← hc]

/-- C29 on the wire, plain fingerprints: the ClientHello in the first handshake record(s) is exactly the
    configured layout — configured version, random per `random_rule`, session id, suites, compression methods and
    the extension encodings in configured order. -/
theorem wire_as_configured (cfg : Cfg) (wexts : List WExt) (sn : Bytes) (cache : FpCache) (rsid : Nat)
    (cc force : Bool) (rand : Bytes) (time : Nat) (hello : Bytes)
    (hc : cfg.exts = wexts.map (·.e)) (hp : ∀ w ∈ wexts, w.auto = false)
    (hcache : cache = FpCache.none ∨ cache = FpCache.empty)
    (h : wireHello cfg wexts sn cache rsid cc force rand time = .sent hello) :
    marshal cfg force rand time = some hello ∧
      ∃ random, randomField cfg rand time = some random ∧ hello = layout cfg random := by
  obtain ⟨cfg', rand', he, hm, _⟩ := wire_sent_is_marshal cfg wexts sn cache rsid cc force rand time hello h
  rw [effectiveCfg_plain cfg wexts sn cache rsid rand hc hp hcache] at he
  cases he
  exact ⟨hm, fp_hello_bytes cfg force rand time hello hm⟩

/-- conversely: a plain fingerprint for which `marshal` succeeds, inside the layout and parse-back domains, IS sent
    (no `Config.ClientSessionCache`), and what is sent is `marshal`'s output -/
theorem wire_plain_sends (cfg : Cfg) (wexts : List WExt) (sn : Bytes) (cache : FpCache) (rsid : Nat)
    (force : Bool) (rand : Bytes) (time : Nat) (out random : Bytes)
    (hc : cfg.exts = wexts.map (·.e)) (hp : ∀ w ∈ wexts, w.auto = false)
    (hcache : cache = FpCache.none ∨ cache = FpCache.empty)
    (hm : marshal cfg force rand time = some out)
    (hs : cfg.suites.length < 32768) (he : (marshalExts cfg.exts).length < 65536)
    (hr : randomField cfg rand time = some random) (hok : extsOk (baseHello cfg random) cfg.exts = true) :
    wireHello cfg wexts sn cache rsid false force rand time = .sent out := by
  obtain ⟨random', hr', himp⟩ := hello_parse_back cfg force rand time out hm hs he
  rw [hr] at hr'
  cases hr'
  have hparse := himp hok
  unfold wireHello wireHelloWith
  rw [effectiveCfg_plain cfg wexts sn cache rsid rand hc hp hcache]
  simp [hm, hparse]

/-- with rewrites: still the layout of the effective configuration, whose header fields are the configured ones -/
theorem wire_layout (cfg : Cfg) (wexts : List WExt) (sn : Bytes) (cache : FpCache) (rsid : Nat)
    (cc force : Bool) (rand : Bytes) (time : Nat) (hello : Bytes)
    (h : wireHello cfg wexts sn cache rsid cc force rand time = .sent hello) :
    ∃ cfg' rand' random, effectiveCfg cfg wexts sn cache rsid rand = some (cfg', rand') ∧
      randomField cfg' rand' time = some random ∧ hello = layout cfg' random ∧
      cfg'.vers = cfg.vers ∧ cfg'.random = cfg.random ∧ cfg'.suites = cfg.suites ∧ cfg'.comp = cfg.comp := by
  obtain ⟨cfg', rand', he, hm, _⟩ := wire_sent_is_marshal cfg wexts sn cache rsid cc force rand time hello h
  obtain ⟨random, hr, hl⟩ := fp_hello_bytes cfg' force rand' time hello hm
  obtain ⟨h1, h2, _, h4, h5⟩ := effectiveCfg_header cfg cfg' wexts sn cache rsid rand rand' he
  exact ⟨cfg', rand', random, he, hr, hl, h1, h2, h4, h5⟩

/-- **a `Config.ClientSessionCache` changes nothing on the wire of a fingerprint**: the hello parsed back from a
    fingerprint of built-in extensions has no supported_versions, so `loadSession` (guarded, commit 87b3ec4) neither
    announces psk modes nor finds a version-compatible session; result and bytes are those without a cache -/
theorem wire_config_cache_irrelevant (cfg : Cfg) (wexts : List WExt) (sn : Bytes) (cache : FpCache) (rsid : Nat)
    (cc force : Bool) (rand : Bytes) (time : Nat) :
    wireHello cfg wexts sn cache rsid cc force rand time = wireHello cfg wexts sn cache rsid false force rand time := by
  unfold wireHello wireHelloWith
  simp

/-- … and the fingerprint path never panics, whatever the configuration -/
theorem wire_never_panics (cfg : Cfg) (wexts : List WExt) (sn : Bytes) (cache : FpCache) (rsid : Nat)
    (cc force : Bool) (rand : Bytes) (time : Nat) :
    wireHello cfg wexts sn cache rsid cc force rand time ≠ .panic := by
  unfold wireHello wireHelloWith
  repeat' split
  all_goals simp_all

/-- what the guard repairs: for every configuration whose hello is sent (no cache), the code WITHOUT the guard, given
    a `Config.ClientSessionCache`, panics exactly when the parsed-back hello has no supported_versions … -/
theorem wire_unguarded_panics_iff (cfg : Cfg) (wexts : List WExt) (sn : Bytes) (cache : FpCache) (rsid : Nat)
    (force : Bool) (rand : Bytes) (time : Nat) (hello : Bytes) (m : ClientHello)
    (h : wireHello cfg wexts sn cache rsid false force rand time = .sent hello)
    (hp : parseClientHello hello = some m) :
    wireHelloWith false cfg wexts sn cache rsid true force rand time =
      if m.supportedVersions.isEmpty then .panic else .sent hello := by
  obtain ⟨cfg', rand', he, hm, _⟩ := wire_sent_is_marshal cfg wexts sn cache rsid false force rand time hello h
  unfold wireHelloWith
  simp [he, hm, hp]

/-- … which is always the case inside the parse-back domain: a fingerprint of built-in extensions never carries
    supported_versions, so before commit 87b3ec4 EVERY plain fingerprint panicked as soon as a session cache was configured -/
theorem wire_unguarded_panics (cfg : Cfg) (wexts : List WExt) (sn : Bytes) (cache : FpCache) (rsid : Nat)
    (force : Bool) (rand : Bytes) (time : Nat) (out random : Bytes)
    (hc : cfg.exts = wexts.map (·.e)) (hpl : ∀ w ∈ wexts, w.auto = false)
    (hcache : cache = FpCache.none ∨ cache = FpCache.empty)
    (hm : marshal cfg force rand time = some out)
    (hs : cfg.suites.length < 32768) (he : (marshalExts cfg.exts).length < 65536)
    (hr : randomField cfg rand time = some random) (hok : extsOk (baseHello cfg random) cfg.exts = true) :
    wireHelloWith false cfg wexts sn cache rsid true force rand time = .panic ∧
      wireHello cfg wexts sn cache rsid true force rand time = .sent out := by
  have hsent := wire_plain_sends cfg wexts sn cache rsid force rand time out random hc hpl hcache hm hs he hr hok
  obtain ⟨random', hr', himp⟩ := hello_parse_back cfg force rand time out hm hs he
  rw [hr] at hr'
  cases hr'
  have hparse := himp hok
  refine ⟨?_, (wire_config_cache_irrelevant cfg wexts sn cache rsid true force rand time).trans hsent⟩
  rw [wire_unguarded_panics_iff cfg wexts sn cache rsid force rand time out _ hsent hparse]
  rw [(applyExts_header cfg.exts _).2.2.2.2.2]
  rfl

/-! ### T1: every built-in extension type is accounted for; constants and tables are the extracted ones -/

/-- the go/ast list of ALL types of package tls implementing `ClientExtension`
    (methods Marshal / CheckImplemented / WriteToConfig), with their struct fields, is exactly the list of Go types
    the constructors of the model type `Ext` stand for: a new built-in extension type, or a new field of an existing
    one, makes this theorem fail until it is modelled (Marshal model, T2 tie `c29 ext`, parse-back theorem). -/
theorem extension_types_accounted :
    Gen.extensionTypes = builtinTypes ∧
      Gen.clientExtensionMethods = ["CheckImplemented", "Marshal", "WriteToConfig"] := ⟨rfl, rfl⟩

/-- every constructor of `Ext` models one of the extracted types, and `extKinds` has one representative of
    every constructor -/
theorem goType_accounted (e : Ext) : goType e ∈ Gen.extensionTypes ∧ ∃ k ∈ extKinds, goType k = goType e := by
  have key : ∃ k ∈ extKinds, goType k = goType e := by
    cases e with
    | null => exact ⟨.null, by decide, rfl⟩
    | sni _ => exact ⟨.sni [], by decide, rfl⟩
    | alpn _ => exact ⟨.alpn [], by decide, rfl⟩
    | reneg => exact ⟨.reneg, by decide, rfl⟩
    | ems => exact ⟨.ems, by decide, rfl⟩
    | status => exact ⟨.status, by decide, rfl⟩
    | sct => exact ⟨.sct, by decide, rfl⟩
    | curves _ => exact ⟨.curves [], by decide, rfl⟩
    | points _ => exact ⟨.points [], by decide, rfl⟩
    | ticket _ => exact ⟨.ticket [], by decide, rfl⟩
    | sigalgs _ => exact ⟨.sigalgs [], by decide, rfl⟩
  exact ⟨extension_types_accounted.1 ▸ List.mem_map.mpr key, key⟩

/-- the extension-type constants written by the encoders / switched on by the parser model, and
    `pointFormatUncompressed` of `PointFormatExtension.CheckImplemented`, are those of tls/common.go (go/ast) -/
theorem ext_consts_match :
    Gen.extConsts =
      [("extensionServerName", extensionServerName), ("extensionStatusRequest", extensionStatusRequest),
       ("extensionSupportedCurves", extensionSupportedCurves), ("extensionSupportedPoints", extensionSupportedPoints),
       ("extensionSignatureAlgorithms", extensionSignatureAlgorithms), ("extensionALPN", extensionALPN),
       ("extensionSCT", extensionSCT), ("extensionExtendedMasterSecret", extensionExtendedMasterSecret),
       ("extensionSessionTicket", extensionSessionTicket), ("extensionPreSharedKey", extensionPreSharedKey),
       ("extensionEarlyData", extensionEarlyData), ("extensionSupportedVersions", extensionSupportedVersions),
       ("extensionCookie", extensionCookie), ("extensionPSKModes", extensionPSKModes),
       ("extensionCertificateAuthorities", 47),
       ("extensionSignatureAlgorithmsCert", extensionSignatureAlgorithmsCert), ("extensionKeyShare", extensionKeyShare),
       ("extensionRenegotiationInfo", extensionRenegotiationInfo), ("extensionExtendedRandom", extensionExtendedRandom),
       ("pointFormatUncompressed", 0)] := rfl

/-- `supportedVersions` (extracted from the tree): strictly descending 16-bit values, which is what
    `minSupported` (last entry not above the handshake version) relies on -/
theorem supported_versions_table :
    Gen.supportedVersions = [0x0304, 0x0303, 0x0302, 0x0301] ∧
      supportedVersionsTable = [0x0304, 0x0303, 0x0302, 0x0301] := by decide

/-! ### CheckImplemented / CheckImplementedExtensions (`c29 ext`, `c29 check`) -/

/-- `CheckImplementedExtensions` succeeds iff every extension's `CheckImplemented` does; only curves, point
    formats and signature algorithms can fail, exactly when an entry is not in the extracted table -/
theorem checkExts_iff (l : List Ext) : checkExts l = true ↔ ∀ e ∈ l, checkExt e = true := by
  simp [checkExts]

theorem checkExt_curves_iff (l : List UInt16) :
    checkExt (.curves l) = true ↔ ∀ c ∈ l, c.toNat ∈ Gen.curvePrefs := by
  simp [checkExt]

theorem checkExt_sigalgs_iff (l : List UInt16) :
    checkExt (.sigalgs l) = true ↔ ∀ a ∈ l, a.toNat ∈ Gen.skxSigAlgs := by
  simp [checkExt]

theorem checkExt_points_iff (l : Bytes) : checkExt (.points l) = true ↔ ∀ f ∈ l, f = 0 := by
  simp [checkExt]

theorem checkExt_other (e : Ext) (h1 : ∀ l, e ≠ .curves l) (h2 : ∀ l, e ≠ .points l) (h3 : ∀ l, e ≠ .sigalgs l) :
    checkExt e = true := by
  cases e with
  | curves l => exact absurd rfl (h1 l)
  | points l => exact absurd rfl (h2 l)
  | sigalgs l => exact absurd rfl (h3 l)
  | _ => rfl

/-- `marshal` consults exactly `CheckImplementedExtensions` -/
theorem marshal_checks (cfg : Cfg) (force : Bool) (rand : Bytes) (time : Nat) (h : checkExts cfg.exts = false) :
    marshal cfg force rand time = none := by
  unfold checkExts at h
  simp [marshal, h]

/-! ### boundary behaviour: a value that exceeds what its length prefix can carry

  As coded: no encoder returns an error or panics (the model `marshalExt` is total and T2-tied on the boundary
  values by `c29 ext`); the CONTENTS are never truncated, only the length bytes are (low 16 / low 8 bits). -/

/-- for ALL values of ALL types: the encoding is the 4-byte header followed by the complete body -/
theorem marshalExt_length (e : Ext) (hn : e ≠ .null) : (marshalExt e).length = 4 + (extBody e).length := by
  rw [marshalExt_frame e hn]
  simp only [List.length_append, u16_length]
  omega

/-- for ALL values of ALL types: the two length bytes of the extension header carry the body length mod 65536 -/
theorem marshalExt_length_field (e : Ext) (hn : e ≠ .null) :
    readU16 ((marshalExt e).drop 2) = some ((extBody e).length % 65536, extBody e) := by
  rw [marshalExt_frame e hn]
  simp only [u16, List.cons_append, List.nil_append, List.drop_succ_cons, List.drop_zero]
  exact readU16_u16 _ _

/-- … hence the length field is CORRECT (the reader returns exactly the body) iff the body is below 65536 bytes:
    `extOk`'s size limits are necessary, not only sufficient -/
theorem marshalExt_length_field_correct_iff (e : Ext) (hn : e ≠ .null) :
    readU16LP ((marshalExt e).drop 2) = some (extBody e, []) ↔ (extBody e).length < 65536 := by
  have hd : (marshalExt e).drop 2 = u16 (extBody e).length ++ (extBody e ++ []) := by
    rw [marshalExt_frame e hn, List.drop_left' (u16_length _), List.append_nil]
  rw [hd]
  refine ⟨fun h => ?_, readU16LP_lp (extBody e) []⟩
  -- the reader takes `length % 65536` bytes; they are the whole body only if the length was not reduced
  simp only [readU16LP, readU16_u16, readBytes, List.append_nil] at h
  obtain ⟨_, h⟩ := guard_some h
  have hl := congrArg (fun p => p.1.length) (Option.some.inj h)
  simp only [List.length_take] at hl
  omega

/-- SessionTicketExtension, ALL tickets (also over-long ones): the parser reads back the first
    `len % 65536` bytes as the ticket — silent truncation of what is READ, the remaining bytes of the ticket
    are parsed as further extensions. Inside the domain (`len < 65536`) this is `ext_parse_back_ticket`. -/
theorem ticket_parse_back_all (t rest : Bytes) (m : ClientHello) :
    parseExts (marshalExt (.ticket t) ++ rest) m =
      parseExts (t.drop (t.length % 65536) ++ rest)
        { m with ticketSupported := true, sessionTicket := t.take (t.length % 65536) } := by
  have hlen : (t.take (t.length % 65536)).length = t.length % 65536 :=
    List.length_take_of_le (Nat.mod_le _ _)
  -- the same bytes encode the ticket cut at `length % 65536`, an in-domain ticket, followed by the part cut off
  have hm : marshalExt (.ticket t) ++ rest =
      marshalExt (.ticket (t.take (t.length % 65536))) ++ (t.drop (t.length % 65536) ++ rest) := by
    simp only [marshalExt, List.append_assoc]
    rw [hlen, u16_mod, ← List.append_assoc (t.take _), List.take_append_drop]
  rw [hm]
  exact parseExts_marshalExt _ _ m (decide_eq_true (by rw [hlen]; exact Nat.mod_lt _ (by decide)))

/-- the boundary itself: a ticket of exactly 65536 bytes is written with length field 0 and read back as an EMPTY
    ticket; the 65536 ticket bytes are then parsed as extensions -/
theorem ticket_65536_reads_back_empty (t rest : Bytes) (m : ClientHello) (h : t.length = 65536) :
    parseExts (marshalExt (.ticket t) ++ rest) m =
      parseExts (t ++ rest) { m with ticketSupported := true, sessionTicket := [] } := by
  rw [ticket_parse_back_all, h]
  simp

/-! ### the hypotheses are satisfiable -/

/-- a configuration with every built-in extension type, fresh random with timestamp -/
def exampleCfg : Cfg :=
  { vers := 0x0303, random := [], insertTimestamp := true, sessionId := [1, 2, 3],
    suites := [0xc02f, 0x009c], comp := [0],
    exts := [.sni [[97, 46, 98]], .null, .curves [29, 23], .points [0], .alpn [[104, 50]], .ticket [9],
             .sigalgs [0x0401], .ems, .reneg, .status, .sct] }

set_option maxRecDepth 4000 in
example : (marshal exampleCfg false (List.replicate 28 7) 1700000000).isSome = true := by decide +kernel
example : exampleCfg.suites.length < 32768 ∧ (marshalExts exampleCfg.exts).length < 65536 := by decide +kernel
example : ∀ random, extsOk (baseHello exampleCfg random) exampleCfg.exts = true := fun _ => rfl
example : exampleCfg.random.length ≠ 32 ∧ exampleCfg.insertTimestamp = true := by decide +kernel
example : checkExts [.curves [29, 23], .points [0], .ems] = true ∧ checkExts [.curves [29, 30]] = false := by decide +kernel
example : extOk (.sni [[97, 46, 98]]) ClientHello.empty = true ∧ extOk (.alpn [[104, 50]]) ClientHello.empty = true ∧
    extOk (.curves [29]) ClientHello.empty = true ∧ extOk (.points [0]) ClientHello.empty = true ∧
    extOk (.sigalgs [0x0401]) ClientHello.empty = true ∧ extOk (.ticket [1]) ClientHello.empty = true := by decide +kernel
/-- D13: SNI with two names is outside the domain -/
example : extOk (.sni [[97], [98]]) ClientHello.empty = false ∧ extOk (.sni []) ClientHello.empty = false := by decide +kernel

/-- a plain fingerprint in browser-like (non-stock) extension order, and one with Autopopulate entries -/
def exampleWire : List WExt :=
  [⟨.reneg, false⟩, ⟨.sni [[97, 46, 98]], false⟩, ⟨.ems, false⟩, ⟨.sct, false⟩, ⟨.points [0], false⟩]
def exampleWireCfg : Cfg :=
  { vers := 0x0303, random := List.replicate 32 5, insertTimestamp := false, sessionId := [], suites := [0x002f],
    comp := [0], exts := exampleWire.map (·.e) }
set_option maxRecDepth 8000 in
example : ∃ out, marshal exampleWireCfg false [] 0 = some out ∧
    wireHello exampleWireCfg exampleWire [] .none 0 false false [] 0 = .sent out := by
  have hm : (marshal exampleWireCfg false [] 0).isSome = true := by decide +kernel
  obtain ⟨out, ho⟩ := Option.isSome_iff_exists.mp hm
  exact ⟨out, ho, wire_plain_sends exampleWireCfg exampleWire [] .none 0 false [] 0 out (List.replicate 32 5)
    rfl (by decide +kernel) (Or.inl rfl) ho (by decide +kernel) (by decide +kernel) rfl rfl⟩
example : exampleWireCfg.exts = exampleWire.map (·.e) ∧ ∀ w ∈ exampleWire, w.auto = false := by decide +kernel
set_option maxRecDepth 8000 in
example : (effectiveCfg exampleWireCfg [⟨.sni [], true⟩, ⟨.ticket [], true⟩] [120] (.hit 0x0303 0x002f [7, 7]) 2 [1, 2, 3]).map
    (fun p => (p.1.exts, p.1.sessionId, p.2)) = some ([.sni [[120]], .ticket [7, 7]], [1, 2], [3]) := by decide +kernel

-- the code before commit 87b3ec4 (model variant without the guard): the same fingerprint with a
-- `Config.ClientSessionCache` panics in `loadSession` instead of sending its hello — reverting the fix is this
set_option maxRecDepth 8000 in
example : ∃ out, wireHelloWith false exampleWireCfg exampleWire [] .none 0 true false [] 0 = .panic ∧
    wireHello exampleWireCfg exampleWire [] .none 0 true false [] 0 = .sent out := by
  have hm : (marshal exampleWireCfg false [] 0).isSome = true := by decide +kernel
  obtain ⟨out, ho⟩ := Option.isSome_iff_exists.mp hm
  exact ⟨out, wire_unguarded_panics exampleWireCfg exampleWire [] .none 0 false [] 0 out (List.replicate 32 5)
    rfl (by decide +kernel) (Or.inl rfl) ho (by decide +kernel) (by decide +kernel) rfl rfl⟩

end ZV.C29
