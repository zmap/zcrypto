import ZV.Model.C14
import ZV.Proofs.C14
import ZV.Proofs.C14Str
import ZV.Proofs.C14Int
import ZV.Proofs.C22
import ZV.Generated.C14
/-!
  C14 — CRL revocation lookup reports exactly the listed serials.

  `check crl serial cache` is the branch-for-branch model of `CheckCRLForCert`
  (`cache = none` ⇒ linear search; `some m` ⇒ map lookup by the serial's decimal string `decChars serial`).
-/
namespace ZV.C14

/-! ### the cache key: `(*big.Int).String()` -/

/-- the decimal rendering has a left inverse (reading the numeral back gives the integer) … -/
theorem decChars_roundtrip (i : Int) : parseDec (decChars i) = i := by
  cases i with
  | ofNat n =>
    unfold parseDec decChars
    split
    · rename_i r h
      exact absurd h (natDigits_ne_minus n r)
    · rw [valOf_natDigits]
      rfl
  | negSucc n =>
    simp only [decChars, parseDec, valOf_natDigits]
    omega

/-- … hence it is injective: two serials have the same cache key exactly when they are equal (a theorem about the
    modelled rendering, which T2 `c14 str` ties to `String()`; nothing is assumed about math/big) -/
theorem decChars_injective {a b : Int} (h : decChars a = decChars b) : a = b := by
  rw [← decChars_roundtrip a, h, decChars_roundtrip]

theorem decChars_eq_iff (a b : Int) : decChars a = decChars b ↔ a = b :=
  ⟨decChars_injective, fun h => by rw [h]⟩

/-- shape of a key: an optional '-' (exactly for negative serials) followed by one or more decimal digits -/
theorem decChars_shape (i : Int) :
    ∃ ds : List Char, ds ≠ [] ∧ (∀ c ∈ ds, c.isDigit = true) ∧
      decChars i = (if i < 0 then '-' :: ds else ds) := by
  cases i with
  | ofNat n =>
    exact ⟨natDigits n, natDigits_ne_nil n, natDigits_all_digits n, (if_neg (Int.not_lt.mpr (Int.natCast_nonneg n))).symm⟩
  | negSucc n =>
    exact ⟨natDigits (n + 1), natDigits_ne_nil _, natDigits_all_digits _, (if_pos (Int.negSucc_lt_zero n)).symm⟩

theorem keyPred_eq (serial : Int) :
    (fun e : Entry => decide (decChars e.serial = decChars serial)) = (fun e => decide (e.serial = serial)) := by
  funext e
  simp [decChars_eq_iff]

/-- the entry the property speaks about: the FIRST listed entry with the queried serial -/
def firstListed (entries : List Entry) (serial : Int) : Option Entry :=
  entries.find? (fun e => decide (e.serial = serial))

/-! ### linear search -/

/-- revoked exactly when the serial appears among the revoked entries -/
theorem check_linear_iff (crl : CRL) (serial : Int) :
    (check crl serial none).isRevoked = true ↔ ∃ e ∈ crl.entries, e.serial = serial := by
  simp only [check_eq, hit, List.find?_isSome, decide_eq_true_eq]

/-- … with the revocation time of the first such entry (and the zero time when there is none) -/
theorem check_linear_time (crl : CRL) (serial : Int) :
    (check crl serial none).revTime = (firstListed crl.entries serial).map (·.time) := by
  rw [check_eq]
  rfl

/-- "first": nothing before the reported entry carries the serial -/
theorem firstListed_is_first (entries : List Entry) (serial : Int) (e : Entry)
    (h : firstListed entries serial = some e) :
    e.serial = serial ∧ ∃ pre post, entries = pre ++ e :: post ∧ ∀ x ∈ pre, x.serial ≠ serial := by
  unfold firstListed at h
  obtain ⟨h1, pre, post, h2, h3⟩ := List.find?_eq_some_iff_append.mp h
  exact ⟨of_decide_eq_true h1, pre, post, h2, fun x hx => by simpa using h3 x hx⟩

/-! ### the cache path -/

theorem firstWins_get_key (entries : List Entry) (k : Key) :
    (firstWins entries).get k = entries.find? (fun e => decide (decChars e.serial = k)) :=
  fw_fold_get entries [] k

/-- a map filled first-wins from the entry list answers every lookup with the first listed entry -/
theorem firstWins_get (entries : List Entry) (serial : Int) :
    (firstWins entries).get (decChars serial) = firstListed entries serial := by
  rw [firstWins_get_key, keyPred_eq]
  rfl

/-- Supplying a cache built (first-wins) from the same entries gives the same result as the linear
    search — the whole RevocationData, in particular the revoked flag and the time. -/
theorem cache_agrees (crl : CRL) (serial : Int) (cache : Cache) (h : cache = firstWins crl.entries) :
    check crl serial (some cache) = check crl serial none := by
  subst h
  simp only [check_eq, hit, firstWins_get, firstListed]

/-- For ANY cache whose key set is the set of listed serials (whatever entry it keeps per serial) the
    revoked flag agrees with the linear search. -/
theorem cache_flag_agrees (crl : CRL) (serial : Int) (cache : Cache)
    (h : ∀ k : Key, (cache.get k).isSome = true ↔ ∃ e ∈ crl.entries, decChars e.serial = k) :
    (check crl serial (some cache)).isRevoked = (check crl serial none).isRevoked := by
  rw [Bool.eq_iff_iff, check_linear_iff, check_eq]
  simp only [hit, h, decChars_eq_iff]

/-- the construction used by crl_test.go (plain overwrite, last wins) keeps the LAST listed entry … -/
theorem lastWins_get_key (entries : List Entry) (k : Key) :
    (lastWins entries).get k = entries.reverse.find? (fun e => decide (decChars e.serial = k)) := by
  unfold lastWins
  rw [lw_fold_get]
  exact Option.or_none

theorem lastWins_get (entries : List Entry) (serial : Int) :
    (lastWins entries).get (decChars serial) = entries.reverse.find? (fun e => decide (e.serial = serial)) := by
  rw [lastWins_get_key, keyPred_eq]

/-- the key set of the last-wins map is the set of renderings of the listed serials -/
theorem lastWins_keys (entries : List Entry) (k : Key) :
    ((lastWins entries).get k).isSome = true ↔ ∃ e ∈ entries, decChars e.serial = k := by
  simp only [lastWins_get_key, List.find?_isSome, List.mem_reverse, decide_eq_true_eq]

/-- the same for the first-wins map -/
theorem firstWins_keys (entries : List Entry) (k : Key) :
    ((firstWins entries).get k).isSome = true ↔ ∃ e ∈ entries, decChars e.serial = k := by
  simp only [firstWins_get_key, List.find?_isSome, decide_eq_true_eq]

/-- … so it has the same flag … -/
theorem lastWins_flag_agrees (crl : CRL) (serial : Int) :
    (check crl serial (some (lastWins crl.entries))).isRevoked = (check crl serial none).isRevoked :=
  cache_flag_agrees crl serial _ (lastWins_keys crl.entries)

/-- … but, with a serial listed twice, not the same time: the sentence about the time needs first-wins. -/
theorem lastWins_time_counterexample :
    ∃ (crl : CRL) (serial : Int),
      (check crl serial (some (lastWins crl.entries))).revTime ≠ (check crl serial none).revTime :=
  ⟨⟨1, 0, 0, none, [], [⟨7, 100⟩, ⟨7, 200⟩], []⟩, 7, by decide +kernel⟩

/-! ### extension classification -/

/-- critical and non-critical unknown extensions are the order-preserving filters of the CRL's extension
    list; the CRL number is the decoded value of the last CRL-number extension (0 if undecodable or absent) -/
theorem ext_classification (crl : CRL) (serial : Int) (cache : Option Cache) :
    let r := check crl serial cache
    r.unknownCritical = crl.exts.filter (fun e => !isNum e && e.critical) ∧
    r.unknown = crl.exts.filter (fun e => !isNum e && !e.critical) ∧
    r.crlNumber = crlNumberOf crl.exts 0 := by
  rw [check_eq]
  exact ⟨rfl, rfl, rfl⟩

/-- nothing is lost, nothing is duplicated: every extension is either a CRL-number extension or lands in
    exactly the list matching its critical flag; and the two lists are sublists (order preserved) -/
theorem ext_partition (crl : CRL) (serial : Int) (cache : Option Cache) :
    let r := check crl serial cache
    (∀ e ∈ crl.exts, e.oid = crlNumberOID ∨ (e.critical = true ∧ e ∈ r.unknownCritical) ∨ (e.critical = false ∧ e ∈ r.unknown)) ∧
    (∀ e ∈ r.unknownCritical, e ∈ crl.exts ∧ e.critical = true ∧ e.oid ≠ crlNumberOID) ∧
    (∀ e ∈ r.unknown, e ∈ crl.exts ∧ e.critical = false ∧ e.oid ≠ crlNumberOID) ∧
    r.unknownCritical.Sublist crl.exts ∧ r.unknown.Sublist crl.exts ∧
    r.unknownCritical.length + r.unknown.length + (crl.exts.filter isNum).length = crl.exts.length := by
  rw [check_eq]
  refine ⟨fun e he => ?_, fun e he => ?_, fun e he => ?_, List.filter_sublist, List.filter_sublist,
    length_filter_three isNum (·.critical) crl.exts⟩
  · by_cases hn : e.oid = crlNumberOID
    · exact Or.inl hn
    · cases hc : e.critical
      · exact Or.inr (Or.inr ⟨rfl, List.mem_filter.mpr ⟨he, by simp [isNum, hn, hc]⟩⟩)
      · exact Or.inr (Or.inl ⟨rfl, List.mem_filter.mpr ⟨he, by simp [isNum, hn, hc]⟩⟩)
  · simp only [List.mem_filter, Bool.and_eq_true, Bool.not_eq_true', isNum, decide_eq_false_iff_not] at he
    exact ⟨he.1, he.2.2, he.2.1⟩
  · simp only [List.mem_filter, Bool.and_eq_true, Bool.not_eq_true', isNum, decide_eq_false_iff_not] at he
    exact ⟨he.1, he.2.2, he.2.1⟩

/-! ### CRL number decoding: `asn1.Unmarshal(value, &int)` = `ZV.C18.unmarshal false .int64 {}` -/

open ZV.C18 in
/-- short-form header (tag 02, one length byte < 128, content `c`, then anything): the outcome is exactly the outcome
    of the content parser `parseInt64` on `c` — for EVERY content, accepted or not -/
theorem derInt_short_form_all (c tail : Bytes) (h : c.length < 128) :
    derInt (2 :: UInt8.ofNat c.length :: (c ++ tail)) =
      match parseInt64 false c with | .ok v => some v | _ => none := by
  unfold derInt
  rw [unmarshal_int64, primField_int64, parseTL_short _ _ h]
  simp only [and_self, if_true, List.length_append, List.take_left' rfl, List.drop_left' rfl]
  have : ¬ (c.length > c.length + tail.length) := by omega
  simp only [this, if_false]
  cases parseInt64 false c <;> rfl

open ZV.C18 in
/-- A CRL-number extension value in DER short form — tag 02, one length byte, 1..8 minimal content bytes, then
    anything — decodes to the two's-complement integer of the content (and `numOf` is that integer). -/
theorem derInt_short_form (c tail : Bytes) (h8 : c.length ≤ 8) (hmin : checkInteger false c = true) :
    derInt (2 :: UInt8.ofNat c.length :: (c ++ tail)) = some (sval c) := by
  rw [derInt_short_form_all c tail (by omega), parseInt64_sval c hmin h8]

open ZV.C18 in
/-- COMPLETE characterisation (no hypothesis on the input): `Unmarshal(value, &int)` succeeds exactly on
    `02 len c…` with a single length byte, 1 ≤ len ≤ 8, `c` minimally encoded, and then yields the two's-complement
    value of `c`; trailing bytes are ignored.  In particular every long-form length, every other identifier octet
    (wrong tag, class, constructed bit, high-tag form), every truncation and every non-minimal or > 8 byte integer fails
    — and `gatherListExtensionInfo` then reports CRL number 0. -/
theorem derInt_iff (bs : Bytes) (v : Int) :
    derInt bs = some v ↔
      ∃ c tail, bs = 2 :: UInt8.ofNat c.length :: (c ++ tail) ∧ 1 ≤ c.length ∧ c.length ≤ 8 ∧
        checkInteger false c = true ∧ v = sval c := by
  constructor
  · intro h
    unfold derInt at h
    rw [unmarshal_int64, primField_int64] at h
    cases hp : parseTL false bs with
    | err => simp [hp] at h
    | panic => simp [hp] at h
    | ok x =>
      obtain ⟨t, r'⟩ := x
      simp only [hp] at h
      by_cases hc : t.cls = 0 ∧ t.tag = 2 ∧ t.compound = false
      · simp only [hc, and_self, if_true] at h
        by_cases hl : t.len > r'.length
        · simp [hl] at h
        · simp only [hl, if_false] at h
          cases hi : parseInt64 false (r'.take t.len) with
          | err => simp [hi] at h
          | panic => simp [hi] at h
          | ok i =>
            simp only [hi, Option.some.injEq] at h
            subst h
            obtain ⟨hck, hlen⟩ := parseInt64_ok _ _ hi
            have htl : (r'.take t.len).length = t.len := List.length_take_of_le (Nat.le_of_not_gt hl)
            refine ⟨r'.take t.len, r'.drop t.len, ?_, checkInteger_ne_nil _ hck, hlen, hck, ?_⟩
            · rw [htl, List.take_append_drop]
              exact int_header_short bs r' t hp hc.1 hc.2.1 hc.2.2 (by omega)
            · have := parseInt64_sval _ hck hlen
              rw [hi] at this
              exact (Res.ok.inj this)
      · simp [hc] at h
  · rintro ⟨c, tail, rfl, _, h8, hmin, rfl⟩
    exact derInt_short_form c tail h8 hmin

open ZV.C18 in
/-- a long-form length (first length byte ≥ 0x80) never yields a CRL number -/
theorem derInt_long_form_none (b : UInt8) (rest : Bytes) (h : b.toNat ≥ 128) : derInt (2 :: b :: rest) = none := by
  cases hd : derInt (2 :: b :: rest) with
  | none => rfl
  | some v =>
    obtain ⟨c, tail, heq, _, h8, _, _⟩ := (derInt_iff _ v).mp hd
    have hb : b = UInt8.ofNat c.length := (List.cons.inj (List.cons.inj heq).2).1
    rw [hb, toNat_ofNat_lt (by omega)] at h
    omega

/-- an identifier octet other than 0x02 never yields a CRL number -/
theorem derInt_wrong_tag_none (t : UInt8) (rest : Bytes) (h : t ≠ 2) : derInt (t :: rest) = none := by
  cases hd : derInt (t :: rest) with
  | none => rfl
  | some v =>
    obtain ⟨c, tail, heq, _⟩ := (derInt_iff _ v).mp hd
    exact absurd (List.cons.inj heq).1 h

theorem derInt_nil : derInt [] = none := by
  cases hd : derInt [] with
  | none => rfl
  | some v =>
    obtain ⟨c, tail, heq, _⟩ := (derInt_iff _ v).mp hd
    cases heq

/-- the reported CRL number of a CRL: value of the LAST CRL-number extension if it decodes, else 0 — spelled out with
    the characterisation above: a non-zero CRL number is always the two's-complement value of 1..8 content bytes -/
theorem crlNumber_nonzero (crl : CRL) (serial : Int) (cache : Option Cache)
    (h : (check crl serial cache).crlNumber ≠ 0) :
    ∃ e ∈ crl.exts, e.oid = crlNumberOID ∧
      ∃ c tail, e.value = 2 :: UInt8.ofNat c.length :: (c ++ tail) ∧ 1 ≤ c.length ∧ c.length ≤ 8 ∧
        ZV.C18.checkInteger false c = true ∧ (check crl serial cache).crlNumber = ZV.C18.sval c := by
  have h3 : (check crl serial cache).crlNumber = crlNumberOf crl.exts 0 := (ext_classification crl serial cache).2.2
  rw [h3] at h ⊢
  unfold crlNumberOf at h ⊢
  cases hl : (crl.exts.filter isNum).getLast? with
  | none =>
    rw [hl] at h
    exact absurd rfl h
  | some e =>
    simp only [hl] at h ⊢
    have hm := List.mem_filter.mp (List.mem_of_getLast? hl)
    refine ⟨e, hm.1, of_decide_eq_true hm.2, ?_⟩
    unfold numOf at h ⊢
    cases hd : derInt e.value with
    | none =>
      rw [hd] at h
      exact absurd rfl h
    | some v =>
      exact (derInt_iff _ v).mp hd

example : derInt [2, 2, 1, 44, 99] = some 300 := by decide +kernel
example : derInt [2, 1, 255] = some (-1) := by decide +kernel
example : ZV.C18.checkInteger false [0, 5] = false := by decide
example : derInt [2, 0x81, 1, 5] = none := derInt_long_form_none _ _ (by decide)

/-! ### copied header -/

/-- the scalar fields are copied; the issuer is `FillFromRDNSequence` (model `ZV.C22.fill`) of the CRL's issuer:
    `OriginalRDNS` is the sequence itself, `Names` its attributes in document order, every `[]string` field the
    values of the string-valued attributes that the dispatch table sends to it, in document order, and the two scalar
    fields (CommonName, SerialNumber) the last such value -/
theorem header_copied (crl : CRL) (serial : Int) (cache : Option Cache) :
    let r := check crl serial cache
    r.sig = crl.sig ∧ r.version = crl.version ∧ r.thisUpdate = crl.thisUpdate ∧ r.nextUpdate = crl.nextUpdate ∧
    r.issuer = ZV.C22.fill crl.issuer ∧
    r.issuer.originalRDNS = crl.issuer ∧ r.issuer.names = ZV.C22.flat crl.issuer ∧ r.issuer.extraNames = [] ∧
    (∀ f, r.issuer.get f = (ZV.C22.flat crl.issuer).flatMap (ZV.C22.valsFor f)) ∧
    (∀ s, r.issuer.getS s = (ZV.C22.flat crl.issuer).foldl (ZV.C22.stepS s) []) := by
  rw [check_eq]
  exact ⟨rfl, rfl, rfl, rfl, rfl, (ZV.C22.fill_rest _).2.2, (ZV.C22.fill_rest _).1, (ZV.C22.fill_rest _).2.1,
    ZV.C22.fill_get _, ZV.C22.fill_getS _⟩

/-- what `CheckCRLForCert` does NOT report: the per-entry extension data (reason code, invalidity date) and the raw
    entry extensions stay at their zero values for every input (crl.go carries a TODO for them) -/
theorem entry_extensions_never_reported (crl : CRL) (serial : Int) (cache : Option Cache) :
    (check crl serial cache).entryReason = none ∧ (check crl serial cache).rawEntryExts = [] := by
  rw [check_eq]
  exact ⟨rfl, rfl⟩

/-! ### T1: facts read from crl.go on every run (lean/ZV/Generated/C14.lean) -/

/-- the OID the model dispatches on is the one in the source -/
theorem crlNumberOID_matches_source : crlNumberOID = Gen.crlNumberExtensionOID := rfl

/-- the two entry-extension OIDs crl.go declares (reason code, invalidity date) are distinct from the CRL-number OID:
    such extensions on the LIST are classified by their critical flag, not decoded -/
theorem entry_ext_oids_not_crlNumber :
    Gen.revocationReasonExtensionOID ≠ Gen.crlNumberExtensionOID ∧ Gen.invalidityDateExtensionOID ≠ Gen.crlNumberExtensionOID ∧
    Gen.revocationReasonExtensionOID ≠ Gen.invalidityDateExtensionOID := by decide

/-- the loop body of gatherListExtensionInfo is the three-way chain the model `gatherStep` mirrors, in this order -/
theorem gather_chain_matches_source :
    Gen.gatherChain =
      [("extension.Id.Equal(crlNumberExtensionOID)".toList, "ret.CRLExtensions.CRLNumber = ext.CRLNumber".toList),
       ("extension.Critical".toList, "ret.UnknownCriticalCRLExtensions = append(ret.UnknownCriticalCRLExtensions, extension)".toList),
       ("else".toList, "ret.UnknownCRLExtensions = append(ret.UnknownCRLExtensions, extension)".toList)] := rfl

/-- the `&RevocationData{…}` literal copies exactly the fields `header` copies, from the sources `header` reads -/
theorem header_literal_matches_source :
    Gen.headerLiteral =
      [("CRLSignatureAlgorithm".toList, "x509.GetSignatureAlgorithmFromAI(certList.SignatureAlgorithm)".toList),
       ("CRLSignatureValue".toList, "certList.SignatureValue.Bytes".toList),
       ("Version".toList, "certList.TBSCertList.Version".toList),
       ("ThisUpdate".toList, "certList.TBSCertList.ThisUpdate".toList),
       ("NextUpdate".toList, "certList.TBSCertList.NextUpdate".toList),
       ("IsRevoked".toList, "false".toList)] := rfl

/-- beyond the literal, the two functions write exactly these fields of the result — in particular never
    `CertificateEntryExtensions` / `RawCertificateEntryExtensions` / `CRLExtensions.AuthKeyID`
    (source-level counterpart of `entry_extensions_never_reported`) -/
theorem ret_written_matches_source :
    Gen.retWritten =
      ["CRLExtensions.CRLNumber".toList, "IsRevoked".toList, "Issuer.FillFromRDNSequence()".toList,
       "RevocationTime".toList, "UnknownCRLExtensions".toList, "UnknownCriticalCRLExtensions".toList] := rfl

/-- reason-code name table: codes 0..10 without 7, nothing else written to the table, names pairwise distinct
    (so the name determines the code) and non-empty -/
theorem reason_table :
    Gen.reasonCodeNames.map (·.1) = [0, 1, 2, 3, 4, 5, 6, 8, 9, 10] ∧ Gen.reasonCodeOther = [] ∧
    (Gen.reasonCodeNames.map (·.2)).Nodup ∧ (∀ r ∈ Gen.reasonCodeNames, r.2 ≠ []) ∧
    Gen.reasonCodeNames.lookup 7 = none := by
  unfold Gen.reasonCodeNames
  repeat rw [String.toList_ofList]
  decide +kernel

/-! ### repeated lookups on one CertificateList (inputs are only read) -/

/-- lookup `i` of a sequence made on one CRL object is the single lookup on the original CRL value -/
theorem checkSeq_index (crl : CRL) (qs : List (Int × Option Cache)) (i : Nat) :
    (checkSeq crl qs)[i]? = qs[i]?.map (fun q => check crl q.1 q.2) := by
  rw [checkSeq, List.getElem?_map]

/-- every lookup of a sequence reports the same CRL number, the same two extension lists and the same copied
    header as any other one (in particular as the first): they depend on the CRL alone, not on the query, the cache
    or on what was looked up before -/
theorem checkSeq_crl_part_stable (crl : CRL) (qs : List (Int × Option Cache)) :
    ∀ r ∈ checkSeq crl qs, ∀ r' ∈ checkSeq crl qs,
      r.crlNumber = r'.crlNumber ∧ r.unknown = r'.unknown ∧ r.unknownCritical = r'.unknownCritical ∧
      r.sig = r'.sig ∧ r.version = r'.version ∧ r.thisUpdate = r'.thisUpdate ∧ r.nextUpdate = r'.nextUpdate ∧
      r.issuer = r'.issuer := by
  intro r hr r' hr'
  obtain ⟨q, _, rfl⟩ := List.mem_map.mp hr
  obtain ⟨q', _, rfl⟩ := List.mem_map.mp hr'
  rw [check_eq, check_eq]
  exact ⟨rfl, rfl, rfl, rfl, rfl, rfl, rfl, rfl⟩

example : (checkSeq ⟨1, 0, 0, none, [], [⟨7, 100⟩], [⟨[2, 5, 29, 28], true, [48, 0]⟩,
    ⟨[2, 5, 29, 35], false, [48, 0]⟩]⟩ [(7, none), (6, none), (7, some [])]).map (fun r => (r.isRevoked, r.unknown.length)) =
    [(true, 1), (false, 1), (false, 1)] := by decide +kernel

/-! ### non-vacuity -/
example : ∃ (crl : CRL) (c : Cache), c = firstWins crl.entries :=
  ⟨⟨1, 0, 0, none, [], [⟨7, 100⟩, ⟨-3, 5⟩, ⟨7, 200⟩], []⟩, _, rfl⟩
example : firstListed [⟨7, 100⟩, ⟨-3, 5⟩, ⟨7, 200⟩] 7 = some ⟨7, 100⟩ := by decide
example : ∀ k : Key, ((lastWins [⟨7, 100⟩, ⟨7, 200⟩]).get k).isSome = true ↔
    ∃ e ∈ ([⟨7, 100⟩, ⟨7, 200⟩] : List Entry), decChars e.serial = k := lastWins_keys _
example : (check ⟨1, 0, 0, none, [], [], [⟨[2, 5, 29, 20], false, [2, 1, 5]⟩]⟩ 1 none).crlNumber ≠ 0 := by
  decide +kernel

end ZV.C14
