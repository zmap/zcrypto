import ZV.Proofs.C11
import ZV.Proofs.C11Async
import ZV.Proofs.C11Ext
/-!
  C11 — `WalkChains` on a certificate returns each path that starts at that certificate,
  follows issuer edges, stops at the first root edge, never re-enters a (subject, key) pair
  already in the chain, uses only CA certificates within path-length limits before the root,
  and has at most `maxIntermediateCount` certificates; it returns no other chains and no
  duplicates.

  `Paths V g c` is the declarative set of such paths.  It is written over `g.edges` only:
  the adjacency maps (`Node.parents`, Go maps whose iteration order is arbitrary) do not
  occur in it.  `walk_sound` + `walk_complete` : `walkChains V g c` enumerates exactly
  `Paths V g c`, for every graph satisfying the invariant `WF` (which `ZV.Proofs.C10` proves
  for every graph reachable by `AddCert` / `AddRoot`).
-/
namespace ZV.C11
open ZV.C10

/-- the chains `WalkChains(c)` is documented to return -/
def Paths (V : Ver) (g : Graph) (c : Cert) (ch : List Cert) : Prop :=
  ∃ rest, ValidExt g [(startEdge V g c).cert] (startEdge V g c) rest ∧
    ch = (startEdge V g c).cert :: rest.map (·.cert)

/-! ### 1. length bound (no hypothesis at all) -/

theorem walk_len_le_max {V : Ver} {g : Graph} {c : Cert} {ch : List Cert}
    (h : ch ∈ walkChains V g c) : ch.length ≤ maxIntermediateCount :=
  (walkChains_prefix h).2

/-- every returned chain starts with the certificate asked for (or the stored copy of it) -/
theorem walk_head {V : Ver} {g : Graph} {c : Cert} {ch : List Cert}
    (h : ch ∈ walkChains V g c) : ch.head? = some (startEdge V g c).cert := by
  obtain ⟨t, ht⟩ := (walkChains_prefix h).1
  rw [ht]
  rfl

/-! ### 2./3. the walk enumerates exactly `Paths` -/

theorem walk_sound_gen {V : Ver} {g : Graph} (wf : WF V g) :
    ∀ (fuel : Nat) (soFar : List Cert) (last : Edge) (ch : List Cert),
      fuel + soFar.length = maxIntermediateCount → ch ∈ walk g fuel soFar last →
      ∃ rest, ValidExt g soFar last rest ∧ ch = soFar ++ rest.map (·.cert) :=
  fun fuel soFar last ch hlen => (mem_walk_iff wf fuel soFar last ch hlen).mp

theorem walk_complete_gen {V : Ver} {g : Graph} (wf : WF V g) :
    ∀ (rest : List Edge) (fuel : Nat) (soFar : List Cert) (last : Edge),
      fuel + soFar.length = maxIntermediateCount →
      (∀ k, last.issuer = some k → ∃ n ∈ g.nodes, n.key = k) →
      ValidExt g soFar last rest →
      soFar ++ rest.map (·.cert) ∈ walk g fuel soFar last :=
  fun rest fuel soFar last hlen _ hv => (mem_walk_iff wf fuel soFar last _ hlen).mpr ⟨rest, hv, rfl⟩

/-- the walk returns no other chains -/
theorem walk_sound {V : Ver} {g : Graph} {c : Cert} {ch : List Cert} (wf : WF V g)
    (h : ch ∈ walkChains V g c) : Paths V g c ch :=
  walk_sound_gen wf _ _ _ _ rfl h

/-- the walk returns each such path -/
theorem walk_complete {V : Ver} {g : Graph} {c : Cert} {ch : List Cert} (wf : WF V g)
    (h : Paths V g c ch) : ch ∈ walkChains V g c :=
  (mem_walk_iff wf _ _ _ _ rfl).mpr h

theorem walk_iff_paths {V : Ver} {g : Graph} {c : Cert} {ch : List Cert} (wf : WF V g) :
    ch ∈ walkChains V g c ↔ Paths V g c ch :=
  ⟨walk_sound wf, walk_complete wf⟩

/-! ### 4. the iteration order of the adjacency maps does not matter -/

theorem validExt_congr {g g' : Graph} (he : g.edges = g'.edges) :
    ∀ (rest : List Edge) (soFar : List Cert) (last : Edge),
      ValidExt g soFar last rest ↔ ValidExt g' soFar last rest := by
  intro rest
  induction rest with
  | nil => intro soFar last; rw [ValidExt, ValidExt]
  | cons e rest ih =>
    intro soFar last
    rw [ValidExt, ValidExt, he, ih]

/-- two well-formed graphs with the same edges (nodes / adjacency lists in any order) and the
    same start edge give the same set of chains -/
theorem walk_order_independent {V : Ver} {g g' : Graph} {c : Cert} {ch : List Cert}
    (wf : WF V g) (wf' : WF V g') (he : g.edges = g'.edges)
    (hs : startEdge V g c = startEdge V g' c) :
    ch ∈ walkChains V g c ↔ ch ∈ walkChains V g' c := by
  rw [walk_iff_paths wf, walk_iff_paths wf', Paths, Paths, hs]
  exact exists_congr fun rest => and_congr_left' (validExt_congr he rest _ _)

/-! ### 5. readable consequences of `Paths` -/

theorem validExt_len {g : Graph} : ∀ (rest : List Edge) (soFar : List Cert) (last : Edge),
    soFar.length ≤ maxIntermediateCount → ValidExt g soFar last rest →
    soFar.length + rest.length ≤ maxIntermediateCount := by
  intro rest
  induction rest with
  | nil => exact fun _ _ h _ => h
  | cons e rest ih =>
    intro soFar last _ hv
    rw [ValidExt] at hv
    have := ih (soFar ++ [e.cert]) e (by rw [List.length_append]; exact hv.2.1) hv.2.2.2.2.2.2
    rwa [List.length_append, List.length_singleton, Nat.add_right_comm] at this

/-- at most the documented maximum length -/
theorem paths_len_le {V : Ver} {g : Graph} {c : Cert} {ch : List Cert} (h : Paths V g c ch) :
    ch.length ≤ maxIntermediateCount := by
  obtain ⟨rest, hv, hch⟩ := h
  have := validExt_len rest [(startEdge V g c).cert] _ (show 1 ≤ maxIntermediateCount by decide) hv
  rwa [hch, List.length_cons, List.length_map, Nat.add_comm]

/-- the last edge of a path is a root edge -/
theorem validExt_last_root {g : Graph} : ∀ (rest : List Edge) (soFar : List Cert) (last : Edge),
    ValidExt g soFar last rest → ∀ pre a, last :: rest = pre ++ [a] → a.root = true := by
  intro rest
  induction rest with
  | nil =>
    intro soFar last hv pre a h
    cases List.append_inj_right' (s₁ := []) h rfl
    exact hv
  | cons e rest ih =>
    intro soFar last hv pre a h
    rw [ValidExt] at hv
    cases pre with
    | nil => exact nomatch (List.cons.inj h).2
    | cons p pre => exact ih _ _ hv.2.2.2.2.2.2 pre a (List.cons.inj h).2

/-- every step of a path: the edge left is not a root (so the path stops at the FIRST root),
    the next edge is an edge of the graph whose head is the issuer node of the edge left,
    its own issuer's (subject, key) is not among the certificates before it, and the
    CA / path-length rule holds against the certificates before it.
    (`pfx ++ [last.cert]` is the chain built so far.) -/
theorem validExt_steps {g : Graph} : ∀ (pre : List Edge) (pfx : List Cert) (last : Edge) (rest : List Edge),
    ValidExt g (pfx ++ [last.cert]) last rest →
    ∀ a b post, last :: rest = pre ++ a :: b :: post →
      a.root = false ∧ b ∈ g.edges ∧ (∃ k, a.issuer = some k ∧ b.child = k) ∧
      (∃ k', b.issuer = some k' ∧ skInChain k' (pfx ++ (pre ++ [a]).map (·.cert)) = false) ∧
      canAddToChain b.cert b.root (pfx ++ (pre ++ [a]).map (·.cert)) = true := by
  intro pre
  induction pre with
  | nil =>
    intro pfx last rest hv a b post h
    obtain ⟨rfl, rfl⟩ := List.cons.inj h
    rw [ValidExt] at hv
    exact ⟨hv.1, hv.2.2.1, hv.2.2.2.1, hv.2.2.2.2.1, hv.2.2.2.2.2.1⟩
  | cons p pre ih =>
    intro pfx last rest hv a b post h
    obtain ⟨rfl, h'⟩ := List.cons.inj h
    cases rest with
    | nil => exact absurd h'.symm (List.append_ne_nil_of_right_ne_nil _ (List.cons_ne_nil _ _))
    | cons e rest =>
      rw [ValidExt] at hv
      have := ih (pfx ++ [last.cert]) e rest hv.2.2.2.2.2.2 a b post h'
      rwa [List.append_assoc] at this

/-- `Paths`, read edge by edge: a returned chain is the certificate list of a sequence of edges
    `es` that begins with the start edge, whose last edge is a root edge, and in which every
    consecutive pair `a, b` satisfies: `a` is not a root, `b ∈ g.edges`, `b` hangs under the issuer
    node of `a`, the issuer of `b` is not the (subject, key) of a certificate before `b`, and `b`
    passes `canAddToChain` against the certificates before it. -/
theorem paths_edges {V : Ver} {g : Graph} {c : Cert} {ch : List Cert} (h : Paths V g c ch) :
    ∃ es : List Edge, ch = es.map (·.cert) ∧ es.head? = some (startEdge V g c) ∧
      (∀ pre a, es = pre ++ [a] → a.root = true) ∧
      (∀ pre a b post, es = pre ++ a :: b :: post →
        a.root = false ∧ b ∈ g.edges ∧ (∃ k, a.issuer = some k ∧ b.child = k) ∧
        (∃ k', b.issuer = some k' ∧ skInChain k' ((pre ++ [a]).map (·.cert)) = false) ∧
        canAddToChain b.cert b.root ((pre ++ [a]).map (·.cert)) = true) := by
  obtain ⟨rest, hv, hch⟩ := h
  refine ⟨startEdge V g c :: rest, by rw [hch]; rfl, rfl, validExt_last_root rest _ _ hv, ?_⟩
  exact fun pre a b post hd => validExt_steps pre [] (startEdge V g c) rest hv a b post hd

/-- every certificate after the first is a CA certificate with valid basic constraints, except
    possibly the one on the final (root) edge -/
theorem canAdd_nonroot_isCA {c : Cert} {chain : List Cert}
    (h : canAddToChain c false chain = true) : c.bcValid = true ∧ c.isCA = true :=
  ((canAddToChain_iff c false chain).mp h).1 rfl

/-- What "never revisits a (subject, key) pair" means for this code.  The test in
    `continueWalking` is applied to the ISSUER node of the candidate edge against the chain
    WITHOUT the candidate certificate, so: two certificates of a returned chain that are at
    least two positions apart have different (subject, key) pairs.  (Adjacent certificates may
    share the pair: see the `exG2` example below.) -/
theorem paths_no_revisit {V : Ver} {g : Graph} {c : Cert} {ch : List Cert} (wf : WF V g)
    (h : Paths V g c ch) :
    ∀ pre x mid a y post, ch = pre ++ x :: (mid ++ a :: y :: post) → x.sk ≠ y.sk := by
  obtain ⟨es, hch, _, _, hstep⟩ := paths_edges h
  intro pre x mid a y post hdec
  -- the decomposition of `ch`, regrouped around `a`, moved to the edge list
  rw [hch, ← List.cons_append, ← List.append_assoc] at hdec
  obtain ⟨eP, e1, rfl, hP, h1⟩ := List.map_eq_append_iff.mp hdec
  obtain ⟨ea, e2, rfl, rfl, h2⟩ := List.map_eq_cons_iff.mp h1
  obtain ⟨ey, epost, rfl, rfl, _⟩ := List.map_eq_cons_iff.mp h2
  -- the edge of `x` is among `eP`, so `eP` has a last edge `a0`, the one before `ea`
  have hne : eP ≠ [] := fun h0 =>
    List.append_ne_nil_of_right_ne_nil _ (List.cons_ne_nil _ _) (hP.symm.trans (congrArg _ h0))
  obtain ⟨P, a0, rfl⟩ : ∃ P a0, eP = P ++ [a0] := ⟨_, _, (List.dropLast_concat_getLast hne).symm⟩
  obtain ⟨_, _, _, ⟨k', hk', hsk⟩, _⟩ := hstep P a0 ea (ey :: epost) (List.append_assoc ..)
  obtain ⟨_, hy, ⟨k, hk, hyc⟩, _, _⟩ := hstep (P ++ [a0]) ea ey epost rfl
  have := skInChain_false hsk (hP ▸ List.mem_append_right _ List.mem_cons_self)
  rwa [Option.some.inj (hk'.symm.trans hk), ← hyc, (wf.child ey hy).1] at this

/-! ### 6. no duplicates -/

theorem walk_nodup {V : Ver} {g : Graph} {c : Cert} (wf : WF V g) (adj : AdjNodup g) :
    (walkChains V g c).Nodup :=
  walk_nodup_gen wf adj _ _ _

/-! ### for every graph built by `AddCert` / `AddRoot` (no hypothesis on the graph left) -/

/-- on every graph reachable from the empty graph, `WalkChains` returns exactly the permitted paths,
    without duplicates and with at most 9 certificates each -/
theorem walk_reachable (V : Ver) (ops : List Op) {g : Graph} (hr : run V Graph.empty ops = .ok g) (c : Cert) :
    (∀ ch, ch ∈ walkChains V g c ↔ Paths V g c ch) ∧ (walkChains V g c).Nodup ∧
      ∀ ch ∈ walkChains V g c, ch.length ≤ maxIntermediateCount := by
  have hinv := inv_of_run hr
  exact ⟨fun ch => walk_iff_paths hinv.wf, walk_nodup hinv.wf hinv.adjNodup, fun ch h => walk_len_le_max h⟩

/-! ### 7. asynchronous delivery (`WalkChainsAsync` sends on a buffered channel, then closes it)

  Re-export of `ZV.C11.Async.async_delivers` (model and proof in `ZV.Proofs.C11Async`): for every
  channel capacity `cap ≥ 1`, every produced sequence and EVERY interleaving of producer and
  consumer steps, nothing is lost, duplicated or reordered; when no side can move the consumer
  has everything and the channel is closed; otherwise some side can move, and each move
  strictly decreases a measure (so at most `2 * items.length + 1` moves happen). -/

theorem async_delivers {α : Type} {cap : Nat} (hcap : 1 ≤ cap) (items : List α)
    (sched : List Async.Step) :
    let s := Async.run cap (Async.init items) sched
    s.received ++ s.buffer ++ s.remaining = items ∧
    (∃ t, items = s.received ++ t) ∧
    s.buffer.length ≤ cap ∧ (s.closed = true → s.remaining = []) ∧
    (Async.terminal cap s → s.received = items ∧ s.closed = true) ∧
    (¬ Async.terminal cap s → ∃ t, Async.enabled cap s t = true) ∧
    (∀ t, Async.enabled cap s t = true → Async.measure (Async.step cap s t) < Async.measure s) :=
  Async.async_delivers hcap items sched

theorem async_terminates {α : Type} {cap : Nat} (hcap : 1 ≤ cap) (items : List α)
    (sched : List Async.Step) (hen : Async.AllEnabled cap (Async.init items) sched) :
    sched.length ≤ 2 * items.length + 1 ∧
    (Async.terminal cap (Async.run cap (Async.init items) sched) →
      (Async.run cap (Async.init items) sched).received = items ∧
      (Async.run cap (Async.init items) sched).closed = true) :=
  Async.async_terminates hcap items sched hen

example : Async.AllEnabled 2 (Async.init [10, 20]) [.send, .send, .recv, .close, .recv] := by
  simp only [Async.AllEnabled]; decide
example : Async.terminal 1 (Async.run 1 (Async.init [10, 20]) [.send, .recv, .send, .recv, .close]) := by
  intro t; cases t <;> decide

/-! ### 8. histories on ONE graph: walks never change the graph

    `history` interleaves insertions and walks.  A walk event returns `walkChains` of the current graph and
    hands the SAME graph to the rest of the history (`history_walk_cons`); so the graph after a history is
    the graph built by its insertions alone (`history_final_graph`), repeating a walk returns the same
    chains (`history_walk_twice`), and every walk of a history that starts at the empty graph returns
    exactly the permitted paths of the graph built so far (`history_reachable`).  The Go harness checks
    the implementation against this with the canonical dump of the real graph after every event. -/

theorem history_walk_cons (V : Ver) (g : Graph) (c : Cert) (es : List Ev) :
    history V g (.walk c :: es) =
      match history V g es with
      | .ok rest => .ok ((g, some (walkChains V g c)) :: rest)
      | _ => .panic := by
  simp only [history, evStep]
  cases history V g es <;> rfl

theorem history_walk_twice (V : Ver) (g : Graph) (c : Cert) :
    history V g [.walk c, .walk c] =
      .ok [(g, some (walkChains V g c)), (g, some (walkChains V g c))] := by
  simp only [history, evStep]

/-- the insertions of a history -/
def insOps : List Ev → List Op
  | [] => []
  | .ins op :: es => op :: insOps es
  | .walk _ :: es => insOps es

/-- the graph of the last observation (`g` itself for the empty history) -/
def lastGraph : Graph → List (Graph × Option (List (List Cert))) → Graph
  | g, [] => g
  | _, x :: xs => lastGraph x.1 xs

/-- erasing the walks of a history does not change the graph it ends in -/
theorem history_final_graph (V : Ver) : ∀ (evs : List Ev) (g : Graph) (obs : List (Graph × Option (List (List Cert)))),
    history V g evs = .ok obs → run V g (insOps evs) = .ok (lastGraph g obs) := by
  intro evs g
  fun_induction history V g evs with
  | case1 => intro obs h; cases h; rfl
  | case2 g e es g1 o hev rest hr ih =>
    intro obs h
    cases h
    rcases evStep_ok hev with ⟨op, rfl, hs, rfl⟩ | ⟨c, rfl, rfl, rfl⟩
    · simp only [insOps, run, hs]
      exact ih rest hr
    · exact ih rest hr
  | case3 => exact nofun
  | case4 => exact nofun

/-- every observation of a history keeps the graph invariant, a walk observation carries the graph it
    was started on unchanged and exactly the permitted paths of that graph -/
theorem history_inv (V : Ver) : ∀ (evs : List Ev) (g : Graph) (obs : List (Graph × Option (List (List Cert)))),
    C10.Inv V g → history V g evs = .ok obs →
    ∀ x ∈ obs, C10.Inv V x.1 ∧ ∀ chs, x.2 = some chs →
      ∃ c, chs = walkChains V x.1 c ∧ (∀ ch, ch ∈ chs ↔ Paths V x.1 c ch) ∧ chs.Nodup := by
  intro evs g
  fun_induction history V g evs with
  | case1 => intro obs _ h; cases h; exact List.forall_mem_nil _
  | case2 g e es g1 o hev rest hr ih =>
    intro obs hinv h
    cases h
    rcases evStep_ok hev with ⟨op, rfl, hs, rfl⟩ | ⟨c, rfl, rfl, rfl⟩
    · obtain ⟨g', hs', hinv1⟩ := step_inv hinv op
      cases hs.symm.trans hs'
      exact List.forall_mem_cons.mpr ⟨⟨hinv1, fun _ hc => nomatch hc⟩, ih rest hinv1 hr⟩
    · refine List.forall_mem_cons.mpr ⟨⟨hinv, fun chs hc => ?_⟩, ih rest hinv hr⟩
      cases hc
      exact ⟨c, rfl, fun ch => walk_iff_paths hinv.wf, walk_nodup hinv.wf hinv.adjNodup⟩
  | case3 => exact nofun
  | case4 => exact nofun

/-- histories that start at the empty graph -/
theorem history_reachable (V : Ver) (evs : List Ev) (obs : List (Graph × Option (List (List Cert))))
    (h : history V Graph.empty evs = .ok obs) :
    ∀ x ∈ obs, ∀ chs, x.2 = some chs →
      ∃ c, chs = walkChains V x.1 c ∧ (∀ ch, ch ∈ chs ↔ Paths V x.1 c ch) ∧ chs.Nodup :=
  fun x hx => (history_inv V evs Graph.empty obs (inv_empty V) h x hx).2


/-! ### 9. T1: the constants of `verifier/walk.go` (generated from the source on every run)

    `ZV.C11.Gen.*` is rewritten by `go/extract/c11` from the working tree; editing the constant, the channel
    default or a guard of `continueWalking` / `canAddToChain` / `WalkChainsAsync` in zcrypto breaks a theorem here. -/

theorem maxIntermediateCount_source : maxIntermediateCount = Gen.maxIntermediateCount := by decide
theorem chanCap_source : chanCap 0 = Gen.defaultChannelSize ∧ Gen.channelSizeGuard = "opt.ChannelSize<=0" := ⟨rfl, rfl⟩
theorem walk_guards_source :
    Gen.walkGuards = ["lastEdge.root", "current==nil", "len(soFar)>=maxIntermediateCount", "targetNode!=nil",
      "soFar.SubjectAndKeyInChain(targetNode.SubjectAndKey)", "edge.root",
      "canAddToChain(edge.Certificate,certType,soFar)!=nil"] := rfl
theorem canAdd_guards_source :
    Gen.canAddGuards = ["certType==x509.CertificateTypeIntermediate&&(!c.BasicConstraintsValid||!c.IsCA)",
      "c.BasicConstraintsValid&&c.MaxPathLen>=0", "numIntermediates>c.MaxPathLen"] := rfl
theorem async_guards_source :
    Gen.asyncGuards = ["opt.ChannelSize<=0", "start==nil",
      "x509.CheckSignatureFromKey(identity.PublicKey,c.SignatureAlgorithm,c.RawTBSCertificate,c.Signature);err!=nil"] := rfl

/-- the length bound, over the generated constant -/
theorem walk_len_le_source {V : Ver} {g : Graph} {c : Cert} {ch : List Cert}
    (h : ch ∈ walkChains V g c) : ch.length ≤ Gen.maxIntermediateCount := by
  rw [← maxIntermediateCount_source]; exact walk_len_le_max h

/-! ### 10. `WalkChainsAsync` end to end: every channel size (also ≤ 0), every schedule

    `walkChainsAsync V g c n before` = (capacity of the channel, flag on `c`, chains sent).  The capacity is
    always ≥ 1 (the default replaces every `n ≤ 0`), so the delivery theorem applies for EVERY `n : Int`:
    under every interleaving the consumer holds a prefix of `walkChains V g c`, and when nothing can move it
    holds all of it and the channel is closed.  If the consumer abandons the channel the goroutine leaks
    (`async_abandoned`), unless everything fits into the buffer (`async_fits`). -/

theorem walkChainsAsync_delivers (V : Ver) (g : Graph) (c : Cert) (n : Int) (before : Bool)
    (sched : List Async.Step) :
    let o := walkChainsAsync V g c n before
    let s := Async.run o.cap (Async.init o.chains) sched
    1 ≤ o.cap ∧ (n ≤ 0 → o.cap = Gen.defaultChannelSize) ∧ (0 < n → (o.cap : Int) = n) ∧
    o.chains = walkChains V g c ∧
    (∃ t, walkChains V g c = s.received ++ t) ∧
    (Async.terminal o.cap s → s.received = walkChains V g c ∧ s.closed = true) ∧
    (¬ Async.terminal o.cap s → ∃ t, Async.enabled o.cap s t = true) := by
  intro o s
  obtain ⟨_, hpre, _, _, hterm, hlive, _⟩ := Async.async_delivers (chanCap_pos n) (walkChains V g c) sched
  exact ⟨chanCap_pos n, chanCap_default, chanCap_given, rfl, hpre, hterm, hlive⟩

/-- on every graph built by insertions: what is received at the end is exactly the permitted paths -/
theorem walkChainsAsync_reachable (V : Ver) (ops : List Op) {g : Graph} (hr : run V Graph.empty ops = .ok g)
    (c : Cert) (n : Int) (before : Bool) (sched : List Async.Step)
    (hterm : Async.terminal (chanCap n) (Async.run (chanCap n) (Async.init (walkChains V g c)) sched)) :
    (∀ ch, ch ∈ (Async.run (chanCap n) (Async.init (walkChains V g c)) sched).received ↔ Paths V g c ch) ∧
    (Async.run (chanCap n) (Async.init (walkChains V g c)) sched).received.Nodup ∧
    (Async.run (chanCap n) (Async.init (walkChains V g c)) sched).closed = true := by
  obtain ⟨_, _, _, _, _, ht, _⟩ := walkChainsAsync_delivers V g c n before sched
  obtain ⟨hrec, hcl⟩ := ht hterm
  obtain ⟨hiff, hnd, _⟩ := walk_reachable V ops hr c
  have hrec' : (Async.run (chanCap n) (Async.init (walkChains V g c)) sched).received = walkChains V g c := hrec
  rw [hrec']
  exact ⟨hiff, hnd, hcl⟩

/-- The abandoned channel.  If the consumer makes fewer than `items.length - cap` receive steps in total
    (it stopped ranging over the channel), the channel is NOT closed, whatever the producer does and however long
    it runs: the goroutine of `walkFromEdgeToRoot` stays blocked in a send (a goroutine leak, as the doc comment
    of `WalkChainsAsync` says: "If the channel does not get consumed, this function may block indefinitely"). -/
theorem async_abandoned {α : Type} {cap : Nat} (hcap : 1 ≤ cap) (items : List α) (sched : List Async.Step)
    (h : sched.count .recv + cap < items.length) :
    (Async.run cap (Async.init items) sched).closed = false ∧
    (Async.run cap (Async.init items) sched).remaining ≠ [] := by
  obtain ⟨hstream, -, hbuf, hclosed, -⟩ := async_delivers hcap items sched
  have hrec : _ ≤ sched.count .recv := Async.run_received_le cap sched (Async.init items)
  have hrem : (Async.run cap (Async.init items) sched).remaining ≠ [] := fun h0 => by
    -- otherwise all of `items` is received or buffered: at most `count recv + cap` of them
    rw [h0, List.append_nil] at hstream
    exact Nat.ne_of_lt (Nat.lt_of_le_of_lt (Nat.add_le_add hrec hbuf) h)
      (List.length_append.symm.trans (congrArg List.length hstream))
  exact ⟨Bool.eq_false_iff.mpr fun hc => hrem (hclosed hc), hrem⟩

theorem async_fits {α : Type} {cap : Nat} (items : List α) (h : items.length ≤ cap) :
    (Async.run cap (Async.init items) (List.replicate items.length Async.Step.send ++ [Async.Step.close])).closed = true ∧
    (Async.run cap (Async.init items) (List.replicate items.length Async.Step.send ++ [Async.Step.close])).buffer = items :=
  have := Async.run_sends_close cap items [] [] h
  ⟨congrArg Async.St.closed this, (congrArg Async.St.buffer this).trans (List.nil_append _)⟩

example : ([Async.Step.send, .recv, .send] : List Async.Step).count .recv + 1 < [10, 20, 30].length := by decide
example : [10, 20].length ≤ 4 := by decide
example : Async.terminal (chanCap (-1)) (Async.run (chanCap (-1)) (Async.init (walkChains exV exG exL))
    [.send, .close, .recv]) := by
  intro t; cases t <;> decide

/-! ### 11. `canAddToChain`, start-edge synthesis, the `ValidSignature` flag -/

theorem canAdd_iff (c : Cert) (isRoot : Bool) (chain : List Cert) :
    canAddToChain c isRoot chain = true ↔
      (isRoot = false → c.bcValid = true ∧ c.isCA = true) ∧
      (c.bcValid = true → 0 ≤ c.maxPathLen → (chain.length : Int) - 1 ≤ c.maxPathLen) :=
  canAddToChain_iff c isRoot chain

theorem canAdd_eq_reason (c : Cert) (isRoot : Bool) (chain : List Cert) :
    canAddToChain c isRoot chain = (canAddReason c isRoot chain.length == 0) := by
  rw [canAddToChain, canAddReason, apply_ite (· == 0), apply_ite (· == 0)]
  rfl

/-- the start edge: the stored edge if there is one; otherwise a fresh non-root edge whose issuer is the FIRST
    node with the issuer name that verifies the certificate (all earlier nodes fail), or none -/
theorem startEdge_spec (V : Ver) (g : Graph) (c : Cert) :
    (∀ e, findEdge g.edges c.fp = some e → startEdge V g c = e) ∧
    (findEdge g.edges c.fp = none →
      (startEdge V g c).cert = c ∧ (startEdge V g c).root = false ∧ (startEdge V g c).child = c.sk ∧
      (∀ k, (startEdge V g c).issuer = some k →
        k.1 = c.iss ∧ V k c.fp = true ∧ ∃ n pre post, n.key = k ∧ g.nodes = pre ++ n :: post ∧
          ∀ m ∈ pre, ¬ (m.key.1 = c.iss ∧ V m.key c.fp = true)) ∧
      ((startEdge V g c).issuer = none →
        (∀ m ∈ g.nodes, ¬ (m.key.1 = c.iss ∧ V m.key c.fp = true)) ∧ walkChains V g c = [])) := by
  refine ⟨fun e h => startEdge_in_graph h, fun he => ?_⟩
  rw [startEdge_synth he]
  cases hs : searchIssuer V g.nodes c.iss c.fp with
  | none =>
    exact ⟨rfl, rfl, rfl, fun _ hk => (nomatch hk), fun _ => ⟨searchIssuer_none hs, walkChains_no_issuer he hs⟩⟩
  | some n =>
    obtain ⟨h1, h2, pre, post, hd, hall⟩ := searchIssuer_spec hs
    exact ⟨rfl, rfl, rfl, fun k hk => Option.some.inj hk ▸ ⟨h1, h2, n, pre, post, rfl, hd, hall⟩,
      fun hk => nomatch hk⟩

/-- the synthesized start edge is a local value: the walk is a function of the graph that returns no graph
    (`history_walk_cons`), and `AddCert` of the same certificate would store exactly that edge when the
    (subject, key) node of the certificate already exists.
    FULL: for EVERY certificate not in the graph (also when its node is new and the fix-up loop runs),
    `walkChains V g1 c = walkChains V g c` where `addCert V g c = .ok g1`.  Not proved: it needs the walk to be
    insensitive to the fix-up of dangling edges under the new node (they are all blocked by the (subject,key)
    test because `c` heads the chain).  Compared on the real code as a T3 check at every `a<i>` token of a
    history whose certificate is not in the graph (tag `synth-vs-insert`). -/
theorem startEdge_is_addCert_edge_partial {V : Ver} {g g1 : Graph} {c : Cert}
    (hne : hasEdge g.edges c.fp = false) (hnode : hasNode g.nodes c.sk = true)
    (h : addCert V g c = .ok g1) :
    findEdge g1.edges c.fp = some (startEdge V g c) ∧ g1.edges = g.edges ++ [startEdge V g c] := by
  have hs := startEdge_synth (V := V) (findEdge_none_of_hasEdge hne)
  suffices he : g1.edges = g.edges ++ [startEdge V g c] by
    refine ⟨?_, he⟩
    rw [he, hs]
    exact findEdge_append_new (e := ⟨c, _, _, _⟩) hne
  rw [addCert_eq, hne, if_neg Bool.false_ne_true, hnode] at h
  simp only [Bool.not_true, Bool.false_eq_true, if_false] at h
  rw [hs]
  cases hs1 : stage1 V g.nodes g c with
  | ok g2 =>
    rw [hs1] at h
    cases h
    exact stage1_edges hs1
  | err =>
    rw [hs1] at h
    cases h
  | panic =>
    rw [hs1] at h
    cases h

theorem validSig_iff (V : Ver) (g : Graph) (c : Cert) (before : Bool) :
    (walkChainsAsync V g c 0 before).validSig = true ↔
      before = true ∨ (findEdge g.edges c.fp).isSome = true ∨
        ∃ n ∈ g.nodes, n.key.1 = c.iss ∧ V n.key c.fp = true := by
  show validSigAfter V g c before = true ↔ _
  unfold validSigAfter
  cases findEdge g.edges c.fp with
  | some e => exact iff_of_true rfl (Or.inr (Or.inl rfl))
  | none =>
    cases hs : searchIssuer V g.nodes c.iss c.fp with
    | some n =>
      have h := searchIssuer_spec hs
      exact iff_of_true rfl (Or.inr (Or.inr ⟨n, List.mem_of_find?_eq_some hs, h.1, h.2.1⟩))
    | none =>
      exact ⟨Or.inl, fun h => h.elim id fun h => h.elim nofun fun ⟨n, hn, h⟩ => absurd h (searchIssuer_none hs n hn)⟩

/-- hypotheses of `startEdge_is_addCert_edge_partial`: the cross certificate `exA2` for the key (5,5) whose node
    exists after `exA1` -/
def exG3 : Graph := { nodes := [{ key := (5, 5), children := [], parents := [] }], edges := [], missing := [] }
example : hasEdge exG3.edges exA2.fp = false ∧ hasNode exG3.nodes exA2.sk = true ∧
    (match addCert exV2 exG3 exA2 with | .ok _ => true | _ => false) = true := by decide +kernel
example : findEdge exG.edges exL.fp = none ∧ (startEdge exV exG exL).issuer = some (2, 2) := by decide +kernel
example : (walkChainsAsync exV exG exL 0 false).validSig = true ∧ (walkChainsAsync exV exG exL 7 false).cap = 7 := by decide +kernel

/-! ### the hypotheses are satisfiable, the path set is inhabited

  `exG` (defined in `ZV.Proofs.C11`) is the graph built by `AddRoot(exR); AddCert(exI)`:
  a self-signed root and one intermediate; `exL` is a leaf issued by the intermediate that is
  not in the graph (so its walk starts from a synthesized edge).
  `ZV.Proofs.C10` proves `WF` for EVERY graph reachable by `AddCert` / `AddRoot`; `exG_wf` is that
  theorem at `exG`, the witness that the hypothesis is not vacuous. -/

example : run exV Graph.empty [.root exR, .add exI] = .ok exG := exG_reachable
example : ∃ V g, WF V g ∧ AdjNodup g ∧ g.edges ≠ [] := ⟨exV, exG, exG_wf, exG_adj, by decide⟩

/-- what the walk computes on the example -/
example : walkChains exV exG exI = [[exI, exR]] := by decide +kernel
example : walkChains exV exG exL = [[exL, exI, exR]] := by decide +kernel
example : walkChains exV exG exR = [[exR]] := by decide +kernel

/-- `Paths` is inhabited by non-trivial chains: in-graph start … -/
example : Paths exV exG exI [exI, exR] := walk_sound exG_wf (by decide)

/-- … and a start certificate that is not in the graph (two steps) -/
example : Paths exV exG exL [exL, exI, exR] := walk_sound exG_wf (by decide)

/-- hypotheses of `walk_sound` / `walk_len_le_max` / `walk_head` -/
example : [exL, exI, exR] ∈ walkChains exV exG exL := by decide +kernel
/-- hypotheses of `walk_order_independent`: same edges, node list in another order -/
example : WF exV exG ∧ WF exV exG' ∧ exG.edges = exG'.edges ∧ exG.nodes ≠ exG'.nodes ∧
    startEdge exV exG exL = startEdge exV exG' exL :=
  ⟨exG_wf, exG'_wf, rfl, by decide, by decide⟩
/-- hypothesis of `canAdd_nonroot_isCA` -/
example : canAddToChain exI false [exL] = true := by decide +kernel
/-- the length lemmas' hypotheses -/
example : ValidExt exG [exI] exEI [exER] := by
  rw [ValidExt, ValidExt]
  exact ⟨by decide, by decide, by decide, ⟨(1, 1), by decide, by decide⟩,
    ⟨(1, 1), by decide, by decide⟩, by decide, by decide⟩

/-- The limit of the loop test (see `paths_no_revisit`): in `exG2` the key (5,5) has a self-issued
    non-root certificate `exA1` and a cross-certificate `exA2` from the root.  The walk from the
    leaf `exM` returns, besides `[exM, exA2, exR]`, the chain `[exM, exA1, exA2, exR]` in which
    two ADJACENT certificates have the same (subject, key). -/
example : walkChains exV2 exG2 exM = [[exM, exA1, exA2, exR], [exM, exA2, exR]] := by decide +kernel
example : run exV2 Graph.empty [.root exR, .add exA1, .add exA2] = .ok exG2 := exG2_reachable
example : exA1.sk = exA2.sk := by decide +kernel

/-- a history: insert, walk an out-of-graph leaf twice, walk an in-graph certificate; the graph stays `exG` -/
example : (history exV Graph.empty [.ins (.root exR), .ins (.add exI), .walk exL, .walk exL, .walk exI]).map
      (fun obs => obs.map (fun x => (x.1 == exG, x.2))) =
    .ok [(false, none), (true, none), (true, some [[exL, exI, exR]]), (true, some [[exL, exI, exR]]),
         (true, some [[exI, exR]])] := by decide +kernel

/-- the decomposition hypothesis of `paths_no_revisit` on a returned chain -/
example : [exL, exI, exR] = [] ++ exL :: ([] ++ exI :: exR :: []) ∧ exL.sk ≠ exR.sk := by decide +kernel

end ZV.C11
