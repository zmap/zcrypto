import ZV.Proofs.C16
/-!
  C16 — CT structures serialise canonically and verify soundly.

  Serialisers: `serializeSCT` / `marshalDS` model the Go functions; the Merkle tree leaf and the certificate
  chains have no serialiser in zcrypto, their encoders are the RFC 6962 formats `leafFmt.ser`, `chainFmt.ser`,
  `precertChainFmt.ser` (layout theorems `leaf_ser_x509` … pin them to bytes).  Decoders are the Go readers.
-/
namespace ZV.C16
open ZV.Wire

/-! ### round trips -/

/-- SerializeSCT output deserialises to the same SCT, consuming everything (reader semantics: any tail is left) -/
theorem sct_roundtrip (s : SCT) (bs tail : Bytes) (hid : s.logID.length = 32) (h : serializeSCT s = .ok bs) :
    deserializeSCT (bs ++ tail) = .ok (s, tail) := by
  rw [serializeSCT_eq s hid] at h
  exact lawful_sct.rt s bs tail h

theorem ds_roundtrip (ds : DS) (bs tail : Bytes) (h : marshalDS ds = .ok bs) :
    unmarshalDS (bs ++ tail) = .ok (ds, tail) := by
  rw [marshalDS_eq] at h
  exact lawful_ds.rt ds bs tail h

theorem leaf_roundtrip (l : Leaf) (bs : Bytes) (h : leafFmt.ser l = .ok bs) :
    readMerkleTreeLeaf bs = .ok (l, []) := lawful_leaf.roundtrip l bs h

theorem chain_roundtrip (certs : List Bytes) (bs : Bytes) (h : chainFmt.ser certs = .ok bs) :
    unmarshalX509Chain bs = .ok (certs, []) := lawful_chain.roundtrip certs bs h

theorem precert_chain_roundtrip (certs : List Bytes) (bs : Bytes) (h : precertChainFmt.ser certs = .ok bs) :
    unmarshalPrecertChain bs = .ok (certs, []) := lawful_precertChain.roundtrip certs bs h

/-! ### "fails with an error or round-trips" (D14: false before the fix for |signature| > 65535) -/

theorem ds_ser_err_or_roundtrip (ds : DS) :
    marshalDS ds = .err ∨ ∃ bs, marshalDS ds = .ok bs ∧ unmarshalDS bs = .ok (ds, []) := by
  rw [marshalDS_eq]; exact lawful_ds.err_or_roundtrip ds

theorem sct_ser_err_or_roundtrip (s : SCT) (hid : s.logID.length = 32) :
    serializeSCT s = .err ∨ ∃ bs, serializeSCT s = .ok bs ∧ deserializeSCT bs = .ok (s, []) := by
  rw [serializeSCT_eq s hid]; exact lawful_sct.err_or_roundtrip s

theorem leaf_ser_err_or_roundtrip (l : Leaf) :
    leafFmt.ser l = .err ∨ ∃ bs, leafFmt.ser l = .ok bs ∧ readMerkleTreeLeaf bs = .ok (l, []) :=
  lawful_leaf.err_or_roundtrip l

theorem chain_ser_err_or_roundtrip (certs : List Bytes) :
    chainFmt.ser certs = .err ∨ ∃ bs, chainFmt.ser certs = .ok bs ∧ unmarshalX509Chain bs = .ok (certs, []) :=
  lawful_chain.err_or_roundtrip certs

/-- the error is exactly the over-long signature -/
theorem ds_ser_err_iff (ds : DS) : marshalDS ds = .err ↔ ds.sig.length > 65535 := by
  simp only [marshalDS, marshalDSHere]
  by_cases h : ds.sig.length > 65535 <;> simp [h]

theorem sct_ser_err_iff (s : SCT) :
    serializeSCT s = .err ↔ s.version ≠ 0 ∨ s.ext.length > 65535 ∨ s.sig.sig.length > 65535 := by
  rcases serializeSCT_cases s with ⟨he, hc⟩ | ⟨ho, hc⟩
  · rw [he]
    exact ⟨fun _ => hc, fun _ => rfl⟩
  · rw [ho]
    exact ⟨nofun, fun h => absurd h hc⟩

/-! ### lengths and layouts -/

/-- the number of bytes SerializeSCT produces is what SerializedLength reports -/
theorem sct_len (s : SCT) (bs : Bytes) (hid : s.logID.length = 32) (h : serializeSCT s = .ok bs) :
    serializedLength s = .ok bs.length := by
  obtain ⟨hb, hv⟩ := serializeSCT_ok s bs h
  rw [hb, serializedLength, hv, sctBytes]
  simp only [beq_self_eq_true, if_true, List.length_append, List.length_cons, List.length_nil, beBytes_length, hid]
  congr 1
  omega

/-- byte layout of a serialised SCT (RFC 6962 §3.2) -/
theorem sct_ser_layout (s : SCT) (bs : Bytes) (h : serializeSCT s = .ok bs) :
    bs = [0] ++ s.logID ++ be8 s.timestamp.toNat ++ be2 s.ext.length ++ s.ext ++
          [s.sig.hash, s.sig.alg] ++ be2 s.sig.sig.length ++ s.sig.sig := by
  rw [(serializeSCT_ok s bs h).1, sctBytes, beBytes8, beBytes2, beBytes2]
  simp only [List.append_assoc]

/-- RFC 6962 §3.2: the digitally-signed input of an SCT over an X.509 entry -/
def rfcCertInput (ts : Nat) (cert ext : Bytes) : Bytes :=
  [0] ++ [0] ++ be8 ts ++ [0, 0] ++ be3 cert.length ++ cert ++ be2 ext.length ++ ext
/-- … over a precertificate entry -/
def rfcPrecertInput (ts : Nat) (ikh tbs ext : Bytes) : Bytes :=
  [0] ++ [0] ++ be8 ts ++ [0, 1] ++ ikh ++ be3 tbs.length ++ tbs ++ be2 ext.length ++ ext
/-- RFC 6962 §3.5: the digitally-signed input of an STH -/
def rfcSTHInput (ts size : Nat) (root : Bytes) : Bytes :=
  [0] ++ [1] ++ be8 ts ++ be8 size ++ root

/-- SerializeSCTSignatureInput succeeds exactly on V1 SCTs over timestamped X.509 / precert entries within the
    RFC's size bounds, and then yields the RFC 6962 concatenation byte for byte. -/
theorem sct_input_layout (version : UInt8) (ts : UInt64) (e : GoLeaf) (bs : Bytes) :
    sctSignatureInput version ts e = .ok bs ↔
      version = 0 ∧ e.leafType = 0 ∧ e.ext.length ≤ 65535 ∧
      ((e.entryType = 0 ∧ 1 ≤ e.x509.length ∧ e.x509.length ≤ 16777215 ∧ bs = rfcCertInput ts.toNat e.x509 e.ext) ∨
       (e.entryType = 1 ∧ 1 ≤ e.tbs.length ∧ e.tbs.length ≤ 16777215 ∧ bs = rfcPrecertInput ts.toNat e.ikh e.tbs e.ext)) := by
  -- both entry kinds: the two format checks, then `pre`, the entry and the extensions, each behind its length
  have body (c pre : Bytes) :
      (if !checkCert c then .err else if !checkExt e.ext then .err else
        match writeVarBytes 3 c, writeVarBytes 2 e.ext with
        | .ok x, .ok y => .ok (pre ++ x ++ y)
        | .panic, _ => .panic
        | _, .panic => .panic
        | _, _ => .err : Res Bytes) = .ok bs ↔
      e.ext.length ≤ 65535 ∧ 1 ≤ c.length ∧ c.length ≤ 16777215 ∧
        bs = pre ++ be3 c.length ++ c ++ be2 e.ext.length ++ e.ext := by
    have hc : checkCert c = true ↔ 1 ≤ c.length ∧ c.length ≤ 16777215 := by
      simp [checkCert, Nat.one_le_iff_ne_zero]
    have hx : checkExt e.ext = true ↔ e.ext.length ≤ 65535 := by simp [checkExt]
    by_cases h1 : checkCert c = true
    rotate_left
    · simp only [h1, Bool.not_false, if_true]
      exact ⟨nofun, fun h => absurd (hc.mpr ⟨h.2.1, h.2.2.1⟩) h1⟩
    by_cases h2 : checkExt e.ext = true
    rotate_left
    · simp only [h1, h2, Bool.not_true, Bool.false_eq_true, if_false, Bool.not_false, if_true]
      exact ⟨nofun, fun h => absurd (hx.mpr h.1) h2⟩
    have l3 : c.length < 256 ^ 3 := by have := hc.mp h1; omega
    have l2 : e.ext.length < 256 ^ 2 := by have := hx.mp h2; omega
    simp only [h1, h2, writeVarBytes, opaqueBE_ser, l3, l2, beBytes3, beBytes2, Bool.not_true, Bool.false_eq_true, if_false,
      if_true, List.append_assoc]
    exact ⟨fun h => ⟨hx.mp h2, (hc.mp h1).1, (hc.mp h1).2, (Res.ok.inj h).symm⟩, fun h => h.2.2.2 ▸ rfl⟩
  unfold sctSignatureInput
  by_cases hv : version = 0
  rotate_left
  · rw [if_pos (bne_iff_ne.mpr hv)]
    exact ⟨nofun, fun h => absurd h.1 hv⟩
  by_cases hl : e.leafType = 0
  rotate_left
  · rw [if_neg (by simp [hv]), if_pos (bne_iff_ne.mpr hl)]
    exact ⟨nofun, fun h => absurd h.2.1 hl⟩
  simp only [hv, hl, bne_self_eq_false, Bool.false_eq_true, if_false, true_and]
  by_cases h0 : e.entryType = 0
  · have h01 : ¬ (0 : UInt16) = 1 := by decide
    simp only [h0, beq_self_eq_true, if_true, true_and, h01, false_and, or_false, rfcCertInput, ← beBytes8]
    exact body e.x509 _
  by_cases h1 : e.entryType = 1
  · have h10 : ¬ (1 : UInt16) = 0 := by decide
    simp only [h1, beq_self_eq_true, if_true, true_and, h10, false_and, false_or, rfcPrecertInput, ← beBytes8]
    exact body e.tbs _
  rw [if_neg (mt beq_iff_eq.mp h0), if_neg (mt beq_iff_eq.mp h1)]
  exact ⟨nofun, fun h => h.2.elim (fun x => absurd x.1 h0) (fun x => absurd x.1 h1)⟩

theorem sth_input_layout (s : STH) (bs : Bytes) :
    sthSignatureInput s = .ok bs ↔ s.version = 0 ∧ bs = rfcSTHInput s.timestamp.toNat s.treeSize.toNat s.rootHash := by
  unfold sthSignatureInput rfcSTHInput
  by_cases hv : s.version = 0
  · simp [hv, beBytes8]
    exact ⟨fun h => h.symm, fun h => h.symm⟩
  · have : (s.version != 0) = true := by simpa using hv
    simp [this, hv]

/-- layout of the RFC leaf encoding that ReadMerkleTreeLeaf inverts (X.509 entry) -/
theorem leaf_ser_x509 (ts : UInt64) (cert ext : Bytes) (hc : cert.length < 16777216) (he : ext.length < 65536) :
    leafFmt.ser ⟨0, 0, ts, .x509 cert, ext⟩ =
      .ok ([0] ++ [0] ++ be8 ts.toNat ++ [0, 0] ++ be3 cert.length ++ cert ++ be2 ext.length ++ ext) := by
  rw [leaf_ser ts (.x509 cert) ext [0, 0] _ _ (show u16.ser 0 = _ by decide)
    ((show (entryBody 0).ser (.x509 cert) = (opaqueBE 3).ser cert from rfl).trans ((opaqueBE_ser 3 cert).trans (if_pos hc)))
    ((opaqueBE_ser 2 ext).trans (if_pos he))]
  simp only [List.append_assoc, beBytes3, beBytes2]

theorem leaf_ser_precert (ts : UInt64) (ikh tbs ext : Bytes) (hk : ikh.length = 32) (hc : tbs.length < 16777216)
    (he : ext.length < 65536) :
    leafFmt.ser ⟨0, 0, ts, .precert ikh tbs, ext⟩ =
      .ok ([0] ++ [0] ++ be8 ts.toNat ++ [0, 1] ++ ikh ++ be3 tbs.length ++ tbs ++ be2 ext.length ++ ext) := by
  rw [leaf_ser ts (.precert ikh tbs) ext [0, 1] _ _ (show u16.ser 1 = _ by decide)
    ((show (entryBody 1).ser (.precert ikh tbs) = (pair (bytesN 32) (opaqueBE 3)).ser (ikh, tbs) from rfl).trans
      (pair_ser (v := (ikh, tbs)) (if_pos hk) ((opaqueBE_ser 3 tbs).trans (if_pos hc))))
    ((opaqueBE_ser 2 ext).trans (if_pos he))]
  simp only [List.append_assoc, beBytes3, beBytes2]

/-! ### the verifier's decision logic (signature primitives abstract) -/

/-- "its signature by the log key covers that input": SHA-256 hash id, and the primitive of the key's own type
    applied to the SHA-256 digest of exactly that input -/
def sigValid (p : Prims) (data : Bytes) (sig : DS) : Prop :=
  sig.hash = 4 ∧
  ((sig.alg = 1 ∧ p.kind = .rsa ∧ p.rsaVerify (ZV.Hash.sha256 data) sig.sig = true) ∨
   (sig.alg = 3 ∧ p.kind = .ecdsa ∧ p.ecdsaVerify (ZV.Hash.sha256 data) sig.sig = true))

theorem u8_beq_lit (b c : UInt8) (n : Nat) (hc : c.toNat = n) : (b.toNat == n) = (b == c) := by
  subst hc
  by_cases e : b = c
  · subst e; simp
  · rw [beq_eq_false_iff_ne.mpr (mt UInt8.toNat_inj.mp e), beq_eq_false_iff_ne.mpr e]

/-- verifySignature with the generated enum values unfolded to the RFC 5246 numbers -/
theorem verifySignature_lit (p : Prims) (data : Bytes) (sig : DS) :
    verifySignature p data sig =
      if sig.hash != 4 then .err
      else if sig.alg == 1 then
        (match p.kind with
         | .rsa => if p.rsaVerify (ZV.Hash.sha256 data) sig.sig then .ok () else .err
         | .ecdsa => .err)
      else if sig.alg == 3 then
        (match p.kind with
         | .ecdsa => if p.ecdsaVerify (ZV.Hash.sha256 data) sig.sig then .ok () else .err
         | .rsa => .err)
      else .err := by
  unfold verifySignature
  have e4 := u8_beq_lit sig.hash 4 4 (by decide)
  have e1 := u8_beq_lit sig.alg 1 1 (by decide)
  have e3 := u8_beq_lit sig.alg 3 3 (by decide)
  simp only [bne, Gen.hashSHA256, Gen.sigRSA, Gen.sigECDSA, e4, e1, e3]
  rfl

theorem verify_iff (p : Prims) (data : Bytes) (sig : DS) :
    verifySignature p data sig = .ok () ↔ sigValid p data sig := by
  rw [verifySignature_lit]
  unfold sigValid
  by_cases hh : sig.hash = 4
  rotate_left
  · simp [hh]
  simp only [hh, bne_self_eq_false, Bool.false_eq_true, if_false, true_and]
  by_cases h1 : sig.alg = 1
  · have h13 : ¬ (1 : UInt8) = 3 := by decide
    simp only [h1, beq_self_eq_true, if_true, h13, false_and, or_false, true_and]
    cases p.kind <;> simp
  by_cases h3 : sig.alg = 3
  · have h31 : ¬ (3 : UInt8) = 1 := by decide
    simp only [h3, beq_self_eq_true, if_true, true_and, h31, false_and, false_or]
    cases p.kind <;> simp
  simp [h1, h3]

/-- VerifySCTSignature accepts exactly when the signature input is defined and the log key's signature covers it -/
theorem verify_sct_iff (p : Prims) (version : UInt8) (ts : UInt64) (sig : DS) (e : GoLeaf) :
    verifySCT p version ts sig e = .ok () ↔
      ∃ data, sctSignatureInput version ts e = .ok data ∧ sigValid p data sig := by
  unfold verifySCT
  cases h : sctSignatureInput version ts e with
  | ok data => simp [verify_iff]
  | err => simp
  | panic => simp

theorem verify_sth_iff (p : Prims) (s : STH) (sig : DS) :
    verifySTH p s sig = .ok () ↔ ∃ data, sthSignatureInput s = .ok data ∧ sigValid p data sig := by
  unfold verifySTH
  cases h : sthSignatureInput s with
  | ok data => simp [verify_iff]
  | err => simp
  | panic => simp

/-! ### NewSignatureVerifier: which log keys get a verifier -/

/-- RFC 6962 §2.1.4 key compliance as coded: RSA of at least `minRSABits` (2048, T1) bits, or ECDSA on the
    standard library's P-256 -/
def compliant : Key → Prop
  | .rsa (some bits) => Gen.minRSABits ≤ bits
  | .ecdsa (some c) => c = .p256
  | _ => False

/-- a key whose inspected fields can be read without a nil dereference -/
def wellFormed : Key → Prop
  | .rsa none | .rsaNil | .ecdsa none | .ecdsaNil => False
  | _ => True

def keyKind : Key → Option KeyKind
  | .rsa _ | .rsaNil => some .rsa
  | .ecdsa _ | .ecdsaNil => some .ecdsa
  | .other => none

/-- with the switch off (the only value the package can have: the variable is unexported and never assigned)
    a verifier is created exactly for compliant keys, and it holds a key of that kind -/
theorem nsv_ok_iff (k : Key) (kk : KeyKind) :
    newSignatureVerifier false k = .ok kk ↔ compliant k ∧ keyKind k = some kk := by
  cases k with
  | rsa b =>
    cases b with
    | none => simp [newSignatureVerifier, compliant]
    | some bits =>
      by_cases h : bits < Gen.minRSABits
      · simp [newSignatureVerifier, compliant, keyKind, h]; omega
      · simp [newSignatureVerifier, compliant, keyKind, h]
        intro _; omega
  | rsaNil => simp [newSignatureVerifier, compliant]
  | ecdsa c =>
    cases c with
    | none => simp [newSignatureVerifier, compliant]
    | some c => cases c <;> simp [newSignatureVerifier, compliant, keyKind]
  | ecdsaNil => simp [newSignatureVerifier, compliant]
  | other => simp [newSignatureVerifier, compliant]

/-- with the switch on, every well-formed RSA / ECDSA key is taken; other types never are -/
theorem nsv_allow_ok_iff (k : Key) (kk : KeyKind) :
    newSignatureVerifier true k = .ok kk ↔ wellFormed k ∧ keyKind k = some kk := by
  cases k with
  | rsa b =>
    cases b with
    | none => simp [newSignatureVerifier, wellFormed]
    | some bits => by_cases h : bits < Gen.minRSABits <;> simp [newSignatureVerifier, wellFormed, keyKind, h]
  | rsaNil => simp [newSignatureVerifier, wellFormed]
  | ecdsa c =>
    cases c with
    | none => simp [newSignatureVerifier, wellFormed]
    | some c => cases c <;> simp [newSignatureVerifier, wellFormed, keyKind]
  | ecdsaNil => simp [newSignatureVerifier, wellFormed]
  | other => simp [newSignatureVerifier, wellFormed, keyKind]

/-- NewSignatureVerifier panics exactly on the four nil shapes -/
theorem nsv_panic_iff (allow : Bool) (k : Key) : newSignatureVerifier allow k = .panic ↔ ¬ wellFormed k := by
  cases k with
  | rsa b =>
    cases b with
    | none => simp [newSignatureVerifier, wellFormed]
    | some bits => by_cases h : bits < Gen.minRSABits <;> cases allow <;> simp [newSignatureVerifier, wellFormed, h]
  | rsaNil => simp [newSignatureVerifier, wellFormed]
  | ecdsa c =>
    cases c with
    | none => simp [newSignatureVerifier, wellFormed]
    | some c => cases c <;> cases allow <;> simp [newSignatureVerifier, wellFormed]
  | ecdsaNil => simp [newSignatureVerifier, wellFormed]
  | other => simp [newSignatureVerifier, wellFormed]

/-- end to end: a verifier obtained for log key `k` accepts an SCT exactly when the key is compliant and the
    signature — made with the primitive of that key's kind over the SHA-256 digest of the RFC 6962 input — verifies -/
theorem nsv_verify_sct_iff (k : Key) (kk : KeyKind) (rv ev : Bytes → Bytes → Bool) (version : UInt8) (ts : UInt64)
    (sig : DS) (e : GoLeaf) (hk : newSignatureVerifier false k = .ok kk) :
    verifySCT ⟨kk, rv, ev⟩ version ts sig e = .ok () ↔
      compliant k ∧ ∃ data, sctSignatureInput version ts e = .ok data ∧ sigValid ⟨kk, rv, ev⟩ data sig := by
  rw [verify_sct_iff]
  have := (nsv_ok_iff k kk).mp hk
  exact ⟨fun h => ⟨this.1, h⟩, fun h => h.2⟩

/-! ### T1: the constants the models are written with are the ones in the tree -/

theorem gen_prefix_sizes :
    Gen.certificateLengthBytes = 3 ∧ Gen.preCertificateLengthBytes = 3 ∧ Gen.certificateChainLengthBytes = 3 ∧
    Gen.extensionsLengthBytes = 2 ∧ Gen.signatureLengthBytes = 2 ∧
    Gen.xSignatureLengthBytes = Gen.signatureLengthBytes ∧ Gen.xExtensionsLengthBytes = Gen.extensionsLengthBytes := by decide

/-- the size limits are exactly what the length prefixes can express, so a checked value always serialises -/
theorem gen_limits_fit :
    Gen.maxCertificateLength = 256 ^ Gen.certificateLengthBytes - 1 ∧
    Gen.maxExtensionsLength = 256 ^ Gen.extensionsLengthBytes - 1 := by decide

theorem gen_enums :
    Gen.v1 = 0 ∧ Gen.xV1 = 0 ∧ Gen.x509LogEntryType = 0 ∧ Gen.precertLogEntryType = 1 ∧ Gen.timestampedEntryLeafType = 0 ∧
    Gen.certificateTimestampSignatureType = 0 ∧ Gen.treeHashSignatureType = 1 ∧
    Gen.hashSHA256 = 4 ∧ Gen.sigRSA = 1 ∧ Gen.sigECDSA = 3 ∧ Gen.issuerKeyHashLength = 32 ∧ Gen.sha256HashLength = 32 ∧
    Gen.minRSABits = 2048 := by decide

/-- SerializedLength's literal part is the fixed part of the SCT format: version, log id, timestamp and the two
    length prefixes plus the two algorithm bytes -/
theorem gen_sct_fixed_len :
    Gen.sctFixedLen = 1 + Gen.sha256HashLength + 8 + Gen.extensionsLengthBytes + 2 + Gen.signatureLengthBytes ∧
    Gen.sctVarTerms = 2 ∧ ∀ s : SCT, s.version = 0 → serializedLength s = .ok (Gen.sctFixedLen + s.ext.length + s.sig.sig.length) := by
  refine ⟨by decide, by decide, ?_⟩
  intro s hv
  simp [serializedLength, hv, Gen.sctFixedLen]
  omega

/-- the two packages name the DigitallySigned algorithm ids identically -/
theorem gen_twin_names :
    Gen.hashNames.all (fun r => r.2.1 == r.2.2) = true ∧ Gen.sigNames.all (fun r => r.2.1 == r.2.2) = true := by decide +kernel

theorem checkCert_gen (c : Bytes) : checkCert c = (decide (1 ≤ c.length) && decide (c.length ≤ Gen.maxCertificateLength)) := by
  rw [Bool.eq_iff_iff]
  simp [checkCert, Nat.one_le_iff_ne_zero]
  exact fun _ => .rfl

/-! ### SerializeSCTHere / marshalDigitallySignedHere with a caller-supplied buffer -/

/-- a buffer changes nothing but the ErrNotEnoughBuffer case -/
theorem sct_here (s : SCT) (n : Nat) (hv : s.version = 0) :
    serializeSCTHere s (some n) =
      if n < 47 + s.ext.length + s.sig.sig.length then .err else serializeSCT s := by
  have hv' : ¬ s.version ≠ 0 := fun x => x hv
  rw [serializeSCT, serializeSCTHere_eq s none, serializeSCTHere_eq s (some n), Option.getD_some, Option.getD_none,
    if_neg (Nat.lt_irrefl _)]
  simp only [hv', if_false]

theorem ds_here (ds : DS) (n : Nat) :
    marshalDSHere ds (some n) = if ds.sig.length > 65535 then .err else if n < 4 + ds.sig.length then .err else marshalDS ds := by
  simp only [marshalDS, marshalDSHere]
  by_cases h : ds.sig.length > 65535
  · simp [h]
  · by_cases h2 : n < 4 + ds.sig.length
    · simp [h, h2]
    · simp [h, h2]

/-! ### the reader layer: any chunking of the same bytes gives the same result -/

/-- io.ReadFull on a failure-free reader holding at least n bytes returns the first n, whatever the chunking,
    and leaves exactly the rest -/
theorem readFull_chunking (s : Script) (n : Nat) (hs : noFail s = true) (hn : n ≤ (flat s).length) :
    (readFull s n []).1 = .ok ((flat s).take n) ∧ flat (readFull s n []).2 = (flat s).drop n := by
  have := readFull_spec s n [] hs
  rw [if_pos hn] at this
  exact ⟨by simpa using this.1, this.2.1⟩

/-- … and on fewer bytes fails with io.EOF when there are none and io.ErrUnexpectedEOF otherwise -/
theorem readFull_short_class (s : Script) (n : Nat) (hs : noFail s = true) (hn : (flat s).length < n) :
    (readFull s n []).1 = .fail (if (flat s).isEmpty then .eof else .uexp) := by
  have := readFull_spec s n [] hs
  rw [if_neg (Nat.not_le.mpr hn)] at this
  simpa using this

/-- readVarBytes on a bytes.Reader = the wire engine's opaque<…> parser; its only io.EOF is a missing or partial
    length field, a short body is the distinct "short read" error -/
theorem readVarBytesB_classes (k : Nat) (bs : Bytes) (hk : 0 < k) (hk8 : k ≤ 8) :
    erase (readVarBytesB k bs) = (opaqueBE k).par bs ∧
    (readVarBytesB k bs = .fail .eof ↔ bs.length < k) ∧
    (readVarBytesB k bs = .fail .short ↔ k ≤ bs.length ∧ bs.length - k < beVal (bs.take k)) := by
  rw [readVarBytesB, if_neg (by omega), if_neg (by omega)]
  simp only [opaqueBE, varBytes, uintBE]
  by_cases hl : bs.length < k
  · simp [hl, erase]
    omega
  · by_cases hb : bs.length - k < beVal (bs.take k)
    · simp [hl, hb, erase, List.length_drop]
      omega
    · simp [hl, hb, erase, List.length_drop]

/-- the error-class loop of readASN1CertList is the loop the chain decoder model uses -/
theorem certLoop_refines (bs : Bytes) : erase (certLoopB 3 bs) = parseEntries 3 bs :=
  certLoopB_erase 3 bs (by decide) (by decide)

/-! ### unknown entry types -/

/-- every LogEntryType other than x509_entry / precert_entry is rejected by the leaf reader, whatever follows -/
theorem leaf_unknown_type (ts : UInt64) (t : UInt16) (tail : Bytes) (h0 : t ≠ 0) (h1 : t ≠ 1) (bs : Bytes)
    (ht : u16.ser t = .ok bs) :
    readMerkleTreeLeaf ([0] ++ [0] ++ beBytes 8 ts.toNat ++ bs ++ tail) = .err := by
  have step {α β} {a : Fmt α} {b : Fmt β} {x pre rest} (ha : a.par (pre ++ rest) = .ok (x, rest))
      (hb : b.par rest = .err) : (pair a b).par (pre ++ rest) = .err := by
    simp only [pair, ha, hb]
  have g0 (rest : Bytes) : (Wire.guard (fun v => v == 0) u8).par ([0] ++ rest) = .ok (0, rest) :=
    (lawful_guard _ lawful_u8).rt 0 [0] rest (u8_ser 0)
  have hd : (pair (dep u16 Entry.tag entryBody) (opaqueBE 2)).par (bs ++ tail) = .err := by
    simp only [pair, dep, lawful_u16.rt t bs tail ht, entryBody, beq_eq_false_iff_ne.mpr h0, beq_eq_false_iff_ne.mpr h1,
      Bool.false_eq_true, if_false, fail]
  simp only [List.append_assoc, readMerkleTreeLeaf, leafFmt, iso]
  rw [step (g0 _) (step (g0 _) (step (lawful_u64.rt ts _ _ (u64_ser ts)) hd))]

/-! ### decoders are total -/

theorem decoders_no_panic (bs : Bytes) :
    deserializeSCT bs ≠ .panic ∧ unmarshalDS bs ≠ .panic ∧ readMerkleTreeLeaf bs ≠ .panic ∧
    unmarshalX509Chain bs ≠ .panic ∧ unmarshalPrecertChain bs ≠ .panic :=
  ⟨lawful_sct.parNoPanic bs, lawful_ds.parNoPanic bs, lawful_leaf.parNoPanic bs, lawful_chain.parNoPanic bs,
   lawful_precertChain.parNoPanic bs⟩

/-! ### non-vacuity -/
example : ∃ s : SCT, s.logID.length = 32 ∧ ∃ bs, serializeSCT s = .ok bs :=
  ⟨⟨0, List.replicate 32 7, 5, [1, 2], ⟨4, 3, [9]⟩⟩, by decide, _, rfl⟩
example : ∃ ds bs, marshalDS ds = .ok bs := ⟨⟨4, 3, [1, 2, 3]⟩, _, rfl⟩
example : ∃ l bs, leafFmt.ser l = .ok bs ∧ bs.length = 21 :=
  ⟨⟨0, 0, 5, .x509 [1, 2, 3], [7]⟩, _, leaf_ser_x509 5 [1, 2, 3] [7] (by decide) (by decide), by simp [be8, be3, be2]⟩
example : (chainFmt.ser [[1, 2], [], [3]]).isOk = true := by decide
example : (precertChainFmt.ser [[1, 2], [3]]).isOk = true := by decide
example : ∃ p data sig, sigValid p data sig := ⟨⟨.ecdsa, fun _ _ => false, fun _ _ => true⟩, [], ⟨4, 3, []⟩, by simp [sigValid]⟩
example : ∃ ds : DS, ds.sig.length > 65535 :=
  ⟨⟨4, 3, List.replicate 65536 0⟩, by show (List.replicate 65536 (0 : UInt8)).length > 65535; rw [List.length_replicate]; decide⟩

example : ∃ k kk, newSignatureVerifier false k = .ok kk := ⟨.ecdsa (some .p256), .ecdsa, by decide⟩
example : ∃ k, compliant k ∧ keyKind k = some .rsa := ⟨.rsa (some 2048), by simp [compliant, Gen.minRSABits], rfl⟩
example : ∃ k, wellFormed k ∧ ¬ compliant k := ⟨.ecdsa (some .copy), trivial, by simp [compliant]⟩
example : ∃ s : Script, noFail s = true ∧ 3 ≤ (flat s).length := ⟨[.data [1], .data [], .data [2, 3, 4]], by decide, by decide⟩
example : ∃ s : Script, noFail s = true ∧ (flat s).length < 3 := ⟨[.data [1]], by decide, by decide⟩
example : ∃ (t : UInt16) (bs : Bytes), t ≠ 0 ∧ t ≠ 1 ∧ u16.ser t = .ok bs := ⟨2, [0, 2], by decide, by decide, by decide⟩
example : ∃ s : SCT, s.version = 0 := ⟨⟨0, [], 0, [], ⟨4, 3, []⟩⟩, rfl⟩

end ZV.C16
