import ZV.Proofs.C05ListTop
import ZV.Model.C05Csr
/-!
  C05 — CSRs, CRLs and revocation lists round-trip.  First the revocation entries of v2 revocation lists: the
  reason-code synthesis rule and the CRL-number rule of `x509.CreateRevocationList`, on the model `ZV.Model.C05` whose
  entry encoder and parser are tied to the Go code by T2 (encoded bytes of every entry list and the parsed (serial, time,
  reason, #extensions) vectors), at arc level and then at byte level.  Then the list level `CreateRevocationList` →
  `ParseRevocationList` (`revlist_roundtrip`, model `ZV.Model.C05List`), the CSR rules and the CSR round trip on named
  shapes only (`Csr.csr_roundtrip_partial`, model `ZV.Model.C05Csr`), and the create side of the legacy
  `Certificate.CreateCRL` (`Legacy.*`).  Signatures are byte-string parameters throughout: nothing here verifies one.
-/
namespace ZV.C05
open ZV ZV.Der ZV.C06 ZV.C04

/-- the extra extensions other than reasonCode survive, in order. -/
theorem extras_preserved (e : Entry) :
    (synthExts e).filter (fun x => x.oid != reasonOID) = e.extras.filter (fun x => x.oid != reasonOID) := by
  unfold synthExts
  rw [List.filter_append, List.filter_filter]
  cases h : normReason e.reason <;> simp [reasonExt]

/-- **Reason-code synthesis**: whatever reasonCode extensions the caller supplied (any number, any position, any
    value), the entry carries exactly the synthesised one when `ReasonCode` is non-nil and non-zero, and none
    otherwise. -/
theorem only_synth_reason (e : Entry) :
    (synthExts e).filter (fun x => x.oid == reasonOID) =
      (match normReason e.reason with
       | none => []
       | some n => [reasonExt n]) := by
  unfold synthExts
  rw [List.filter_append]
  have h1 : (e.extras.filter (fun x => x.oid != reasonOID)).filter (fun x => x.oid == reasonOID) = [] := by
    rw [List.filter_filter, List.filter_eq_nil_iff]
    intro x _; simp
  rw [h1]
  cases h : normReason e.reason <;> simp [reasonExt]

/-- the synthesised extension sits after all surviving extras. -/
theorem synth_reason_last (e : Entry) (n : Int) (h : normReason e.reason = some n) :
    synthExts e = e.extras.filter (fun x => x.oid != reasonOID) ++ [reasonExt n] := by
  simp [synthExts, h]

/-- zero and nil are the same on the wire; everything else is kept. -/
theorem normReason_table (r : Option Int) :
    normReason r = none ↔ (r = none ∨ r = some 0) := by
  cases r with
  | none => simp [normReason]
  | some n => by_cases h : n = 0 <;> simp [normReason, h]

/-- **entry_roundtrip (reason code)**: scanning the extension list the encoder receives — with any decoder that
    reads back the synthesised value — yields the normalised `ReasonCode`, for EVERY list of extra extensions,
    including ones that carry user-supplied reasonCode extensions with contradicting values. -/
theorem entry_roundtrip_reason (e : Entry) (dec : EExt → Option Int)
    (hdec : ∀ n, normReason e.reason = some n → dec (reasonExt n) = some n) :
    scanReasonA (synthExts e) none dec = normReason e.reason := scanReasonA_synth e dec hdec

/-- the concrete decoder of the model reads back every synthesised reason code 0..127 (RFC 5280 uses 1..10). -/
theorem enum_roundtrip (n : Nat) (h : n < 128) : parseEnum (reasonExt (n : Int)).value = .ok (n : Int) := by
  apply parseEnum_reasonExt
  rw [encBigInt_length, Der0.intLen_small (by omega) (by omega)]
  decide

theorem enum_all :
    (List.range 128).all (fun n => decide (parseEnum (reasonExt (n : Int)).value = .ok (n : Int))) = true :=
  List.all_eq_true.mpr fun n hn => decide_eq_true (enum_roundtrip n (List.mem_range.mp hn))

/-- `entry_roundtrip_reason` with the model's decoder, for every reason code in 0..127 (nil allowed) and every list of
    extra extensions. -/
theorem entry_roundtrip_reason_model (e : Entry) (h : ∀ n, e.reason = some n → 0 ≤ n ∧ n < 128) :
    scanReasonA (synthExts e) none decM = normReason e.reason := by
  apply entry_roundtrip_reason
  intro n hn
  obtain ⟨h0, h1⟩ := h n (normReason_some hn)
  have := enum_roundtrip n.toNat (by omega)
  rw [Int.toNat_of_nonneg h0] at this
  simp only [decM, this]

/-- **revlist_entries_roundtrip (reason codes)**: entry by entry, for any list of entries with reason codes 0..127. -/
theorem revlist_entries_roundtrip_reason (es : List Entry)
    (h : ∀ e ∈ es, ∀ n, e.reason = some n → 0 ≤ n ∧ n < 128) :
    es.map (fun e => scanReasonA (synthExts e) none decM) = es.map (fun e => normReason e.reason) := by
  apply List.map_congr_left
  intro e he
  exact entry_roundtrip_reason_model e (h e he)

/-- **CRL number rule**: `CreateRevocationList` accepts a number iff its absolute value is below 2^159
    (at most 20 octets, and the top bit clear when there are exactly 20). -/
theorem crl_number_rule (n : Int) : crlNumberOk n = true ↔ n.natAbs < 2 ^ 159 := by
  by_cases h0 : n = 0
  · subst h0; decide
  · have hne : n.natAbs ≠ 0 := Int.natAbs_ne_zero.mpr h0
    -- in terms of `L = log2 |n|` the rule is `¬ (L / 8 + 1 > 20 ∨ (L / 8 + 1 = 20 ∧ 159 ≤ L))`
    have h159 : n.natAbs.log2 < 159 ↔ n.natAbs < 2 ^ 159 := Nat.log2_lt hne
    have hdiv : 128 ≤ n.natAbs / 2 ^ 152 ↔ ¬ n.natAbs.log2 < 159 := by
      rw [h159, Nat.le_div_iff_mul_le (Nat.two_pow_pos 152), Nat.not_lt]
    rw [← h159]
    simp only [crlNumberOk, absOctets, if_neg h0, Bool.not_eq_true', Bool.or_eq_false_iff, Bool.and_eq_false_iff,
      decide_eq_false_iff_not, beq_eq_false_iff_ne, ge_iff_le, hdiv]
    omega

example : ∀ n, (⟨5, [], some 4, [⟨reasonOID, false, [0x0a, 0x01, 0x09]⟩]⟩ : Entry).reason = some n → 0 ≤ n ∧ n < 128 := by
  intro n h; simp at h; omega

/-! ### byte level -/

/-- **DER INTEGER, any size**: `parseBigInt (encBigInt v) = v` for EVERY integer — `encBigInt` writes the minimal
    two's-complement octets (serial numbers, ENUMERATED reason codes, CRL numbers). -/
theorem bigint_roundtrip (v : Int) : parseBigInt (encBigInt v) = .ok v := parseBigInt_encBigInt v

/-- the ENUMERATED decoder reads back EVERY synthesised reason code (not only 0..127); the only side condition is
    that the contents fit a DER length. -/
theorem enum_roundtrip_all (n : Int) (hl : (encBigInt n).length < 2147483648) :
    parseEnum (reasonExt n).value = .ok n := parseEnum_reasonExt n hl

example : (encBigInt (-129)).length < 2147483648 ∧ encBigInt (-129) = [0xff, 0x7f] := by decide

/-- `entry_roundtrip_reason_model` without the 0..127 restriction. -/
theorem entry_roundtrip_reason_any (e : Entry) (h : ∀ n, e.reason = some n → (encBigInt n).length < 2147483648) :
    scanReasonA (synthExts e) none decM = normReason e.reason := by
  apply entry_roundtrip_reason
  intro n hn
  simp only [decM, parseEnum_reasonExt n (h n (normReason_some hn))]

example : ∀ n, (⟨5, [], some (-70000), []⟩ : Entry).reason = some n → (encBigInt n).length < 2147483648 := by
  intro n h; simp at h; subst h; decide

/-- revocation time: the UTCTime / GeneralizedTime element the encoder writes is read back to the same 14 digits,
    for every well-formed time (the century of a UTCTime is restored from the two-digit year). -/
theorem time_roundtrip (t : Bytes) (h : validTime t = true) :
    ∃ tag body, encTime t = writeTLV tag body ∧ timeDigits (elemOf tag body) = .ok t := by
  obtain ⟨tag, body, h1, _, h2⟩ := encTime_decode t h
  exact ⟨tag, body, h1, h2⟩

/-- "20491231235959" (UTCTime) and "20500101000000" (GeneralizedTime) -/
example : validTime [0x32, 0x30, 0x34, 0x39, 0x31, 0x32, 0x33, 0x31, 0x32, 0x33, 0x35, 0x39, 0x35, 0x39] = true ∧
    validTime [0x32, 0x30, 0x35, 0x30, 0x30, 0x31, 0x30, 0x31, 0x30, 0x30, 0x30, 0x30, 0x30, 0x30] = true := by
  decide

/-- entry extension codec: `parseExtension` on the SEQUENCE `encExtension` writes returns (OID contents, critical,
    value), for every extension whose OID is in the reader's domain. -/
theorem extension_roundtrip (x : EExt) (b : Bytes) (h : encExtension x = some b) (hok : oidOk x.oid = true)
    (hlen : b.length < 2147483648) :
    b = writeTLV 0x30 (extBody x) ∧ encOID x.oid = some (oidC x) ∧
      parseEExt (elemOf 0x30 (extBody x)) = .ok (oidC x, x.critical, x.value) := by
  obtain ⟨h1, h2⟩ := encExtension_eq h
  subst h2
  exact ⟨rfl, h1, parseEExt_build x (validOID_encOID h1 hok) (Nat.lt_of_le_of_lt (length_le_writeTLV _ _) hlen)⟩

example : encExtension ⟨[2, 5, 29, 24], true, [0x18, 0]⟩ = some [0x30, 0x0c, 6, 3, 0x55, 0x1d, 0x18, 1, 1, 0xff, 4, 2, 0x18, 0]
    ∧ oidOk [2, 5, 29, 24] = true := by decide

/-- the arc-level reason theorems lifted to bytes: the parser's scan over (OID contents, critical, value) triples,
    comparing content octets with those of 2.5.29.21, computes the arc-level last-wins scan. -/
theorem reason_scan_bytes (l : List EExt) (acc : Option Int)
    (h1 : ∀ x ∈ l, encOID x.oid = some (oidC x) ∧ (x.oid = reasonOID ∨ oidOk x.oid = true))
    (h2 : ∀ x ∈ l, x.oid = reasonOID → ∃ n, parseEnum x.value = .ok n) :
    scanReason roB (l.map triple) acc = .ok (scanReasonA l acc decM) ∧ encOID reasonOID = some roB :=
  ⟨scanReason_scan.lift l acc h1 h2, encOID_reason⟩

/-- **entry_roundtrip (bytes)**: `parseEntry (encEntry e) = e` — serial ANY integer, the 14-digit time, the reason
    normalised (nil and 0 → nil, any other integer kept, user-supplied reasonCode extensions ignored), and the number
    of extensions that of the synthesised list — for every entry of the domain `Entry.ok` (well-formed time; OIDs of
    the non-reasonCode extras within the reader's MaxInt32 limit) whose encoding is shorter than 2^31 octets. -/
theorem entry_roundtrip_bytes (e : Entry) (bs : Bytes) (h : encEntry e = some bs) (hok : e.ok = true)
    (hlen : bs.length < 2147483648) :
    ∃ el, readElem bs = .ok (el, []) ∧ el.full = bs ∧ parseEntry el = .ok e.parsed := by
  obtain ⟨hb, henc⟩ := encEntry_eq h
  subst hb
  have h1 := Nat.lt_of_le_of_lt (length_le_writeTLV _ _) hlen
  refine ⟨elemOf 0x30 (entryBody e), ?_, rfl, parseEntry_build e henc hok h1⟩
  have := readElem_writeTLV 0x30 (entryBody e) [] (by decide) h1
  rwa [List.append_nil] at this

/-- **revlist_entries_roundtrip (bytes)**: `parseEntries (encEntries es) = es.map parsed`. -/
theorem revlist_entries_roundtrip_bytes (es : List Entry) (bs : Bytes) (h : encEntries es = some bs)
    (hok : ∀ e ∈ es, e.ok = true) (hlen : ∀ e ∈ es, ∀ b, encEntry e = some b → b.length < 2147483648) :
    parseEntries bs = .ok (es.map Entry.parsed) := by
  unfold encEntries at h
  cases hm : es.mapM encEntry with
  | none => simp [hm] at h
  | some bss =>
    simp only [hm, Option.map_some, Option.some.injEq] at h
    obtain ⟨e1, p1⟩ := mapM_some_map encEntry (fun e => writeTLV 0x30 (entryBody e))
      (fun e => encEntry e = some (writeTLV 0x30 (entryBody e)) ∧ ∀ x ∈ synthExts e, encOID x.oid = some (oidC x))
      (fun a b hab => ⟨(encEntry_eq hab).1, by rw [← (encEntry_eq hab).1]; exact hab, (encEntry_eq hab).2⟩) _ _ hm
    subst e1; subst h
    have hbl : ∀ e ∈ es, (entryBody e).length < 2147483648 := fun e he =>
      Nat.lt_of_le_of_lt (length_le_writeTLV _ _) (hlen e he _ (p1 e he).1)
    unfold parseEntries
    rw [readElems_writeTLVs (fun _ => 0x30) entryBody es (fun e he => ⟨by decide, hbl e he⟩)]
    simp only [Res.bind, all_isSeqHdr, Bool.not_true, Bool.false_eq_true, if_false]
    exact mapRes_map parseEntry (fun e => elemOf 0x30 (entryBody e)) Entry.parsed es
      (fun e he => parseEntry_build e (p1 e he).2 (hok e he) (hbl e he))

/-- an entry with a negative multi-octet serial, a GeneralizedTime date, a contradicting user-supplied reasonCode
    extension, a critical extra extension and a large reason code -/
def sampleEntry : Entry :=
  ⟨-123456789012345678901234567890, [0x32, 0x30, 0x35, 0x30, 0x30, 0x31, 0x30, 0x31, 0x30, 0x30, 0x30, 0x30, 0x30, 0x30], some 300,
    [⟨reasonOID, false, [0x0a, 0x01, 0x09]⟩, ⟨[2, 5, 29, 24], true, [0x18, 0]⟩]⟩

example : sampleEntry.ok = true ∧ (encEntry sampleEntry).isSome = true ∧
    (match encEntry sampleEntry with | some b => decide (b.length < 2147483648) | none => false) = true ∧
    sampleEntry.parsed = ⟨-123456789012345678901234567890,
      [0x32, 0x30, 0x35, 0x30, 0x30, 0x31, 0x30, 0x31, 0x30, 0x30, 0x30, 0x30, 0x30, 0x30], some 300, 2⟩ := by
  decide

/-- the cRLNumber value of an accepted number parses back to the number. -/
theorem crl_number_roundtrip (n : Int) (h : crlNumberOk n = true) :
    crlNumberExt n = .ok (writeTLV 0x02 (encBigInt n)) ∧
    (someElem (field (.univ 2 false) false (writeTLV 0x02 (encBigInt n)))).bind (fun e => parseBigInt e.1.body) = .ok n := by
  have hn := (crl_number_rule n).mp h
  have hl : (encBigInt n).length ≤ 20 := encBigInt_length n ▸ Der0.intLen_le 19 n (by omega) (by omega)
  refine ⟨by simp [crlNumberExt, h, tlv], ?_⟩
  rw [field_tlv_end _ _ _ _ (by decide) (by omega) (by simp [Want.ok, hdrOf])]
  simp [someElem, Res.bind, parseBigInt_encBigInt]

example : crlNumberOk (2 ^ 159 - 1) = true := by decide

/-! ### list level: `CreateRevocationList` → `ParseRevocationList` (model `ZV.Model.C05List`, T2 ops `c05 rlist`, `c05 rlp`) -/

/-- **UTCTime / GeneralizedTime choice**: a time is written as UTCTime exactly for the years 1950..2049 and as
    GeneralizedTime for the other years 0..9999; a year outside 0..9999 is refused. -/
theorem time_choice (t : GoTime) (tb : Bytes) (h : encTimeG t = .ok tb) :
    (1950 ≤ t.year ∧ t.year < 2050 ∧ tb = writeTLV 0x17 (Time.utcText t)) ∨
    ((t.year < 1950 ∨ 2050 ≤ t.year) ∧ 0 ≤ t.year ∧ t.year ≤ 9999 ∧ tb = writeTLV 0x18 (Time.genText t)) :=
  encTimeG_eq t tb h

/-- **update / revocation time round trip**: the element written for a time (forced to UTC) is read back by the
    cryptobyte `parseTime` (time.Parse + re-serialisation test, century restored for UTCTime) as the same second. -/
theorem list_time_roundtrip (t : GoTime) (tb rest : Bytes) (h : encTimeG (utc t) = .ok tb) :
    parseTimeCB (tb ++ rest) = .ok (secOf t, rest) := (parseTimeCB_encTimeG t tb rest h).1

/-- 2049-12-31T23:59:59Z (UTCTime), 2050-01-01T00:00:00Z (GeneralizedTime), year 10000 (refused) -/
example : (encTimeG ⟨2524607999, 0, 0⟩).isOk = true ∧ (encTimeG ⟨2524608000, 0, 0⟩).isOk = true ∧
    encTimeG ⟨253402300800, 0, 0⟩ = .err := by decide

/-- **entry round trip with the real time parser**: `parseEntryT (encEntryT e) = e` (serial, second, normalised
    reason, the synthesised extension list itself) for every entry of the decidable domain `EntryT.okT`. -/
theorem entryT_roundtrip (e : EntryT) (bs rest : Bytes) (h : encEntryT e = .ok bs) (hok : e.okT = true)
    (hlen : bs.length < 2147483648) :
    parseEntryT (bs ++ rest) = .ok (⟨bs, e.serial, secOf e.time, normReason e.reason, e.synth.map triple⟩, rest) := by
  obtain ⟨rfl, h1, h3⟩ := encEntryT_eq h
  exact parseEntryT_build e (tbOf e) rest h1 h3 hok (Nat.lt_of_le_of_lt (length_le_writeTLV _ _) hlen)

/-- the guards of `CreateRevocationList`: a list is created only for an issuer with the crlSign bit and a subject
    key id, `NextUpdate` not before `ThisUpdate`, and a non-nil number below 2^159 in absolute value. -/
theorem create_guards (sigAI : Bytes) (iss : IssuerC) (t : RLTmpl) (tbs : Bytes) (h : createTBS sigAI iss t = .ok tbs) :
    iss.crlSign = true ∧ iss.ski.isEmpty = false ∧ before t.nextUpdate t.thisUpdate = false ∧
      ∃ n, t.number = some n ∧ n.natAbs < 2 ^ 159 := by
  obtain ⟨⟨c1, c2, c3⟩, n, _, _, hn, hok, _⟩ := createTBS_eq h
  exact ⟨c1, c2, c3, n, hn, (crl_number_rule n).mp hok⟩

/-- **revlist_roundtrip**: for every template, issuer, signature AlgorithmIdentifier and signature for which the model
    of `CreateRevocationList` succeeds — inside the decidable domain `RLDom` (entries in `EntryT.okT`; list-level extras
    that do not repeat authorityKeyIdentifier / cRLNumber), with an AlgorithmIdentifier `parseAI` accepts and an issuer
    subject `parseName` accepts — the model of `ParseRevocationList` accepts the DER and reports: the TBS bytes, the
    signature bits, the issuer's subject bytes verbatim, `ThisUpdate` and `NextUpdate` to the second in UTC (`NextUpdate`
    absent iff it was the zero time), every entry in order (raw bytes, serial, revocation second, normalised reason, its
    extension list), the template's `Number`, the AKI built from the issuer's subject key id, and the list-level
    extensions AKI, number, extras in order. -/
theorem revlist_roundtrip (sigAI : Bytes) (iss : IssuerC) (t : RLTmpl) (sig der : Bytes)
    (h : createRL sigAI iss t sig = .ok der) (hai : aiOk sigAI = true) (hiss : issuerOk iss.subject = true)
    (hdom : RLDom t = true) (hlen : der.length < 2147483648) :
    ∃ n tbs alg, t.number = some n ∧ createTBS sigAI iss t = .ok tbs ∧
      parseRL der = .ok ⟨tbs, alg, sig, iss.subject, secOf t.thisUpdate, t.parsedNext, t.parsedEntries, some n,
        some (buildAKI iss.ski), (listExts iss n t).map triple⟩ := by
  unfold createRL at h
  obtain ⟨tbs, hc, h⟩ := Res.bind_ok.mp h
  rw [Res.ok.injEq] at h
  obtain ⟨_, n, tu, nu, hn, _, hes, henc, htu, hnu, htbs⟩ := createTBS_eq hc
  -- the AlgorithmIdentifier and the issuer name are single accepted elements
  obtain ⟨aiE, alg, hra, hpa⟩ := aiOk_elim hai
  obtain ⟨isE, hri, hname⟩ := issuerOk_elim hiss
  refine ⟨n, tbs, alg, hn, hc, ?_⟩
  subst h
  subst htbs
  unfold wrapSigned tlv at hlen ⊢
  -- each element read is a segment of `der`, so its contents are shorter than 2^31 as well
  have b1 := Nat.lt_of_le_of_lt (length_le_writeTLV _ _) hlen
  have b2 := Nat.lt_of_le_of_lt (Nat.le_trans (length_le_writeTLV _ _) (List.sublist_append_left _ _).length_le) b1
  have b3 := Nat.lt_of_le_of_lt (Nat.le_trans (length_le_writeTLV 0x03 (0 :: sig))
    (List.sublist_append_of_sublist_right <| List.sublist_append_right _ _).length_le) b1
  have b4 := Nat.lt_of_le_of_lt (List.sublist_append_of_sublist_right <| List.sublist_append_of_sublist_right <|
    List.sublist_append_of_sublist_right <| List.sublist_append_of_sublist_right <| List.sublist_append_right nu _).length_le b2
  unfold parseRL
  rw [cbRead_tlv_end _ _ (by decide) b1]
  simp only [Res.ok_bind, elemOf_body]
  rw [cbRead_tlv _ _ _ (by decide) b2]
  simp only [Res.ok_bind, elemOf_body, elemOf_full, peek_tlv, beq_self_eq_true, Bool.not_true, Bool.false_eq_true, if_false]
  rw [cbRead_tlv _ _ _ (by decide) (by simp)]
  have hv : parseInt64 [1] = .ok 1 := by decide
  simp only [Res.ok_bind, elemOf_body, hv, ne_eq, not_true_eq_false, if_false]
  rw [(cbRead_one hra _).1, (cbRead_one hra _).1]
  simp only [Res.ok_bind, not_true_eq_false, if_false, hpa]
  rw [cbRead_tlv_end _ _ (by decide) b3]
  simp only [Res.ok_bind, elemOf_body, parseBitString_zero]
  rw [(cbRead_one hri _).1]
  simp only [Res.ok_bind, (cbRead_one hri []).2, hname, Bool.not_true, Bool.false_eq_true, if_false]
  rw [parseRLTail_build iss n t tu nu hdom hes henc htu hnu b4]
  simp [Res.ok_bind, rightAlign]

/-- Ed25519 AlgorithmIdentifier -/
def sampleAI : Bytes := [0x30, 0x05, 0x06, 0x03, 0x2b, 0x65, 0x70]
/-- issuer "CN=zv CA ed25519, O=ZV" -/
def sampleIssuer : IssuerC :=
  ⟨[0x30, 0x25, 0x31, 0x16, 0x30, 0x14, 0x06, 0x03, 0x55, 0x04, 0x03, 0x13, 0x0d, 0x7a, 0x76, 0x20, 0x43, 0x41, 0x20, 0x65, 0x64, 0x32,
    0x35, 0x35, 0x31, 0x39, 0x31, 0x0b, 0x30, 0x09, 0x06, 0x03, 0x55, 0x04, 0x0a, 0x13, 0x02, 0x5a, 0x56], [1, 2, 3, 4, 7], true⟩
/-- thisUpdate 2049-12-31T23:59:59Z, nextUpdate 2050-01-01T00:00:00Z, number 2^159-1, one entry (negative serial,
    1950-01-01T00:00:00Z, reason 1, a critical extra and a user-supplied reasonCode extension), one list-level extra -/
def sampleTmpl : RLTmpl :=
  ⟨⟨2524607999, 0, 5⟩, ⟨2524608000, 0, 0⟩, some (2 ^ 159 - 1),
   [⟨-300, ⟨-631152000, 0, 0⟩, some 1, [⟨[2, 5, 29, 24], true, [0x18, 0]⟩, ⟨reasonOID, false, [0x0a, 0x01, 0x09]⟩]⟩],
   [⟨[1, 3, 9999, 7], false, [1]⟩]⟩

set_option maxRecDepth 100000 in
example : (createRL sampleAI sampleIssuer sampleTmpl [0xab, 0xcd]).isOk = true ∧ aiOk sampleAI = true ∧
    issuerOk sampleIssuer.subject = true ∧ RLDom sampleTmpl = true ∧
    (match createRL sampleAI sampleIssuer sampleTmpl [0xab, 0xcd] with | .ok der => decide (der.length < 2147483648) | _ => false) = true ∧
    sampleTmpl.entries.all EntryT.okT = true := by decide +kernel


/-! ### CSR: `CreateCertificateRequest` → `ParseCertificateRequest` (model `ZV.Model.C05Csr`, T2 ops `c05 csrm`, `c05 csrp`, `c05 xsch`) -/
namespace Csr
open ZV.C18

/-- the request carries the caller's ExtraExtensions, in order, after at most one generated extension -/
theorem csr_extras_kept (t : CsrTmpl) : ∃ pre, csrExts t = pre ++ t.extras ∧ pre.length ≤ 1 := by
  unfold csrExts
  split
  · exact ⟨_, rfl, by simp⟩
  · exact ⟨[], rfl, by simp⟩

/-- **SAN generation rule**: a subjectAltName extension (non-critical, value `marshalSANs`) is generated, in front, iff the
    template has a DNS name, e-mail address or IP address AND ExtraExtensions has no subjectAltName of its own — a
    caller-supplied subjectAltName overrides the name fields. -/
theorem csr_san_rule (t : CsrTmpl) :
    csrExts t = (if hasSANs t = true ∧ t.extras.all (fun x => x.oid != oidSAN) = true
                 then [⟨oidSAN, false, buildSAN t.dns t.email t.ips⟩] else []) ++ t.extras := by
  unfold csrExts
  have h : inExtra oidSAN (t.extras.map fun x => (⟨x.oid, x.critical, x.value⟩ : C04.Ext)) =
      !(t.extras.all (fun x => x.oid != oidSAN)) := by
    unfold inExtra
    induction t.extras with
    | nil => rfl
    | cons x xs ih => simp only [List.map_cons, List.any_cons, List.all_cons, ih, bne, Bool.not_and, Bool.not_not]
  rw [h]
  by_cases a : hasSANs t = true <;> by_cases b : t.extras.all (fun x => x.oid != oidSAN) = true <;> simp [a, b]

/-- no SAN fields and no ExtraExtensions: the attributes field is present and empty -/
theorem csr_no_extensions (spki : Bytes) (t : CsrTmpl) (h1 : hasSANs t = false) (h2 : t.extras = []) :
    createCSRInfo spki t = .ok (tlv 0x30 ([2, 1, 0] ++ (t.subject ++ (spki ++ [0xA0, 0])))) := by
  simp [createCSRInfo, csrExts, h1, h2, encAttrs, tlv, writeTLV, encLen]

/-- the Critical flag never reaches the encoding: two templates that differ only in Critical flags give the same request -/
theorem csr_critical_not_encoded (spki : Bytes) (t : CsrTmpl) :
    createCSRInfo spki { t with extras := t.extras.map fun x => { x with critical := false } } = createCSRInfo spki t := by
  have hm : ∀ l : List EExt, (l.map fun x => { x with critical := false }).mapM encAtv = l.mapM encAtv := by
    intro l
    induction l with
    | nil => rfl
    | cons x xs ih => simp only [List.map_cons, List.mapM_cons, ih]; rfl
  have hx : csrExts { t with extras := t.extras.map fun x => { x with critical := false } } =
      (csrExts t).map fun x => { x with critical := false } := by
    have hall : (t.extras.map fun x => ({ x with critical := false } : EExt)).all (fun x => x.oid != oidSAN) =
        t.extras.all (fun x => x.oid != oidSAN) := by simp [List.all_map, Function.comp_def]
    rw [csr_san_rule, csr_san_rule, List.map_append]
    show (if hasSANs t = true ∧ _ = true then _ else _) ++ _ = _
    rw [hall]
    split <;> rfl
  unfold createCSRInfo encAttrs
  rw [hx, hm]
  simp

/-- issuer-style subject "CN=zv CA ed25519, O=ZV", an Ed25519 key -/
def sampleSPKI : Bytes :=
  [0x30, 0x2a, 0x30, 0x05, 0x06, 0x03, 0x2b, 0x65, 0x70, 0x03, 0x21, 0x00, 1, 2, 3, 4, 5, 6, 7, 8, 9, 10, 11, 12, 13, 14, 15, 16,
   17, 18, 19, 20, 21, 22, 23, 24, 25, 26, 27, 28, 29, 30, 31, 32]
def sampleCsr (dns email ips : List Bytes) (extras : List EExt) : Res PCSR :=
  match createCSR sampleAI sampleSPKI ⟨sampleIssuer.subject, dns, email, ips, extras⟩ [0xab] with
  | .ok der => parseCSR der
  | _ => .err
def exts (r : Res PCSR) : List PX := match r with | .ok c => c.exts | _ => []
def sans (r : Res PCSR) : SANs := match r with | .ok c => c.sans | _ => {}

/-- **finding D34 on the model** (`d34_critical_dropped`): a request created with a CRITICAL extra extension parses back with
    `Critical = false` — the extension travels as `AttributeTypeAndValue{Type, Value}`, which has no place for the flag. -/
theorem d34_critical_dropped :
    exts (sampleCsr [] [] [] [⟨[1, 3, 9999, 1], true, [1]⟩]) = [⟨[1, 3, 9999, 1], false, [1]⟩] := by decide +kernel

/-- Not proved in full (that would be `csr_roundtrip`): for EVERY template (Attributes empty, RawSubject a valid Name, IP addresses of 4 or 16 octets,
    extra-extension OIDs within MaxInt32) `parseCSR (createCSR … t sig) = .ok ⟨0, t.subject, sig, (csrExts t).map (critical := false),
    SANs of t (IPs through To4) or those of the last caller-supplied subjectAltName⟩`.
    Proved here: the list-level rules for all templates (`csr_extras_kept`, `csr_san_rule`, `csr_no_extensions`,
    `csr_critical_not_encoded`) and the byte-level round trip through `ZV.C18.unmarshal` on the named shapes below;
    missing for the general statement: lemmas that run `ZV.C18.unmarshal` symbolically over the DerLite writer's output
    (or the create side restated as `ZV.C18.marshal`, so that `unmarshal_marshal` of C18 applies to each of the four
    nested Unmarshal calls). -/
theorem csr_roundtrip_partial :
    -- nothing requested
    sampleCsr [] [] [] [] = .ok ⟨0, sampleIssuer.subject, ([0xab], 8), [], {}⟩ ∧
    -- SAN only: DNS, e-mail, IPv4, IPv4-in-IPv6 (written in 4 octets), IPv6
    sampleCsr [[0x61, 0x2e, 0x62]] [[0x78, 0x40, 0x79]] [[10, 0, 0, 1], [0, 0, 0, 0, 0, 0, 0, 0, 0, 0, 0xff, 0xff, 1, 2, 3, 4],
        [0x20, 1, 0, 0, 0, 0, 0, 0, 0, 0, 0, 0, 0, 0, 0, 9]] [] =
      .ok ⟨0, sampleIssuer.subject, ([0xab], 8),
        [⟨[2, 5, 29, 17], false, buildSAN [[0x61, 0x2e, 0x62]] [[0x78, 0x40, 0x79]] [[10, 0, 0, 1], [1, 2, 3, 4],
          [0x20, 1, 0, 0, 0, 0, 0, 0, 0, 0, 0, 0, 0, 0, 0, 9]]⟩],
        ⟨[[0x61, 0x2e, 0x62]], [[0x78, 0x40, 0x79]], [[10, 0, 0, 1], [1, 2, 3, 4], [0x20, 1, 0, 0, 0, 0, 0, 0, 0, 0, 0, 0, 0, 0, 0, 9]]⟩⟩ ∧
    -- extras only, in order, values kept (an empty value too)
    exts (sampleCsr [] [] [] [⟨[1, 3, 9999, 2], false, []⟩, ⟨[2, 5, 29, 2147483647], false, [9, 9]⟩]) =
      [⟨[1, 3, 9999, 2], false, []⟩, ⟨[2, 5, 29, 2147483647], false, [9, 9]⟩] ∧
    -- SAN fields and extras: the generated subjectAltName comes first
    (exts (sampleCsr [[0x61]] [] [] [⟨[1, 3, 9999, 2], false, [7]⟩])).map (·.oid) = [[2, 5, 29, 17], [1, 3, 9999, 2]] ∧
    -- a caller-supplied subjectAltName overrides the name fields: no generated extension, the parsed names are the caller's
    sans (sampleCsr [[0x61]] [] [] [⟨[2, 5, 29, 17], false, [0x30, 3, 0x82, 1, 0x7a]⟩]) = ⟨[[0x7a]], [], []⟩ := by
  decide +kernel

end Csr


/-! ### legacy `Certificate.CreateCRL` (create side; model `ZV.C05.Legacy`, T2 op `c05 crlm`) -/
namespace Legacy

/-- **legacy entries = v2 entries on the common domain**: an entry without reason code whose extensions contain no
    reasonCode extension is written by `CreateCRL` exactly as `CreateRevocationList` writes it — so `entryT_roundtrip` and
    `list_time_roundtrip` (same `encTimeG`) apply to the legacy path's entries and update times as they stand. -/
theorem legacy_entry_eq_v2 (e : CRLEntry) (h : e.exts.all (fun x => x.oid != reasonOID) = true) :
    encCRLEntry e = encEntryT ⟨e.serial, e.time, none, e.exts⟩ := by
  have hs : EntryT.synth ⟨e.serial, e.time, none, e.exts⟩ = e.exts := by
    simp only [EntryT.synth, synthExts, normReason, List.append_nil]
    exact List.filter_eq_self.mpr (fun x hx => List.all_eq_true.mp h x hx)
  unfold encCRLEntry encEntryT
  rw [hs]
  rfl

example : (⟨5, ⟨0, 0, 0⟩, [⟨[2, 5, 29, 24], true, [0x18, 0]⟩]⟩ : CRLEntry).exts.all (fun x => x.oid != reasonOID) = true := by decide

/-- the legacy path always writes the `revokedCertificates` field (empty SEQUENCE for no entries) and no cRLNumber; without a
    subject key id there is no extensions field at all -/
theorem legacy_empty_shape (sigAI name : Bytes) (now expiry : GoTime) (tu nu : Bytes)
    (h1 : encTimeG (utc now) = .ok tu) (h2 : encNextUpdate expiry = .ok nu) :
    createLegacyTBS sigAI name [] [] now expiry =
      .ok (tlv 0x30 (tlv 0x02 [1] ++ (sigAI ++ (name ++ (tu ++ (nu ++ [0x30, 0])))))) := by
  simp only [createLegacyTBS, mapRes, Res.ok_bind, h1, h2, List.isEmpty_nil, if_true]
  -- the two sides differ in the last field only: `tlv 0x30 [] ++ []` evaluates to `[0x30, 0]`
  rfl

example : (encTimeG (utc ⟨0, 0, 0⟩)).isOk = true ∧ (encNextUpdate ⟨-62135596800, 0, 0⟩) = .ok [] := by decide

end Legacy

end ZV.C05
