import ZV.Model.C16
/-!
  C16 — the io.Reader layer of ct/serialization.go with error CLASSES (io.EOF / io.ErrUnexpectedEOF /
  "short read" / any other error), over readers that deliver their data in arbitrary chunks.

  A reader is a script of events: each `Read(p)` call consumes the head event — a data chunk (delivered
  whole if it fits `p`, else `len(p)` bytes of it and the remainder stays), or a non-EOF failure; the empty
  script answers `0, io.EOF` for ever.  `bytes.NewReader(b)` is the script `[data b]`.
  `readFull` is io.ReadFull / io.ReadAtLeast (which binary.Read uses for fixed-size values),
  `readByte` its 1-byte instance, `readUintR` / `readVarBytesR` / `readCertListR` are readUint / readVarBytes /
  readASN1CertList.  ZV.Proofs.C16Rd shows that on failure-free scripts `readFull` depends on the concatenation of the
  chunks only (`readFull_spec`) and that the element loop on a bytes.Reader, `certLoopB`, is the loop of the chain decoder
  once the error classes are forgotten (`certLoopB_erase`); `readVarBytesB` is the `Wire` parser `opaqueBE k`
  (Props/C16, `readVarBytesB_classes`).  `readUintR` / `readVarBytesR` / `readCertListR` over scripts have no theorem:
  the T2 stream ties them to the code.
-/
namespace ZV.C16
open ZV.Wire

inductive RErr where
  | eof | uexp | short | other
  deriving Repr, DecidableEq

inductive RRes (α : Type) where
  | ok (a : α)
  | fail (e : RErr)
  deriving Repr, DecidableEq

inductive Ev where
  | data (b : Bytes)
  | fail
  deriving Repr, DecidableEq

abbrev Script := List Ev

/-- all bytes the reader will still deliver -/
def flat : Script → Bytes
  | [] => []
  | .data b :: r => b ++ flat r
  | .fail :: r => flat r

def noFail : Script → Bool
  | [] => true
  | .data _ :: r => noFail r
  | .fail :: _ => false

/-- io.ReadFull(r, buf) with len(buf) = n, `acc` = bytes already in buf:
    `for got < n && err == nil { nn, err = r.Read(buf[got:]) }`; then `got >= n → nil`,
    `got > 0 && err == EOF → ErrUnexpectedEOF`. A zero-length buffer is filled without calling Read. -/
def readFull : Script → Nat → Bytes → RRes Bytes × Script
  | s, 0, acc => (.ok acc, s)
  | [], _ + 1, acc => (.fail (if acc.isEmpty then .eof else .uexp), [])
  | .fail :: r, _ + 1, _ => (.fail .other, r)
  | .data b :: r, n + 1, acc =>
    if b.length ≤ n + 1 then readFull r (n + 1 - b.length) (acc ++ b)
    else (.ok (acc ++ b.take (n + 1)), .data (b.drop (n + 1)) :: r)

/-- binary.Read(r, binary.BigEndian, &t) for a uint8 `t`: io.ReadFull of one byte -/
def readByte : Script → RRes UInt8 × Script
  | [] => (.fail .eof, [])
  | .fail :: r => (.fail .other, r)
  | .data [] :: r => readByte r
  | .data [b] :: r => (.ok b, r)
  | .data (b :: b' :: bs) :: r => (.ok b, .data (b' :: bs) :: r)

/-- the loop of readUint: k one-byte reads, first error returned -/
def readBytes1 : Script → Nat → Bytes → RRes Bytes × Script
  | s, 0, acc => (.ok acc, s)
  | s, k + 1, acc =>
    match readByte s with
    | (.ok b, s') => readBytes1 s' k (acc ++ [b])
    | (.fail e, s') => (.fail e, s')

/-- readUint(r, k): `l <<= 8; l |= uint64(t)` on a uint64 — bytes beyond the last eight shift out -/
def readUintR (s : Script) (k : Nat) : RRes Nat × Script :=
  match readBytes1 s k [] with
  | (.ok bs, s') => (.ok (beVal bs % 2 ^ 64), s')
  | (.fail e, s') => (.fail e, s')

/-- readVarBytes(r, k) (lengths up to what `make([]byte, l)` allocates; the callers use k = 2, 3) -/
def readVarBytesR (s : Script) (k : Nat) : RRes Bytes × Script :=
  if k > 8 then (.fail .other, s)                                -- numLenBytes too large
  else if k = 0 then (.fail .other, s)                           -- numLenBytes should be > 0
  else
    match readUintR s k with
    | (.ok l, s') =>
      match readFull s' l [] with
      | (.ok d, s'') => (.ok d, s'')
      | (.fail .eof, s'') => (.fail .short, s'')                 -- err == io.EOF || err == io.ErrUnexpectedEOF
      | (.fail .uexp, s'') => (.fail .short, s'')
      | (.fail e, s'') => (.fail e, s'')
    | (.fail e, s') => (.fail e, s')

/-- readVarBytes on a bytes.Reader holding `bs`: result and unread bytes -/
def readVarBytesB (k : Nat) (bs : Bytes) : RRes (Bytes × Bytes) :=
  if k > 8 then .fail .other
  else if k = 0 then .fail .other
  else if bs.length < k then .fail .eof                          -- also with 1..k-1 bytes left: each byte is its own ReadFull
  else
    let l := beVal (bs.take k)
    let rest := bs.drop k
    if rest.length < l then .fail .short else .ok (rest.take l, rest.drop l)

/-- the element loop of readASN1CertList on `listReader = bytes.NewReader(listBytes)`:
    `for err == nil { entry, err = readVarBytes(listReader, k); if err != nil { if err != io.EOF { return err } } else push }` -/
def certLoopB (k : Nat) (bs : Bytes) : RRes (List Bytes) :=
  if k > 8 then .fail .other
  else if k = 0 then .fail .other
  else if bs.length < k then .ok []                              -- io.EOF: end of the list
  else
    let l := beVal (bs.take k)
    let rest := bs.drop k
    if rest.length < l then .fail .short
    else
      match certLoopB k (rest.drop l) with
      | .ok es => .ok (rest.take l :: es)
      | .fail e => .fail e
termination_by bs.length
decreasing_by
  simp only [List.length_drop]
  omega

/-- readASN1CertList(r, totalLenBytes, elementLenBytes) -/
def readCertListR (s : Script) (tk ek : Nat) : RRes (List Bytes) × Script :=
  match readVarBytesR s tk with
  | (.ok body, s') =>
    match certLoopB ek body with
    | .ok l => (.ok l, s')
    | .fail e => (.fail e, s')
  | (.fail e, s') => (.fail e, s')

/-! ### writers -/

/-- writeUint(w, value, k) for a uint64 value (a bytes.Buffer never fails) -/
def writeUintW (v k : Nat) : Res Bytes :=
  if v / 256 ^ k != 0 then .err else .ok (beBytes k v)          -- "numBytes was insufficiently large"

/-- writeVarBytes(w, value, k) -/
def writeVarBytesW (v : Bytes) (k : Nat) : Res Bytes :=
  match writeUintW v.length k with
  | .ok l => .ok (l ++ v)
  | .err => .err
  | .panic => .panic

end ZV.C16
