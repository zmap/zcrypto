import ZV.Base
/-!
  ZV.Der — a small DER TLV reader / writer (core Lean only).

  Reader = `encoding/asn1/asn1.go: parseTagAndLength` of zcrypto (strict mode,
  `AllowPermissiveParsing = false`), branch for branch:
    * identifier octet: class = b >> 6, compound = b & 0x20, tag = b & 0x1f; tag 0x1f ⇒ base-128
      tag number (`parseBase128Int`: ≤ 5 octets, first ≠ 0x80, value ≤ MaxInt32, and < 0x1f is "non-minimal tag");
    * length: short form, or long form with 1..n octets; `0x80` (indefinite) rejected; accumulator
      ≥ 2^23 before a shift ⇒ "length too large"; accumulator = 0 after an octet ⇒ "superfluous leading
      zeros"; final value < 0x80 ⇒ "non-minimal length";
    * `invalidLength`: the body must fit in the remaining input.
  Writer = `marshal.go: appendTagAndLength` for low tag numbers (what every structure in x509 uses).
-/
namespace ZV.Der

/-- `parseBase128Int` continuing after `shifted` octets with accumulator `acc`. -/
def readBase128 : (fuel : Nat) → (shifted : Nat) → (acc : Nat) → Bytes → Res (Nat × Bytes)
  | 0, _, _, _ => .err                                   -- shifted == 5: too large
  | _ + 1, _, _, [] => .err                              -- truncated
  | f + 1, shifted, acc, b :: rest =>
    if shifted = 0 ∧ b.toNat = 128 then .err             -- not minimally encoded
    else
      let acc' := acc * 128 + b.toNat % 128
      if b.toNat < 128 then
        (if acc' > 2147483647 then .err else .ok (acc', rest))
      else readBase128 f (shifted + 1) acc' rest

/-- long-form length octets. -/
def readLenLoop : Nat → Nat → Bytes → Res (Nat × Bytes)
  | 0, acc, bs => .ok (acc, bs)
  | n + 1, acc, bs =>
    match bs with
    | [] => .err
    | b :: rest =>
      if acc ≥ 8388608 then .err
      else if acc * 256 + b.toNat = 0 then .err
      else readLenLoop n (acc * 256 + b.toNat) rest

def readLen : Bytes → Res (Nat × Bytes)
  | [] => .err
  | b :: rest =>
    if b.toNat < 128 then .ok (b.toNat, rest)
    else if b.toNat = 128 then .err
    else
      match readLenLoop (b.toNat - 128) 0 rest with
      | .ok (len, rest') => if len < 128 then .err else .ok (len, rest')
      | .err => .err
      | .panic => .panic

/-- decoded header: class 0..3, constructed bit, tag number, content length. -/
structure Hdr where
  cls : Nat
  compound : Bool
  tag : Nat
  len : Nat
  deriving Repr, DecidableEq

/-- `parseTagAndLength`: header and the input after the header. -/
def readHdr : Bytes → Res (Hdr × Bytes)
  | [] => .err
  | b :: rest =>
    let cls := b.toNat / 64
    let cmp := decide (b.toNat / 32 % 2 = 1)
    if b.toNat % 32 = 31 then
      match readBase128 5 0 0 rest with
      | .ok (t, rest1) =>
        if t < 31 then .err
        else
          match readLen rest1 with
          | .ok (l, rest2) => .ok (⟨cls, cmp, t, l⟩, rest2)
          | .err => .err
          | .panic => .panic
      | .err => .err
      | .panic => .panic
    else
      match readLen rest with
      | .ok (l, rest2) => .ok (⟨cls, cmp, b.toNat % 32, l⟩, rest2)
      | .err => .err
      | .panic => .panic

/-- one element: header, body (`innerBytes`), full encoding (`bytes[initOffset:offset]`). -/
structure Elem where
  hdr : Hdr
  body : Bytes
  full : Bytes
  deriving Repr, DecidableEq

/-- header + `invalidLength` check + split. -/
def readElem (bs : Bytes) : Res (Elem × Bytes) :=
  match readHdr bs with
  | .ok (h, after) =>
    if after.length < h.len then .err
    else .ok (⟨h, after.take h.len, bs.take (bs.length - after.length + h.len)⟩, after.drop h.len)
  | .err => .err
  | .panic => .panic

/-- all elements of a content string, in order (`parseSequenceOf`'s first pass / a struct walk).
    Fuel = number of input bytes (every element consumes at least two). -/
def readElemsFuel : Nat → Bytes → Res (List Elem)
  | 0, bs => if bs.isEmpty then .ok [] else .err
  | f + 1, bs =>
    if bs.isEmpty then .ok []
    else
      match readElem bs with
      | .ok (e, rest) =>
        (match readElemsFuel f rest with
         | .ok es => .ok (e :: es)
         | .err => .err
         | .panic => .panic)
      | .err => .err
      | .panic => .panic

def readElems (bs : Bytes) : Res (List Elem) := readElemsFuel bs.length bs

/-! ### writer -/

/-- minimal big-endian base-256 digits of a length ≥ 128 (Go: `appendLength`), up to 4 octets. -/
def lenDigits (n : Nat) : Bytes :=
  if n < 256 then [UInt8.ofNat n]
  else if n < 65536 then [UInt8.ofNat (n / 256), UInt8.ofNat (n % 256)]
  else if n < 16777216 then [UInt8.ofNat (n / 65536), UInt8.ofNat (n / 256 % 256), UInt8.ofNat (n % 256)]
  else [UInt8.ofNat (n / 16777216 % 256), UInt8.ofNat (n / 65536 % 256), UInt8.ofNat (n / 256 % 256), UInt8.ofNat (n % 256)]

def encLen (n : Nat) : Bytes :=
  if n < 128 then [UInt8.ofNat n]
  else UInt8.ofNat (128 + (lenDigits n).length) :: lenDigits n

/-- identifier octet for a low tag number (< 31). -/
def identOctet (cls : Nat) (compound : Bool) (tag : Nat) : UInt8 :=
  UInt8.ofNat (cls * 64 + (if compound then 32 else 0) + tag)

def writeTLV (t : UInt8) (body : Bytes) : Bytes := t :: (encLen body.length ++ body)

/-- the header `readHdr` reports for identifier octet `t` (low tag) and length `n`. -/
def hdrOf (t : UInt8) (n : Nat) : Hdr := ⟨t.toNat / 64, decide (t.toNat / 32 % 2 = 1), t.toNat % 32, n⟩

/-! ### content decoders used by the X.509 models -/

/-- `checkInteger` (strict): non-empty, minimal two's complement. -/
def checkInteger : Bytes → Bool
  | [] => false
  | [_] => true
  | a :: b :: _ => !((a.toNat = 0 ∧ b.toNat < 128) ∨ (a.toNat = 255 ∧ b.toNat ≥ 128))

def natOfBytes (bs : Bytes) : Nat := bs.foldl (fun acc b => acc * 256 + b.toNat) 0

/-- two's-complement big-endian value (`parseBigInt` / `parseInt64` before range checks). -/
def intOfBytes (bs : Bytes) : Int :=
  match bs with
  | [] => 0
  | a :: _ => if a.toNat ≥ 128 then (natOfBytes bs : Int) - (2 ^ (8 * bs.length) : Nat) else (natOfBytes bs : Int)

/-- `parseInt64`. -/
def parseInt64 (bs : Bytes) : Res Int :=
  if !checkInteger bs then .err else if bs.length > 8 then .err else .ok (intOfBytes bs)

/-- `parseBitString`: (padding bits, data) -/
def parseBitString : Bytes → Res (Nat × Bytes)
  | [] => .err
  | p :: data =>
    if p.toNat > 7 then .err
    else if data.isEmpty ∧ p.toNat > 0 then .err
    else
      match (p :: data).getLast? with
      | none => .err
      | some l => if l.toNat % (2 ^ p.toNat) ≠ 0 then .err else .ok (p.toNat, data)

/-- `parseBool` (strict DER). -/
def parseBool : Bytes → Res Bool
  | [b] => if b.toNat = 0 then .ok false else if b.toNat = 255 then .ok true else .err
  | _ => .err

/-! ### encoders of simple contents (`marshal.go`) -/

/-- minimal base-256 digits, most significant first (empty for 0). -/
def natDigits256 : Nat → Nat → Bytes
  | 0, _ => []
  | f + 1, n => if n = 0 then [] else natDigits256 f (n / 256) ++ [UInt8.ofNat (n % 256)]

/-- DER INTEGER contents of a natural number (`makeBigInt` for n ≥ 0). -/
def encNatInt (n : Nat) : Bytes :=
  let ds := natDigits256 (n + 1) n
  match ds with
  | [] => [0]
  | a :: _ => if a.toNat ≥ 128 then 0 :: ds else ds

/-- base-128 digits, most significant first, continuation bit on all but the last (`appendBase128Int`). -/
def base128Aux : Nat → Nat → Bytes → Bytes
  | 0, _, acc => acc
  | f + 1, n, acc => if n = 0 then acc else base128Aux f (n / 128) (UInt8.ofNat (128 + n % 128) :: acc)

def encBase128 (n : Nat) : Bytes := base128Aux (n + 1) (n / 128) [UInt8.ofNat (n % 128)]

/-- OBJECT IDENTIFIER contents (`makeObjectIdentifier`): needs ≥ 2 arcs, first ≤ 2, second < 40 when first < 2. -/
def encOID : List Nat → Option Bytes
  | a :: b :: rest =>
    if a > 2 ∨ (a < 2 ∧ b ≥ 40) then none
    else some (encBase128 (a * 40 + b) ++ (rest.map encBase128).flatten)
  | _ => none

end ZV.Der
