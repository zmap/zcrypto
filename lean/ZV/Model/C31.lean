import ZV.Base
import ZV.Hash.SHA512
/-!
  Model of the session-ticket code of zcrypto, branch for branch:

  * `tls/common.go`  : `ticketKeyFromBytes`, `SetSessionTicketKeys`, `initLegacySessionTicketKeyRLocked`,
                       `Config.ticketKeys` (explicit keys / configForClient / auto-rotation)
  * `tls/ticket.go`  : `encryptTicket`, `decryptTicket`, `sessionState.marshal/unmarshal`,
                       `sessionStateTLS13.marshal/unmarshal` (with `marshalCertificate` /
                       `unmarshalCertificate` of handshake_messages.go)
  * `tls/handshake_server.go`       : `checkForResumption` (+ `selectCipherSuite`, `cipherSuiteOk`)
  * `tls/handshake_server_tls13.go` : `checkForResumption` (PSK identities loop)

  Not modelled, passed in as PARAMETERS so that every theorem holds for all of them:
  `hmac : key → msg → tag` (HMAC-SHA-256 in the code; the driver instantiates ZV.Hash),
  `ctr : aesKey → iv → n → keystream` (AES-CTR), the cipher-suite tables (`suiteByID`,
  `hash13`; the driver instantiates the tables extracted from the tree), the TLS 1.3 binder
  verification (`binderOk`).
-/
namespace ZV.C31

/-! ### ticket keys -/

structure TicketKey where
  name : Bytes   -- keyName [16]byte
  aes  : Bytes   -- aesKey  [16]byte
  mac  : Bytes   -- hmacKey [16]byte
  deriving Repr, DecidableEq

def ticketKeyNameLen : Nat := 16
def ivLen : Nat := 16          -- aes.BlockSize
def macLen : Nat := 32         -- sha256.Size

/-- `Config.ticketKeyFromBytes`: SHA-512 of the 32 external bytes, sliced 16/16/16 (`created` is kept
    separately, see `AKey`). -/
def ticketKeyFromBytes (b : Bytes) : TicketKey :=
  let hashed := ZV.Hash.sha512 b
  { name := hashed.take 16, aes := (hashed.drop 16).take 16, mac := (hashed.drop 32).take 16 }

/-- a ticket key together with its `created` time (unix seconds) -/
abbrev AKey := TicketKey × Int

/-- `Config.SetSessionTicketKeys`: panics on the empty list; first = encryption key, all accepted. -/
def setSessionTicketKeys (keys : List Bytes) (now : Int) : Res (List AKey) :=
  match keys with
  | [] => .panic
  | _ => .ok (keys.map (fun b => (ticketKeyFromBytes b, now)))

def ticketKeyRotation : Int := 24 * 3600
def ticketKeyLifetime : Int := 7 * 24 * 3600
def maxSessionTicketLifetime : Int := 7 * 24 * 3600

/-- the part of a `Config` the ticket-key logic reads and writes -/
structure KeyCfg where
  disabled : Bool            -- SessionTicketsDisabled
  legacy   : Bytes           -- SessionTicketKey [32]byte
  explicit : List AKey       -- sessionTicketKeys
  auto     : List AKey       -- autoSessionTicketKeys
  deriving Repr, DecidableEq

def deprecatedPrefix : Bytes := [0x44, 0x45, 0x50, 0x52, 0x45, 0x43, 0x41, 0x54, 0x45, 0x44]  -- "DEPRECATED"

def hasPrefix (b p : Bytes) : Bool := b.take p.length == p
def isZero (b : Bytes) : Bool := b.all (· == 0)

/-- `initLegacySessionTicketKeyRLocked`.  `rand` is the stream of 32-byte blocks `config.rand()` yields;
    running dry makes `io.ReadFull` fail, which the code turns into a panic. -/
def initLegacy (c : KeyCfg) (rand : List Bytes) (now : Int) : Res (KeyCfg × List Bytes) :=
  if !isZero c.legacy && (hasPrefix c.legacy deprecatedPrefix || !c.explicit.isEmpty) then .ok (c, rand)
  else if isZero c.legacy then
    match rand with
    | [] => .panic
    | r :: rest => .ok ({ c with legacy := deprecatedPrefix ++ r.drop deprecatedPrefix.length }, rest)
  else if !hasPrefix c.legacy deprecatedPrefix && c.explicit.isEmpty then
    .ok ({ c with explicit := [(ticketKeyFromBytes c.legacy, now)] }, rand)
  else .ok (c, rand)

/-- `len(c.autoSessionTicketKeys) > 0 && c.time().Sub(c.autoSessionTicketKeys[0].created) < ticketKeyRotation` -/
def autoFresh (auto : List AKey) (now : Int) : Bool :=
  match auto with
  | [] => false
  | k :: _ => decide (now - k.2 < ticketKeyRotation)

/-- the auto-rotation step at the end of `Config.ticketKeys` (fast path and re-check are the same test). -/
def rotateAuto (c : KeyCfg) (rand : List Bytes) (now : Int) : Res (KeyCfg × List Bytes × List AKey) :=
  if autoFresh c.auto now then .ok (c, rand, c.auto)
  else
    match rand with
    | [] => .panic
    | r :: rest =>
      let valid := (ticketKeyFromBytes r, now) :: c.auto.filter (fun k => decide (now - k.2 < ticketKeyLifetime))
      .ok ({ c with auto := valid }, rest, valid)

/-- the second half of `Config.ticketKeys` (the server's own config). -/
def ticketKeysOwn (c : KeyCfg) (rand : List Bytes) (now : Int) : Res (KeyCfg × List Bytes × List AKey) :=
  if c.disabled then .ok (c, rand, [])
  else
    match initLegacy c rand now with
    | .panic => .panic
    | .err => .err
    | .ok (c1, rand1) =>
      if !c1.explicit.isEmpty then .ok (c1, rand1, c1.explicit)
      else rotateAuto c1 rand1 now

/-- `Config.ticketKeys(configForClient)`: explicit keys of the per-client config win, otherwise the keys
    of the original config (explicit, else auto-rotated).  Returns both configs (they are mutated),
    the remaining random stream and the key list. -/
def ticketKeys (c : KeyCfg) (cfc : Option KeyCfg) (rand : List Bytes) (now : Int) :
    Res (KeyCfg × Option KeyCfg × List Bytes × List AKey) :=
  match cfc with
  | none =>
    match ticketKeysOwn c rand now with
    | .ok (c1, rand1, ks) => .ok (c1, none, rand1, ks)
    | .err => .err
    | .panic => .panic
  | some f =>
    if f.disabled then .ok (c, some f, rand, [])
    else
      match initLegacy f rand now with
      | .panic => .panic
      | .err => .err
      | .ok (f1, rand1) =>
        if !f1.explicit.isEmpty then .ok (c, some f1, rand1, f1.explicit)
        else
          match ticketKeysOwn c rand1 now with
          | .ok (c1, rand2, ks) => .ok (c1, some f1, rand2, ks)
          | .err => .err
          | .panic => .panic

/-! ### ticket sealing -/

/-- `cipher.Stream.XORKeyStream(dst, src)` with the keystream given as a value: byte-wise xor; bytes for
    which the keystream value has no byte are left unchanged (so that `xorWith (xorWith d k) k = d`
    holds for every `k`; the real keystream always has `src` length). -/
def xorWith : Bytes → Bytes → Bytes
  | [], _ => []
  | d :: ds, [] => d :: xorWith ds []
  | d :: ds, k :: ks => (d ^^^ k) :: xorWith ds ks

section sealing
variable (hmac : Bytes → Bytes → Bytes) (ctr : Bytes → Bytes → Nat → Bytes)

/-- `(*Conn).encryptTicket`; `iv` is what `io.ReadFull(c.config.rand(), iv)` delivered.
    Layout: key name(16) ‖ IV(16) ‖ AES-CTR(state) ‖ HMAC-SHA256(everything before). -/
def encryptTicket (keys : List TicketKey) (iv state : Bytes) : Res Bytes :=
  match keys with
  | [] => .err
  | key :: _ =>
    let body := key.name ++ iv ++ xorWith state (ctr key.aes iv state.length)
    .ok (body ++ hmac key.mac body)

/-- the key-search loop of `decryptTicket`: first key whose name equals `name`, with its index. -/
def findKey (name : Bytes) : List TicketKey → Nat → Option (Nat × TicketKey)
  | [], _ => none
  | k :: ks, i => if name = k.name then some (i, k) else findKey name ks (i + 1)

def ticketName (enc : Bytes) : Bytes := enc.take ticketKeyNameLen
def ticketIV (enc : Bytes) : Bytes := (enc.drop ticketKeyNameLen).take ivLen
/-- everything before the MAC -/
def ticketBody (enc : Bytes) : Bytes := enc.take (enc.length - macLen)
def ticketTag (enc : Bytes) : Bytes := enc.drop (enc.length - macLen)
def ticketCiphertext (enc : Bytes) : Bytes := (ticketBody enc).drop (ticketKeyNameLen + ivLen)

/-- `(*Conn).decryptTicket`: `none` = `(nil, false)`; `some (plaintext, usedOldKey)` otherwise.
    The MAC is checked BEFORE decryption; `subtle.ConstantTimeCompare` = equality of byte strings. -/
def decryptTicket (keys : List TicketKey) (enc : Bytes) : Option (Bytes × Bool) :=
  if enc.length < ticketKeyNameLen + ivLen + macLen then none
  else
    match findKey (ticketName enc) keys 0 with
    | none => none
    | some (i, key) =>
      if ticketTag enc = hmac key.mac (ticketBody enc) then
        let ct := ticketCiphertext enc
        some (xorWith ct (ctr key.aes (ticketIV enc) ct.length), decide (i > 0))
      else none

end sealing

/-! ### cryptobyte readers / builders -/

def beNat : Bytes → Nat → Nat
  | [], acc => acc
  | b :: bs, acc => beNat bs (acc * 256 + b.toNat)

/-- `n` big-endian bytes of `v` (most significant first), `v` taken modulo `256^n`. -/
def natBE : Nat → Nat → Bytes
  | 0, _ => []
  | n + 1, v => UInt8.ofNat (v / 256 ^ n) :: natBE n v

/-- read an `n`-byte big-endian integer -/
def readUint (n : Nat) (s : Bytes) : Option (Nat × Bytes) :=
  if s.length < n then none else some (beNat (s.take n) 0, s.drop n)

/-- `ReadUint{8,16,24}LengthPrefixed` -/
def readVec (lenBytes : Nat) (s : Bytes) : Option (Bytes × Bytes) :=
  match readUint lenBytes s with
  | none => none
  | some (l, rest) => if rest.length < l then none else some (rest.take l, rest.drop l)

/-- `Builder.AddUint{8,16,24}LengthPrefixed`: a child that does not fit its length prefix sets the builder
    error, and `BytesOrPanic` then panics. -/
def addVec (lenBytes : Nat) (content : Res Bytes) : Res Bytes :=
  match content with
  | .ok c => if c.length < 256 ^ lenBytes then .ok (natBE lenBytes c.length ++ c) else .panic
  | .err => .err
  | .panic => .panic

def resAppend (a b : Res Bytes) : Res Bytes :=
  match a, b with
  | .ok x, .ok y => .ok (x ++ y)
  | .panic, _ => .panic
  | _, .panic => .panic
  | _, _ => .err

/-! ### sessionState (TLS ≤ 1.2) -/

structure SessionState where
  vers         : Nat
  cipherSuite  : Nat
  createdAt    : Nat
  masterSecret : Bytes
  certificates : List Bytes
  usedOldKey   : Bool
  deriving Repr, DecidableEq

def marshalCerts12 : List Bytes → Res Bytes
  | [] => .ok []
  | c :: cs => resAppend (addVec 3 (.ok c)) (marshalCerts12 cs)

/-- `sessionState.marshal` -/
def SessionState.marshal (m : SessionState) : Res Bytes :=
  resAppend (.ok (natBE 2 m.vers ++ natBE 2 m.cipherSuite ++ natBE 8 m.createdAt))
    (resAppend (addVec 2 (.ok m.masterSecret)) (addVec 3 (marshalCerts12 m.certificates)))

/-- the `for !certList.Empty()` loop of `sessionState.unmarshal`; every round consumes ≥ 3 bytes, so
    `fuel = length` is never exhausted. -/
def parseCerts12 : Nat → Bytes → Option (List Bytes)
  | _, [] => some []
  | 0, _ :: _ => none
  | fuel + 1, s =>
    match readVec 3 s with
    | none => none
    | some (cert, rest) =>
      match parseCerts12 fuel rest with
      | none => none
      | some cs => some (cert :: cs)

/-- `sessionState.unmarshal` (`usedOldKey` is preserved from the receiver). -/
def SessionState.unmarshal (usedOldKey : Bool) (data : Bytes) : Option SessionState :=
  match readUint 2 data with
  | none => none
  | some (vers, s1) =>
    match readUint 2 s1 with
    | none => none
    | some (suite, s2) =>
      match readUint 8 s2 with
      | none => none
      | some (created, s3) =>
        match readVec 2 s3 with
        | none => none
        | some (ms, s4) =>
          if ms.isEmpty then none
          else
            match readVec 3 s4 with
            | none => none
            | some (certList, s5) =>
              match parseCerts12 certList.length certList with
              | none => none
              | some certs =>
                if s5.isEmpty then
                  some { vers := vers, cipherSuite := suite, createdAt := created, masterSecret := ms,
                         certificates := certs, usedOldKey := usedOldKey }
                else none

/-! ### sessionStateTLS13 -/

/-- `tls.Certificate` as far as tickets carry it; `none` = nil slice. -/
structure Cert13 where
  certificates : List Bytes
  ocsp : Option Bytes
  scts : Option (List Bytes)
  deriving Repr, DecidableEq

structure SessionState13 where
  cipherSuite      : Nat
  createdAt        : Nat
  resumptionSecret : Bytes
  certificate      : Cert13
  deriving Repr, DecidableEq

def extensionStatusRequest : Nat := 5
def extensionSCT : Nat := 18
def statusTypeOCSP : Nat := 1

def marshalSCTs : List Bytes → Res Bytes
  | [] => .ok []
  | s :: ss => resAppend (addVec 2 (.ok s)) (marshalSCTs ss)

/-- the extension block of the leaf certificate in `marshalCertificate` -/
def leafExtensions (c : Cert13) : Res Bytes :=
  resAppend
    (match c.ocsp with
     | none => .ok []
     | some st => resAppend (.ok (natBE 2 extensionStatusRequest))
                    (addVec 2 (resAppend (.ok (natBE 1 statusTypeOCSP)) (addVec 3 (.ok st)))))
    (match c.scts with
     | none => .ok []
     | some l => resAppend (.ok (natBE 2 extensionSCT)) (addVec 2 (addVec 2 (marshalSCTs l))))

def marshalCertEntries (c : Cert13) : Bool → List Bytes → Res Bytes
  | _, [] => .ok []
  | first, cert :: rest =>
    resAppend (resAppend (addVec 3 (.ok cert)) (addVec 2 (if first then leafExtensions c else .ok [])))
      (marshalCertEntries c false rest)

/-- `marshalCertificate` -/
def marshalCertificate (c : Cert13) : Res Bytes := addVec 3 (marshalCertEntries c true c.certificates)

/-- `sessionStateTLS13.marshal` -/
def SessionState13.marshal (m : SessionState13) : Res Bytes :=
  resAppend (.ok (natBE 2 0x0304 ++ natBE 1 0 ++ natBE 2 m.cipherSuite ++ natBE 8 m.createdAt))
    (resAppend (addVec 1 (.ok m.resumptionSecret)) (marshalCertificate m.certificate))

/-- the `for !sctList.Empty()` loop -/
def parseSCTs : Nat → Bytes → Option (List Bytes)
  | _, [] => some []
  | 0, _ :: _ => none
  | fuel + 1, s =>
    match readVec 2 s with
    | none => none
    | some (sct, rest) =>
      if sct.isEmpty then none
      else
        match parseSCTs fuel rest with
        | none => none
        | some l => some (sct :: l)

/-- the `for !extensions.Empty()` loop of `unmarshalCertificate`; `leaf` = `len(certificate.Certificate) ≤ 1`.
    State: (OCSPStaple, SignedCertificateTimestamps). -/
def parseExtensions : Nat → Bool → Bytes → Option Bytes × List Bytes → Option (Option Bytes × List Bytes)
  | _, _, [], st => some st
  | 0, _, _ :: _, _ => none
  | fuel + 1, leaf, s, st =>
    match readUint 2 s with
    | none => none
    | some (ext, s1) =>
      match readVec 2 s1 with
      | none => none
      | some (extData, rest) =>
        if !leaf then parseExtensions fuel leaf rest st
        else if ext = extensionStatusRequest then
          match readUint 1 extData with
          | none => none
          | some (statusType, d1) =>
            if statusType ≠ statusTypeOCSP then none
            else
              match readVec 3 d1 with
              | none => none
              | some (staple, d2) =>
                if staple.isEmpty then none
                else if !d2.isEmpty then none
                else parseExtensions fuel leaf rest (some staple, st.2)
        else if ext = extensionSCT then
          match readVec 2 extData with
          | none => none
          | some (sctList, d1) =>
            if sctList.isEmpty then none
            else
              match parseSCTs sctList.length sctList with
              | none => none
              | some l =>
                if !d1.isEmpty then none
                else parseExtensions fuel leaf rest (st.1, st.2 ++ l)
        else parseExtensions fuel leaf rest st

/-- the `for !certList.Empty()` loop of `unmarshalCertificate`; `n` = certificates read so far. -/
def parseCertEntries : Nat → Nat → Bytes → Option Bytes × List Bytes → Option (List Bytes × Option Bytes × List Bytes)
  | _, _, [], st => some ([], st.1, st.2)
  | 0, _, _ :: _, _ => none
  | fuel + 1, n, s, st =>
    match readVec 3 s with
    | none => none
    | some (cert, s1) =>
      match readVec 2 s1 with
      | none => none
      | some (exts, rest) =>
        match parseExtensions exts.length (decide (n + 1 ≤ 1)) exts st with
        | none => none
        | some st1 =>
          match parseCertEntries fuel (n + 1) rest st1 with
          | none => none
          | some (cs, o, l) => some (cert :: cs, o, l)

/-- `unmarshalCertificate` on a cryptobyte string: result and the rest of the string. -/
def unmarshalCertificate (s : Bytes) : Option (Cert13 × Bytes) :=
  match readVec 3 s with
  | none => none
  | some (certList, rest) =>
    match parseCertEntries certList.length 0 certList (none, []) with
    | none => none
    | some (cs, o, l) => some ({ certificates := cs, ocsp := o, scts := if l.isEmpty then none else some l }, rest)

/-- `sessionStateTLS13.unmarshal` -/
def SessionState13.unmarshal (data : Bytes) : Option SessionState13 :=
  match readUint 2 data with
  | none => none
  | some (version, s1) =>
    if version ≠ 0x0304 then none
    else
      match readUint 1 s1 with
      | none => none
      | some (revision, s2) =>
        if revision ≠ 0 then none
        else
          match readUint 2 s2 with
          | none => none
          | some (suite, s3) =>
            match readUint 8 s3 with
            | none => none
            | some (created, s4) =>
              match readVec 1 s4 with
              | none => none
              | some (secret, s5) =>
                if secret.isEmpty then none
                else
                  match unmarshalCertificate s5 with
                  | none => none
                  | some (cert, s6) =>
                    if s6.isEmpty then
                      some { cipherSuite := suite, createdAt := created, resumptionSecret := secret, certificate := cert }
                    else none

/-! ### ticket age -/

def wrap64 (x : Int) : Int := (x + 2 ^ 63) % 2 ^ 64 - 2 ^ 63   -- two's-complement int64
def unixToInternal : Int := 62135596800

/-- `c.config.time().Sub(time.Unix(int64(createdAt), 0)) > maxSessionTicketLifetime`, with `now` = the unix
    seconds of `c.config.time()` (whole seconds).  `int64(uint64)` and `time.Unix` wrap around;
    `Time.Sub` saturates, which preserves the comparison with 7 days. -/
def ticketExpired (now : Int) (createdAt : Nat) : Bool :=
  decide (wrap64 (now + unixToInternal) - wrap64 (wrap64 (Int.ofNat createdAt) + unixToInternal) > maxSessionTicketLifetime)

/-! ### TLS 1.2 resumption decision -/

/-- what `cipherSuiteOk` reads of a `cipherSuite` -/
structure SuiteInfo where
  ecdhe  : Bool   -- flags & suiteECDHE
  ecSign : Bool   -- flags & suiteECSign
  tls12  : Bool   -- flags & suiteTLS12
  deriving Repr, DecidableEq

def VersionTLS12 : Nat := 0x0303
def VersionTLS13 : Nat := 0x0304

/-- connection / config / client-hello inputs of `serverHandshakeState.checkForResumption` -/
structure Ctx12 where
  ticketsDisabled : Bool        -- c.config.SessionTicketsDisabled
  now             : Int         -- c.config.time()
  vers            : Nat         -- c.vers: the version NEGOTIATED for this connection
  helloVers       : Nat         -- hs.clientHello.vers: the version the client OFFERED (its maximum, capped at
                                -- 1.2); ≥ c.vers in a real handshake, > c.vers when the server is capped lower.
                                -- The decision must be made on `vers`; `helloVers` is carried so that model and
                                -- code are compared on inputs where the two differ (it is read by nothing).
  clientSuites    : List Nat    -- hs.clientHello.cipherSuites
  serverSuites    : List Nat    -- c.config.cipherSuites()
  clientAuth      : Nat         -- c.config.ClientAuth
  ecdheOk         : Bool
  ecSignOk        : Bool
  rsaSignOk       : Bool
  rsaDecryptOk    : Bool
  deriving Repr, DecidableEq

/-- the key-capability part of `cipherSuiteOk` (first `if` cascade) -/
def keyOk (x : Ctx12) (c : SuiteInfo) : Bool :=
  if c.ecdhe then
    if !x.ecdheOk then false
    else if c.ecSign then x.ecSignOk
    else x.rsaSignOk
  else x.rsaDecryptOk

/-- `serverHandshakeState.cipherSuiteOk` -/
def cipherSuiteOk (x : Ctx12) (c : SuiteInfo) : Bool :=
  if !keyOk x c then false
  else if x.vers < VersionTLS12 && c.tls12 then false
  else true

/-- `selectCipherSuite(ids, supportedIDs, ok)`; `suiteByID` = `cipherSuiteByID`. -/
def selectCipherSuite (suiteByID : Nat → Option SuiteInfo) (ok : SuiteInfo → Bool) (supported : List Nat) : List Nat → Option Nat
  | [] => none
  | id :: ids =>
    match suiteByID id with
    | none => selectCipherSuite suiteByID ok supported ids
    | some c =>
      if !ok c then selectCipherSuite suiteByID ok supported ids
      else if supported.contains id then some id
      else selectCipherSuite suiteByID ok supported ids

def NoClientCert : Nat := 0
/-- `requiresClientCert`: RequireAnyClientCert (2), RequireAndVerifyClientCert (4) -/
def requiresClientCert (a : Nat) : Bool := a == 2 || a == 4

section decisions
variable (hmac : Bytes → Bytes → Bytes) (ctr : Bytes → Bytes → Nat → Bytes)

/-- `serverHandshakeState.checkForResumption`: `none` = false (full handshake);
    `some (sessionState, hs.suite.id)` = true. -/
def checkForResumption12 (suiteByID : Nat → Option SuiteInfo) (x : Ctx12) (keys : List TicketKey) (ticket : Bytes) :
    Option (SessionState × Nat) :=
  if x.ticketsDisabled then none
  else
    match decryptTicket hmac ctr keys ticket with
    | none => none
    | some (plaintext, usedOldKey) =>
      match SessionState.unmarshal usedOldKey plaintext with
      | none => none
      | some st =>
        if ticketExpired x.now st.createdAt then none
        else if x.vers ≠ st.vers then none      -- c.vers (negotiated), NOT hs.clientHello.vers (offered)
        else if !x.clientSuites.contains st.cipherSuite then none
        else
          match selectCipherSuite suiteByID (cipherSuiteOk x) x.serverSuites [st.cipherSuite] with
          | none => none
          | some suite =>
            if requiresClientCert x.clientAuth && st.certificates.isEmpty then none
            else if !st.certificates.isEmpty && x.clientAuth == NoClientCert then none
            else some (st, suite)

/-! ### TLS 1.3 PSK decision -/

def maxClientPSKIdentities : Nat := 5
def pskModeDHE : UInt8 := 1

structure Ctx13 where
  ticketsDisabled : Bool
  now             : Int
  negHash         : Nat          -- hs.suite.hash
  pskModes        : Bytes
  nBinders        : Nat          -- len(hs.clientHello.pskBinders)
  clientAuth      : Nat
  deriving Repr, DecidableEq

inductive Dec13 where
  | noPSK                                   -- return nil, usingPSK = false
  | errBinders                              -- "invalid or missing PSK binders" (illegal_parameter)
  | errBinder (i : Nat)                     -- "invalid PSK binder" (decrypt_error)
  | accept (i : Nat) (st : SessionState13)  -- binder verified: c.didResume = true; processCertsFromClient follows
  deriving Repr, DecidableEq

/-- the identities loop; `hash13` = hash of `cipherSuiteTLS13ByID`, `binderOk i st` = the binder of identity `i`
    verifies under the resumption secret of `st`. -/
def pskLoop (hash13 : Nat → Option Nat) (binderOk : Nat → SessionState13 → Bool) (x : Ctx13) (keys : List TicketKey) :
    Nat → List Bytes → Dec13
  | _, [] => .noPSK
  | i, label :: rest =>
    if i ≥ maxClientPSKIdentities then .noPSK
    else
      match decryptTicket hmac ctr keys label with
      | none => pskLoop hash13 binderOk x keys (i + 1) rest
      | some (plaintext, _) =>
        match SessionState13.unmarshal plaintext with
        | none => pskLoop hash13 binderOk x keys (i + 1) rest
        | some st =>
          if ticketExpired x.now st.createdAt then pskLoop hash13 binderOk x keys (i + 1) rest
          else
            match hash13 st.cipherSuite with
            | none => pskLoop hash13 binderOk x keys (i + 1) rest
            | some h =>
              if h ≠ x.negHash then pskLoop hash13 binderOk x keys (i + 1) rest
              else if requiresClientCert x.clientAuth && st.certificate.certificates.isEmpty then
                pskLoop hash13 binderOk x keys (i + 1) rest
              else if !st.certificate.certificates.isEmpty && x.clientAuth == NoClientCert then
                pskLoop hash13 binderOk x keys (i + 1) rest
              else if binderOk i st then .accept i st
              else .errBinder i

/-- `serverHandshakeStateTLS13.checkForResumption` up to and including the binder check. -/
def checkForResumption13 (hash13 : Nat → Option Nat) (binderOk : Nat → SessionState13 → Bool) (x : Ctx13)
    (keys : List TicketKey) (identities : List Bytes) : Dec13 :=
  if x.ticketsDisabled then .noPSK
  else if !x.pskModes.contains pskModeDHE then .noPSK
  else if identities.length ≠ x.nBinders then .errBinders
  else if identities.isEmpty then .noPSK
  else pskLoop hmac ctr hash13 binderOk x keys 0 identities

/-- `pskIdentity` of the client hello (`handshake_messages.go`): the ticket and the client-reported,
    obfuscated age of it (uint32, milliseconds + ticket_age_add). -/
structure PskIdentity where
  label               : Bytes
  obfuscatedTicketAge : Nat
  deriving Repr, DecidableEq

/-- `serverHandshakeStateTLS13.checkForResumption` on the identities as the hello carries them.  AS THE CODE IS:
    only `identity.label` is read ("We don't check the obfuscated ticket age because it's affected by clock
    skew …"); the freshness decision is the server-side `createdAt` inside the authenticated ticket alone. -/
def checkForResumption13Id (hash13 : Nat → Option Nat) (binderOk : Nat → SessionState13 → Bool) (x : Ctx13)
    (keys : List TicketKey) (ids : List PskIdentity) : Dec13 :=
  checkForResumption13 hmac ctr hash13 binderOk x keys (ids.map (·.label))

end decisions

/-! ### ticket issuance (what `sendSessionTicket` seals) -/

/-- the `sessionState` that `serverHandshakeState.sendSessionTicket` marshals: a resumed session keeps its
    `createdAt` (`prev`), a fresh one gets the clock. -/
def issuedState12 (vers suite : Nat) (now : Nat) (prev : Option SessionState) (masterSecret : Bytes)
    (certs : List Bytes) : SessionState :=
  { vers := vers, cipherSuite := suite,
    createdAt := (match prev with | some p => p.createdAt | none => now),
    masterSecret := masterSecret, certificates := certs, usedOldKey := false }

section leak
variable (hmac : Bytes → Bytes → Bytes) (ctr : Bytes → Bytes → Nat → Bytes)

/-- `hs.sessionState` as the rest of the handshake (`sendSessionTicket`) sees it after the TLS ≤ 1.2
    `checkForResumption` — AS THE CODE IS: it is assigned as soon as the ticket decrypts, and stays set when the
    decision is "do not resume" (too old, other version, suite not offered, …).  (When `unmarshal` fails the Go
    struct is left partially filled; that sub-case is not modelled: `none`.) -/
def sessionStateAfterCheck12 (x : Ctx12) (keys : List TicketKey) (ticket : Bytes) : Option SessionState :=
  if x.ticketsDisabled then none
  else
    match decryptTicket hmac ctr keys ticket with
    | none => none
    | some (plaintext, usedOldKey) => SessionState.unmarshal usedOldKey plaintext

end leak

end ZV.C31
