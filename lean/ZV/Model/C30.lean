import ZV.Model.TlsWire
/-!
  C30 — grammars of the TLS handshake messages (tls/handshake_messages.go) and of the two session-state
  encodings (tls/ticket.go), written with the combinators of `ZV.TlsWire`, one format per Go marshal/unmarshal
  pair.  The messages with an extension block (hellos, TLS 1.3 messages, `Certificate` entries) have two
  layers: the wire layer (a list of `(type, data)` entries — a combinator format) and the semantic layer
  (`…Exts` builds the entries the marshaller writes; `…Apply` is the `switch extension` of the parser).

  The model describes the tree WITH the fixes D20 (extended random), D21 (unknown server extensions) and
  the `newSessionTicketMsg.lifetimeHint` fix.
-/
namespace ZV.C30
open ZV.TlsWire

def nonEmpty (b : Bytes) : Bool := !b.isEmpty
def nonEmptyL {α} (l : List α) : Bool := !l.isEmpty

/-- nothing on the wire; the decoder yields the default (`hasSignatureAlgorithm = false`). -/
def nothing {α} (d : α) : Fmt α where
  ser _ := some []
  par s := some (d, s)

/-- `len(data) == 0` -/
def emptyM : MFmt Unit where
  ser _ := some []
  par s := if s.isEmpty then some () else none

/-- the three body-less messages: `[typ,0,0,0]`, decoder checks `len(data) == 4` only. -/
def fixed4 (typ : Nat) : MFmt Unit where
  ser _ := some [UInt8.ofNat typ, 0, 0, 0]
  par s := if s.length = 4 then some () else none

/-! ### simple messages -/

/-- finishedMsg: `Skip(1)`, uint24-prefixed verify data, `Empty()` -/
def finished : MFmt (Unit × Bytes) := complete (pair (skipC [20]) (opq 3))

/-- certificateMsg (hand-rolled): header skipped, uint24 list length that must cover the buffer exactly,
    entries need `len(d) >= 4` before they are read -/
def certificate : MFmt (List Bytes) := hdrSkipT 11 (complete (lp 3 (many (minLen 4 (opq 3)))))

def serverHelloDone : MFmt Unit := fixed4 14
def helloRequest : MFmt Unit := fixed4 0
def endOfEarlyData : MFmt Unit := fixed4 5

def clientKeyExchange : MFmt Bytes := hdrChecked 16 restB
/-- serverKeyExchangeMsg.unmarshal keeps `data[4:]` whatever the header says -/
def serverKeyExchange : MFmt Bytes := hdrSkipT 12 restB

def certificateStatus : MFmt (Unit × Bytes) := hdrSkip 22 (complete (pair (constC [1]) (guard nonEmpty (opq 3))))

/-- (lifetimeHint, ticket) -/
def newSessionTicket : MFmt (Nat × Bytes) := hdrChecked 4 (complete (pair (uN 4) (opq 2)))

/-- (certificateTypes, (supportedSignatureAlgorithms, certificateAuthorities)); `hasSig` is an input of the parser -/
def certificateRequest (hasSig : Bool) : MFmt (Bytes × List Nat × List Bytes) :=
  hdrChecked 13 (complete (pair (guard nonEmpty (opq 1))
    (pair (if hasSig then lp 2 (many (uN 2)) else nothing []) (lp 2 (many (opq 2))))))

/-- (signatureAlgorithm, signature) -/
def certificateVerify (hasSig : Bool) : MFmt (Nat × Bytes) :=
  hdrSkip 15 (complete (pair (if hasSig then uN 2 else nothing 0) (opq 2)))

/-- (vers, cipherSuite, createdAt, masterSecret, certificates) -/
def sessionState : MFmt (Nat × Nat × Nat × Bytes × List Bytes) :=
  complete (pair (uN 2) (pair (uN 2) (pair (uN 8) (pair (guard nonEmpty (opq 2)) (lp 3 (many (opq 3)))))))

def keyUpdate : MFmt Nat := hdrSkip 24 (complete (guard (fun n => n == 0 || n == 1) (uN 1)))

/-! ### extension blocks -/

abbrev Ext := Nat × Bytes

def extEntry : Fmt Ext := pair (uN 2) (opq 2)
def extList : MFmt (List Ext) := many extEntry
def extBlock : Fmt (List Ext) := lp 2 extList

/-- fold of the parser's `switch` over the entries; `isLast` is `extensions.Empty()` after the entry -/
def applyExts {σ} (f : Ext → Bool → σ → Option σ) : List Ext → σ → Option σ
  | [], m => some m
  | e :: l, m =>
    match f e l.isEmpty m with
    | none => none
    | some m' => applyExts f l m'

def listU16 : MFmt (List Nat) := complete (lp 2 (mguard nonEmptyL (many (uN 2))))
def alpnList : MFmt (List Bytes) := complete (lp 2 (mguard nonEmptyL (many (guard nonEmpty (opq 1)))))
def sctListF : MFmt (List Bytes) := complete (lp 2 (mguard nonEmptyL (many (guard nonEmpty (opq 2)))))
/-- a single protocol name: list with exactly one entry (`!protoList.Empty()` after the first → false) -/
def alpnOne : MFmt Bytes := complete (lp 2 (complete (guard nonEmpty (opq 1))))

def opt (c : Bool) (t : Nat) (d : Option Bytes) : Option (List Ext) :=
  if c then (match d with | some b => some [(t, b)] | none => none) else some []

def catOpts : List (Option (List Ext)) → Option (List Ext)
  | [] => some []
  | none :: _ => none
  | some a :: l => match catOpts l with | none => none | some r => some (a ++ r)

/-! ### TLS 1.3 certificate entries (marshalCertificate / unmarshalCertificate) -/

structure Cert where
  certs : List Bytes
  ocsp : Option Bytes          -- nil vs. non-nil matters to the encoder
  scts : Option (List Bytes)
  deriving DecidableEq, Repr

def ocspExt : MFmt (Unit × Bytes) := complete (pair (constC [1]) (guard nonEmpty (opq 3)))

def certEntries : Fmt (List (Bytes × List Ext)) := lp 3 (many (pair (opq 3) extBlock))

def certLeafExts (c : Cert) : Option (List Ext) :=
  catOpts [opt c.ocsp.isSome 5 (match c.ocsp with | some o => ocspExt.ser ((), o) | none => none),
           opt c.scts.isSome 18 (match c.scts with | some l => sctListF.ser l | none => none)]

def certToEntries (c : Cert) : Option (List (Bytes × List Ext)) :=
  match c.certs with
  | [] => some []
  | leaf :: rest =>
    match certLeafExts c with
    | none => none
    | some ex => some ((leaf, ex) :: rest.map (fun x => (x, [])))

def certApply (e : Ext) (_ : Bool) (c : Cert) : Option Cert :=
  if e.1 = 5 then
    match ocspExt.par e.2 with
    | none => none
    | some (_, o) => some { c with ocsp := some o }
  else if e.1 = 18 then
    match sctListF.par e.2 with
    | none => none
    | some l => some { c with scts := some ((c.scts.getD []) ++ l) }
  else some c

def certFromEntries : List (Bytes × List Ext) → Option Cert
  | [] => some ⟨[], none, none⟩
  | (leaf, ex) :: rest =>
    match applyExts certApply ex ⟨[], none, none⟩ with
    | none => none
    | some c => some { c with certs := leaf :: rest.map (·.1) }

def certF : Fmt Cert where
  ser c := match certToEntries c with | none => none | some es => certEntries.ser es
  par s :=
    match certEntries.par s with
    | none => none
    | some (es, r) => match certFromEntries es with | none => none | some c => some (c, r)

/-- (cipherSuite, createdAt, resumptionSecret, certificate) -/
def sessionStateTLS13 : MFmt (Unit × Unit × Nat × Nat × Bytes × Cert) :=
  complete (pair (constC [3, 4]) (pair (constC [0]) (pair (uN 2) (pair (uN 8) (pair (guard nonEmpty (opq 1)) certF)))))

/-- certificateMsgTLS13: value (certificate, ocspStapling, scts); the encoder strips what the flags switch off,
    the decoder derives the flags from what is present -/
def certificateTLS13 : MFmt (Cert × Bool × Bool) where
  ser x :=
    let c : Cert := { certs := x.1.certs, ocsp := if x.2.1 then x.1.ocsp else none, scts := if x.2.2 then x.1.scts else none }
    (hdrSkip 11 (complete (pair (constC [0]) certF))).ser ((), c)
  par s :=
    match (hdrSkip 11 (complete (pair (constC [0]) certF))).par s with
    | none => none
    | some (_, c) => some (c, c.ocsp.isSome, c.scts.isSome)

/-! ### encryptedExtensions, newSessionTicketTLS13, certificateRequestTLS13 -/

def encryptedExtensions : MFmt Bytes where
  ser alpn :=
    match opt (nonEmpty alpn) 16 (alpnOne.ser alpn) with
    | none => none
    | some es => (hdrSkip 8 (complete extBlock)).ser es
  par s :=
    match (hdrSkip 8 (complete extBlock)).par s with
    | none => none
    | some es =>
      applyExts (fun e _ (m : Bytes) =>
        if e.1 = 16 then alpnOne.par e.2 else some m) es []

/-- (lifetime, ageAdd, nonce, label, maxEarlyData) -/
def newSessionTicketTLS13 : MFmt (Nat × Nat × Bytes × Bytes × Nat) where
  ser x :=
    match opt (decide (0 < x.2.2.2.2)) 42 ((complete (uN 4)).ser x.2.2.2.2) with
    | none => none
    | some es => (hdrSkip 4 (complete (pair (uN 4) (pair (uN 4) (pair (opq 1) (pair (opq 2) extBlock)))))).ser
        (x.1, x.2.1, x.2.2.1, x.2.2.2.1, es)
  par s :=
    match (hdrSkip 4 (complete (pair (uN 4) (pair (uN 4) (pair (opq 1) (pair (opq 2) extBlock)))))).par s with
    | none => none
    | some (lt, age, nonce, label, es) =>
      match applyExts (fun e _ (m : Nat) => if e.1 = 42 then (complete (uN 4)).par e.2 else some m) es 0 with
      | none => none
      | some med => some (lt, age, nonce, label, med)

structure CertReq13 where
  ocspStapling : Bool
  scts : Bool
  sigAlgs : List Nat
  sigAlgsCert : List Nat
  cas : List Bytes
  deriving DecidableEq, Repr

def caList : MFmt (List Bytes) := complete (lp 2 (mguard nonEmptyL (many (guard nonEmpty (opq 2)))))

def certReq13Exts (m : CertReq13) : Option (List Ext) :=
  catOpts [opt m.ocspStapling 5 (some []), opt m.scts 18 (some []),
           opt (nonEmptyL m.sigAlgs) 13 (listU16.ser m.sigAlgs), opt (nonEmptyL m.sigAlgsCert) 50 (listU16.ser m.sigAlgsCert),
           opt (nonEmptyL m.cas) 47 (caList.ser m.cas)]

def certReq13Apply (e : Ext) (_ : Bool) (m : CertReq13) : Option CertReq13 :=
  if e.1 = 5 then (if e.2.isEmpty then some { m with ocspStapling := true } else none)
  else if e.1 = 18 then (if e.2.isEmpty then some { m with scts := true } else none)
  else if e.1 = 13 then (match listU16.par e.2 with | none => none | some l => some { m with sigAlgs := m.sigAlgs ++ l })
  else if e.1 = 50 then (match listU16.par e.2 with | none => none | some l => some { m with sigAlgsCert := m.sigAlgsCert ++ l })
  else if e.1 = 47 then (match caList.par e.2 with | none => none | some l => some { m with cas := m.cas ++ l })
  else some m

def certificateRequestTLS13 : MFmt CertReq13 where
  ser m :=
    match certReq13Exts m with
    | none => none
    | some es => (hdrSkip 13 (complete (pair (constC [0]) extBlock))).ser ((), es)
  par s :=
    match (hdrSkip 13 (complete (pair (constC [0]) extBlock))).par s with
    | none => none
    | some (_, es) => applyExts certReq13Apply es ⟨false, false, [], [], []⟩

/-! ### serverHelloMsg -/

structure ServerHello where
  vers : Nat
  random : Bytes
  sessionId : Bytes
  cipherSuite : Nat
  compressionMethod : Nat
  ocspStapling : Bool
  ticketSupported : Bool
  secureRenegotiationSupported : Bool
  secureRenegotiation : Bytes
  extendedMasterSecret : Bool
  alpnProtocol : Bytes
  scts : List Bytes
  supportedVersion : Nat
  serverShareGroup : Nat
  serverShareData : Bytes
  selectedIdentityPresent : Bool
  selectedIdentity : Nat
  supportedPoints : Bytes
  cookie : Bytes
  selectedGroup : Nat
  unknownExtensions : List Bytes
  deriving DecidableEq, Repr

def ServerHello.empty : ServerHello :=
  ⟨0, [], [], 0, 0, false, false, false, [], false, [], [], 0, 0, [], false, 0, [], [], 0, []⟩

def shFixed : Fmt (Nat × Bytes × Bytes × Nat × Nat) :=
  pair (uN 2) (pair (bytesN 32) (pair (opq 1) (pair (uN 2) (uN 1))))

def shExts (m : ServerHello) : Option (List Ext) :=
  catOpts [opt m.ocspStapling 5 (some []), opt m.ticketSupported 35 (some []),
           opt m.secureRenegotiationSupported 0xff01 ((complete (opq 1)).ser m.secureRenegotiation),
           opt (nonEmpty m.alpnProtocol) 16 (alpnOne.ser m.alpnProtocol),
           opt (nonEmptyL m.scts) 18 (sctListF.ser m.scts),
           opt (m.supportedVersion != 0) 43 ((complete (uN 2)).ser m.supportedVersion),
           opt (m.serverShareGroup != 0) 51 ((complete (pair (uN 2) (opq 2))).ser (m.serverShareGroup, m.serverShareData)),
           opt m.selectedIdentityPresent 41 ((complete (uN 2)).ser m.selectedIdentity),
           opt (nonEmpty m.cookie) 44 ((complete (opq 2)).ser m.cookie),
           opt (m.selectedGroup != 0) 51 ((complete (uN 2)).ser m.selectedGroup),
           opt (nonEmpty m.supportedPoints) 11 ((complete (opq 1)).ser m.supportedPoints),
           opt m.extendedMasterSecret 23 (some [])]

def shApply (e : Ext) (_ : Bool) (m : ServerHello) : Option ServerHello :=
  let t := e.1
  let d := e.2
  if t = 5 then (if d.isEmpty then some { m with ocspStapling := true } else none)
  else if t = 35 then (if d.isEmpty then some { m with ticketSupported := true } else none)
  else if t = 0xff01 then
    (match (complete (opq 1)).par d with
     | none => none
     | some b => some { m with secureRenegotiation := b, secureRenegotiationSupported := true })
  else if t = 16 then (match alpnOne.par d with | none => none | some b => some { m with alpnProtocol := b })
  else if t = 18 then (match sctListF.par d with | none => none | some l => some { m with scts := m.scts ++ l })
  else if t = 43 then (match (complete (uN 2)).par d with | none => none | some v => some { m with supportedVersion := v })
  else if t = 44 then (match (complete (guard nonEmpty (opq 2))).par d with | none => none | some b => some { m with cookie := b })
  else if t = 51 then
    (if d.length = 2 then
       (match (complete (uN 2)).par d with | none => none | some g => some { m with selectedGroup := g })
     else
       (match (complete (pair (uN 2) (opq 2))).par d with
        | none => none
        | some (g, b) => some { m with serverShareGroup := g, serverShareData := b }))
  else if t = 41 then
    (match (complete (uN 2)).par d with
     | none => none
     | some v => some { m with selectedIdentityPresent := true, selectedIdentity := v })
  else if t = 11 then
    (match (complete (guard nonEmpty (opq 1))).par d with | none => none | some b => some { m with supportedPoints := b })
  else if t = 23 then (if d.isEmpty then some { m with extendedMasterSecret := true } else none)
  else some { m with unknownExtensions := m.unknownExtensions ++ [natBE 2 t ++ natBE 2 d.length ++ d] }

def shWire : MFmt ((Nat × Bytes × Bytes × Nat × Nat) × Option (List Ext)) :=
  hdrSkip 2 (optTail shFixed (complete extBlock))

/-- `unknownExtensions` are appended verbatim to the extension region by the marshaller -/
def serverHello : MFmt ServerHello where
  ser m :=
    match shExts m with
    | none => none
    | some es =>
      match extList.ser es, shFixed.ser (m.vers, m.random, m.sessionId, m.cipherSuite, m.compressionMethod) with
      | some eb, some p =>
        let region := eb ++ m.unknownExtensions.flatten
        if region.isEmpty then (hdrSkip 2 restB).ser p
        else if region.length < 256 ^ 2 then (hdrSkip 2 restB).ser (p ++ natBE 2 region.length ++ region)
        else none
      | _, _ => none
  par s :=
    match shWire.par s with
    | none => none
    | some ((v, r, sid, cs, cm), tail) =>
      applyExts shApply (tail.getD [])
        { ServerHello.empty with vers := v, random := r, sessionId := sid, cipherSuite := cs, compressionMethod := cm }

/-! ### clientHelloMsg -/

structure ClientHello where
  vers : Nat
  random : Bytes
  sessionId : Bytes
  cipherSuites : List Nat
  compressionMethods : Bytes
  serverName : Bytes
  ocspStapling : Bool
  supportedCurves : List Nat
  supportedPoints : Bytes
  ticketSupported : Bool
  sessionTicket : Bytes
  sigAlgs : List Nat
  sigAlgsCert : List Nat
  secureRenegotiationSupported : Bool
  secureRenegotiation : Bytes
  extendedRandomEnabled : Bool
  extendedRandom : Bytes
  extendedMasterSecret : Bool
  alpnProtocols : List Bytes
  scts : Bool
  supportedVersions : List Nat
  cookie : Bytes
  keyShares : List (Nat × Bytes)
  earlyData : Bool
  pskModes : Bytes
  pskIdentities : List (Bytes × Nat)
  pskBinders : List Bytes
  deriving DecidableEq, Repr

def ClientHello.empty : ClientHello :=
  ⟨0, [], [], [], [], [], false, [], [], false, [], [], [], false, [], false, [], false, [], false, [], [], [], false, [], [], []⟩

def chFixed : Fmt (Nat × Bytes × Bytes × List Nat × Bytes) :=
  pair (uN 2) (pair (bytesN 32) (pair (opq 1) (pair (lp 2 (many (uN 2))) (opq 1))))

def sniF : MFmt (List (Nat × Bytes)) := complete (lp 2 (mguard nonEmptyL (many (pair (uN 1) (guard nonEmpty (opq 2))))))
def statusReqF : MFmt (Nat × Bytes × Bytes) := complete (pair (uN 1) (pair (opq 2) (opq 2)))
def versListF : MFmt (List Nat) := complete (lp 1 (mguard nonEmptyL (many (uN 2))))
def keySharesF : MFmt (List (Nat × Bytes)) := complete (lp 2 (many (pair (uN 2) (guard nonEmpty (opq 2)))))
def pskF : MFmt (List (Bytes × Nat) × List Bytes) :=
  complete (pair (lp 2 (mguard nonEmptyL (many (pair (guard nonEmpty (opq 2)) (uN 4)))))
                 (lp 2 (mguard nonEmptyL (many (guard nonEmpty (opq 1))))))

def chExts (m : ClientHello) : Option (List Ext) :=
  catOpts [opt (nonEmpty m.serverName) 0 (sniF.ser [(0, m.serverName)]),
           opt m.ocspStapling 5 (statusReqF.ser (1, [], [])),
           opt (nonEmptyL m.supportedCurves) 10 (listU16.ser m.supportedCurves),
           opt (nonEmpty m.supportedPoints) 11 ((complete (opq 1)).ser m.supportedPoints),
           opt m.ticketSupported 35 (some m.sessionTicket),
           opt (nonEmptyL m.sigAlgs) 13 (listU16.ser m.sigAlgs),
           opt (nonEmptyL m.sigAlgsCert) 50 (listU16.ser m.sigAlgsCert),
           opt m.secureRenegotiationSupported 0xff01 ((complete (opq 1)).ser m.secureRenegotiation),
           opt (nonEmptyL m.alpnProtocols) 16 (alpnList.ser m.alpnProtocols),
           opt m.extendedRandomEnabled 0x28 ((complete (opq 2)).ser m.extendedRandom),
           opt m.extendedMasterSecret 23 (some []),
           opt m.scts 18 (some []),
           opt (nonEmptyL m.supportedVersions) 43 (versListF.ser m.supportedVersions),
           opt (nonEmpty m.cookie) 44 ((complete (opq 2)).ser m.cookie),
           opt (nonEmptyL m.keyShares) 51 (keySharesF.ser m.keyShares),
           opt m.earlyData 42 (some []),
           opt (nonEmpty m.pskModes) 45 ((complete (opq 1)).ser m.pskModes),
           opt (nonEmptyL m.pskIdentities) 41 (pskF.ser (m.pskIdentities, m.pskBinders))]

/-- the `for !nameList.Empty()` loop of the server_name arm -/
def sniFold : List (Nat × Bytes) → Bytes → Option Bytes
  | [], cur => some cur
  | (ty, name) :: l, cur =>
    if ty ≠ 0 then sniFold l cur
    else if !cur.isEmpty then none
    else if name.getLast? = some 46 then none
    else sniFold l name

def chApply (e : Ext) (isLast : Bool) (m : ClientHello) : Option ClientHello :=
  let t := e.1
  let d := e.2
  if t = 0 then
    (match sniF.par d with
     | none => none
     | some names => match sniFold names m.serverName with | none => none | some n => some { m with serverName := n })
  else if t = 5 then
    (match statusReqF.par d with | none => none | some (ty, _, _) => some { m with ocspStapling := ty == 1 })
  else if t = 10 then (match listU16.par d with | none => none | some l => some { m with supportedCurves := m.supportedCurves ++ l })
  else if t = 11 then
    (match (complete (guard nonEmpty (opq 1))).par d with | none => none | some b => some { m with supportedPoints := b })
  else if t = 35 then some { m with ticketSupported := true, sessionTicket := d }
  else if t = 13 then (match listU16.par d with | none => none | some l => some { m with sigAlgs := m.sigAlgs ++ l })
  else if t = 50 then (match listU16.par d with | none => none | some l => some { m with sigAlgsCert := m.sigAlgsCert ++ l })
  else if t = 0xff01 then
    (match (complete (opq 1)).par d with
     | none => none
     | some b => some { m with secureRenegotiation := b, secureRenegotiationSupported := true })
  else if t = 16 then (match alpnList.par d with | none => none | some l => some { m with alpnProtocols := m.alpnProtocols ++ l })
  else if t = 18 then (if d.isEmpty then some { m with scts := true } else none)
  else if t = 43 then (match versListF.par d with | none => none | some l => some { m with supportedVersions := m.supportedVersions ++ l })
  else if t = 44 then
    (match (complete (guard nonEmpty (opq 2))).par d with | none => none | some b => some { m with cookie := b })
  else if t = 51 then (match keySharesF.par d with | none => none | some l => some { m with keyShares := m.keyShares ++ l })
  else if t = 42 then (if d.isEmpty then some { m with earlyData := true } else none)
  else if t = 45 then (match (complete (opq 1)).par d with | none => none | some b => some { m with pskModes := b })
  else if t = 41 then
    (if !isLast then none
     else match pskF.par d with
       | none => none
       | some (ids, binders) => some { m with pskIdentities := m.pskIdentities ++ ids, pskBinders := m.pskBinders ++ binders })
  else if t = 0x28 then
    (match (complete (guard nonEmpty (opq 2))).par d with
     | none => none
     | some b => some { m with extendedRandomEnabled := true, extendedRandom := b })
  else if t = 23 then (if d.isEmpty then some { m with extendedMasterSecret := true } else none)
  else some m

def chWire : MFmt ((Nat × Bytes × Bytes × List Nat × Bytes) × Option (List Ext)) :=
  hdrSkip 1 (optTail chFixed (complete extBlock))

def clientHello : MFmt ClientHello where
  ser m :=
    match chExts m with
    | none => none
    | some es =>
      chWire.ser ((m.vers, m.random, m.sessionId, m.cipherSuites, m.compressionMethods), if es.isEmpty then none else some es)
  par s :=
    match chWire.par s with
    | none => none
    | some ((v, r, sid, cs, cm), tail) =>
      applyExts chApply (tail.getD [])
        { ClientHello.empty with vers := v, random := r, sessionId := sid, cipherSuites := cs, compressionMethods := cm,
                                 secureRenegotiationSupported := cs.contains 0x00ff }


/-! ### decidable form of the round-trip domains (printed by the driver next to every `rt` answer and compared with
    the harness' `valid`, so the domain the T3 oracle uses is the one the theorems are stated for) -/

def validCertB (c : Cert) : Bool :=
  (!c.certs.isEmpty || (c.ocsp.isNone && c.scts.isNone)) &&
  (match c.ocsp with | none => true | some o => nonEmpty o) &&
  (match c.scts with | none => true | some l => nonEmptyL l && l.all nonEmpty)

def knownSHB (t : Nat) : Bool :=
  t == 5 || t == 35 || t == 0xff01 || t == 16 || t == 18 || t == 43 || t == 44 || t == 51 || t == 41 || t == 11 || t == 23

def validSHB (m : ServerHello) : Bool :=
  (m.secureRenegotiationSupported || m.secureRenegotiation.isEmpty) && m.scts.all nonEmpty &&
  (m.serverShareGroup != 0 || m.serverShareData.isEmpty) && (m.selectedIdentityPresent || m.selectedIdentity == 0) &&
  m.unknownExtensions.all (fun b => match (complete extEntry).par b with | some e => !knownSHB e.1 | none => false)

def validCHB (m : ClientHello) : Bool :=
  (!m.cipherSuites.contains 255 || m.secureRenegotiationSupported) &&
  (m.secureRenegotiationSupported || m.secureRenegotiation.isEmpty) &&
  (m.serverName.getLast? != some 46) &&
  (m.ticketSupported || m.sessionTicket.isEmpty) &&
  (m.extendedRandomEnabled == nonEmpty m.extendedRandom) &&
  m.alpnProtocols.all nonEmpty && m.keyShares.all (fun k => nonEmpty k.2) &&
  (if m.pskIdentities.isEmpty then m.pskBinders.isEmpty
   else m.pskIdentities.all (fun i => nonEmpty i.1) && nonEmptyL m.pskBinders && m.pskBinders.all nonEmpty)

end ZV.C30
