import ZV.Model.C18
import ZV.Model.Time
import ZV.Generated.C20
/-!
  C20, x509 level: models of the functions of `x509/x509.go` that read `asn1.AllowPermissiveParsing`
  (`parsePublicKey`, `parseGeneralNames`, the extension loop of `parseCertificate`), with the flag as the `perm`
  parameter, branch for branch.  Byte-level parsing is the `encoding/asn1` model `ZV.C18.unmarshal` run on the
  schema of the real Go type (the schemas below are compared with the reflected Go types by the T2 op `c20 xsch`).

  Opaque parameters (`Sub`): sub-parsers that do not read the flag themselves and are too big to model
  (`parseTorServiceDescriptorSyntax`, `QCStatements.Parse`, and `parseSignedCertificateTimestampList`, of which
  `parseSCTList` below is the instance with only `ct.DeserializeSCT` left abstract; `elliptic.Unmarshal` is the
  predicate `ecOk` of the bytes).  The theorems quantify over them (with the hypothesis
  that the sub-parser itself is conservative where it can depend on the mode); the driver gets their outcome on the
  case line (computed by the harness through a verif hook, and re-checked in `Exec`).

  `interface{}` (ANY) inside `pkix.RDNSequence` is outside the C18 schema language: an ANY field is read with the
  schema `raw` and then checked by `anyOk` (the ANY arm of `parseField`, asn1.go 712–762: same header checks as a
  RawValue, then the primitive parser selected by the universal tag).
-/
namespace ZV.C20.X
open ZV.C18

/-- `asn1.Unmarshal(bs, &v)`: the decoded value only (`rest` is ignored by every caller modelled here unless stated).
    A model-level `panic` of the asn1 interpreter is treated as an error (no site distinguishes them). -/
def un (perm : Bool) (s : Schema) (p : Params) (bs : Bytes) : Res Val :=
  match unmarshal perm s p bs with
  | .ok (v, _) => .ok v
  | .err => .err
  | .panic => .err

/-! ## schemas of the Go types (tied to reflection by `c20 xsch`) -/

def pkcs1Schema : Schema := .struct (.fcons {} .bigint (.fcons {} .bigint .fnil))
/-- pkix.OtherName -/
def otherNameSchema : Schema := .struct (.fcons {} .oid (.fcons { explicit := true, tag := some 0 } .raw .fnil))
/-- pkix.EDIPartyName -/
def ediSchema : Schema :=
  .struct (.fcons { tag := some 0, optional := true, explicit := true } .str (.fcons { tag := some 1, explicit := true } .str .fnil))
/-- pkix.RDNSequence with ANY read as raw -/
def rdnSchema : Schema := .seqOf false (.seqOf true (.struct (.fcons {} .oid (.fcons {} .raw .fnil))))
def subtreeSchema : Schema :=
  .struct (.fcons { optional := true } .raw
          (.fcons { tag := some 0, defaultValue := some 0, optional := true } .int64
          (.fcons { tag := some 1, optional := true } .int64 .fnil)))
def ncSchema : Schema :=
  .struct (.fcons { optional := true, tag := some 0 } (.seqOf false subtreeSchema)
          (.fcons { optional := true, tag := some 1 } (.seqOf false subtreeSchema) .fnil))
def dpNameSchema : Schema :=
  .struct (.fcons { optional := true, tag := some 0 } .raw (.fcons { optional := true, tag := some 1 } rdnSchema .fnil))
def cdpSchema : Schema :=
  .seqOf false (.struct (.fcons { optional := true, tag := some 0 } dpNameSchema
                        (.fcons { optional := true, tag := some 1 } .bits
                        (.fcons { optional := true, tag := some 2 } .raw .fnil))))
def akiSchema : Schema := .struct (.fcons { optional := true, tag := some 0 } .octets .fnil)
def ekuSchema : Schema := .seqOf false .oid
def qualifierSchema : Schema := .struct (.fcons {} .oid (.fcons {} .raw .fnil))
def policiesSchema : Schema :=
  .seqOf false (.struct (.fcons {} .oid (.fcons { optional := true } (.seqOf false qualifierSchema) .fnil)))
def noticeRefSchema : Schema := .struct (.fcons {} .raw (.fcons {} (.seqOf false .int64) .fnil))
def userNoticeSchema : Schema :=
  .struct (.fcons { optional := true } noticeRefSchema (.fcons { optional := true } .raw .fnil))
def aiaSchema : Schema := .seqOf false (.struct (.fcons {} .oid (.fcons {} .raw .fnil)))
def cabfSchema : Schema :=
  .struct (.fcons { stringType := 19 } .str (.fcons { stringType := 19 } .str
          (.fcons { stringType := 19, optional := true, tag := some 0 } .str (.fcons { stringType := 12 } .str .fnil))))
def qcSchema : Schema := .seqOf false (.struct (.fcons {} .oid (.fcons { optional := true } .raw .fnil)))

/-! ## ANY (`interface{}`) -/

/-- the primitive parser the ANY arm selects for a universal primitive element: `true` = nil error -/
def anyPrim (perm : Bool) (tag : Nat) (inner : Bytes) : Bool :=
  if tag = 19 then (parsePrintableString perm inner).isOk
  else if tag = 18 then (parseNumericString perm inner).isOk
  else if tag = 22 then (parseIA5String perm inner).isOk
  else if tag = 20 then true
  else if tag = 12 then (parseUTF8String perm inner).isOk
  else if tag = 2 then (parseInt64 perm inner).isOk
  else if tag = 3 then (parseBitString inner).isOk
  else if tag = 6 then (parseOID inner).isOk
  else if tag = 23 then (ZV.Time.EA.parseUTCTime perm inner).isOk
  else if tag = 24 then (ZV.Time.EA.parseGeneralizedTime perm inner).isOk
  else if tag = 4 then true
  else if tag = 30 then (parseBMPString inner).isOk
  else true

def anyOk (perm : Bool) : Val → Bool
  | .raw cls tag compound inner _ => if !compound && cls == 0 then anyPrim perm tag inner else true
  | _ => true

/-- AttributeTypeAndValue{Type, Value interface{}} -/
def atvOk (perm : Bool) : Val → Bool
  | .vcons _ (.vcons r .vnil) => anyOk perm r
  | _ => true

def allChain (f : Val → Bool) : Val → Bool
  | .vcons v rest => f v && allChain f rest
  | _ => true

/-- `len(slice)` of a decoded slice -/
def chainLength : Val → Nat
  | .vcons _ r => chainLength r + 1
  | _ => 0

def rdnAnyOk (perm : Bool) (v : Val) : Bool := allChain (allChain (atvOk perm)) v

/-- `asn1.Unmarshal(bs, &rdn)` for `rdn pkix.RDNSequence` -/
def unRDN (perm : Bool) (bs : Bytes) : Res Val :=
  match un perm rdnSchema {} bs with
  | .ok v => if rdnAnyOk perm v then .ok v else .err
  | .err => .err
  | .panic => .err

/-! ## parsePublicKey -/

inductive Key where
  | rsa (n e : Int)
  | dsa (y p q g : Int)
  /-- `AugmentedECDSA`: the named curve (0 = P-224, 1 = P-256, 2 = P-384, 3 = P-521) and the encoded point (`X`, `Y` are a
      function of the two) -/
  | ecdsa (curve : Nat) (point : Bytes)
  | ed25519 (b : Bytes)
  | x25519 (b : Bytes)
  /-- `default: return nil, nil` -/
  | none
  deriving DecidableEq, Repr

/-- the `case RSA:` arm.  SITE parsePublicKey/0 (strict-guard): the two sign checks.
    `p.N` / `p.E` are never nil after a successful Unmarshal; a nil would panic in `Sign()`. -/
def parsePublicKeyRSA (perm : Bool) (asn1Data : Bytes) : Res Key :=
  match unmarshal perm pkcs1Schema {} asn1Data with
  | .err => .err
  | .panic => .err
  | .ok (v, rest) =>
    if rest.length != 0 then .err
    else match v with
      | .vcons (.int n) (.vcons (.int e) .vnil) =>
        if !perm && decide (n ≤ 0) then .err
        else if !perm && decide (e ≤ 0) then .err
        else .ok (.rsa n e)
      | _ => .panic

/-- dsaAlgorithmParameters{P, Q, G *big.Int} -/
def dsaParamsSchema : Schema := .struct (.fcons {} .bigint (.fcons {} .bigint (.fcons {} .bigint .fnil)))

/-- the sign test of the DSA arm (not guarded by the flag) -/
def dsaCheck (yv pv : Val) : Res Key :=
  match yv, pv with
  | .int y, .vcons (.int p) (.vcons (.int q) (.vcons (.int g) .vnil)) =>
    if y ≤ 0 ∨ p ≤ 0 ∨ q ≤ 0 ∨ g ≤ 0 then .err else .ok (.dsa y p q g)
  | _, _ => .panic

/-- the `case DSA:` arm: the flag is not read; the mode enters through the two `asn1.Unmarshal` calls only -/
def parsePublicKeyDSA (perm : Bool) (asn1Data paramsFull : Bytes) : Res Key :=
  match unmarshal perm .bigint {} asn1Data with
  | .err => .err
  | .panic => .err
  | .ok (yv, rest) =>
    if rest.length != 0 then .err
    else match unmarshal perm dsaParamsSchema {} paramsFull with
      | .err => .err
      | .panic => .err
      | .ok (pv, rest2) => if rest2.length != 0 then .err else dsaCheck yv pv

/-- `namedCurveFromOID` -/
def namedCurveFromOID (oid : List Int) : Option Nat :=
  if oid = [1, 3, 132, 0, 33] then some 0
  else if oid = [1, 2, 840, 10045, 3, 1, 7] then some 1
  else if oid = [1, 3, 132, 0, 34] then some 2
  else if oid = [1, 3, 132, 0, 35] then some 3
  else none

/-- the part of the ECDSA arm after the parameters are read; `ecOk curve data` stands for
    `elliptic.Unmarshal(curve, data) != nil` (length, format byte, on-curve test: a predicate of the bytes) -/
def ecdsaCheck (ecOk : Nat → Bytes → Bool) (ov : Val) (asn1Data : Bytes) : Res Key :=
  match ov with
  | .oid arcs =>
    (match namedCurveFromOID arcs with
     | none => .err
     | some c => if ecOk c asn1Data then .ok (.ecdsa c asn1Data) else .err)
  | _ => .panic

/-- the `case ECDSA:` arm -/
def parsePublicKeyECDSA (ecOk : Nat → Bytes → Bool) (perm : Bool) (asn1Data paramsFull : Bytes) : Res Key :=
  match unmarshal perm .oid {} paramsFull with
  | .err => .err
  | .panic => .err
  | .ok (ov, rest) => if rest.length != 0 then .err else ecdsaCheck ecOk ov asn1Data

/-- `parsePublicKey`: `algo` = 1 RSA, 2 DSA, 3 ECDSA, 4 Ed25519, 5 X25519, anything else `return nil, nil`.
    `asn1Data` = `keyData.PublicKey.RightAlign()`, `paramsFull` = `keyData.Algorithm.Parameters.FullBytes`.
    Only the RSA arm reads the flag. -/
def parsePublicKey (ecOk : Nat → Bytes → Bool) (perm : Bool) (algo : Nat) (asn1Data paramsFull : Bytes) : Res Key :=
  if algo = 1 then parsePublicKeyRSA perm asn1Data
  else if algo = 2 then parsePublicKeyDSA perm asn1Data paramsFull
  else if algo = 3 then parsePublicKeyECDSA ecOk perm asn1Data paramsFull
  else if algo = 4 then
    if asn1Data.length > 32 then .err
    else if asn1Data.length != 32 then .err
    else .ok (.ed25519 asn1Data)
  else if algo = 5 then
    if asn1Data.length > 32 then .err else .ok (.x25519 asn1Data)
  else .ok .none

/-! ## parseGeneralNames -/

structure GN where
  other : List Val := []
  email : List Bytes := []
  dns : List Bytes := []
  uri : List Bytes := []
  dir : List Val := []
  edi : List Val := []
  ip : List Bytes := []
  rid : List Val := []
  failed : List Val := []
  deriving DecidableEq, Repr

/-- the body of `switch v.Tag` for one GeneralName `v` (a RawValue with tag `tag`, content `inner`, encoding `full`).
    Result: (accumulators, `true` = next element / `false` = `return` with `err != nil`).
    SITES parseGeneralNames/0 (tag 0), /1 (tag 4), /2 (tag 5), /3 (tag 7, if-else), /4 (tag 8). -/
def gnElem (perm : Bool) (v : Val) (tag : Nat) (inner full : Bytes) (acc : GN) : GN × Bool :=
  if tag = 0 then
    match un perm otherNameSchema { tag := some 0 } full with
    | .ok o => ({ acc with other := acc.other ++ [o] }, true)
    | .err => if perm then ({ acc with failed := acc.failed ++ [v] }, true) else (acc, false)
    | .panic => (acc, false)
  else if tag = 1 then ({ acc with email := acc.email ++ [inner] }, true)
  else if tag = 2 then ({ acc with dns := acc.dns ++ [inner] }, true)
  else if tag = 4 then
    match unRDN perm inner with
    | .ok d => ({ acc with dir := acc.dir ++ [d] }, true)
    | .err => if perm then ({ acc with failed := acc.failed ++ [v] }, true) else (acc, false)
    | .panic => (acc, false)
  else if tag = 5 then
    match un perm ediSchema { tag := some 5 } full with
    | .ok o => ({ acc with edi := acc.edi ++ [o] }, true)
    | .err => if perm then ({ acc with failed := acc.failed ++ [v] }, true) else (acc, false)
    | .panic => (acc, false)
  else if tag = 6 then ({ acc with uri := acc.uri ++ [inner] }, true)
  else if tag = 7 then
    if inner.length = 4 ∨ inner.length = 16 then ({ acc with ip := acc.ip ++ [inner] }, true)
    else if perm then ({ acc with failed := acc.failed ++ [v] }, true)
    else (acc, false)
  else if tag = 8 then
    match un perm .oid { tag := some 8 } full with
    | .ok o => ({ acc with rid := acc.rid ++ [o] }, true)
    | .err => if perm then ({ acc with failed := acc.failed ++ [v] }, true) else (acc, false)
    | .panic => (acc, false)
  else (acc, true)

/-- `for len(rest) > 0 { rest, err = asn1.Unmarshal(rest, &v); … }`; `fuel` = `len(rest)` at entry (every iteration
    consumes at least two bytes). -/
def gnLoop (perm : Bool) : (fuel : Nat) → Bytes → GN → GN × Bool
  | _, [], acc => (acc, true)
  | 0, _ :: _, acc => (acc, false)
  | f + 1, b :: bs, acc =>
    match unmarshal perm .raw {} (b :: bs) with
    | .ok (.raw cls tag k inner full, rest) =>
      (match gnElem perm (.raw cls tag k inner full) tag inner full acc with
       | (acc', true) => gnLoop perm f rest acc'
       | (acc', false) => (acc', false))
    | _ => (acc, false)

/-- `parseGeneralNames`: the named results at return, and `err == nil`. -/
def parseGeneralNames (perm : Bool) (value : Bytes) : GN × Bool :=
  match unmarshal perm .raw {} value with
  | .ok (.raw cls tag k inner _, _) =>
    if !k || tag != 16 || cls != 0 then ({}, false)
    else gnLoop perm inner.length inner {}
  | _ => ({}, false)

/-! ## parseCertificate: the extension loop -/

structure NCE where
  kind : Nat
  data : Val
  min : Int
  max : Int
  deriving DecidableEq, Repr

structure Pol where
  id : Val
  qualifierIds : List Val := []
  cps : List Bytes := []
  explicitTexts : List Bytes := []
  noticeOrgs : List Bytes := []
  notices : Nat := 0
  deriving DecidableEq, Repr

/-- the result fields of `Certificate` fed by the sites of the flag -/
structure Cert where
  key : Option Key := none
  san : GN := {}
  ian : GN := {}
  failedNames : List Val := []
  ncCritical : Bool := false
  permitted : List NCE := []
  excluded : List NCE := []
  crldp : List Bytes := []
  aki : Val := .null
  ski : Val := .null
  ekuKnown : Nat := 0
  ekuUnknown : List Val := []
  policies : Option (List Pol) := none
  ocsp : List Bytes := []
  issuers : List Bytes := []
  scts : Nat := 0
  isPrecert : Bool := false
  tor : Option Nat := none
  cabf : Option Val := none
  qc : Bool := false
  deriving DecidableEq, Repr

/-- opaque sub-parsers: `some n` = nil error (n items), `none` = error -/
structure Sub where
  tor : Bool → Bytes → Option Nat
  /-- `parseSignedCertificateTimestampList`: (SCTs appended to `out` before returning, `err == nil`) -/
  sct : Bool → Bytes → Nat × Bool
  qcParse : Bool → Bytes → Option Unit

/-- the loop of `parseSignedCertificateTimestampList`; `deser i chunk` stands for `ct.DeserializeSCT(chunk)` returning a
    nil error for the `i`-th SCT (it reads TLS-encoded bytes, no ASN.1, and never consults the flag). `fuel` = `len(scts)`. -/
def sctLoop (deser : Nat → Bytes → Bool) : (fuel : Nat) → (idx : Nat) → Bytes → Nat → Nat × Bool
  | _, _, [], n => (n, true)
  | _, _, [_], n => (n, false)
  | 0, _, _ :: _ :: _, n => (n, false)
  | f + 1, i, b0 :: b1 :: rest, n =>
    if !(b1.toNat + b0.toNat * 256 + 2 ≤ rest.length + 2) then (n, false)
    else if deser i (rest.take (b1.toNat + b0.toNat * 256)) then
      sctLoop deser f (i + 1) (rest.drop (b1.toNat + b0.toNat * 256)) (n + 1)
    else (n, false)

/-- `parseSignedCertificateTimestampList`: (SCTs appended, `err == nil`).  The mode enters through the one
    `asn1.Unmarshal(ext.Value, &scts)` only. -/
def parseSCTList (deser : Nat → Bytes → Bool) (perm : Bool) (value : Bytes) : Nat × Bool :=
  match un perm .octets {} value with
  | .ok (.bytes scts) => if scts.length < 2 then (0, false) else sctLoop deser scts.length 0 (scts.drop 2) 0
  | .ok _ => (0, false)
  | .err => (0, false)
  | .panic => (0, false)

structure Ext where
  id : List Int
  critical : Bool
  value : Bytes
  deriving DecidableEq, Repr

def subtreeParts : Val → Option (Val × Nat × Bytes × Bytes × Int × Int)
  | .vcons (.raw c t k b fb) (.vcons (.int mn) (.vcons (.int mx) .vnil)) => some (.raw c t k b fb, t, b, fb, mn, mx)
  | _ => none

/-- one iteration of `for _, subtree := range constraints.Permitted`.
    SITES parseCertificate/3 (tag 4), /4 (tag 5), /5 (tag 7, strict-guard), /6 (tag 8). -/
def ncPermitted (perm : Bool) (st : Val) (acc : List NCE) : List NCE × Bool :=
  match subtreeParts st with
  | none => (acc, true)
  | some (v, tag, inner, full, mn, mx) =>
    if tag = 1 ∨ tag = 2 ∨ tag = 6 then (acc ++ [⟨tag, .bytes inner, mn, mx⟩], true)
    else if tag = 3 then (acc ++ [⟨3, v, mn, mx⟩], true)
    else if tag = 4 then
      match unRDN perm inner with
      | .ok d => (acc ++ [⟨4, d, mn, mx⟩], true)
      | .err => if perm then (acc, true) else (acc, false)
      | .panic => (acc, false)
    else if tag = 5 then
      match un perm ediSchema { tag := some 5 } full with
      | .ok d => (acc ++ [⟨5, d, mn, mx⟩], true)
      | .err => if perm then (acc, true) else (acc, false)
      | .panic => (acc, false)
    else if tag = 7 then
      if inner.length = 8 ∨ inner.length = 32 then (acc ++ [⟨7, .bytes inner, mn, mx⟩], true)
      else if !perm then (acc, false) else (acc, true)
    else if tag = 8 then
      match un perm .oid { tag := some 8 } full with
      | .ok d => (acc ++ [⟨8, d, mn, mx⟩], true)
      | .err => if perm then (acc, true) else (acc, false)
      | .panic => (acc, false)
    else (acc, true)

/-- one iteration of `for _, subtree := range constraints.Excluded` (tags 5 and 8 read `Value.Bytes` untagged).
    SITES parseCertificate/7 (tag 4), /8 (tag 5), /9 (tag 7, strict-guard), /10 (tag 8). -/
def ncExcluded (perm : Bool) (st : Val) (acc : List NCE) : List NCE × Bool :=
  match subtreeParts st with
  | none => (acc, true)
  | some (v, tag, inner, _, mn, mx) =>
    if tag = 1 ∨ tag = 2 ∨ tag = 6 then (acc ++ [⟨tag, .bytes inner, mn, mx⟩], true)
    else if tag = 3 then (acc ++ [⟨3, v, mn, mx⟩], true)
    else if tag = 4 then
      match unRDN perm inner with
      | .ok d => (acc ++ [⟨4, d, mn, mx⟩], true)
      | .err => if perm then (acc, true) else (acc, false)
      | .panic => (acc, false)
    else if tag = 5 then
      match un perm ediSchema {} inner with
      | .ok d => (acc ++ [⟨5, d, mn, mx⟩], true)
      | .err => if perm then (acc, true) else (acc, false)
      | .panic => (acc, false)
    else if tag = 7 then
      if inner.length = 8 ∨ inner.length = 32 then (acc ++ [⟨7, .bytes inner, mn, mx⟩], true)
      else if !perm then (acc, false) else (acc, true)
    else if tag = 8 then
      match un perm .oid {} inner with
      | .ok d => (acc ++ [⟨8, d, mn, mx⟩], true)
      | .err => if perm then (acc, true) else (acc, false)
      | .panic => (acc, false)
    else (acc, true)

/-- `for _, x := range slice { … }` over a decoded slice, with early `return` -/
def chainLoop {σ : Type} (f : Val → σ → σ × Bool) : Val → σ → σ × Bool
  | .vcons v rest, acc =>
    (match f v acc with
     | (acc', true) => chainLoop f rest acc'
     | (acc', false) => (acc', false))
  | _, acc => (acc, true)

/-- `case 30` after the successful Unmarshal -/
def ncApply (perm : Bool) (critical : Bool) (c : Val) (out : Cert) : Res Cert :=
  match c with
  | .vcons p (.vcons x .vnil) =>
    let out1 := if critical then { out with ncCritical := true } else out
    (match chainLoop (ncPermitted perm) p out1.permitted with
     | (_, false) => .err
     | (pl, true) =>
       match chainLoop (ncExcluded perm) x out1.excluded with
       | (_, false) => .err
       | (xl, true) => .ok { out1 with permitted := pl, excluded := xl })
  | _ => .panic

/-- the inner loop of `case 31`: `for len(dpName) > 0 { dpName, err = asn1.Unmarshal(dpName, &n) … }`.
    SITE parseCertificate/12: on error the permissive mode `continue`s with `dpName == nil`, i.e. leaves the loop. -/
def dpLoop (perm : Bool) : (fuel : Nat) → Bytes → List Bytes → List Bytes × Bool
  | _, [], acc => (acc, true)
  | 0, _ :: _, acc => (acc, false)
  | f + 1, b :: bs, acc =>
    match unmarshal perm .raw {} (b :: bs) with
    | .ok (.raw _ tag _ inner _, rest) =>
      dpLoop perm f rest (if tag = 6 then acc ++ [inner] else acc)
    | _ => if perm then (acc, true) else (acc, false)

/-- `for _, dp := range cdp` body -/
def dpElem (perm : Bool) (dp : Val) (acc : List Bytes) : List Bytes × Bool :=
  match dp with
  | .vcons (.vcons (.raw _ _ _ inner _) _) _ =>
    if inner.length = 0 then (acc, true) else dpLoop perm inner.length inner acc
  | _ => (acc, true)

/-- the ANY fields of `[]distributionPoint` (RelativeName) -/
def dpAnyOk (perm : Bool) : Val → Bool
  | .vcons (.vcons _ (.vcons rel .vnil)) _ => rdnAnyOk perm rel
  | _ => true

/-- `asn1.Unmarshal(e.Value, &cdp)` -/
def unCDP (perm : Bool) (bs : Bytes) : Res Val :=
  match un perm cdpSchema {} bs with
  | .ok v => if allChain (dpAnyOk perm) v then .ok v else .err
  | .err => .err
  | .panic => .err

def rawParts : Val → Option (Nat × Bytes × Bytes)
  | .raw _ t _ b fb => some (t, b, fb)
  | _ => none

def oidUserNotice : List Int := [1, 3, 6, 1, 5, 5, 7, 2, 2]
def oidCPS : List Int := [1, 3, 6, 1, 5, 5, 7, 2, 1]

/-- the `if err == nil { … }` block after the userNotice Unmarshal -/
def noticeApply (un : Val) (acc0 : Pol) : Pol × Bool :=
  match un with
  | .vcons (.vcons (.raw _ _ _ org orgFull) (.vcons nums .vnil)) (.vcons (.raw _ _ _ txt _) .vnil) =>
    let a1 := if txt.length != 0 then { acc0 with explicitTexts := acc0.explicitTexts ++ [txt] } else acc0
    let a2 := if !orgFull.isEmpty || nums != .null then { a1 with noticeOrgs := a1.noticeOrgs ++ [org] } else a1
    ({ a2 with notices := a2.notices + 1 }, true)
  | _ => (acc0, false)

/-- `if qualifier.PolicyQualifierId.Equal(userNoticeOID) { … }`.  SITE parseCertificate/17 (strict-guard). -/
def qualNotice (perm : Bool) (qid : List Int) (qfull : Bytes) (acc0 : Pol) : Pol × Bool :=
  if qid = oidUserNotice then
    match un perm userNoticeSchema {} qfull with
    | .ok w => noticeApply w acc0
    | .err => if !perm then (acc0, false) else (acc0, true)
    | .panic => (acc0, false)
  else (acc0, true)

def cpsApply (raw : Val) (a : Pol) : Pol × Bool :=
  match raw with
  | .raw _ _ _ b _ => ({ a with cps := a.cps ++ [b] }, true)
  | _ => (a, false)

/-- `if qualifier.PolicyQualifierId.Equal(cpsURIOID) { … }`.  SITE parseCertificate/18 (strict-guard). -/
def qualCPS (perm : Bool) (qid : List Int) (qfull : Bytes) (a : Pol) : Pol × Bool :=
  if qid = oidCPS then
    match un perm .raw {} qfull with
    | .ok w => cpsApply w a
    | .err => if !perm then (a, false) else (a, true)
    | .panic => (a, false)
  else (a, true)

/-- `for _, qualifier := range policy.Qualifiers` body -/
def qualElem (perm : Bool) (q : Val) (acc : Pol) : Pol × Bool :=
  match q with
  | .vcons (.oid qid) (.vcons (.raw _ _ _ _ qfull) .vnil) =>
    (match qualNotice perm qid qfull { acc with qualifierIds := acc.qualifierIds ++ [.oid qid] } with
     | (a, false) => (a, false)
     | (a, true) => qualCPS perm qid qfull a)
  | _ => (acc, true)

/-- `for i, policy := range policies` body -/
def polElem (perm : Bool) (pv : Val) (acc : List Pol) : List Pol × Bool :=
  match pv with
  | .vcons pid (.vcons quals .vnil) =>
    (match chainLoop (qualElem perm) quals { id := pid } with
     | (p, true) => (acc ++ [p], true)
     | (_, false) => (acc, false))
  | _ => (acc, true)

/-- `extKeyUsageFromOID`'s `ok`: membership in the key set of `ekuConstants` (T1 table `ZV.Generated.C20.ekuKnownOIDs`,
    go/ast; the map is keyed by `oid.String()`, and two OIDs have the same dotted string iff they have the same arcs) -/
def ekuIsKnown (arcs : List Int) : Bool := ZV.Generated.C20.ekuKnownOIDs.contains arcs

/-- `for _, u := range keyUsage { if _, ok := extKeyUsageFromOID(u); ok { ExtKeyUsage = append(…) } else { UnknownExtKeyUsage = append(…, u) } }`;
    the known usages are kept as their number (the `ExtKeyUsage` enum value is a table lookup outside the model) -/
def ekuSplit : Val → Nat × List Val → Nat × List Val
  | .vcons (.oid a) rest, (n, u) => if ekuIsKnown a then ekuSplit rest (n + 1, u) else ekuSplit rest (n, u ++ [.oid a])
  | .vcons _ rest, acc => ekuSplit rest acc
  | _, acc => acc

def oidAIA : List Int := [1, 3, 6, 1, 5, 5, 7, 1, 1]
def oidSCT : List Int := [1, 3, 6, 1, 4, 1, 11129, 2, 4, 2]
def oidPoison : List Int := [1, 3, 6, 1, 4, 1, 11129, 2, 4, 3]
def oidTor : List Int := [2, 23, 140, 1, 31]
def oidCABF : List Int := [2, 23, 140, 3, 1]
def oidQC : List Int := [1, 3, 6, 1, 5, 5, 7, 1, 3]
def oidOCSP : List Int := [1, 3, 6, 1, 5, 5, 7, 48, 1]
def oidIssuers : List Int := [1, 3, 6, 1, 5, 5, 7, 48, 2]

def aiaElem (v : Val) (acc : List Bytes × List Bytes) : (List Bytes × List Bytes) × Bool :=
  match v with
  | .vcons (.oid m) (.vcons (.raw _ t _ b _) .vnil) =>
    if t != 6 then (acc, true)
    else if m = oidOCSP then ((acc.1 ++ [b], acc.2), true)
    else if m = oidIssuers then ((acc.1, acc.2 ++ [b]), true)
    else (acc, true)
  | _ => (acc, true)

/-- `x, err := Unmarshal(…); if err != nil { if AllowPermissiveParsing { continue }; return nil, err }; out = use x`
    (also written `if err != nil && Allow… { continue }; if err != nil { return }` and `if err != nil { if !Allow… { return }; continue }`
    in x509.go — the same decision). -/
def guardStep {α : Type} (perm : Bool) (r : Res α) (use : α → Res Cert) (out : Cert) : Res Cert :=
  match r with
  | .ok x => use x
  | .err => if perm then .ok out else .err
  | .panic => .panic

def optRes {α : Type} : Option α → Res α
  | some a => .ok a
  | none => .err

/-- the body of `for _, e := range in.TBSCertificate.Extensions` from the `if len(e.Id) == 4 && …` on.
    `.ok out'` = the loop goes on with `out'` (by `continue` or by reaching the end of the body; nothing follows the
    if-chain, the critical-extension check is commented out), `.err` = `return nil/out, err`.
    keyUsage (15) and basicConstraints (19) do not read the flag and write fields outside `Cert` (finding D31). -/
def extStep (sub : Sub) (perm : Bool) (e : Ext) (out : Cert) : Res Cert :=
  if e.id = [2, 5, 29, 17] then                         -- SITE parseCertificate/0
    let g := parseGeneralNames perm e.value
    let out1 := { out with san := { g.1 with failed := [] }, failedNames := g.1.failed }
    if !g.2 then (if perm then .ok out1 else .err) else .ok out1
  else if e.id = [2, 5, 29, 18] then                    -- SITE parseCertificate/1
    let g := parseGeneralNames perm e.value
    let out1 := { out with ian := { g.1 with failed := [] }, failedNames := g.1.failed }
    if !g.2 then (if perm then .ok out1 else .err) else .ok out1
  else if e.id = [2, 5, 29, 30] then                    -- SITE parseCertificate/2 (+ /3 … /10 in ncApply)
    guardStep perm (un perm ncSchema {} e.value) (fun c => ncApply perm e.critical c out) out
  else if e.id = [2, 5, 29, 31] then                    -- SITE parseCertificate/11 (+ /12 in dpLoop)
    guardStep perm (unCDP perm e.value) (fun c =>
      match chainLoop (dpElem perm) c out.crldp with
      | (l, true) => .ok { out with crldp := l }
      | (_, false) => .err) out
  else if e.id = [2, 5, 29, 35] then                    -- SITE parseCertificate/13
    guardStep perm (un perm akiSchema {} e.value) (fun a =>
      match a with
      | .vcons id .vnil => .ok { out with aki := id }
      | _ => .panic) out
  else if e.id = [2, 5, 29, 37] then                    -- SITE parseCertificate/14 (strict-guard form)
    guardStep perm (un perm ekuSchema {} e.value) (fun l =>
      let r := ekuSplit l (out.ekuKnown, out.ekuUnknown)
      .ok { out with ekuKnown := r.1, ekuUnknown := r.2 }) out
  else if e.id = [2, 5, 29, 14] then                    -- SITE parseCertificate/15
    guardStep perm (un perm .octets {} e.value) (fun k => .ok { out with ski := k }) out
  else if e.id = [2, 5, 29, 32] then                    -- SITE parseCertificate/16 (+ /17, /18 in qualElem)
    guardStep perm (un perm policiesSchema {} e.value) (fun ps =>
      match chainLoop (polElem perm) ps [] with
      | (l, true) => .ok { out with policies := some l }
      | (_, false) => .err) out
  else if e.id = oidAIA then                            -- SITE parseCertificate/19
    guardStep perm (un perm aiaSchema {} e.value) (fun l =>
      match chainLoop aiaElem l (out.ocsp, out.issuers) with
      | (r, _) => .ok { out with ocsp := r.1, issuers := r.2 }) out
  else if e.id = oidSCT then                            -- SITE parseCertificate/20
    let r := sub.sct perm e.value
    let out1 := { out with scts := out.scts + r.1 }
    if !r.2 then (if perm then .ok out1 else .err) else .ok out1
  else if e.id = oidPoison then                         -- SITE parseCertificate/21 (strict-guard)
    if e.value = [5, 0] then .ok { out with isPrecert := true }
    else if !perm then .err else .ok out
  else if e.id = oidTor then                            -- SITE parseCertificate/22
    guardStep perm (optRes (sub.tor perm e.value)) (fun n => .ok { out with tor := some n }) out
  else if e.id = oidCABF then                           -- SITE parseCertificate/23
    guardStep perm (un perm cabfSchema {} e.value) (fun c => .ok { out with cabf := some c }) out
  else if e.id = oidQC then                             -- SITES parseCertificate/24, /25
    guardStep perm (un perm qcSchema {} e.value) (fun _ =>
      guardStep perm (optRes (sub.qcParse perm e.value)) (fun _ => .ok { out with qc := true }) out) out
  else .ok out

/-- `case 15` (keyUsage) of the same loop, kept apart from `Cert`: the asn1 error of the extension body is
    swallowed in BOTH modes (`if err == nil { … continue }` and nothing else) — finding D31.  `ku` is `out.KeyUsage`
    as the decoded BIT STRING.  basicConstraints (`case 19`) and the self-signature test have the same shape. -/
def kuStep (perm : Bool) (value : Bytes) (ku : Val) : Val :=
  match un perm .bits {} value with
  | .ok b => b
  | .err => ku
  | .panic => ku

/-- the extension loop -/
def parseExts (sub : Sub) (perm : Bool) : List Ext → Cert → Res Cert
  | [], out => .ok out
  | e :: es, out =>
    match extStep sub perm e out with
    | .ok out' => parseExts sub perm es out'
    | .err => .err
    | .panic => .panic

/-- `parseCertificate` restricted to the fields of `Cert`: `parsePublicKey`, then the extension loop.
    (Everything between the two — names, validity, fingerprints, the self-signature test — does not read the flag
    directly; the byte-level asn1 dependence of `ParseCertificate` as a whole is `perm_extends`.) -/
def parseCertificate (ecOk : Nat → Bytes → Bool) (sub : Sub) (perm : Bool) (algo : Nat) (keyData paramsFull : Bytes)
    (exts : List Ext) : Res Cert :=
  match parsePublicKey ecOk perm algo keyData paramsFull with
  | .ok k => parseExts sub perm exts { key := some k }
  | .err => .err
  | .panic => .panic

end ZV.C20.X
