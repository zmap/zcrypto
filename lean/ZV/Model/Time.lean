import ZV.Model.Der0
/-!
  ZV.Model.Time — shared executable model of ASN.1 time values (core Lean only).

  What is modelled, and of which code:

  * `Civil`, `isLeap`, `daysIn`, `daysFromCivil`, `civilFromDays`, `toUnix`, `civil` — the proleptic Gregorian
    calendar and its conversion to/from Unix seconds ("days from civil" algorithm).  This stands for Go's
    `time.Date` (for already normalised month / clock fields; the day is linear, as in `time.Date`) and for
    `Time.Date()/Clock()/Year()` of a `time.Time` with a fixed zone offset.  A Go `time.Time` is modelled
    by `GoTime = (unix seconds, zone offset in seconds, nanoseconds)`; Go itself normalises every
    constructed time through that representation.
  * `step` / `parseLoop` / `parse` — `time.Parse` (go1.23 `time/format.go: parse`) for exactly the layouts
    `"0601021504Z0700"`, `"060102150405Z0700"` and `"20060102150405Z0700"`, written as the lists of std chunks
    that `nextStdChunk` cuts them into (`stdYear, stdLongYear, stdZeroMonth, stdZeroDay, stdHour, stdZeroMinute,
    stdZeroSecond, stdISO8601TZ`; the prefix between two chunks is empty in all three).  Helpers `atoi`,
    `leadingInt`, `getnum`, `parseNanoseconds` mirror the functions of the same name, including the optional
    sign accepted by `atoi` in a two-digit year, the one-digit hour accepted by `getnum(…, false)`, the
    "fractional second in the input but not in the layout" special case, and the `> 24` / `> 60` zone range tests.
  * `format` — `Time.Format` (`appendFormat`, `appendInt`) for the same chunks.
  * `EA.*` — `encoding/asn1`: `parseUTCTime`, `parseGeneralizedTime` (asn1.go; `perm` is
    `AllowPermissiveParsing`), `appendTwoDigits`, `appendFourDigits`, `appendTimeCommon`, `appendUTCTime`,
    `appendGeneralizedTime`, `outsideUTCRange`, and the UTCTime/GeneralizedTime choice of `makeField` / `makeBody`
    (marshal.go).
  * `CB.*` — `cryptobyte`: `ReadASN1GeneralizedTime`, `AddASN1GeneralizedTime`, `ReadASN1UTCTime` (asn1.go;
    note that zcrypto's `generalizedTimeFormatStr` is `"20060102150405Z0700"`, so numeric zones are accepted).

  Not modelled: `*time.Location` beyond its offset (a parsed numeric zone becomes `Local` when the offsets agree,
  a nameless `FixedZone` otherwise: same offset either way), monotonic clock readings, years outside Go's
  internal range.  Where Go would index out of range the model has no such site: every slice expression of the
  modelled code is guarded by a length test that is modelled too.
-/
namespace ZV.Time
open ZV ZV.Der0

/-! ## calendar -/

/-- `time.isLeap` -/
def isLeap (y : Int) : Bool := decide (y % 4 = 0 ∧ (y % 100 ≠ 0 ∨ y % 400 = 0))

/-- `time.daysIn(m, year)`; months outside 1..12 (never passed by the modelled callers) have 0 days. -/
def daysIn (m : Nat) (y : Int) : Nat :=
  match m with
  | 1 => 31 | 2 => (if isLeap y then 29 else 28) | 3 => 31 | 4 => 30 | 5 => 31 | 6 => 30
  | 7 => 31 | 8 => 31 | 9 => 30 | 10 => 31 | 11 => 30 | 12 => 31
  | _ => 0

/-- days from 1970-01-01 to year-month-day (month 1..12; the day is used linearly, so day 0 / day 32
    normalise as in `time.Date`). -/
def daysFromCivil (y : Int) (m d : Nat) : Int :=
  let y' : Int := if m ≤ 2 then y - 1 else y
  let era := y' / 400
  let yoe := y' - era * 400
  let mp : Int := if m ≤ 2 then (m : Int) + 9 else (m : Int) - 3
  let doy := (153 * mp + 2) / 5 + (d : Int) - 1
  let doe := yoe * 365 + yoe / 4 - yoe / 100 + doy
  era * 146097 + doe - 719468

/-- (year of the 400-year era, day of that year) of day `doe` (0 ≤ doe < 146097) of an era that starts on
    1 March of a year divisible by 400: 100-, 4- and 1-year cycles as in Go's `absDate` (`n -= n >> 2` is
    "a quotient of 4 means the last day of the cycle, which belongs to cycle 3"); with years that start on
    1 March the leap day is the last day of its cycle. -/
def yoeDoy (doe : Int) : Int × Int :=
  let c0 := doe / 36524
  let c := if c0 = 4 then 3 else c0
  let d1 := doe - 36524 * c
  let q := d1 / 1461
  let d2 := d1 - 1461 * q
  let a0 := d2 / 365
  let a := if a0 = 4 then 3 else a0
  (100 * c + 4 * q + a, d2 - 365 * a)

/-- year, month, day of the day `z` days after 1970-01-01 -/
def civilFromDays (z : Int) : Int × Nat × Nat :=
  let z' := z + 719468
  let era := z' / 146097
  let yd := yoeDoy (z' - era * 146097)
  let mp := (5 * yd.2 + 2) / 153
  let d := yd.2 - (153 * mp + 2) / 5 + 1
  let m := if mp < 10 then mp + 3 else mp - 9
  (yd.1 + era * 400 + (if m ≤ 2 then 1 else 0), m.toNat, d.toNat)

/-- broken-down time in a zone `off` seconds east of UTC (`Time.Date()`, `Time.Clock()`, `Time.Zone()`). -/
structure Civil where
  year : Int
  month : Nat
  day : Nat
  hour : Nat
  min : Nat
  sec : Nat
  off : Int
  deriving DecidableEq, Repr, Inhabited

/-- normalised fields: what `time.Date` leaves unchanged -/
def Civil.valid (c : Civil) : Bool :=
  decide (1 ≤ c.month ∧ c.month ≤ 12 ∧ 1 ≤ c.day ∧ c.day ≤ daysIn c.month c.year ∧
    c.hour < 24 ∧ c.min < 60 ∧ c.sec < 60)

/-- a Go `time.Time` to the nanosecond: the instant and the zone offset in force -/
structure GoTime where
  unix : Int
  off : Int
  nsec : Nat := 0
  deriving DecidableEq, Repr, Inhabited

/-- `time.Date(year, month, day, hour, min, sec, 0, FixedZone("", off)).Unix()` -/
def toUnix (c : Civil) : Int :=
  daysFromCivil c.year c.month c.day * 86400 + (c.hour : Int) * 3600 + (c.min : Int) * 60 + (c.sec : Int) - c.off

/-- `time.Unix(unix, 0).In(FixedZone("", off))` broken down -/
def ofUnix (unix off : Int) : Civil :=
  let l := unix + off
  let days := l / 86400
  let rem := l % 86400
  let ymd := civilFromDays days
  { year := ymd.1, month := ymd.2.1, day := ymd.2.2,
    hour := (rem / 3600).toNat, min := (rem % 3600 / 60).toNat, sec := (rem % 60).toNat, off := off }

def GoTime.civil (t : GoTime) : Civil := ofUnix t.unix t.off
/-- `t.Year()` -/
def GoTime.year (t : GoTime) : Int := t.civil.year

/-- `time.Date(…, nsec, loc)` for a location with constant offset -/
def date (y : Int) (mo d h mi s ns : Nat) (off : Int) : GoTime :=
  { unix := toUnix { year := y, month := mo, day := d, hour := h, min := mi, sec := s, off := off },
    off := off, nsec := ns }

/-- `t.AddDate(years, 0, 0)` = `Date(year+years, month, day, hour, min, sec, nsec, t.Location())` -/
def addYears (t : GoTime) (years : Int) : GoTime :=
  let c := t.civil
  date (c.year + years) c.month c.day c.hour c.min c.sec t.nsec t.off

/-- what the ASN.1 text forms preserve of a time: whole seconds, and the zone offset truncated (towards zero) to whole
    minutes; the local clock reading is kept, so the instant moves by the dropped seconds of the offset.
    For an offset of whole minutes this is the same instant in the same zone. -/
def readBack (t : GoTime) : GoTime :=
  { unix := t.unix + Int.tmod t.off 60, off := t.off - Int.tmod t.off 60, nsec := 0 }

/-! ## `time.Parse` for the three layouts -/

def isDigit (b : UInt8) : Bool := decide (48 ≤ b.toNat ∧ b.toNat ≤ 57)

/-- `isDigit(s, i)` (false beyond the end) -/
def isDigitAt (s : Bytes) (i : Nat) : Bool :=
  match s.drop i with
  | b :: _ => isDigit b
  | [] => false

/-- `leadingInt`: the leading `[0-9]*` with the two overflow tests (`none` = `errLeadingInt`). -/
def leadingInt : (x : Nat) → Bytes → Option (Nat × Bytes)
  | x, [] => some (x, [])
  | x, c :: r =>
    if c.toNat < 48 ∨ c.toNat > 57 then some (x, c :: r)
    else if x > 9223372036854775808 / 10 then none
    else if x * 10 + (c.toNat - 48) > 9223372036854775808 then none
    else leadingInt (x * 10 + (c.toNat - 48)) r

/-- `atoi`: optional sign, then digits only (callers pass at most 9 characters: no `int` overflow). -/
def atoi (s : Bytes) : Option Int :=
  let neg : Bool := match s with | c :: _ => c.toNat = 45 | [] => false
  let s1 : Bytes := match s with | c :: r => if c.toNat = 45 ∨ c.toNat = 43 then r else s | [] => s
  match leadingInt 0 s1 with
  | none => none
  | some (q, rem) => if !rem.isEmpty then none else some (if neg then - (q : Int) else (q : Int))

/-- `getnum(s, fixed)` -/
def getnum (s : Bytes) (fixed : Bool) : Option (Nat × Bytes) :=
  match s with
  | [] => none
  | a :: r =>
    if !isDigit a then none
    else match r with
      | [] => if fixed then none else some (a.toNat - 48, r)
      | b :: r2 =>
        if !isDigit b then (if fixed then none else some (a.toNat - 48, r))
        else some ((a.toNat - 48) * 10 + (b.toNat - 48), r2)

def commaOrPeriod (b : UInt8) : Bool := decide (b.toNat = 46 ∨ b.toNat = 44)

/-- number of leading digits (`for ; n < len(value) && isDigit(value, n); n++ {}`) -/
def digitRun : Bytes → Nat
  | [] => 0
  | b :: r => if isDigit b then digitRun r + 1 else 0

/-- value of a digit string -/
def digitsVal (acc : Nat) : Bytes → Nat
  | [] => acc
  | b :: r => digitsVal (acc * 10 + (b.toNat - 48)) r

/-- `parseNanoseconds(value, nbytes)` for `value[0]` a comma or period and `value[1:nbytes]` digits
    (`atoi` of at most 9 digits cannot fail, the result cannot be negative). -/
def parseNanoseconds (value : Bytes) (nbytes : Nat) : Nat :=
  let nb := if nbytes > 10 then 10 else nbytes
  digitsVal 0 ((value.take nb).drop 1) * 10 ^ (10 - nb)

/-- the std chunks of the three layouts -/
inductive Std where
  | year | longYear | zeroMonth | zeroDay | hour | zeroMinute | zeroSecond | isoTZ
  deriving DecidableEq, Repr

/-- `"0601021504Z0700"` -/
def layoutUTCMin : List Std := [.year, .zeroMonth, .zeroDay, .hour, .zeroMinute, .isoTZ]
/-- `"060102150405Z0700"` -/
def layoutUTCSec : List Std := [.year, .zeroMonth, .zeroDay, .hour, .zeroMinute, .zeroSecond, .isoTZ]
/-- `"20060102150405Z0700"` -/
def layoutGen : List Std := [.longYear, .zeroMonth, .zeroDay, .hour, .zeroMinute, .zeroSecond, .isoTZ]

/-- the variables of `parse` ("Time being constructed") -/
structure PState where
  year : Int := 0
  month : Int := -1
  day : Int := -1
  hour : Nat := 0
  min : Nat := 0
  sec : Nat := 0
  nsec : Nat := 0
  utc : Bool := false          -- `z = UTC`
  zoneOffset : Int := -1       -- `-1` = not seen, as in the Go code
  deriving DecidableEq, Repr

/-- one iteration of the loop of `parse` for chunk `c`; `none` = the call returns an error
    (`errBad`, or a non-empty `rangeErrString`). -/
def step (c : Std) (st : PState) (v : Bytes) : Option (PState × Bytes) :=
  match c with
  | .year =>
    if v.length < 2 then none
    else match atoi (v.take 2) with
      | none => none
      | some y => some ({ st with year := if y ≥ 69 then y + 1900 else y + 2000 }, v.drop 2)
  | .longYear =>
    if v.length < 4 ∨ !isDigitAt v 0 then none
    else match atoi (v.take 4) with
      | none => none
      | some y => some ({ st with year := y }, v.drop 4)
  | .zeroMonth =>
    match getnum v true with
    | none => none
    | some (m, r) => if m = 0 ∨ 12 < m then none else some ({ st with month := m }, r)
  | .zeroDay =>
    match getnum v true with
    | none => none
    | some (d, r) => some ({ st with day := d }, r)   -- validated after the loop
  | .hour =>
    match getnum v false with
    | none => none
    | some (h, r) => if 24 ≤ h then none else some ({ st with hour := h }, r)
  | .zeroMinute =>
    match getnum v true with
    | none => none
    | some (m, r) => if 60 ≤ m then none else some ({ st with min := m }, r)
  | .zeroSecond =>
    match getnum v true with
    | none => none
    | some (s, r) =>
      if 60 ≤ s then none
      else
        match r with
        | c0 :: c1 :: r2 =>
          if commaOrPeriod c0 && isDigit c1 then
            -- the next chunk of all three layouts is Z0700, not a fractional-second chunk:
            -- "No fractional second in the layout but we have one in the input."
            let n := 2 + digitRun r2
            some ({ st with sec := s, nsec := parseNanoseconds r n }, r.drop n)
          else some ({ st with sec := s }, r)
        | _ => some ({ st with sec := s }, r)
  | .isoTZ =>
    match v with
    | [] => none
    | c0 :: r =>
      if c0.toNat = 90 then some ({ st with utc := true }, r)
      else if v.length < 5 then none
      else
        match getnum ((v.drop 1).take 2) true, getnum ((v.drop 3).take 2) true with
        | some (hr, _), some (mm, _) =>
          if hr > 24 ∨ mm > 60 then none
          else if c0.toNat = 43 then some ({ st with zoneOffset := (((hr * 60 + mm) * 60 : Nat) : Int) }, v.drop 5)
          else if c0.toNat = 45 then some ({ st with zoneOffset := - (((hr * 60 + mm) * 60 : Nat) : Int) }, v.drop 5)
          else none
        | _, _ => none

/-- the loop of `parse`: after the last chunk the value must be exhausted ("extra text"). -/
def parseLoop : List Std → PState → Bytes → Option PState
  | [], st, v => if v.isEmpty then some st else none
  | c :: cs, st, v =>
    match step c st v with
    | none => none
    | some (st', v') => parseLoop cs st' v'

/-- the tail of `parse`: day-of-month validation and construction of the result -/
def finish (st : PState) : Option GoTime :=
  let month : Int := if st.month < 0 then 1 else st.month
  let day : Int := if st.day < 0 then 1 else st.day
  if day < 1 ∨ day > (daysIn month.toNat st.year : Int) then none
  else if st.utc then some (date st.year month.toNat day.toNat st.hour st.min st.sec st.nsec 0)
  else if st.zoneOffset ≠ -1 then
    -- `t := Date(…, UTC); t.addSec(-zoneOffset); t.setLoc(local or FixedZone("", zoneOffset))`
    some { unix := (date st.year month.toNat day.toNat st.hour st.min st.sec st.nsec 0).unix - st.zoneOffset,
           off := st.zoneOffset, nsec := st.nsec }
  else some (date st.year month.toNat day.toNat st.hour st.min st.sec st.nsec 0)

/-- `time.Parse(layout, s)`; `none` = error -/
def parse (layout : List Std) (s : Bytes) : Option GoTime :=
  match parseLoop layout {} s with
  | none => none
  | some st => finish st

/-! ## `Time.Format` for the same chunks -/

def digit (n : Nat) : UInt8 := UInt8.ofNat (48 + n % 10)

/-- decimal digits of `n`, most significant first, at least one -/
def natDigits (n : Nat) : Bytes :=
  if h : n < 10 then [digit n] else natDigits (n / 10) ++ [digit n]
decreasing_by omega

/-- `appendInt(b, x, width)` (only `width` 2 and 4 are used) -/
def appendInt (x : Int) (width : Nat) : Bytes :=
  let u := x.natAbs
  let sign : Bytes := if x < 0 then [45] else []
  if width = 2 ∧ u < 100 then sign ++ [digit (u / 10), digit u]
  else if width = 4 ∧ u < 10000 then sign ++ [digit (u / 1000), digit (u / 100), digit (u / 10), digit u]
  else
    let ds := natDigits u
    sign ++ List.replicate (width - ds.length) 48 ++ ds

def formatChunk (c : Std) (cv : Civil) : Bytes :=
  match c with
  | .year => appendInt ((cv.year.natAbs : Int) % 100) 2
  | .longYear => appendInt cv.year 4
  | .zeroMonth => appendInt cv.month 2
  | .zeroDay => appendInt cv.day 2
  | .hour => appendInt cv.hour 2
  | .zeroMinute => appendInt cv.min 2
  | .zeroSecond => appendInt cv.sec 2
  | .isoTZ =>
    if cv.off = 0 then [90]
    else
      let zone := Int.tdiv cv.off 60
      if zone < 0 then 45 :: (appendInt ((-zone) / 60) 2 ++ appendInt ((-zone) % 60) 2)
      else 43 :: (appendInt (zone / 60) 2 ++ appendInt (zone % 60) 2)

/-- `t.Format(layout)` -/
def format (layout : List Std) (t : GoTime) : Bytes :=
  (layout.map (fun c => formatChunk c t.civil)).flatten

/-! ## `encoding/asn1` -/
namespace EA

/-- the common tail of `parseUTCTime` / `parseGeneralizedTime` after a successful `time.Parse`:
    the strict re-serialisation test. -/
def reserialises (perm : Bool) (layout : List Std) (ret : GoTime) (s : Bytes) : Bool :=
  perm || format layout ret == s

/-- `parseUTCTime` -/
def parseUTCTime (perm : Bool) (s : Bytes) : Res GoTime :=
  let r : Option (List Std × GoTime) :=
    match parse layoutUTCMin s with
    | some t => some (layoutUTCMin, t)
    | none =>
      match parse layoutUTCSec s with
      | some t => some (layoutUTCSec, t)
      | none => none
  match r with
  | none => .err
  | some (layout, ret) =>
    if !reserialises perm layout ret s then .err
    else if ret.year ≥ 2050 then .ok (addYears ret (-100))
    else .ok ret

/-- `parseGeneralizedTime` -/
def parseGeneralizedTime (perm : Bool) (s : Bytes) : Res GoTime :=
  match parse layoutGen s with
  | none => .err
  | some ret => if !reserialises perm layoutGen ret s then .err else .ok ret

/-- `appendTwoDigits(dst, v)` for `v ≥ 0` -/
def twoDigits (v : Nat) : Bytes := [digit (v / 10), digit v]

/-- `appendFourDigits(dst, v)` for `v ≥ 0` (the loop writes `v%10` right to left, four times) -/
def fourDigits (v : Nat) : Bytes := [digit (v / 1000), digit (v / 100), digit (v / 10), digit v]

/-- `appendTimeCommon` -/
def appendTimeCommon (t : GoTime) : Bytes :=
  let c := t.civil
  let body := twoDigits c.month ++ twoDigits c.day ++ twoDigits c.hour ++ twoDigits c.min ++ twoDigits c.sec
  if Int.tdiv c.off 60 = 0 then body ++ [90]
  else
    let sign : UInt8 := if c.off > 0 then 43 else 45
    let offsetMinutes := (Int.tdiv c.off 60).natAbs
    body ++ [sign] ++ twoDigits (offsetMinutes / 60) ++ twoDigits (offsetMinutes % 60)

/-- `outsideUTCRange` -/
def outsideUTCRange (t : GoTime) : Bool := decide (t.year < 1950 ∨ t.year ≥ 2050)

/-- `appendUTCTime` -/
def appendUTCTime (t : GoTime) : Res Bytes :=
  let year := t.year
  if 1950 ≤ year ∧ year < 2000 then .ok (twoDigits (year - 1900).toNat ++ appendTimeCommon t)
  else if 2000 ≤ year ∧ year < 2050 then .ok (twoDigits (year - 2000).toNat ++ appendTimeCommon t)
  else .err

/-- `appendGeneralizedTime` -/
def appendGeneralizedTime (t : GoTime) : Res Bytes :=
  let year := t.year
  if year < 0 ∨ year > 9999 then .err
  else .ok (fourDigits year.toNat ++ appendTimeCommon t)

/-- the test shared by `makeField` (tag) and `makeBody` (content):
    `params.timeType == TagGeneralizedTime || outsideUTCRange(t)` -/
def useGeneralized (timeType : Nat) (t : GoTime) : Bool := timeType == 24 || outsideUTCRange t

/-- `makeField`, `case TagUTCTime`: the universal tag written for a `time.Time` -/
def timeTag (timeType : Nat) (t : GoTime) : Nat := if useGeneralized timeType t then 24 else 23

/-- `makeBody`, `case timeType` -/
def makeTimeBody (timeType : Nat) (t : GoTime) : Res Bytes :=
  if useGeneralized timeType t then appendGeneralizedTime t else appendUTCTime t

/-- `parseField`, `case *time.Time` (by the substituted universal tag) -/
def parseTimeBody (perm : Bool) (universalTag : Nat) (inner : Bytes) : Res GoTime :=
  if universalTag = 23 then parseUTCTime perm inner else parseGeneralizedTime perm inner

end EA

/-! ## `cryptobyte` -/
namespace CB

/-- `(*String).ReadASN1GeneralizedTime` -/
def readGeneralizedTime (s : Bytes) : Res (GoTime × Bytes) :=
  match Der0.CB.readASN1Tag s 0x18 with
  | .ok (body, rest) =>
    (match parse layoutGen body with
     | none => .err
     | some res => if format layoutGen res != body then .err else .ok (res, rest))
  | .err => .err
  | .panic => .panic

/-- `(*Builder).AddASN1GeneralizedTime` -/
def addGeneralizedTime (t : GoTime) : Res Bytes :=
  if t.year < 0 ∨ t.year > 9999 then .err
  else Der0.CB.element 0x18 (format layoutGen t)

/-- `(*String).ReadASN1UTCTime` (seconds first, then the minute-precision fallback) -/
def readUTCTime (s : Bytes) : Res (GoTime × Bytes) :=
  match Der0.CB.readASN1Tag s 0x17 with
  | .ok (body, rest) =>
    let r : Option (List Std × GoTime) :=
      match parse layoutUTCSec body with
      | some t => some (layoutUTCSec, t)
      | none =>
        match parse layoutUTCMin body with
        | some t => some (layoutUTCMin, t)
        | none => none
    (match r with
     | none => .err
     | some (layout, res) =>
       if format layout res != body then .err
       else if res.year ≥ 2050 then .ok (addYears res (-100), rest)
       else .ok (res, rest))
  | .err => .err
  | .panic => .panic

end CB

end ZV.Time
