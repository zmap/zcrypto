import ZV.Base
/-!
  ZV.TlsWire — engine E1: codec combinators for the TLS presentation language as the Go code uses it
  (`cryptobyte.Builder` / `cryptobyte.String` and the hand-rolled slice code of the older messages).

  Executable part only (core Lean).  Two kinds of format:
  * `Fmt α`  — streaming: `par` consumes a prefix of the buffer and returns the rest
               (`cryptobyte.String.ReadUint16`, `ReadUint8LengthPrefixed`, …);
  * `MFmt α` — whole-buffer: `par` must account for every byte (`… && s.Empty()`, `for !s.Empty() {…}`,
               `len(data) == …`).
  `ser = none` means the Go encoder does not produce bytes for this value (a length does not fit its
  prefix: `cryptobyte` reports an error and `BytesOrPanic` panics).
  The laws (`Lawful`, `NoPrefix`, …) and their proofs per combinator are in `ZV.Proofs.TlsWire`.
-/
namespace ZV.TlsWire

/-- big-endian value of a byte string -/
def beNat : Bytes → Nat
  | [] => 0
  | b :: bs => b.toNat * 256 ^ bs.length + beNat bs

/-- `k` big-endian bytes of `n` (truncating, like `uint8(n >> 8), uint8(n)`) -/
def natBE : Nat → Nat → Bytes
  | 0, _ => []
  | k + 1, n => UInt8.ofNat (n / 256 ^ k) :: natBE k n

structure Fmt (α : Type) where
  ser : α → Option Bytes
  par : Bytes → Option (α × Bytes)

structure MFmt (α : Type) where
  ser : α → Option Bytes
  par : Bytes → Option α

/-! ### streaming primitives -/

/-- `k`-byte big-endian unsigned integer (`AddUint16` / `ReadUint16` …). -/
def uN (k : Nat) : Fmt Nat where
  ser n := if n < 256 ^ k then some (natBE k n) else none
  par s := if s.length < k then none else some (beNat (s.take k), s.drop k)

/-- exactly `n` raw bytes (`addBytesWithLength` / `ReadBytes(n)`). -/
def bytesN (n : Nat) : Fmt Bytes where
  ser b := if b.length = n then some b else none
  par s := if s.length < n then none else some (s.take n, s.drop n)

/-- opaque byte string with a `k`-byte length prefix. -/
def opq (k : Nat) : Fmt Bytes where
  ser b := if b.length < 256 ^ k then some (natBE k b.length ++ b) else none
  par s :=
    if s.length < k then none
    else
      let n := beNat (s.take k)
      let r := s.drop k
      if r.length < n then none else some (r.take n, r.drop n)

/-- fixed bytes written by the encoder and skipped unread by the decoder (`s.Skip(n)`). -/
def skipC (c : Bytes) : Fmt Unit where
  ser _ := some c
  par s := if s.length < c.length then none else some ((), s.drop c.length)

/-- fixed bytes written by the encoder and checked by the decoder. -/
def constC (c : Bytes) : Fmt Unit where
  ser _ := some c
  par s := if s.take c.length = c then some ((), s.drop c.length) else none

/-- sequence -/
def pair {α β} (a : Fmt α) (b : Fmt β) : Fmt (α × β) where
  ser x :=
    match a.ser x.1, b.ser x.2 with
    | some p, some q => some (p ++ q)
    | _, _ => none
  par s :=
    match a.par s with
    | none => none
    | some (x, r) =>
      match b.par r with
      | none => none
      | some (y, r') => some ((x, y), r')

/-- decoder-side check on the decoded value (`len(x) == 0 → return false`). The encoder does not check. -/
def guard {α} (p : α → Bool) (c : Fmt α) : Fmt α where
  ser := c.ser
  par s :=
    match c.par s with
    | none => none
    | some (a, r) => if p a then some (a, r) else none

/-- decoder-side check that at least `n` bytes are left before the item is read. -/
def minLen {α} (n : Nat) (c : Fmt α) : Fmt α where
  ser := c.ser
  par s := if s.length < n then none else c.par s

/-- change of representation -/
def iso {α β} (f : α → β) (g : β → α) (c : Fmt α) : Fmt β where
  ser b := c.ser (g b)
  par s :=
    match c.par s with
    | none => none
    | some (a, r) => some (f a, r)

/-- a sub-structure inside a `k`-byte length prefix; the inner format must use up the region. -/
def lp {α} (k : Nat) (m : MFmt α) : Fmt α where
  ser a :=
    match m.ser a with
    | none => none
    | some b => if b.length < 256 ^ k then some (natBE k b.length ++ b) else none
  par s :=
    match (opq k).par s with
    | none => none
    | some (body, r) =>
      match m.par body with
      | none => none
      | some a => some (a, r)

/-! ### whole-buffer formats -/

/-- the rest of the buffer as it is (`m.key = data[4:]`). -/
def restB : MFmt Bytes where
  ser b := some b
  par s := some s

/-- streaming format followed by `s.Empty()`. -/
def complete {α} (c : Fmt α) : MFmt α where
  ser := c.ser
  par s :=
    match c.par s with
    | some (a, []) => some a
    | _ => none

def serMany {α} (ser : α → Option Bytes) : List α → Option Bytes
  | [] => some []
  | a :: l =>
    match ser a, serMany ser l with
    | some p, some q => some (p ++ q)
    | _, _ => none

/-- `for !s.Empty() { item }`.  The progress test `r.length < s.length` is what makes the definition
    terminate; every item format used consumes at least one byte, so it never fires. -/
def parMany {α} (par : Bytes → Option (α × Bytes)) (s : Bytes) : Option (List α) :=
  match s with
  | [] => some []
  | b :: t =>
    match par (b :: t) with
    | none => none
    | some (a, r) =>
      if _h : r.length < (b :: t).length then
        match parMany par r with
        | none => none
        | some l => some (a :: l)
      else none
termination_by s.length

def many {α} (c : Fmt α) : MFmt (List α) where
  ser := serMany c.ser
  par := parMany c.par

def mguard {α} (p : α → Bool) (m : MFmt α) : MFmt α where
  ser := m.ser
  par s :=
    match m.par s with
    | none => none
    | some a => if p a then some a else none

def miso {α β} (f : α → β) (g : β → α) (m : MFmt α) : MFmt β where
  ser b := m.ser (g b)
  par s := (m.par s).map f

/-- streaming head, then — only when bytes are left — a whole-buffer tail
    (`if s.Empty() { return true }` before the extension block of the hello messages). -/
def optTail {α β} (c : Fmt α) (t : MFmt β) : MFmt (α × Option β) where
  ser x :=
    match c.ser x.1 with
    | none => none
    | some p =>
      match x.2 with
      | none => some p
      | some y =>
        match t.ser y with
        | none => none
        | some q => some (p ++ q)
  par s :=
    match c.par s with
    | none => none
    | some (a, []) => some (a, none)
    | some (a, b :: r) =>
      match t.par (b :: r) with
      | none => none
      | some y => some (a, some y)

/-- handshake header written as `typ ‖ uint24 length`, skipped unread by the decoder (`s.Skip(4)`);
    `cryptobyte` refuses bodies of 2^24 bytes or more. -/
def hdrSkip {α} (typ : Nat) (m : MFmt α) : MFmt α where
  ser a :=
    match m.ser a with
    | none => none
    | some b => if b.length < 256 ^ 3 then some (UInt8.ofNat typ :: natBE 3 b.length ++ b) else none
  par s := if s.length < 4 then none else m.par (s.drop 4)

/-- handshake header of the hand-rolled encoders: the length bytes are truncated (`uint8(length >> 16)`),
    the decoder does not look at the header beyond requiring 4 bytes. -/
def hdrSkipT {α} (typ : Nat) (m : MFmt α) : MFmt α where
  ser a :=
    match m.ser a with
    | none => none
    | some b => some (UInt8.ofNat typ :: natBE 3 b.length ++ b)
  par s := if s.length < 4 then none else m.par (s.drop 4)

/-- hand-rolled header whose length field the decoder compares with `len(data) - 4`. -/
def hdrChecked {α} (typ : Nat) (m : MFmt α) : MFmt α where
  ser a :=
    match m.ser a with
    | none => none
    | some b => some (UInt8.ofNat typ :: natBE 3 b.length ++ b)
  par s :=
    if s.length < 4 then none
    else if beNat ((s.drop 1).take 3) ≠ s.length - 4 then none
    else m.par (s.drop 4)

/-- all strict prefixes of `bs` accepted by `par`, by length (the truncation probe of C30). -/
def acceptedPrefixes {α} (par : Bytes → Option α) (bs : Bytes) : List Nat :=
  (List.range bs.length).filter (fun n => (par (bs.take n)).isSome)

end ZV.TlsWire
