import ZV.Base
/-!
  Model of `ct/scanner/scanner.go` (`Scan`, `fetcherJob`, `matcherJob`, `processEntry`,
  `parseCertificate`) together with the log-server oracle of the property.

  * `ranges`        the partition loop of `Scan`
  * `serve`         the server oracle: the j-th request for a range is answered by the j-th token of that
                    range's script (error, or a prefix of what was asked), afterwards in full
  * `fetchRange`    the retry loop of `fetcherJob` for ONE range, run sequentially
  * `St`/`step`     the small-step interleaving model: `nf` fetchers, `nm` matchers, the two channels and the
                    atomic counter; a schedule is a list of worker ids
  * `processEntry`  which callback / counters an entry of a given kind produces

  * `Obj`/`resetCounters`/`initOn`/`scanSeq`  the counter fields of the `Scanner` VALUE, which survive from one
                    `Scan` call to the next, the prologue of `Scan` that resets them, and consecutive scans on one value

  * `BSt`/`bstep`   the BOUNDED model: the same workers plus the main goroutine of `Scan` as a thread (feeds the
                    `fetches` channel, closes it, `fetcherWG.Wait(); close(jobs)`, `matcherWG.Wait(); return`), both
                    channels with a capacity (parameters `capF`, `capJ`; the driver runs it with the capacities
                    extracted from the source, `ZV.C17.Gen.fetchesCap/jobsCap`), sends block on a full channel,
                    receives block on an empty open channel
  * `MainOp`/`mainProgram`  the order of the main goroutine's statements the bounded model implements, compared
                    with the order extracted from the source (`ZV.C17.Gen.scanOrder`) in `ZV.Props.C17`

  What is NOT here: the Go scheduler and memory model (every `step` is atomic; that the counter updates of
  the real code are atomic is checked by the race detector, not proved; that every access is THROUGH sync/atomic
  is a T1 theorem over the extracted access list), the progress ticker goroutine (it only loads
  `certsProcessed` atomically and writes to `updater`), logging.
-/
namespace ZV.C17

/-! ### 1. range partition (`Scan`)

```go
for start := s.opts.StartIndex; start < int64(stopIndex); {
    end := min(start+int64(s.opts.BatchSize), int64(stopIndex)) - 1
    ranges.PushBack(fetchRange{start, end})
    start = end + 1
}
```
For `BatchSize ≤ 0` the Go loop never terminates (it keeps appending); the model is defined for
`batch ≥ 1` and returns `[]` otherwise — the driver prints `hang` for that case instead of using it. -/
def ranges (start stop batch : Nat) : List (Nat × Nat) :=
  if _h : start < stop ∧ 0 < batch then
    (start, min (start + batch) stop - 1) :: ranges (min (start + batch) stop - 1 + 1) stop batch
  else []
termination_by stop - start
decreasing_by omega

/-- `stopIndex := opts.MaximumIndex; if 0 then latestSth.TreeSize` -/
def stopIndex (maxIndex tree : Nat) : Nat := if maxIndex = 0 then tree else maxIndex

/-! ### 2. the server oracle and the retry loop of `fetcherJob` -/

/-- one scripted server reaction -/
inductive Tok where
  | err                 -- transient error (HTTP 5xx, transport error): `GetEntries` returns `err != nil`
  | give (n : Nat)      -- answer with the first `min n requested` entries
  deriving Repr, DecidableEq

/-- Number of entries in the answer to `get-entries?start=s&end=e` (`none` = error).
    The script is consumed one token per request; when it is exhausted the server answers in full. -/
def serve (s e : Nat) : List Tok → Option Nat × List Tok
  | [] => (some (e + 1 - s), [])
  | .err :: rest => (none, rest)
  | .give n :: rest => (some (min n (e + 1 - s)), rest)

/-- `fetcherJob` for one range, sequentially: (indices handed to the matchers in order, requests sent).

```go
for !success {
    logEntries, err := s.logClient.GetEntries(r.start, r.end)
    if err != nil { …; continue }
    if len(logEntries) == 0 { …sleep…; continue }
    for _, logEntry := range logEntries { logEntry.Index = r.start; entries <- matcherJob{logEntry, r.start}; r.start++ }
    if r.start > r.end { success = true }
}
``` -/
def fetchRange (s e : Nat) : List Tok → List Nat × List (Nat × Nat)
  | [] => (List.range' s (e + 1 - s), [(s, e)])
  | .err :: rest =>
    let r := fetchRange s e rest
    (r.1, (s, e) :: r.2)
  | .give n :: rest =>
    let k := min n (e + 1 - s)
    if k = 0 then
      let r := fetchRange s e rest
      (r.1, (s, e) :: r.2)
    else if s + k > e then (List.range' s k, [(s, e)])
    else
      let r := fetchRange (s + k) e rest
      (List.range' s k ++ r.1, (s, e) :: r.2)

/-! ### 3. interleaving model -/

/-- a range waiting in the `fetches` channel, with the script the server will follow for it -/
structure Job where
  s : Nat
  e : Nat
  script : List Tok
  deriving Repr, DecidableEq

/-- control state of one `fetcherJob` goroutine -/
inductive FSt where
  | idle                                         -- at `for r := range ranges`
  | req (s e : Nat) (script : List Tok)          -- about to call `GetEntries(r.start, r.end)`
  | send (s e k : Nat) (script : List Tok)       -- inside `for _, logEntry := range logEntries`, `k` left, next index `s`
  | done                                         -- `ranges` closed and drained: `wg.Done()`
  deriving Repr, DecidableEq

structure St where
  pending   : List Job          -- ranges not yet taken by a fetcher
  fs        : List FSt          -- the fetchers
  jobs      : List Nat          -- `jobs` channel (FIFO), entry indices
  ms        : List Bool         -- matchers: `true` = returned (`jobs` closed and drained)
  processed : List Nat          -- indices for which `processEntry` ran, most recent first
  counter   : Nat               -- `certsProcessed` (atomic.AddInt64)
  reqlog    : List (Nat × Nat)  -- requests the server saw, most recent first
  deriving Repr, DecidableEq

inductive Worker where
  | f (i : Nat)
  | m (j : Nat)
  deriving Repr, DecidableEq

def allDone (fs : List FSt) : Bool := fs.all (fun f => f == .done)

/-- one atomic step of fetcher `i` -/
def stepF (i : Nat) (st : St) : St :=
  match st.fs[i]? with
  | none => st
  | some .done => st
  | some .idle =>
    match st.pending with
    | [] => { st with fs := st.fs.set i .done }
    | j :: rest => { st with pending := rest, fs := st.fs.set i (.req j.s j.e j.script) }
  | some (.req s e script) =>
    match serve s e script with
    | (none, rest) => { st with fs := st.fs.set i (.req s e rest), reqlog := (s, e) :: st.reqlog }
    | (some k, rest) =>
      if k = 0 then { st with fs := st.fs.set i (.req s e rest), reqlog := (s, e) :: st.reqlog }
      else { st with fs := st.fs.set i (.send s e k rest), reqlog := (s, e) :: st.reqlog }
  | some (.send s e k script) =>
    match k with
    | 0 => if s > e then { st with fs := st.fs.set i .idle } else { st with fs := st.fs.set i (.req s e script) }
    | k' + 1 => { st with fs := st.fs.set i (.send (s + 1) e k' script), jobs := st.jobs ++ [s] }

/-- one atomic step of matcher `j`: receive one job and process it, or return when `jobs` is closed
    (closed = every fetcher has returned, `fetcherWG.Wait(); close(jobs)`) and empty; otherwise blocked. -/
def stepM (j : Nat) (st : St) : St :=
  match st.ms[j]? with
  | none => st
  | some true => st
  | some false =>
    match st.jobs with
    | x :: rest => { st with jobs := rest, processed := x :: st.processed, counter := st.counter + 1 }
    | [] => if allDone st.fs then { st with ms := st.ms.set j true } else st

def step (w : Worker) (st : St) : St :=
  match w with
  | .f i => stepF i st
  | .m j => stepM j st

def run (st : St) : List Worker → St
  | [] => st
  | w :: ws => run (step w st) ws

/-- `Scan` can return: both wait groups are released -/
def finished (st : St) : Bool := allDone st.fs && st.ms.all (fun b => b)

/-- state after `Scan` has built the range list and started `nf` fetchers and `nm` matchers;
    `scriptOf e` is the server's script for the range whose last index is `e` -/
def init (start stop batch nf nm : Nat) (scriptOf : Nat → List Tok) : St :=
  { pending := (ranges start stop batch).map (fun r => ⟨r.1, r.2, scriptOf r.2⟩),
    fs := List.replicate nf .idle, jobs := [], ms := List.replicate nm false,
    processed := [], counter := 0, reqlog := [] }

/-- `return int64(s.opts.StartIndex) + s.certsProcessed` -/
def scanReturn (start : Nat) (st : St) : Nat := start + st.counter

/-- is worker `w` able to move in `st`? (`false` = returned, or blocked on an empty open channel) -/
def enabled (w : Worker) (st : St) : Bool :=
  match w with
  | .f i =>
    match st.fs[i]? with
    | none => false
    | some .done => false
    | some _ => true
  | .m j =>
    match st.ms[j]? with
    | some false => !st.jobs.isEmpty || allDone st.fs
    | _ => false

/-- termination measure: strictly decreases with every enabled step (see `ZV.Props.C17`) -/
def fWeight : FSt → Nat
  | .done => 0
  | .idle => 1
  | .req s e script => 4 * ((e + 1 - s) + script.length) + 2
  | .send s e k script => 4 * ((e + 1 - s) + script.length) + (if k = 0 then 3 else 1)

def jobWeight (j : Job) : Nat := 4 * ((j.e + 1 - j.s) + j.script.length) + 2

def mu (st : St) : Nat :=
  (st.pending.map jobWeight).sum + (st.fs.map fWeight).sum + st.jobs.length
    + (st.ms.filter (fun b => !b)).length

/-- all workers: fetchers `0..nf-1`, then matchers `0..nm-1` -/
def workers (st : St) : List Worker :=
  (List.range st.fs.length).map Worker.f ++ (List.range st.ms.length).map Worker.m

/-- Run to completion: first the given schedule (arbitrary picks; disabled picks are no-ops), then round-robin
    over all workers, `fuel` rounds. With `fuel ≥ mu st` this reaches a finished state
    (`ZV.C17.roundRobin_finishes`). -/
def roundRobin (st : St) : Nat → St
  | 0 => st
  | fuel + 1 => roundRobin (run st (workers st)) fuel

/-! ### 4. `processEntry` / `parseCertificate` on the entry kinds served by the harness -/

inductive Kind where
  | certMatch      -- a  X.509, parses, subject matches the regex
  | certOther      -- b  X.509, parses, subject does not match
  | certNonFatal   -- n  X.509, parses with NonFatalErrors, subject matches
  | certGarbage    -- u  X.509, fatal parse error, not even an ASN.1 Certificate shell
  | certShell      -- v  X.509, fatal parse error, well-formed ASN1Certificate shell
  | preMatch       -- p  precert, parses, matches
  | preOther       -- q  precert, parses, does not match
  | preGarbage     -- r  precert, fatal parse error, no ASN.1 shell
  | preShell       -- s  precert, fatal parse error, ASN.1 shell ok
  deriving Repr, DecidableEq

inductive MatcherKind where
  | all | none | subject
  deriving Repr, DecidableEq

structure Opts where
  precertOnly : Bool
  ignoreParsingErrors : Bool
  matcher : MatcherKind
  deriving Repr, DecidableEq

/-- outcome of `parseCertificate` -/
inductive Parse where
  | ok            -- (cert, nil), no counter
  | nonFatal      -- (cert, nil), entriesWithNonFatalErrors++
  | fatal         -- (nil, err), unparsableEntries++
  | ignored       -- (nil, nil), unparsableEntries++   (IgnoreParsingErrors and the ASN.1 shell parses)
  deriving Repr, DecidableEq

/-- raw facts about the kinds: (isPrecert, parse result class, subject matches regex) -/
def Kind.isPre : Kind → Bool
  | .preMatch | .preOther | .preGarbage | .preShell => true
  | _ => false

def parseCertificate (o : Opts) : Kind → Parse
  | .certMatch | .certOther | .preMatch | .preOther => .ok
  | .certNonFatal => .nonFatal
  | .certGarbage | .preGarbage => .fatal      -- `!IgnoreParsingErrors` ⇒ err; else asn1.Unmarshal fails ⇒ perr
  | .certShell | .preShell => if o.ignoreParsingErrors then .ignored else .fatal

def isMatch (o : Opts) (k : Kind) : Bool :=
  match o.matcher with
  | .all => true
  | .none => false
  | .subject =>
    match k with
    | .certMatch | .certNonFatal | .preMatch => true
    | _ => false

inductive CB where
  | none | cert | precert
  deriving Repr, DecidableEq

/-- counters bumped by one `processEntry`: (precertsSeen, unparsableEntries, entriesWithNonFatalErrors);
    `certsProcessed` is always bumped -/
structure Eff where
  cb : CB
  pre : Nat
  unparsable : Nat
  nonFatal : Nat
  deriving Repr, DecidableEq

def processEntry (o : Opts) (k : Kind) : Eff :=
  if !k.isPre then
    -- case ct.X509LogEntryType
    if o.precertOnly then ⟨.none, 0, 0, 0⟩
    else
      match parseCertificate o k with
      | .fatal => ⟨.none, 0, 1, 0⟩
      | .ignored => ⟨.cert, 0, 1, 0⟩                                   -- cert == nil ⇒ foundCert
      | .ok => ⟨if isMatch o k then .cert else .none, 0, 0, 0⟩
      | .nonFatal => ⟨if isMatch o k then .cert else .none, 0, 0, 1⟩
  else
    -- case ct.PrecertLogEntryType
    match parseCertificate o k with
    | .fatal => ⟨.none, 0, 1, 0⟩                                       -- returns before precertsSeen++
    | .ignored => ⟨.precert, 1, 1, 0⟩
    | .ok => ⟨if isMatch o k then .precert else .none, 1, 0, 0⟩
    | .nonFatal => ⟨if isMatch o k then .precert else .none, 1, 0, 1⟩

/-! ### 5. one `Scanner` value, several `Scan` calls

```go
type Scanner struct { …; certsProcessed, precertsSeen, unparsableEntries, entriesWithNonFatalErrors int64; … }

func (s *Scanner) Scan(…) (int64, error) {
    atomic.StoreInt64(&s.certsProcessed, 0)
    atomic.StoreInt64(&s.precertsSeen, 0)
    atomic.StoreInt64(&s.unparsableEntries, 0)
    atomic.StoreInt64(&s.entriesWithNonFatalErrors, 0)
    …
    return int64(s.opts.StartIndex) + s.certsProcessed, nil
```
The counters are fields of the object, not locals of `Scan`: whatever an earlier scan left there is what the
next scan starts from, unless the prologue overwrites it. -/

/-- the four counter fields of a `Scanner` value -/
structure Obj where
  certs : Nat
  precerts : Nat
  unparsable : Nat
  nonFatal : Nat
  deriving Repr, DecidableEq

/-- `NewScanner` (zero-initialised counters) -/
def Obj.new : Obj := ⟨0, 0, 0, 0⟩

/-- the prologue of `Scan` -/
def resetCounters (_ : Obj) : Obj := ⟨0, 0, 0, 0⟩

/-- `init`, for a `Scan` whose workers start counting from the object's current `certsProcessed` -/
def initOn (ob : Obj) (start stop batch nf nm : Nat) (scriptOf : Nat → List Tok) : St :=
  { init start stop batch nf nm scriptOf with counter := ob.certs }

/-- parameters of one `Scan` call (options, the server's behaviour, the schedule the runtime happens to pick) -/
structure ScanCfg where
  start : Nat
  stop : Nat
  batch : Nat
  nf : Nat
  nm : Nat
  scriptOf : Nat → List Tok
  sched : List Worker

/-- one `Scan` call on a `Scanner` value whose counters currently hold `ob`: prologue, then the interleaved run -/
def scanOn (ob : Obj) (c : ScanCfg) : St :=
  run (initOn (resetCounters ob) c.start c.stop c.batch c.nf c.nm c.scriptOf) c.sched

/-- the same `Scan` call on a fresh `Scanner` (what every theorem of sections 3 and 4 talks about) -/
def scanFresh (c : ScanCfg) : St := run (init c.start c.stop c.batch c.nf c.nm c.scriptOf) c.sched

/-- consecutive `Scan` calls on ONE value: (return value, final state) of each; the `certsProcessed` a scan
    leaves behind is what the next one finds (the other three counters do not influence the control flow or the
    return value; the driver threads them the same way) -/
def scanSeq (ob : Obj) : List ScanCfg → List (Nat × St)
  | [] => []
  | c :: cs =>
    let st := scanOn ob c
    (scanReturn c.start st, st) :: scanSeq { ob with certs := st.counter } cs

/-! ### 6. bounded channels and the main goroutine

```go
fetches := make(chan fetchRange, 1000)
jobs := make(chan matcherJob, 100000)
…start matchers, start fetchers…
for r := ranges.Front(); r != nil; r = r.Next() { fetches <- r.Value.(fetchRange) }   // MainPc.feed
close(fetches)
fetcherWG.Wait()                                                                     // MainPc.waitF
close(jobs)
matcherWG.Wait()                                                                     // MainPc.waitM
…
return int64(s.opts.StartIndex) + s.certsProcessed, nil                              // MainPc.ret
```
`BSt.st.pending` is the content of the `fetches` channel, `BSt.queue` the part of the `ranges` list the main
goroutine has not sent yet.  The worker steps are the steps of the unbounded model (`stepF`, `stepM`) guarded by
the blocking conditions of a bounded channel. -/

/-- where the main goroutine of `Scan` is -/
inductive MainPc where
  | feed      -- in the loop `fetches <- r` (or about to `close(fetches)`)
  | waitF     -- `fetches` closed; in `fetcherWG.Wait()`
  | waitM     -- `jobs` closed; in `matcherWG.Wait()`
  | ret       -- returned
  deriving Repr, DecidableEq

structure BSt where
  capF  : Nat          -- capacity of `fetches`
  capJ  : Nat          -- capacity of `jobs`
  queue : List Job     -- ranges not yet sent by the main goroutine
  pc    : MainPc
  st    : St           -- `st.pending` = content of the `fetches` channel
  deriving Repr, DecidableEq

inductive BWorker where
  | main
  | f (i : Nat)
  | m (j : Nat)
  deriving Repr, DecidableEq

/-- one atomic step of the main goroutine -/
def bstepMain (b : BSt) : BSt :=
  match b.pc with
  | .feed =>
    match b.queue with
    | j :: rest =>
      if b.st.pending.length < b.capF then { b with queue := rest, st := { b.st with pending := b.st.pending ++ [j] } }
      else b                                              -- `fetches <- r` blocks: channel full
    | [] => { b with pc := .waitF }                       -- `close(fetches)`
  | .waitF => if allDone b.st.fs then { b with pc := .waitM } else b          -- `fetcherWG.Wait(); close(jobs)`
  | .waitM => if b.st.ms.all (fun x => x) then { b with pc := .ret } else b   -- `matcherWG.Wait(); … return`
  | .ret => b

/-- one atomic step of fetcher `i`: `stepF`, except that receiving from the empty, still open `fetches` channel
    and sending to the full `jobs` channel block -/
def bstepF (i : Nat) (b : BSt) : BSt :=
  match b.st.fs[i]? with
  | some .idle =>
    match b.st.pending with
    | [] => if b.pc = .feed then b else { b with st := stepF i b.st }
    | _ :: _ => { b with st := stepF i b.st }
  | some (.send _ _ (_ + 1) _) => if b.st.jobs.length < b.capJ then { b with st := stepF i b.st } else b
  | _ => { b with st := stepF i b.st }

/-- one atomic step of matcher `j`: receive and process, or return when `jobs` is closed (the main goroutine is
    past `close(jobs)`) and empty; otherwise blocked -/
def bstepM (j : Nat) (b : BSt) : BSt :=
  match b.st.ms[j]? with
  | some false =>
    match b.st.jobs with
    | x :: rest => { b with st := { b.st with jobs := rest, processed := x :: b.st.processed, counter := b.st.counter + 1 } }
    | [] =>
      match b.pc with
      | .feed => b
      | .waitF => b
      | _ => { b with st := { b.st with ms := b.st.ms.set j true } }
  | _ => b

def bstep (w : BWorker) (b : BSt) : BSt :=
  match w with
  | .main => bstepMain b
  | .f i => bstepF i b
  | .m j => bstepM j b

def brun (b : BSt) : List BWorker → BSt
  | [] => b
  | w :: ws => brun (bstep w b) ws

/-- can `w` move? (`false` = returned, or blocked on a channel / wait group) -/
def benabled (w : BWorker) (b : BSt) : Bool :=
  match w with
  | .main =>
    match b.pc with
    | .feed => b.queue.isEmpty || b.st.pending.length < b.capF
    | .waitF => allDone b.st.fs
    | .waitM => b.st.ms.all (fun x => x)
    | .ret => false
  | .f i =>
    match b.st.fs[i]? with
    | none => false
    | some .done => false
    | some .idle => !b.st.pending.isEmpty || b.pc != .feed
    | some (.send _ _ (_ + 1) _) => b.st.jobs.length < b.capJ
    | some _ => true
  | .m j =>
    match b.st.ms[j]? with
    | some false => !b.st.jobs.isEmpty || b.pc == .waitM || b.pc == .ret
    | _ => false

/-- `Scan` has returned -/
def bfinished (b : BSt) : Bool := b.pc == .ret

/-- the state of the UNBOUNDED model a bounded state stands for: what is still in the `ranges` list counts as
    not yet taken -/
def babs (b : BSt) : St := { b.st with pending := b.st.pending ++ b.queue }

/-- state after `Scan` has built the range list and started the workers, before the first `fetches <- r` -/
def binitOn (ob : Obj) (capF capJ start stop batch nf nm : Nat) (scriptOf : Nat → List Tok) : BSt :=
  { capF := capF, capJ := capJ,
    queue := (ranges start stop batch).map (fun r => ⟨r.1, r.2, scriptOf r.2⟩),
    pc := .feed,
    st := { pending := [], fs := List.replicate nf .idle, jobs := [], ms := List.replicate nm false,
            processed := [], counter := ob.certs, reqlog := [] } }

def binit (capF capJ start stop batch nf nm : Nat) (scriptOf : Nat → List Tok) : BSt :=
  binitOn Obj.new capF capJ start stop batch nf nm scriptOf

def pcWeight : MainPc → Nat
  | .feed => 3 | .waitF => 2 | .waitM => 1 | .ret => 0

/-- termination measure of the bounded model -/
def bmu (b : BSt) : Nat := mu (babs b) + b.queue.length + pcWeight b.pc

def bworkers (b : BSt) : List BWorker :=
  BWorker.main :: ((List.range b.st.fs.length).map BWorker.f ++ (List.range b.st.ms.length).map BWorker.m)

def broundRobin (b : BSt) : Nat → BSt
  | 0 => b
  | fuel + 1 => broundRobin (brun b (bworkers b)) fuel

/-- the main goroutine's synchronisation statements, in the order the bounded model implements them:
    `binit` is the state after `startFetchers`; `bstepMain` does `feed`* `closeFetches` | `waitFetchers closeJobs` |
    `waitMatchers ret` -/
inductive MainOp where
  | resetCounter | makeFetches | makeJobs | goTicker | startMatchers | startFetchers
  | feed | closeFetches | waitFetchers | closeJobs | waitMatchers | stopTicker | ret
  deriving Repr, DecidableEq

def mainProgram : List MainOp :=
  [.resetCounter, .resetCounter, .resetCounter, .resetCounter, .makeFetches, .makeJobs, .goTicker,
   .startMatchers, .startFetchers, .feed, .closeFetches, .waitFetchers, .closeJobs, .waitMatchers, .stopTicker, .ret]

end ZV.C17
