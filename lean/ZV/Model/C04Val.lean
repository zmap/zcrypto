import ZV.Model.C04
import ZV.Model.Time
/-!
  The `Validity` and `serialNumber` members of the TBSCertificate `CreateCertificate` writes
  (`validity{template.NotBefore.UTC(), template.NotAfter.UTC()}`, `SerialNumber: template.SerialNumber`) and what
  `ParseCertificate` reads back.  Times are `ZV.Time.GoTime`; the UTCTime / GeneralizedTime choice, the text forms and
  the two readers are the shared model `ZV.Time.EA` (unchanged).
-/
namespace ZV.C04
open ZV ZV.Der ZV.C06 ZV.Time

/-- `t.UTC()`: the same instant (nanoseconds kept), zone offset 0 -/
def toUTC (t : GoTime) : GoTime := { t with off := 0 }

/-- `makeField` for a `time.Time` without parameters: tag 23 or 24 chosen by the year, then the text -/
def encTime (t : GoTime) : Res Bytes :=
  match EA.makeTimeBody 0 t with
  | .ok body => .ok (writeTLV (UInt8.ofNat (EA.timeTag 0 t)) body)
  | .err => .err
  | .panic => .panic

/-- `Validity ::= SEQUENCE { notBefore Time, notAfter Time }` as CreateCertificate marshals it -/
def buildValidity (nb na : GoTime) : Res Bytes :=
  match encTime (toUTC nb), encTime (toUTC na) with
  | .ok a, .ok b => .ok (writeTLV 0x30 (a ++ b))
  | .panic, _ => .panic
  | _, .panic => .panic
  | _, _ => .err

/-- `parseField` for a `time.Time` field without parameters: a universal primitive UTCTime, or (substituted universal
    tag) GeneralizedTime; strict mode -/
def parseTimeField (bs : Bytes) : Res (GoTime × Bytes) :=
  match field (.univ 24 false) true bs with
  | .ok (some e, rest) => (EA.parseTimeBody false 24 e.body).bind fun t => .ok (t, rest)
  | .ok (none, _) =>
    (match someElem (field (.univ 23 false) false bs) with
     | .ok (e, rest) => (EA.parseTimeBody false 23 e.body).bind fun t => .ok (t, rest)
     | .err => .err
     | .panic => .panic)
  | .err => .err
  | .panic => .panic

/-- the `validity` struct: (NotBefore, NotAfter) -/
def parseValidity (bs : Bytes) : Res (GoTime × GoTime) :=
  match first (.univ 16 true) bs with
  | .ok e =>
    (parseTimeField e.body).bind fun a =>
    (parseTimeField a.2).bind fun b => .ok (a.1, b.1)
  | .err => .err
  | .panic => .panic

/-- `makeBigInt`: INTEGER contents of any `*big.Int` — minimal two's complement, negative values written as they
    are (CreateCertificate of zcrypto has no sign check; only a nil serial is an error) -/
def encSerial (v : Int) : Bytes :=
  let l := intLen v.natAbs v
  beBytes l (if v < 0 then (v + (256 : Int) ^ l).toNat else v.toNat)

/-- `parseBigInt` (strict): minimality check, two's-complement value of any width -/
def parseSerial (bs : Bytes) : Res Int := if !checkInteger bs then .err else .ok (intOfBytes bs)

end ZV.C04
