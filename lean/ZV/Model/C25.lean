import ZV.Base
import ZV.Hash.HMAC
/-!
  C25 — executable model of the TLS record protection code of zcrypto

    tls/conn.go           extractPadding, roundUp, (*halfConn).incSeq / explicitNonceLen / decrypt / encrypt,
                          (*Conn).maxPayloadSizeForWrite, writeRecordLocked, readRecordOrCCS
    tls/cipher_suites.go  prefixNonceAEAD, xorNonceAEAD, tls10MAC

  One Lean function per Go function, same order of checks.  The cryptographic primitives are
  PARAMETERS: a stream cipher is a function `σ → Bytes → Bytes × σ` (XORKeyStream on a state), a CBC
  mode is a `Cbc σ` (BlockSize / SetIV / CryptBlocks), an AEAD is an `Aead` (Seal / Open / Overhead /
  explicitNonceLen), a MAC is a `Mac` (Size, and the keyed hash of the bytes written between Reset and
  Sum).  Their laws are hypotheses of the theorems in `ZV.Props.C25`, never of the model.

  The last section defines toy primitives (XOR keystream, reverse/xor block cipher in CBC mode, additive
  tag AEAD); the Go harness defines the same toys and runs the REAL halfConn code over them, so that
  every framing / nonce / additional-data / padding / MAC-placement byte is compared (T2).
-/
namespace ZV.C25

/-! ### constants (tls/common.go) -/
def maxPlaintext : Nat := 16384
def maxCiphertext : Nat := 16384 + 2048
def maxCiphertextTLS13 : Nat := 16384 + 256
def recordHeaderLen : Nat := 5
def maxUselessRecords : Nat := 16
def VersionTLS10 : Nat := 0x0301
def VersionTLS11 : Nat := 0x0302
def VersionTLS12 : Nat := 0x0303
def VersionTLS13 : Nat := 0x0304
def recordTypeChangeCipherSpec : UInt8 := 20
def recordTypeAlert : UInt8 := 21
def recordTypeHandshake : UInt8 := 22
def recordTypeApplicationData : UInt8 := 23
def tcpMSSEstimate : Int := 1208
def recordSizeBoostThreshold : Int := 128 * 1024

/-! ### extractPadding (bit-exact) -/

/-- Go `byte(int32(^t) >> 31)` for `t : uint` (64 bit): complement, truncate to the low 32 bits, read
    them as signed, arithmetic shift by 31, truncate to a byte. -/
def msbMask (t : UInt64) : UInt8 := ((~~~t).toUInt32.toInt32 >>> 31).toInt8.toUInt8

/-- iterations `i, i+1, …` of the checking loop; the list holds `payload[len-1-i], payload[len-2-i], …`
    (already cut to the `toCheck` bytes the loop visits). `good &^= mask&paddingLen ^ mask&b`. -/
def padLoop (paddingLen : UInt8) : Nat → List UInt8 → UInt8 → UInt8
  | _, [], good => good
  | i, b :: rest, good =>
    let t : UInt64 := paddingLen.toUInt64 - UInt64.ofNat i
    let mask := msbMask t
    padLoop paddingLen (i + 1) rest (good &&& ~~~((mask &&& paddingLen) ^^^ (mask &&& b)))

/-- `good &= good << 4; good &= good << 2; good &= good << 1; good = uint8(int8(good) >> 7)` -/
def foldGood (g : UInt8) : UInt8 :=
  let g1 := g &&& (g <<< 4)
  let g2 := g1 &&& (g1 <<< 2)
  let g3 := g2 &&& (g2 <<< 1)
  (g3.toInt8 >>> 7).toUInt8

def extractPadding (payload : Bytes) : Nat × UInt8 :=
  match payload.reverse with
  | [] => (0, 0)
  | paddingLen :: restRev =>
    let t : UInt64 := UInt64.ofNat (payload.length - 1) - paddingLen.toUInt64
    let good0 := msbMask t
    let toCheck := if 256 > payload.length then payload.length else 256
    let good1 := padLoop paddingLen 0 ((paddingLen :: restRev).take toCheck) good0
    let good := foldGood good1
    ((paddingLen &&& good).toNat + 1, good)

/-- `a + (b-a%b)%b` (Go panics on `b = 0`; callers pass a block size) -/
def roundUp (a b : Nat) : Nat := a + (b - a % b) % b

/-! ### the primitives as parameters -/

/-- `hash.Hash` as used by `tls10MAC`: `Size()` and the result of `Reset; Write…; Sum`. -/
structure Mac where
  size : Nat
  sum : Bytes → Bytes

/-- the unexported `aead` interface: `Seal(nonce, plaintext, ad)`, `Open(nonce, ciphertext, ad)`,
    `Overhead()`, `explicitNonceLen()`. -/
structure Aead where
  sealFn : Bytes → Bytes → Bytes → Bytes
  openFn : Bytes → Bytes → Bytes → Option Bytes
  overhead : Nat
  explicitNonceLen : Nat

/-- `cbcMode`: `BlockSize`, `SetIV`, `CryptBlocks` (in place, returns the new chaining state). -/
structure Cbc (σ : Type) where
  blockSize : Nat
  setIV : σ → Bytes → σ
  cryptBlocks : σ → Bytes → Bytes × σ

/-- `halfConn.cipher` / `halfConn.mac` — the four shapes built by cipher_suites.go (`mac == nil` exactly
    for AEAD suites and before the first ChangeCipherSpec). -/
inductive Cipher (σ : Type) where
  | null
  | stream (xorKeyStream : σ → Bytes → Bytes × σ) (mac : Mac)
  | aead (a : Aead)
  | cbc (c : Cbc σ) (mac : Mac)

structure HalfConn (σ : Type) where
  version : Nat
  cipher : Cipher σ
  /-- mutable state of the cipher object (stream position / CBC chaining value) -/
  st : σ
  /-- `seq [8]byte` -/
  seq : Bytes

/-! ### cipher_suites.go: nonce wrappers and the MAC input -/

/-- `cipher.AEAD` (the inner AES-GCM / ChaCha20-Poly1305 object) -/
structure InnerAead where
  sealFn : Bytes → Bytes → Bytes → Bytes
  openFn : Bytes → Bytes → Bytes → Option Bytes
  overhead : Nat

/-- Go `copy(dst, src)` where `dst` is a fixed array tail: overwrite a prefix, keep the length. -/
def copyInto : Bytes → Bytes → Bytes
  | _ :: ds, s :: ss => s :: copyInto ds ss
  | ds, [] => ds
  | [], _ :: _ => []

/-- `for i, b := range nonce { f.nonceMask[4+i] ^= b }` on the tail `nonceMask[4:]`
    (an out-of-range index cannot occur: `nonce` is the 8-byte sequence number, the tail has 8 bytes). -/
def xorInto : Bytes → Bytes → Bytes
  | d :: ds, s :: ss => (d ^^^ s) :: xorInto ds ss
  | ds, [] => ds
  | [], _ :: _ => []

/-- `prefixNonceAEAD`: `copy(f.nonce[4:], nonce)`, then the inner AEAD on all 12 bytes.
    `fixed` is the 12-byte array `f.nonce` (prefix in the first four bytes). The call always passes
    eight bytes, so the array tail is fully overwritten and the wrapper is stateless. -/
def prefixNonce (fixed nonce : Bytes) : Bytes := fixed.take 4 ++ copyInto (fixed.drop 4) nonce

def prefixNonceAEAD (inner : InnerAead) (fixed : Bytes) : Aead :=
  { sealFn := fun nonce pt ad => inner.sealFn (prefixNonce fixed nonce) pt ad
    openFn := fun nonce ct ad => inner.openFn (prefixNonce fixed nonce) ct ad
    overhead := inner.overhead
    explicitNonceLen := 8 }

/-- `xorNonceAEAD`: `nonceMask[4+i] ^= nonce[i]` around the call (restored afterwards). -/
def xorNonce (mask nonce : Bytes) : Bytes := mask.take 4 ++ xorInto (mask.drop 4) nonce

def xorNonceAEAD (inner : InnerAead) (mask : Bytes) : Aead :=
  { sealFn := fun nonce pt ad => inner.sealFn (xorNonce mask nonce) pt ad
    openFn := fun nonce ct ad => inner.openFn (xorNonce mask nonce) ct ad
    overhead := inner.overhead
    explicitNonceLen := 0 }

/-- `tls10MAC(h, out, seq, header, data, extra)`: `extra` is written after `Sum` and does not
    influence the result. -/
def tls10MAC (m : Mac) (seq header data : Bytes) : Bytes := m.sum (seq ++ header ++ data)

/-! ### halfConn -/

/-- loop of `incSeq` from index 7 downwards on the reversed array; `none` = fell out of the loop. -/
def incSeqRev : List UInt8 → Option (List UInt8)
  | [] => none
  | b :: rest =>
    if b + 1 != 0 then some ((b + 1) :: rest)
    else match incSeqRev rest with
      | none => none
      | some r => some (0 :: r)

/-- `incSeq`: panics on wrap-around. -/
def incSeq (seq : Bytes) : Res Bytes :=
  match incSeqRev seq.reverse with
  | none => .panic
  | some r => .ok r.reverse

def explicitNonceLen {σ} (hc : HalfConn σ) : Nat :=
  match hc.cipher with
  | .null => 0
  | .stream _ _ => 0
  | .aead a => a.explicitNonceLen
  | .cbc c _ => if hc.version ≥ VersionTLS11 then c.blockSize else 0

/-- `byte(n)` of a Go `int` -/
def byteOf (n : Int) : UInt8 := UInt8.ofNat (Int.emod n 256).toNat
/-- `byte(n >> 8), byte(n)` -/
def be16 (n : Int) : Bytes := [byteOf (Int.ediv n 256), byteOf n]

/-- TLS 1.3 inner plaintext scan `for i := len-1; i >= 0; i--` on the reversed plaintext:
    first non-zero byte = content type; `none` = reached `i == 0` on a zero byte. -/
def strip13Rev : List UInt8 → Option (UInt8 × List UInt8)
  | [] => none
  | b :: rest => if b != 0 then some (b, rest) else strip13Rev rest

/-- the `if hc.version == VersionTLS13` block of decrypt (runs for every non-nil cipher). -/
def decrypt13 (version : Nat) (typ : UInt8) (plaintext : Bytes) : Res (UInt8 × Bytes) :=
  if version == VersionTLS13 then
    if typ != recordTypeApplicationData then .err
    else if plaintext.length > maxPlaintext + 1 then .err
    else match plaintext with
      | [] => .ok (typ, plaintext)
      | _ :: _ =>
        match strip13Rev plaintext.reverse with
        | none => .err
        | some (t, rest) => .ok (t, rest.reverse)
  else .ok (typ, plaintext)

/-- the `if hc.mac != nil` block of decrypt; `hdr3` = `record[:3]`. Returns the plaintext. -/
def decryptMac (mac : Mac) (seq hdr3 payload : Bytes) (paddingLen : Nat) (paddingGood : UInt8) : Res Bytes :=
  let macSize := mac.size
  if payload.length < macSize then .err
  else
    let n0 : Int := (payload.length : Int) - macSize - paddingLen
    let n : Nat := if n0 < 0 then 0 else n0.toNat
    let remoteMAC := (payload.drop n).take macSize
    let localMAC := tls10MAC mac seq (hdr3 ++ be16 n) (payload.take n)
    let cmp : Nat := if localMAC == remoteMAC then 1 else 0
    if cmp &&& paddingGood.toNat != 1 then .err
    else .ok (payload.take n)

/-- `decrypt`: result = (plaintext, content type, halfConn afterwards). `panic` for a record shorter
    than a header (slice out of range) and on sequence-number wrap-around. -/
def decrypt {σ} (hc : HalfConn σ) (record : Bytes) : Res (Bytes × UInt8 × HalfConn σ) :=
  match record with
  | typ :: v1 :: v2 :: _ :: _ :: payload =>
    if hc.version == VersionTLS13 && typ == recordTypeChangeCipherSpec then .ok (payload, typ, hc)
    else
      let eNL := explicitNonceLen hc
      match hc.cipher with
      | .null =>
        match incSeq hc.seq with
        | .ok s => .ok (payload, typ, { hc with seq := s })
        | _ => .panic
      | .stream xorKeyStream mac =>
        match xorKeyStream hc.st payload with
        | (payload, st) =>
          match decrypt13 hc.version typ [] with
          | .ok (typ, _) =>
            match decryptMac mac hc.seq [typ, v1, v2] payload 0 255 with
            | .ok plaintext =>
              match incSeq hc.seq with
              | .ok s => .ok (plaintext, typ, { hc with seq := s, st := st })
              | _ => .panic
            | .err => .err
            | .panic => .panic
          | .err => .err
          | .panic => .panic
      | .aead a =>
        if payload.length < eNL then .err
        else
          let nonce0 := payload.take eNL
          let nonce := if nonce0.length == 0 then hc.seq else nonce0
          let payload := payload.drop eNL
          let additionalData :=
            if hc.version == VersionTLS13 then record.take recordHeaderLen
            else hc.seq ++ [typ, v1, v2] ++ be16 ((payload.length : Int) - a.overhead)
          match a.openFn nonce payload additionalData with
          | none => .err
          | some plaintext =>
            match decrypt13 hc.version typ plaintext with
            | .ok (typ, plaintext) =>
              match incSeq hc.seq with
              | .ok s => .ok (plaintext, typ, { hc with seq := s })
              | _ => .panic
            | .err => .err
            | .panic => .panic
      | .cbc c mac =>
        let blockSize := c.blockSize
        let minPayload := eNL + roundUp (mac.size + 1) blockSize
        if payload.length % blockSize != 0 || payload.length < minPayload then .err
        else
          let st1 := if eNL > 0 then c.setIV hc.st (payload.take eNL) else hc.st
          let payload := if eNL > 0 then payload.drop eNL else payload
          match c.cryptBlocks st1 payload with
          | (payload, st) =>
            match extractPadding payload with
            | (paddingLen, paddingGood) =>
              match decrypt13 hc.version typ [] with
              | .ok (typ, _) =>
                match decryptMac mac hc.seq [typ, v1, v2] payload paddingLen paddingGood with
                | .ok plaintext =>
                  match incSeq hc.seq with
                  | .ok s => .ok (plaintext, typ, { hc with seq := s, st := st })
                  | _ => .panic
                | .err => .err
                | .panic => .panic
              | .err => .err
              | .panic => .panic
  | _ => .panic

/-- final part of encrypt: `n := len(record) - recordHeaderLen; record[3], record[4] = n; incSeq`. -/
def finishEncrypt {σ} (hc : HalfConn σ) (st : σ) (typ v1 v2 : UInt8) (body rand : Bytes) :
    Res (Bytes × HalfConn σ × Bytes) :=
  match incSeq hc.seq with
  | .ok s => .ok ([typ, v1, v2] ++ be16 body.length ++ body, { hc with seq := s, st := st }, rand)
  | _ => .panic

/-- `encrypt(record, payload, rand)` with `record` = the 5-byte header written by writeRecordLocked
    (any other length: `panic`, outside the modelled domain). `rand` = the bytes the reader will
    deliver; result = (record, halfConn afterwards, unread rand bytes); `err` = rand ran dry. -/
def encrypt {σ} (hc : HalfConn σ) (record payload rand : Bytes) : Res (Bytes × HalfConn σ × Bytes) :=
  match record with
  | [typ, v1, v2, l1, l2] =>
    match hc.cipher with
    | .null => .ok (record ++ payload, hc, rand)
    | .stream xorKeyStream mac =>
      let m := tls10MAC mac hc.seq record payload
      match xorKeyStream hc.st payload with
      | (c1, st1) =>
        match xorKeyStream st1 m with
        | (c2, st2) => finishEncrypt hc st2 typ v1 v2 (c1 ++ c2) rand
    | .aead a =>
      let eNL := a.explicitNonceLen
      -- explicit nonce: the sequence number (AEAD with an explicit nonce shorter than 16) or random
      let fromRand := eNL > 0 && !(eNL < 16)
      if fromRand && rand.length < eNL then .err
      else
        let explicitNonce :=
          if eNL > 0 then (if eNL < 16 then copyInto (List.replicate eNL 0) hc.seq else rand.take eNL) else []
        let rand := if fromRand then rand.drop eNL else rand
        let nonce := if explicitNonce.length == 0 then hc.seq else explicitNonce
        if hc.version == VersionTLS13 then
          let inner := explicitNonce ++ payload ++ [typ]
          let hdr := [recordTypeApplicationData, v1, v2] ++ be16 ((payload.length : Int) + 1 + a.overhead)
          finishEncrypt hc hc.st recordTypeApplicationData v1 v2 (a.sealFn nonce inner hdr) rand
        else
          let additionalData := hc.seq ++ [typ, v1, v2, l1, l2]
          finishEncrypt hc hc.st typ v1 v2 (explicitNonce ++ a.sealFn nonce payload additionalData) rand
    | .cbc c mac =>
      let eNL := explicitNonceLen hc
      if eNL > 0 && rand.length < eNL then .err
      else
        let explicitNonce := if eNL > 0 then rand.take eNL else []
        let rand := if eNL > 0 then rand.drop eNL else rand
        let m := tls10MAC mac hc.seq record payload
        let blockSize := c.blockSize
        let plaintextLen := payload.length + m.length
        let paddingLen := blockSize - plaintextLen % blockSize
        let dst := payload ++ m ++ List.replicate paddingLen (UInt8.ofNat (paddingLen - 1))
        let st1 := if explicitNonce.length > 0 then c.setIV hc.st explicitNonce else hc.st
        match c.cryptBlocks st1 dst with
        | (ct, st2) => finishEncrypt hc st2 typ v1 v2 (explicitNonce ++ ct) rand
  | _ => .panic

/-! ### Conn: record sizing, fragmentation, record-length checks -/

structure Conn (σ : Type) where
  vers : Nat
  haveVers : Bool
  handshakeComplete : Bool
  dynamicRecordSizingDisabled : Bool
  buffering : Bool
  bytesSent : Int
  packetsSent : Int
  retryCount : Nat
  hc : HalfConn σ      -- `c.out` for the write functions, `c.in` for readRecord
  hand : Bytes

/-- Go `payloadBytes & ^(blockSize - 1)` on 64-bit ints -/
def andNotMask (payloadBytes blockSize : Int) : Int :=
  (Int64.ofInt payloadBytes &&& ~~~(Int64.ofInt (blockSize - 1))).toInt

/-- tail of `maxPayloadSizeForWrite` ("allow packet growth in arithmetic progression up to max"):
    `pkt := c.packetsSent; c.packetsSent++; …` -/
def growPayload (payloadBytes pkt : Int) : Int × Int :=
  if pkt > 1000 then (maxPlaintext, pkt + 1)
  else
    let n := payloadBytes * (pkt + 1)
    if n > maxPlaintext then (maxPlaintext, pkt + 1) else (n, pkt + 1)

/-- `maxPayloadSizeForWrite`: result and the new `packetsSent`. -/
def maxPayloadSizeForWrite {σ} (c : Conn σ) (typ : UInt8) : Int × Int :=
  if c.dynamicRecordSizingDisabled || typ != recordTypeApplicationData then (maxPlaintext, c.packetsSent)
  else if c.bytesSent ≥ recordSizeBoostThreshold then (maxPlaintext, c.packetsSent)
  else
    let payloadBytes0 : Int := tcpMSSEstimate - recordHeaderLen - explicitNonceLen c.hc
    let payloadBytes1 : Int :=
      match c.hc.cipher with
      | .null => payloadBytes0
      | .stream _ mac => payloadBytes0 - mac.size
      | .aead a => payloadBytes0 - a.overhead
      | .cbc cb mac => (andNotMask payloadBytes0 cb.blockSize - 1) - mac.size
    let payloadBytes : Int := if c.vers == VersionTLS13 then payloadBytes1 - 1 else payloadBytes1
    growPayload payloadBytes c.packetsSent

/-- the record-layer version written by writeRecordLocked -/
def recordVersion (vers : Nat) : Nat :=
  if vers == 0 then VersionTLS10 else if vers == VersionTLS13 then VersionTLS12 else vers

structure WriteOut (σ : Type) where
  n : Nat
  records : List Bytes
  /-- ghost: the plaintext fragments `data[:m]` handed to `encrypt`, in order -/
  frags : List Bytes
  conn : Conn σ
  rand : Bytes

/-- the `for len(data) > 0` loop of writeRecordLocked. `m ≤ 0` (possible only with absurd
    overheads) is a slice-bounds panic for `m < 0` and a non-terminating loop for `m = 0`
    in Go; the model reports `panic` for both. -/
def writeLoop {σ} (c : Conn σ) (typ : UInt8) (data rand : Bytes) (n : Nat) (acc facc : List Bytes) :
    Res (WriteOut σ) :=
  match _hd : data with
  | [] => .ok ⟨n, acc.reverse, facc.reverse, c, rand⟩
  | _ :: _ =>
    match maxPayloadSizeForWrite c typ with
    | (maxPayload, pkts) =>
      if _hm : maxPayload ≤ 0 then .panic
      else
        let m : Nat := if data.length > maxPayload.toNat then maxPayload.toNat else data.length
        let vers := recordVersion c.vers
        let hdr : Bytes := [typ, UInt8.ofNat (vers / 256), UInt8.ofNat vers] ++ be16 m
        match encrypt c.hc hdr (data.take m) rand with
        | .ok (rec, hc', rand') =>
          let sent : Int := if c.buffering then c.bytesSent else c.bytesSent + rec.length
          writeLoop { c with hc := hc', packetsSent := pkts, bytesSent := sent } typ (data.drop m) rand'
            (n + m) (rec :: acc) (data.take m :: facc)
        | .err => .err
        | .panic => .panic
termination_by data.length
decreasing_by
  subst _hd
  simp only [List.length_drop, List.length_cons]
  split <;> omega

/-- `writeRecordLocked(typ, data)`. A ChangeCipherSpec record below TLS 1.3 ends in
    `c.out.changeCipherSpec()`, which fails with `nextCipher == nil` — the only state this model has. -/
def writeRecordLocked {σ} (c : Conn σ) (typ : UInt8) (data rand : Bytes) : Res (WriteOut σ) :=
  match writeLoop c typ data rand 0 [] [] with
  | .ok w => if typ == recordTypeChangeCipherSpec && c.vers != VersionTLS13 then .err else .ok w
  | .err => .err
  | .panic => .panic

inductive ReadOut (σ : Type) where
  | data (input : Bytes) (c : Conn σ) (rest : Bytes)
  | hand (c : Conn σ) (rest : Bytes)
  | err (retryCount : Nat)
  | panic

/-- `readRecordOrCCS(false)` on the bytes `raw` available from the transport (header and payload
    checks, decrypt, maxPlaintext check, content-type switch, bounded retry). -/
def readRecord {σ} (c : Conn σ) (raw : Bytes) : ReadOut σ :=
  match _hraw : raw with
  | typ :: v1 :: v2 :: l1 :: l2 :: body =>
    if !c.handshakeComplete && typ == 0x80 then .err c.retryCount
    else
      let vers := v1.toNat * 256 + v2.toNat
      let n := l1.toNat * 256 + l2.toNat
      if c.haveVers && c.vers != VersionTLS13 && vers != c.vers then .err c.retryCount
      else if !c.haveVers && ((typ != recordTypeAlert && typ != recordTypeHandshake) || vers ≥ 0x1000) then
        .err c.retryCount
      else if (c.vers == VersionTLS13 && n > maxCiphertextTLS13) || n > maxCiphertext then .err c.retryCount
      else if body.length < n then .err c.retryCount
      else
        let rest := body.drop n
        match decrypt c.hc (typ :: v1 :: v2 :: l1 :: l2 :: body.take n) with
        | .err => .err c.retryCount
        | .panic => .panic
        | .ok (data, typ, hc') =>
          if data.length > maxPlaintext then .err c.retryCount
          else
            let isNull := match c.hc.cipher with | .null => true | _ => false
            if isNull && typ == recordTypeApplicationData then .err c.retryCount
            else
              let rc := if typ != recordTypeAlert && typ != recordTypeChangeCipherSpec && data.length > 0 then 0
                        else c.retryCount
              let c1 : Conn σ := { c with hc := hc', retryCount := rc }
              if c.vers == VersionTLS13 && typ != recordTypeHandshake && c.hand.length > 0 then .err rc
              else
                let retry : Unit → ReadOut σ := fun _ =>
                  if rc + 1 > maxUselessRecords then .err (rc + 1)
                  else readRecord { c1 with retryCount := rc + 1 } rest
                if typ == recordTypeAlert then
                  match data with
                  | [level, desc] =>
                    if desc == 0 then .err rc
                    else if c.vers == VersionTLS13 then .err rc
                    else if level == 1 then retry ()
                    else .err rc
                  | _ => .err rc
                else if typ == recordTypeChangeCipherSpec then
                  if data != [1] then .err rc
                  else if c.hand.length > 0 then .err rc
                  else if c.vers == VersionTLS13 then retry ()
                  else .err rc
                else if typ == recordTypeApplicationData then
                  if !c.handshakeComplete then .err rc
                  else if data.length == 0 then retry ()
                  else .data data c1 rest
                else if typ == recordTypeHandshake then
                  if data.length == 0 then .err rc
                  else .hand { c1 with hand := c.hand ++ data } rest
                else .err rc
  | _ => .err c.retryCount
termination_by raw.length
decreasing_by
  all_goals
    subst _hraw
    simp only [List.length_drop, List.length_cons]
    omega

/-! ### transport segmentation: readFromUntil / atLeastReader / bytes.Buffer.ReadFrom -/

inductive IoErr where
  | eof            -- io.EOF
  | unexpectedEOF  -- io.ErrUnexpectedEOF
  deriving DecidableEq, Repr

/-- `c.rawInput.ReadFrom(&atLeastReader{r, need})` for `need > 0`. The transport is the list of byte
    chunks its successive `Read` calls return (a chunk may be empty: `(0, nil)`); after the last chunk it
    returns `(0, io.EOF)` (or returns the last chunk together with `io.EOF` — `atLeastReader` maps both to
    the same results). `atLeastReader` stops the loop as soon as `need` bytes have arrived, and turns an
    early EOF into `io.ErrUnexpectedEOF`. Result: rawInput, remaining transport, error. -/
def readAtLeast (raw : Bytes) (need : Nat) : List Bytes → Bytes × List Bytes × Option IoErr
  | [] => (raw, [], some .unexpectedEOF)
  | b :: rest =>
    if need ≤ b.length then (raw ++ b, rest, none)
    else readAtLeast (raw ++ b) (need - b.length) rest

/-- `readFromUntil(c.conn, n)` -/
def readFromUntil (raw : Bytes) (n : Nat) (chunks : List Bytes) : Bytes × List Bytes × Option IoErr :=
  if raw.length ≥ n then (raw, chunks, none) else readAtLeast raw (n - raw.length) chunks

/-! ### readRecordOrCCS in full: both values of expectChangeCipherSpec, alerts, sticky error, cipher change -/

def alertCloseNotify : Nat := 0
def alertUnexpectedMessage : Nat := 10
def alertBadRecordMAC : Nat := 20
def alertRecordOverflow : Nat := 22
def alertDecodeError : Nat := 50
def alertProtocolVersion : Nat := 70
def alertInternalError : Nat := 80
def alertLevelWarning : UInt8 := 1
def alertLevelError : UInt8 := 2

/-- alert returned by the `if hc.version == VersionTLS13` block of decrypt when it fails -/
def decrypt13Alert (typ : UInt8) (plaintext : Bytes) : Nat :=
  if typ != recordTypeApplicationData then alertUnexpectedMessage
  else if plaintext.length > maxPlaintext + 1 then alertRecordOverflow
  else alertUnexpectedMessage

/-- which `Alert` a failing `decrypt` returns (same case split as `decrypt`; every failure outside the
    TLS 1.3 inner-plaintext block is bad_record_mac — length, padding and MAC failures alike). -/
def decryptAlert {σ} (hc : HalfConn σ) (record : Bytes) : Nat :=
  match record with
  | typ :: v1 :: v2 :: _ :: _ :: payload =>
    match hc.cipher with
    | .null => alertBadRecordMAC
    | .stream _ _ =>
      match decrypt13 hc.version typ [] with
      | .ok _ => alertBadRecordMAC
      | _ => decrypt13Alert typ []
    | .aead a =>
      let eNL := explicitNonceLen hc
      if payload.length < eNL then alertBadRecordMAC
      else
        let nonce0 := payload.take eNL
        let nonce := if nonce0.length == 0 then hc.seq else nonce0
        let payload := payload.drop eNL
        let additionalData :=
          if hc.version == VersionTLS13 then record.take recordHeaderLen
          else hc.seq ++ [typ, v1, v2] ++ be16 ((payload.length : Int) - a.overhead)
        match a.openFn nonce payload additionalData with
        | none => alertBadRecordMAC
        | some plaintext =>
          match decrypt13 hc.version typ plaintext with
          | .ok _ => alertBadRecordMAC
          | _ => decrypt13Alert typ plaintext
    | .cbc c mac =>
      let eNL := explicitNonceLen hc
      let minPayload := eNL + roundUp (mac.size + 1) c.blockSize
      if payload.length % c.blockSize != 0 || payload.length < minPayload then alertBadRecordMAC
      else
        match decrypt13 hc.version typ [] with
        | .ok _ => alertBadRecordMAC
        | _ => decrypt13Alert typ []
  | _ => alertBadRecordMAC

/-- the error `readRecordOrCCS` returns and stores in `c.in.err` -/
inductive ErrK where
  | io (e : IoErr)               -- transport ended (io.EOF at a record boundary / close_notify, io.ErrUnexpectedEOF inside a record)
  | localAlert (a : Nat)         -- `c.sendAlert(a)`: alert record written, error = "local error: a"
  | remoteAlert (a : Nat)        -- "remote error: a" (fatal alert received, or any alert in TLS 1.3)
  | header (alert : Option Nat)  -- RecordHeaderError, after sending `alert` (if any)
  | tooManyIgnored               -- "too many ignored records", after sending unexpected_message
  | pendingInput                 -- "attempted to read record with pending application data"
  deriving DecidableEq, Repr

/-- the alert description written to the peer for an error -/
def ErrK.alertSent : ErrK → Option Nat
  | .localAlert a => some a
  | .header a => a
  | .tooManyIgnored => some alertUnexpectedMessage
  | _ => none

/-- `halfConn.changeCipherSpec` (`next` = nextCipher/nextMac with the new cipher's initial state; a nil
    nextCipher is `none` or the null cipher): install it, zero the sequence number. `none` = AlertInternalError. -/
def changeCipherSpec {σ} (hc : HalfConn σ) (next : Option (Cipher σ × σ)) : Option (HalfConn σ) :=
  match next with
  | none => none
  | some (.null, _) => none
  | some (ci, st) =>
    if hc.version == VersionTLS13 then none
    else some { hc with cipher := ci, st := st, seq := hc.seq.map (fun _ => 0) }

/-- reading side of a Conn without the transport: `c.hc` = `c.in`, `next` = `c.in.nextCipher`,
    `inErr` = `c.in.err`, `input` = unread part of `c.input`. -/
structure RCore (σ : Type) where
  c : Conn σ
  next : Option (Cipher σ × σ)
  inErr : Option ErrK
  input : Bytes

/-- … with `raw` = `c.rawInput` and `chunks` = what the transport will return. -/
structure RState (σ : Type) where
  core : RCore σ
  raw : Bytes
  chunks : List Bytes

inductive ROut where
  | data (d : Bytes)   -- c.input set
  | hand               -- c.hand grew
  | ccs                -- c.in.changeCipherSpec called
  | err (e : ErrK)
  deriving DecidableEq, Repr

/-- the checks on the five header bytes -/
def headerCheck {σ} (c : Conn σ) (typ v1 v2 l1 l2 : UInt8) : Option ErrK :=
  if !c.handshakeComplete && typ == 0x80 then some (.header (some alertProtocolVersion))
  else
    let vers := v1.toNat * 256 + v2.toNat
    let n := l1.toNat * 256 + l2.toNat
    if c.haveVers && c.vers != VersionTLS13 && vers != c.vers then some (.header (some alertProtocolVersion))
    else if !c.haveVers && ((typ != recordTypeAlert && typ != recordTypeHandshake) || vers ≥ 0x1000) then
      some (.header none)
    else if (c.vers == VersionTLS13 && n > maxCiphertextTLS13) || n > maxCiphertext then
      some (.header (some alertRecordOverflow))
    else none

inductive Fetched where
  | fail (raw : Bytes) (chunks : List Bytes) (e : ErrK)
  | record (record rest : Bytes) (chunks : List Bytes)

/-- first half of readRecordOrCCS: read the header, check it, read the body, cut the record off rawInput. -/
def fetch {σ} (c : Conn σ) (raw : Bytes) (chunks : List Bytes) : Fetched :=
  match readFromUntil raw recordHeaderLen chunks with
  | (raw, chunks, some e) =>
    .fail raw chunks (.io (if e == .unexpectedEOF && raw.length == 0 then .eof else e))
  | (raw, chunks, none) =>
    match raw with
    | typ :: v1 :: v2 :: l1 :: l2 :: _ =>
      match headerCheck c typ v1 v2 l1 l2 with
      | some e => .fail raw chunks e
      | none =>
        let n := l1.toNat * 256 + l2.toNat
        match readFromUntil raw (recordHeaderLen + n) chunks with
        | (raw, chunks, some e) => .fail raw chunks (.io e)
        | (raw, chunks, none) => .record (raw.take (recordHeaderLen + n)) (raw.drop (recordHeaderLen + n)) chunks
    | _ => .fail raw chunks (.io .unexpectedEOF)   -- unreachable: readFromUntil returned at least 5 bytes

inductive Step (σ : Type) where
  | done (k : RCore σ) (o : ROut)
  | retry (k : RCore σ)
  | panic

def failStep {σ} (k : RCore σ) (e : ErrK) : Step σ := .done { k with inErr := some e } (.err e)

/-- `retryReadRecord` up to the recursive call -/
def retryStep {σ} (k : RCore σ) : Step σ :=
  let rc := k.c.retryCount + 1
  let k1 := { k with c := { k.c with retryCount := rc } }
  if rc > maxUselessRecords then failStep k1 .tooManyIgnored else .retry k1

/-- second half of readRecordOrCCS: decrypt and the content-type switch, on the record cut off by `fetch`. -/
def process {σ} (s : RCore σ) (expectCCS : Bool) (record : Bytes) : Step σ :=
  let c := s.c
  match decrypt c.hc record with
  | .panic => .panic
  | .err => failStep s (.localAlert (decryptAlert c.hc record))
  | .ok (data, typ, hc') =>
    let s := { s with c := { c with hc := hc' } }
    if data.length > maxPlaintext then failStep s (.localAlert alertRecordOverflow)
    else
      let isNull := match c.hc.cipher with | .null => true | _ => false
      if isNull && typ == recordTypeApplicationData then failStep s (.localAlert alertUnexpectedMessage)
      else
        let rc := if typ != recordTypeAlert && typ != recordTypeChangeCipherSpec && data.length > 0 then 0
                  else c.retryCount
        let s := { s with c := { s.c with retryCount := rc } }
        if c.vers == VersionTLS13 && typ != recordTypeHandshake && c.hand.length > 0 then
          failStep s (.localAlert alertUnexpectedMessage)
        else if typ == recordTypeAlert then
          match data with
          | [level, desc] =>
            if desc.toNat == alertCloseNotify then failStep s (.io .eof)
            else if c.vers == VersionTLS13 then failStep s (.remoteAlert desc.toNat)
            else if level == alertLevelWarning then retryStep s
            else if level == alertLevelError then failStep s (.remoteAlert desc.toNat)
            else failStep s (.localAlert alertUnexpectedMessage)
          | _ => failStep s (.localAlert alertUnexpectedMessage)
        else if typ == recordTypeChangeCipherSpec then
          if data != [1] then failStep s (.localAlert alertDecodeError)
          else if c.hand.length > 0 then failStep s (.localAlert alertUnexpectedMessage)
          else if c.vers == VersionTLS13 then retryStep s
          else if !expectCCS then failStep s (.localAlert alertUnexpectedMessage)
          else
            match changeCipherSpec s.c.hc s.next with
            | none => failStep s (.localAlert alertInternalError)
            | some hc2 => .done { s with c := { s.c with hc := hc2 }, next := none } .ccs
        else if typ == recordTypeApplicationData then
          if !c.handshakeComplete || expectCCS then failStep s (.localAlert alertUnexpectedMessage)
          else if data.length == 0 then retryStep s
          else .done { s with input := data } (.data data)
        else if typ == recordTypeHandshake then
          if data.length == 0 || expectCCS then failStep s (.localAlert alertUnexpectedMessage)
          else .done { s with c := { s.c with hand := c.hand ++ data } } .hand
        else failStep s (.localAlert alertUnexpectedMessage)

inductive RStep (σ : Type) where
  | done (s : RState σ) (o : ROut)
  | retry (s : RState σ)
  | panic

/-- one pass through the body of readRecordOrCCS (up to a `retryReadRecord` recursion) -/
def readStep {σ} (s : RState σ) (expectCCS : Bool) : RStep σ :=
  match s.core.inErr with
  | some e => .done s (.err e)
  | none =>
    if s.core.input.length != 0 then
      .done { s with core := { s.core with inErr := some .pendingInput } } (.err .pendingInput)
    else
      match fetch s.core.c s.raw s.chunks with
      | .fail raw chunks e => .done ⟨{ s.core with inErr := some e }, raw, chunks⟩ (.err e)
      | .record record rest chunks =>
        match process s.core expectCCS record with
        | .done k o => .done ⟨k, rest, chunks⟩ o
        | .retry k => .retry ⟨k, rest, chunks⟩
        | .panic => .panic

/-- the recursion through `retryReadRecord`: bounded by `maxUselessRecords` in the Go code (each retry
    increments `retryCount` and fails above the bound), hence the fuel; `none` = a decrypt panic (or
    fuel exhausted, which cannot happen from `readRecordOrCCS`: `ZV.C25.readLoop_fuel`). -/
def readLoop {σ} (expectCCS : Bool) : Nat → RState σ → Option (RState σ × ROut)
  | 0, _ => none
  | fuel + 1, s =>
    match readStep s expectCCS with
    | .done s' o => some (s', o)
    | .retry s' => readLoop expectCCS fuel s'
    | .panic => none

/-- `readRecordOrCCS(expectChangeCipherSpec)` -/
def readRecordOrCCS {σ} (s : RState σ) (expectCCS : Bool) : Option (RState σ × ROut) :=
  readLoop expectCCS (maxUselessRecords + 1) s

def RState.drained {σ} (s : RState σ) : RState σ := { s with core := { s.core with input := [] } }

/-- the loop of `Conn.Read` seen from the record layer: up to `n` calls of `readRecord()`, the caller
    consuming `c.input` completely in between; delivered application data in order, and the error that
    ended it (if any). Handshake records (post-handshake messages) are taken out of `c.hand` and the loop
    goes on, as `Read` does after `handlePostHandshakeMessage` (outside this model) consumed them. -/
def readAll {σ} : Nat → RState σ → List Bytes × Option ErrK
  | 0, _ => ([], none)
  | n + 1, s =>
    match readRecordOrCCS s false with
    | none => ([], none)
    | some (s', .data d) =>
      match readAll n s'.drained with
      | (ds, e) => (d :: ds, e)
    | some (s', .hand) => readAll n { s' with core := { s'.core with c := { s'.core.c with hand := [] } } }
    | some (s', .ccs) => readAll n s'
    | some (_, .err e) => ([], some e)

/-! ### write side: ChangeCipherSpec epilogue with a pending cipher, Conn.Write's 1/n-1 split -/

inductive WriteEnd (σ : Type) where
  | plain (w : WriteOut σ)
  /-- a ChangeCipherSpec record was written and `c.out.changeCipherSpec()` installed the pending cipher
      (in `w.conn.hc`, sequence number zero) -/
  | switched (w : WriteOut σ)
  /-- `changeCipherSpec` failed: `sendAlertLocked(AlertInternalError)` wrote `alert` (ok) or failed too -/
  | ccsFailed (w : WriteOut σ) (alert : Res (WriteOut σ))

/-- `writeRecordLocked(typ, data)` with the ChangeCipherSpec epilogue for any `nextCipher`. -/
def writeRecordLockedN {σ} (c : Conn σ) (next : Option (Cipher σ × σ)) (typ : UInt8) (data rand : Bytes) :
    Res (WriteEnd σ) :=
  match writeLoop c typ data rand 0 [] [] with
  | .ok w =>
    if typ == recordTypeChangeCipherSpec && c.vers != VersionTLS13 then
      match changeCipherSpec w.conn.hc next with
      | some hc2 => .ok (.switched { w with conn := { w.conn with hc := hc2 } })
      | none =>
        .ok (.ccsFailed w (writeLoop w.conn recordTypeAlert [alertLevelError, UInt8.ofNat alertInternalError] w.rand 0 [] []))
    else .ok (.plain w)
  | .err => .err
  | .panic => .panic

def isCbc {σ} : Cipher σ → Bool
  | .cbc _ _ => true
  | _ => false

/-- the record-writing part of `Conn.Write(b)` (after the handshake / error / shutdown checks): TLS 1.0
    with a block cipher splits off the first byte into its own record unless
    `Config.DisableTLS10BEASTMitigation`. Result: (n, first call, second call). -/
def connWrite {σ} (c : Conn σ) (disableBEAST : Bool) (b rand : Bytes) :
    Res (Nat × Option (WriteOut σ) × WriteOut σ) :=
  if b.length > 1 && c.vers == VersionTLS10 && !disableBEAST && isCbc c.hc.cipher then
    match writeRecordLocked c recordTypeApplicationData (b.take 1) rand with
    | .ok w1 =>
      match writeRecordLocked w1.conn recordTypeApplicationData (b.drop 1) w1.rand with
      | .ok w2 => .ok (w2.n + 1, some w1, w2)
      | .err => .err
      | .panic => .panic
    | .err => .err
    | .panic => .panic
  else
    match writeRecordLocked c recordTypeApplicationData b rand with
    | .ok w => .ok (w.n, none, w)
    | .err => .err
    | .panic => .panic

/-! ### toy primitives (identical definitions in go/props/c25/record.go) -/
namespace Toy

/-- cipher state of the toys: stream position and CBC chaining value -/
structure St where
  ctr : Nat
  iv : Bytes

def keyAt (key : Bytes) (i : Nat) : UInt8 :=
  match key[i % key.length]? with
  | some b => b
  | none => 0

/-- keystream byte `j`: `key[j mod |key|] + byte(j) + byte(j>>8)` -/
def ks (key : Bytes) (j : Nat) : UInt8 := keyAt key j + UInt8.ofNat j + UInt8.ofNat (j / 256)

def xorKS (key : Bytes) : Nat → Bytes → Bytes
  | _, [] => []
  | j, b :: bs => (b ^^^ ks key j) :: xorKS key (j + 1) bs

def streamXor (key : Bytes) (s : St) (src : Bytes) : Bytes × St :=
  (xorKS key s.ctr src, { s with ctr := s.ctr + src.length })

/-- toy block cipher: `E(b) = reverse(map (+1) (b xor key))`, block size `|key|` -/
def blockE (key b : Bytes) : Bytes := (List.zipWith (fun x k => (x ^^^ k) + 1) b key).reverse
def blockD (key c : Bytes) : Bytes := List.zipWith (fun y k => (y - 1) ^^^ k) c.reverse key

def xorBytes (a b : Bytes) : Bytes := List.zipWith (· ^^^ ·) a b

def chunkN (bs : Nat) : Nat → Bytes → List Bytes
  | 0, _ => []
  | n + 1, d => d.take bs :: chunkN bs n (d.drop bs)

/-- full blocks of `d` (`CryptBlocks` panics on a partial block; callers pass whole blocks) -/
def chunks (bs : Nat) (d : Bytes) : List Bytes := if bs = 0 then [] else chunkN bs (d.length / bs) d

/-- CBC encryption with block function `E`: `c_i = E(p_i xor c_{i-1})`; returns the last block as new IV -/
def cbcEnc (E : Bytes → Bytes) : Bytes → List Bytes → Bytes × Bytes
  | iv, [] => ([], iv)
  | iv, b :: bs =>
    let c := E (xorBytes b iv)
    match cbcEnc E c bs with
    | (cs, iv') => (c ++ cs, iv')

/-- CBC decryption with block function `D`: `p_i = D(c_i) xor c_{i-1}` -/
def cbcDec (D : Bytes → Bytes) : Bytes → List Bytes → Bytes × Bytes
  | iv, [] => ([], iv)
  | iv, c :: cs =>
    match cbcDec D c cs with
    | (ps, iv') => (xorBytes (D c) iv ++ ps, iv')

/-- a `cbcMode` from a block function pair, state = chaining value in `St.iv` -/
def cbcOf (bs : Nat) (E : Bytes → Bytes) (dec : Bool) : Cbc St :=
  { blockSize := bs
    setIV := fun s iv => { s with iv := iv }
    cryptBlocks := fun s d =>
      match (if dec then cbcDec E s.iv (chunks bs d) else cbcEnc E s.iv (chunks bs d)) with
      | (out, iv') => (out, { s with iv := iv' }) }

def toyCbc (key : Bytes) (dec : Bool) : Cbc St :=
  cbcOf key.length (if dec then blockD key else blockE key) dec

/-- toy AEAD pad byte `i`: `(key[i mod |key|] xor nonce[i mod |nonce|]) + byte(i)` -/
def pad (key nonce : Bytes) (i : Nat) : UInt8 := (keyAt key i ^^^ keyAt nonce i) + UInt8.ofNat i

def xorPad (key nonce : Bytes) : Nat → Bytes → Bytes
  | _, [] => []
  | i, b :: bs => (b ^^^ pad key nonce i) :: xorPad key nonce (i + 1) bs

/-- `S += (x+1) * idx` over the bytes, idx counting from `i+1` -/
def tagSum : UInt32 → UInt32 → Bytes → UInt32 × UInt32
  | s, i, [] => (s, i)
  | s, i, x :: xs => tagSum (s + (x.toUInt32 + 1) * (i + 1)) (i + 1) xs

def tagBytes (s : UInt32) : Nat → Nat → Bytes
  | _, 0 => []
  | j, n + 1 => ((s >>> (8 * (UInt32.ofNat (j % 4)))).toUInt8 + UInt8.ofNat j) :: tagBytes s (j + 1) n

/-- tag over `nonce ‖ ad ‖ body` where `body` is the encrypted payload -/
def tag (key : Bytes) (tagLen : Nat) (nonce ad pt : Bytes) : Bytes :=
  let s0 : UInt32 := key.foldl (fun a k => a + k.toUInt32) 0
  match tagSum s0 0 nonce with
  | (s1, i1) =>
    match tagSum s1 i1 ad with
    | (s2, i2) =>
      match tagSum s2 i2 pt with
      | (s3, _) => tagBytes s3 0 tagLen

def toyAead (key : Bytes) (tagLen : Nat) : InnerAead :=
  { sealFn := fun nonce pt ad => xorPad key nonce 0 pt ++ tag key tagLen nonce ad (xorPad key nonce 0 pt)
    openFn := fun nonce ct ad =>
      if ct.length < tagLen then none
      else
        let n := ct.length - tagLen
        if tag key tagLen nonce ad (ct.take n) == ct.drop n then some (xorPad key nonce 0 (ct.take n)) else none
    overhead := tagLen }

def hmacMac (alg : ZV.Hash.HashAlg) (key : Bytes) : Mac :=
  { size := alg.outSize, sum := fun msg => ZV.Hash.hmac alg key msg }

end Toy
end ZV.C25
