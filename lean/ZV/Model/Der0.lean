import ZV.Base
/-!
  ZV.Model.Der0 — shared executable model of the layer-0 DER primitives of BOTH
  ASN.1 codecs of zcrypto, strict mode (`AllowPermissiveParsing = false`):

  * `ZV.Der0.EA.*`  — `encoding/asn1/asn1.go` (parseBool, checkInteger, parseInt64,
    parseInt32, parseBigInt, parseBitString, parseBase128Int, parseObjectIdentifier,
    parseTagAndLength) and `encoding/asn1/marshal.go` (int64Encoder, makeBigInt,
    appendBase128Int, appendLength/lengthLength, appendTagAndLength, bitStringEncoder,
    oidEncoder/makeObjectIdentifier);
  * `ZV.Der0.CB.*`  — `cryptobyte/asn1.go` (readASN1, checkASN1Integer, asn1Signed,
    asn1Unsigned, readASN1BigInt, ReadASN1Boolean, readBase128Int,
    ReadASN1ObjectIdentifier, ReadASN1BitString) and the pure content of the matching
    Builder methods (addASN1Signed, AddASN1Uint64, AddASN1BigInt, addBase128Int,
    AddASN1ObjectIdentifier, AddASN1Boolean, the DER length chosen by `flushChild`).

  Conventions.  A Go `[]byte` is a `List UInt8`; a parser that works with an offset
  into a slice is modelled on the remaining suffix and returns the unread rest (the
  offset is `len input - len rest`).  Arithmetic is in `Nat`/`Int`: byte tests such as
  `b&0x80 == 0` are written `b.toNat < 128`, `x <<= 8; x |= b` is `x*256 + b`,
  `x >> 8k` is `x / 256^k` (floor division, also for negative `Int`s, which is what
  Go's arithmetic shift does).  The one place where `uint32` wrap-around matters
  (`readASN1`'s overflow guard) is written with an explicit `% 2^32`.
  Used by C19 (canonical decoding) and C21 (Builder/String inverses); proofs about
  these functions live in `ZV/Proofs/Der0*.lean`.
-/
namespace ZV.Der0

/-! ## bytes ↔ numbers -/

/-- `x <<= 8; x |= b` over all bytes (big-endian unsigned value; `big.Int.SetBytes`). -/
def natOfBytesAux (acc : Nat) : Bytes → Nat
  | [] => acc
  | b :: bs => natOfBytesAux (acc * 256 + b.toNat) bs

def natOfBytes (bs : Bytes) : Nat := natOfBytesAux 0 bs

/-- `big.Int.Bytes()`: minimal big-endian representation, empty for 0. -/
def natToBytes (n : Nat) : Bytes :=
  if h : n = 0 then [] else natToBytes (n / 256) ++ [UInt8.ofNat (n % 256)]
decreasing_by omega

/-- `^b` / `b ^ 0xff` -/
def notB (b : UInt8) : UInt8 := UInt8.ofNat (255 - b.toNat)

/-- low byte of an integer: Go's `byte(x)` conversion. -/
def byteOfInt (v : Int) : UInt8 := UInt8.ofNat (v % 256).toNat

/-- k-byte big-endian field as written by `flushChild`'s loop
    `for i := k-1; i >= 0; i-- { buf[off+i] = uint8(l); l >>= 8 }`. -/
def beBytes : Nat → Nat → Bytes
  | 0, _ => []
  | k + 1, n => beBytes k (n / 256) ++ [UInt8.ofNat (n % 256)]

/-! ## INTEGER -/

/-- `checkInteger` (strict) and `checkASN1Integer` — the two functions are the same code. -/
def checkInteger : Bytes → Bool
  | [] => false
  | [_] => true
  | b0 :: b1 :: _ =>
    if (b0 == 0 && b1.toNat < 128) || (b0 == 0xff && b1.toNat ≥ 128) then false else true

/-- the loop `ret <<= 8; ret |= b` followed by the sign-extending shift pair
    `ret <<= 64-8n; ret >>= 64-8n` (n ≤ 8 bytes): two's-complement value. -/
def twos (bs : Bytes) : Int :=
  match bs with
  | [] => 0
  | b0 :: _ =>
    if b0.toNat ≥ 128 then (natOfBytes bs : Int) - (256 ^ bs.length : Nat) else (natOfBytes bs : Int)

/-- `parseBigInt` / `readASN1BigInt` value: negative numbers are complemented byte-wise,
    `SetBytes`, `+1`, negated. -/
def bigOfBytes (bs : Bytes) : Int :=
  match bs with
  | [] => 0
  | b0 :: _ =>
    if b0.toNat ≥ 128 then - ((natOfBytes (bs.map notB) : Int) + 1) else (natOfBytes bs : Int)

/-- number of content octets of a signed integer: `int64Encoder.Len`
    (`for i > 127 {n++; i >>= 8}; for i < -128 {n++; i >>= 8}`) and `addASN1Signed`
    (`for i := v; i >= 0x80 || i < -0x80; i >>= 8 {length++}`). -/
def intLen (v : Int) : Nat :=
  if h : v > 127 ∨ v < -128 then intLen (v / 256) + 1 else 1
termination_by v.natAbs
decreasing_by omega

/-- `for j := 0; j < n; j++ { dst[j] = byte(i >> ((n-1-j)*8)) }` — most significant first. -/
def intBytes (v : Int) : Nat → Bytes
  | 0 => []
  | n + 1 => byteOfInt (v / (256 ^ n : Nat)) :: intBytes v n

/-- `makeBigInt` and `AddASN1BigInt` (identical code): minimal two's complement of any integer. -/
def bigIntBytes (n : Int) : Bytes :=
  if n < 0 then
    let bytes := (natToBytes (-n - 1).toNat).map notB
    match bytes with
    | [] => [0xff]
    | b0 :: _ => if b0.toNat < 128 then 0xff :: bytes else bytes
  else if n = 0 then [0]
  else
    let bytes := natToBytes n.toNat
    match bytes with
    | [] => bytes
    | b0 :: _ => if b0.toNat ≥ 128 then 0 :: bytes else bytes

/-! ## base-128 -/

/-- `base128IntLength` for n > 0: `for i := n; i > 0; i >>= 7 { l++ }`. -/
def b128Count (n : Nat) : Nat :=
  if h : n = 0 then 0 else b128Count (n / 128) + 1
decreasing_by omega

/-- `base128IntLength` (encoding/asn1) and the length loop of `addBase128Int` (cryptobyte). -/
def b128Len (n : Nat) : Nat := if n = 0 then 1 else b128Count n

/-- `for i := l-1; i >= 0; i-- { o := byte(n >> (i*7)) & 0x7f; if i != 0 { o |= 0x80 }; append }` -/
def b128Groups (n : Nat) : Nat → Bytes
  | 0 => []
  | i + 1 => UInt8.ofNat ((n / 128 ^ i) % 128 + (if i = 0 then 0 else 128)) :: b128Groups n i

/-- `appendBase128Int(nil, n)` / `addBase128Int(n)` for n ≥ 0. -/
def appendBase128 (n : Nat) : Bytes := b128Groups n (b128Len n)

/-! ## BOOLEAN content -/

def boolOfContent : Bytes → Res Bool
  | [b] => if b == 0 then .ok false else if b == 0xff then .ok true else .err
  | _ => .err

def boolContent (v : Bool) : Bytes := if v then [0xff] else [0]

/-! ## OBJECT IDENTIFIER helpers -/

/-- first sub-identifier → first two arcs -/
def splitFirst (v : Nat) : List Nat := if v < 80 then [v / 40, v % 40] else [2, v - 80]

/-- the body written for a (validated) OID: `base128(oid[0]*40+oid[1])` then every further arc. -/
def oidBody : List Nat → Bytes
  | a :: b :: rest => appendBase128 (a * 40 + b) ++ (rest.map appendBase128).flatten
  | _ => []

def lastByte : Bytes → UInt8
  | [] => 0
  | [b] => b
  | _ :: bs => lastByte bs

/-! ## encoding/asn1 -/
namespace EA

def parseBool (bs : Bytes) : Res Bool := boolOfContent bs

def parseInt64 (bs : Bytes) : Res Int :=
  if !checkInteger bs then .err
  else if bs.length > 8 then .err
  else .ok (twos bs)

def parseInt32 (bs : Bytes) : Res Int :=
  if !checkInteger bs then .err
  else match parseInt64 bs with
    | .ok v => if v < -2147483648 ∨ v > 2147483647 then .err else .ok v
    | .err => .err
    | .panic => .panic

def parseBigInt (bs : Bytes) : Res Int :=
  if !checkInteger bs then .err else .ok (bigOfBytes bs)

/-- `int64Encoder.Len` + `Encode` -/
def encodeInt64 (v : Int) : Bytes := intBytes v (intLen v)

def makeBigInt (n : Int) : Bytes := bigIntBytes n

/-- `parseBase128Int` on the suffix starting at `offset`; `shifted` = bytes read so far,
    `ret` = `ret64`.  Returns the value and the unread rest. -/
def b128Loop : Bytes → Nat → Nat → Res (Nat × Bytes)
  | [], _, _ => .err                                   -- truncated base 128 integer
  | b :: rest, shifted, ret =>
    if shifted = 5 then .err                           -- too large
    else if shifted = 0 ∧ b = 0x80 then .err           -- not minimally encoded
    else
      let ret' := ret * 128 + b.toNat % 128
      if b.toNat < 128 then
        (if ret' > 2147483647 then .err else .ok (ret', rest))
      else b128Loop rest (shifted + 1) ret'

def parseBase128Int (bs : Bytes) : Res (Nat × Bytes) := b128Loop bs 0 0

/-- the `for ; offset < len(bytes); i++` loop of `parseObjectIdentifier`. -/
def oidArcs : (fuel : Nat) → Bytes → Res (List Nat)
  | _, [] => .ok []
  | 0, _ :: _ => .err    -- unreachable: every iteration consumes ≥ 1 byte and fuel = len
  | fuel + 1, b :: bs =>
    match parseBase128Int (b :: bs) with
    | .ok (v, rest) =>
      (match oidArcs fuel rest with
       | .ok vs => .ok (v :: vs)
       | .err => .err
       | .panic => .panic)
    | .err => .err
    | .panic => .panic

def parseObjectIdentifier (bs : Bytes) : Res (List Nat) :=
  match bs with
  | [] => .err
  | _ :: _ =>
    match parseBase128Int bs with
    | .ok (v, rest) =>
      (match oidArcs rest.length rest with
       | .ok vs => .ok (splitFirst v ++ vs)
       | .err => .err
       | .panic => .panic)
    | .err => .err
    | .panic => .panic

/-- `makeObjectIdentifier` (validity check) + `oidEncoder.Encode`. -/
def encodeOID (oid : List Nat) : Res Bytes :=
  match oid with
  | a :: b :: _ => if a > 2 ∨ (a < 2 ∧ b ≥ 40) then .err else .ok (oidBody oid)
  | _ => .err

structure BitString where
  bitLength : Int
  bytes : Bytes
  deriving Repr, DecidableEq

def parseBitString (bs : Bytes) : Res BitString :=
  match bs with
  | [] => .err
  | b0 :: tl =>
    let pad := b0.toNat
    if pad > 7 then .err
    else if bs.length = 1 ∧ pad > 0 then .err
    else if (lastByte bs).toNat % 2 ^ pad ≠ 0 then .err
    else .ok { bitLength := ((bs.length : Int) - 1) * 8 - pad, bytes := tl }

/-- `bitStringEncoder`: `dst[0] = byte((8 - BitLength%8) % 8)`, then the bytes.
    (Go's `%` truncates; it is only ever applied to BitLength ≥ 0 here, where it agrees with `Int.emod`;
    for negative BitLength we mirror Go with `Int.tmod`.) -/
def encodeBitString (b : BitString) : Bytes :=
  byteOfInt ((8 - b.bitLength.tmod 8).tmod 8) :: b.bytes

structure TagAndLength where
  cls : Nat
  compound : Bool
  tag : Nat
  length : Nat
  deriving Repr, DecidableEq

/-- the `for i := 0; i < numBytes; i++` loop of `parseTagAndLength`. -/
def lenLoop : Bytes → Nat → Nat → Res (Nat × Bytes)
  | r, 0, acc => .ok (acc, r)
  | [], _ + 1, _ => .err                               -- truncated tag or length
  | b :: r, n + 1, acc =>
    if acc ≥ 8388608 then .err                         -- length too large (1<<23)
    else
      let acc' := acc * 256 + b.toNat
      if acc' = 0 then .err                            -- superfluous leading zeros
      else lenLoop r n acc'

def parseLength (r : Bytes) : Res (Nat × Bytes) :=
  match r with
  | [] => .err                                         -- truncated tag or length
  | b :: r' =>
    if b.toNat < 128 then .ok (b.toNat, r')
    else
      let numBytes := b.toNat % 128
      if numBytes = 0 then .err                        -- indefinite length
      else match lenLoop r' numBytes 0 with
        | .ok (l, r'') => if l < 128 then .err else .ok (l, r'')   -- non-minimal length
        | .err => .err
        | .panic => .panic

/-- `parseTagAndLength(bytes, 0)`; returns the header and the unread rest. -/
def parseTagAndLength (bs : Bytes) : Res (TagAndLength × Bytes) :=
  match bs with
  | [] => .err
  | b :: r1 =>
    let cls := b.toNat / 64
    let compound := (b.toNat / 32) % 2 == 1
    let tag := b.toNat % 32
    if tag = 31 then
      match parseBase128Int r1 with
      | .ok (t, r2) =>
        if t < 31 then .err                            -- non-minimal tag
        else (match parseLength r2 with
          | .ok (l, r3) => .ok ({ cls := cls, compound := compound, tag := t, length := l }, r3)
          | .err => .err
          | .panic => .panic)
      | .err => .err
      | .panic => .panic
    else
      match parseLength r1 with
      | .ok (l, r3) => .ok ({ cls := cls, compound := compound, tag := tag, length := l }, r3)
      | .err => .err
      | .panic => .panic

/-- `lengthLength`: `numBytes = 1; for i > 255 { numBytes++; i >>= 8 }`. -/
def lengthLength (i : Nat) : Nat :=
  if h : i > 255 then lengthLength (i / 256) + 1 else 1
decreasing_by omega

/-- `appendLength`: `for ; n > 0; n-- { append(byte(i >> ((n-1)*8))) }`. -/
def lengthBytes (i : Nat) : Nat → Bytes
  | 0 => []
  | n + 1 => UInt8.ofNat ((i / 256 ^ n) % 256) :: lengthBytes i n

def appendLength (i : Nat) : Bytes := lengthBytes i (lengthLength i)

/-- `appendTagAndLength(nil, t)`. -/
def appendTagAndLength (t : TagAndLength) : Bytes :=
  let b := (t.cls * 64) % 256 + (if t.compound then 32 else 0)
  let ident :=
    if t.tag ≥ 31 then UInt8.ofNat (b + 31) :: appendBase128 t.tag
    else [UInt8.ofNat (b + t.tag)]
  let len :=
    if t.length ≥ 128 then UInt8.ofNat (128 + lengthLength t.length) :: appendLength t.length
    else [UInt8.ofNat t.length]
  ident ++ len

end EA

/-! ## cryptobyte -/
namespace CB

structure Elem where
  tag : UInt8
  headerLen : Nat
  body : Bytes          -- contents octets (header skipped)
  rest : Bytes          -- unread remainder of the String
  deriving Repr, DecidableEq

/-- `(*String).readASN1(out, outTag, skipHeader = true)`.
    `.panic` mirrors `panic("cryptobyte: internal error")` when `out.Skip(headerLen)` fails. -/
def readASN1 (s : Bytes) : Res Elem :=
  match s with
  | tag :: lenByte :: after =>
    if tag.toNat % 32 = 31 then .err                   -- high-tag-number form unsupported
    else
      let hdr : Res (Nat × Nat) :=                     -- (length incl. header, headerLen), uint32
        if lenByte.toNat < 128 then .ok (lenByte.toNat + 2, 2)
        else
          let lenLen := lenByte.toNat % 128
          if lenLen = 0 ∨ lenLen > 4 ∨ s.length < 2 + lenLen then .err
          else
            let len32 := natOfBytes (after.take lenLen)   -- readUnsigned
            if len32 < 128 then .err                   -- should have used short form
            else if len32 / 256 ^ (lenLen - 1) = 0 then .err   -- leading octet is 0
            else
              let headerLen := 2 + lenLen
              if (headerLen + len32) % 4294967296 < len32 then .err   -- uint32 overflow
              else .ok ((headerLen + len32) % 4294967296, headerLen)
      match hdr with
      | .ok (length, headerLen) =>
        if s.length < length then .err                 -- ReadBytes
        else
          let out := s.take length
          if out.length < headerLen then .panic        -- Skip(headerLen) failed
          else .ok { tag := tag, headerLen := headerLen, body := out.drop headerLen, rest := s.drop length }
      | .err => .err
      | .panic => .panic
  | _ => .err                                          -- len(*s) < 2

/-- `ReadASN1(out, tag)`: `ReadAnyASN1` then the tag comparison. -/
def readASN1Tag (s : Bytes) (tag : UInt8) : Res (Bytes × Bytes) :=
  match readASN1 s with
  | .ok e => if e.tag ≠ tag then .err else .ok (e.body, e.rest)
  | .err => .err
  | .panic => .panic

/-- DER length octets chosen by `Builder.flushChild` for an ASN.1 child of `length` bytes. -/
def derLength (length : Nat) : Res Bytes :=
  if length > 0xfffffffe then .err
  else if length > 0xffffff then .ok (0x84 :: beBytes 4 length)
  else if length > 0xffff then .ok (0x83 :: beBytes 3 length)
  else if length > 0xff then .ok (0x82 :: beBytes 2 length)
  else if length > 0x7f then .ok (0x81 :: beBytes 1 length)
  else .ok [UInt8.ofNat length]

/-- the bytes produced by `AddASN1(tag, func(c){ c.AddBytes(body) })` (specification level;
    `ZV.C21` proves that the low-level Builder model with back-patching produces exactly this). -/
def element (tag : UInt8) (body : Bytes) : Res Bytes :=
  if tag.toNat % 32 = 31 then .err
  else match derLength body.length with
    | .ok l => .ok (tag :: l ++ body)
    | .err => .err
    | .panic => .panic

/-- `asn1Signed`. -/
def asn1Signed (bs : Bytes) : Res Int := if bs.length > 8 then .err else .ok (twos bs)

/-- `asn1Unsigned` (called after `checkASN1Integer`, so `bs` is non-empty). -/
def asn1Unsigned (bs : Bytes) : Res Nat :=
  match bs with
  | [] => .panic                                       -- n[0] on an empty slice
  | b0 :: _ =>
    if bs.length > 9 ∨ (bs.length = 9 ∧ b0 ≠ 0) then .err
    else if b0.toNat ≥ 128 then .err
    else .ok (natOfBytes bs)

def readInt64Tag (s : Bytes) (tag : UInt8) : Res (Int × Bytes) :=
  match readASN1Tag s tag with
  | .ok (body, rest) =>
    if !checkInteger body then .err
    else (match asn1Signed body with
      | .ok v => .ok (v, rest)
      | .err => .err
      | .panic => .panic)
  | .err => .err
  | .panic => .panic

/-- `ReadASN1Integer(*int64)` -/
def readInt64 (s : Bytes) : Res (Int × Bytes) := readInt64Tag s 2

/-- `ReadASN1Integer(*uint64)` -/
def readUint64 (s : Bytes) : Res (Nat × Bytes) :=
  match readASN1Tag s 2 with
  | .ok (body, rest) =>
    if !checkInteger body then .err
    else (match asn1Unsigned body with
      | .ok v => .ok (v, rest)
      | .err => .err
      | .panic => .panic)
  | .err => .err
  | .panic => .panic

/-- `ReadASN1Integer(*big.Int)` -/
def readBigInt (s : Bytes) : Res (Int × Bytes) :=
  match readASN1Tag s 2 with
  | .ok (body, rest) => if !checkInteger body then .err else .ok (bigOfBytes body, rest)
  | .err => .err
  | .panic => .panic

/-- length loop of `AddASN1Uint64`: `for i := v; i >= 0x80; i >>= 8 { length++ }`. -/
def uintLen (v : Nat) : Nat :=
  if h : v ≥ 128 then uintLen (v / 256) + 1 else 1
decreasing_by omega

def signedContent (v : Int) : Bytes := intBytes v (intLen v)
def unsignedContent (v : Nat) : Bytes := intBytes (v : Int) (uintLen v)

def addASN1Int64Tag (tag : UInt8) (v : Int) : Res Bytes := element tag (signedContent v)
def addASN1Int64 (v : Int) : Res Bytes := element 2 (signedContent v)
def addASN1Uint64 (v : Nat) : Res Bytes := element 2 (unsignedContent v)
def addASN1BigInt (v : Int) : Res Bytes := element 2 (bigIntBytes v)

/-- `ReadASN1Boolean` -/
def readBool (s : Bytes) : Res (Bool × Bytes) :=
  match readASN1Tag s 1 with
  | .ok (body, rest) =>
    (match boolOfContent body with
     | .ok v => .ok (v, rest)
     | .err => .err
     | .panic => .panic)
  | .err => .err
  | .panic => .panic

def addASN1Boolean (v : Bool) : Res Bytes := element 1 (boolContent v)

/-- `readBase128Int` AFTER the fixes for D2 (leading 0x80 rejected) and D28 (five bytes,
    guard `ret >= 1<<24` before the shift), i.e. as in upstream x/crypto. `i` = bytes read. -/
def b128Loop : Bytes → Nat → Nat → Res (Nat × Bytes)
  | [], _, _ => .err                                   -- truncated
  | b :: rest, i, ret =>
    if i = 5 then .err
    else if ret ≥ 16777216 then .err                   -- would overflow a 32-bit int
    else if i = 0 ∧ b = 0x80 then .err                 -- non-minimal sub-identifier
    else
      let ret' := ret * 128 + b.toNat % 128
      if b.toNat < 128 then .ok (ret', rest) else b128Loop rest (i + 1) ret'

def readBase128Int (s : Bytes) : Res (Nat × Bytes) := b128Loop s 0 0

def oidArcs : (fuel : Nat) → Bytes → Res (List Nat)
  | _, [] => .ok []
  | 0, _ :: _ => .err    -- unreachable (fuel = len)
  | fuel + 1, b :: bs =>
    match readBase128Int (b :: bs) with
    | .ok (v, rest) =>
      (match oidArcs fuel rest with
       | .ok vs => .ok (v :: vs)
       | .err => .err
       | .panic => .panic)
    | .err => .err
    | .panic => .panic

/-- `ReadASN1ObjectIdentifier` -/
def readOID (s : Bytes) : Res (List Nat × Bytes) :=
  match readASN1Tag s 6 with
  | .ok (body, rest) =>
    (match body with
     | [] => .err
     | _ :: _ =>
       match readBase128Int body with
       | .ok (v, r) =>
         (match oidArcs r.length r with
          | .ok vs => .ok (splitFirst v ++ vs, rest)
          | .err => .err
          | .panic => .panic)
       | .err => .err
       | .panic => .panic)
  | .err => .err
  | .panic => .panic

/-- `isValidOID` (arcs are non-negative in the model). -/
def isValidOID : List Nat → Bool
  | a :: b :: _ => !(a > 2 || (a ≤ 1 && b ≥ 40))
  | _ => false

/-- `AddASN1ObjectIdentifier` -/
def addASN1OID (oid : List Nat) : Res Bytes :=
  if !isValidOID oid then .err else element 6 (oidBody oid)

/-- `ReadASN1BitString` -/
def readBitString (s : Bytes) : Res (EA.BitString × Bytes) :=
  match readASN1Tag s 3 with
  | .ok (body, rest) =>
    (match body with
     | [] => .err
     | b0 :: data =>
       let pad := b0.toNat
       if pad > 7 then .err
       else if data.length = 0 ∧ pad ≠ 0 then .err
       else if data.length > 0 ∧ (lastByte data).toNat % 2 ^ pad ≠ 0 then .err
       else .ok ({ bitLength := (data.length : Int) * 8 - pad, bytes := data }, rest))
  | .err => .err
  | .panic => .panic

/-- the element `[BIT STRING, pad, bytes…]` (`AddASN1BitString` for pad = 0). -/
def addASN1BitString (pad : UInt8) (data : Bytes) : Res Bytes := element 3 (pad :: data)

end CB
end ZV.Der0
