import ZV.Model.DerLite
import ZV.Hash.SHA256
import ZV.Hash.SHA1
import ZV.Hash.MD5
/-!
  Model of the *structural* part of `x509/x509.go: ParseCertificate / parseCertificate`:
  how `asn1.Unmarshal` walks

      Certificate ::= SEQ { tbs SEQ { [0] version?, serial, sigalg, issuer, validity, subject, spki,
                                       [1] uid?, [2] uid?, [3] extensions? … }, sigalg, sigvalue … }

  (`encoding/asn1/asn1.go: parseField` — optional fields fall back to their default and do not consume,
  explicit tags read the inner header *from the enclosing buffer*, trailing elements of a SEQUENCE are
  ignored), which byte ranges become `Raw`, `RawTBSCertificate`, `RawIssuer`, `RawSubject`,
  `RawSubjectPublicKeyInfo`, and what `parseCertificate` derives from them: the seven fingerprints,
  `Version`, `SelfSigned`, and the no-CT TBS (extensions filtered, `asn1.Marshal` again).

  Not re-validated here (the model accepts a superset; the property and T2 quantify over certificates the
  Go code accepts): inner syntax of AlgorithmIdentifier, Validity (time strings), SubjectPublicKeyInfo /
  key parsing, Name → RDNSequence decoding, and the per-extension value parsers.
-/
namespace ZV.C06
open ZV.Der

/-- what `parseField` expects of the header (after `getUniversalType` / field parameters). -/
inductive Want where
  | any                                   -- asn1.RawValue
  | univ (tag : Nat) (compound : Bool)    -- universal type
  | ctx (tag : Nat) (compound : Bool)     -- implicit context tag
  | ctxAny (tag : Nat)                    -- implicit context tag on an asn1.RawValue (constructed bit not compared)
  deriving Repr, DecidableEq

def Want.ok : Want → Hdr → Bool
  | .any, _ => true
  | .univ t c, h => h.cls == 0 && h.tag == t && h.compound == c
  | .ctx t c, h => h.cls == 2 && h.tag == t && h.compound == c
  | .ctxAny t, h => h.cls == 2 && h.tag == t

/-- `parseField` for a non-explicit field: end of data / tag mismatch ⇒ default for optional fields
    (nothing consumed), error otherwise; the header is parsed (and may fail) before the tags are compared,
    `invalidLength` is checked after. -/
def field (w : Want) (optional : Bool) (bs : Bytes) : Res (Option Elem × Bytes) :=
  if bs.isEmpty then (if optional then .ok (none, bs) else .err)
  else
    match readHdr bs with
    | .ok (h, _) =>
      if !w.ok h then (if optional then .ok (none, bs) else .err)
      else
        match readElem bs with
        | .ok (e, rest) => .ok (some e, rest)
        | .err => .err
        | .panic => .panic
    | .err => .err
    | .panic => .panic

/-- `parseField` for `optional,explicit,tag:k`: returns the inner element and the bytes consumed
    (wrapper header + inner element — the wrapper's own length is only tested for zero).  A header that is not
    the expected wrapper gives the default without consuming, also when nothing follows it (zcrypto 51a5052:
    "explicit tag has no child" is reported only for a matching wrapper of non-zero length). -/
def explicitField (k : Nat) (inner : Want) (bs : Bytes) : Res (Option (Elem × Bytes) × Bytes) :=
  if bs.isEmpty then .ok (none, bs)
  else
    match readHdr bs with
    | .ok (h, after) =>
      if h.cls == 2 && h.tag == k && (h.len == 0 || h.compound) then
        if h.len == 0 then .err                                    -- zero length explicit tag, not a Flag
        else if after.isEmpty then .err                            -- "explicit tag has no child" (matching, non-empty wrapper only)
        else
          match readHdr after with
          | .ok (h2, _) =>
            if !inner.ok h2 then .ok (none, bs)                    -- default, offset reset
            else
              match readElem after with
              | .ok (e, rest) => .ok (some (e, bs.take (bs.length - rest.length)), rest)
              | .err => .err
              | .panic => .panic
          | .err => .err
          | .panic => .panic
      else .ok (none, bs)
    | .err => .err
    | .panic => .panic

/-- `parseObjectIdentifier` accepts: non-empty, every arc a valid minimal base-128 integer. -/
def validOIDFuel : Nat → Bytes → Bool
  | 0, bs => bs.isEmpty
  | f + 1, bs =>
    if bs.isEmpty then true
    else
      match readBase128 5 0 0 bs with
      | .ok (_, rest) => validOIDFuel f rest
      | _ => false

def validOID (bs : Bytes) : Bool := !bs.isEmpty && validOIDFuel bs.length bs

/-- a decoded `pkix.Extension` together with its own encoding. -/
structure Ext where
  full : Bytes
  oid : Bytes          -- contents octets of `Id`
  critical : Bool
  value : Bytes
  deriving Repr, DecidableEq

/-- `parseField` on a `pkix.Extension` struct: Id, optional Critical, Value; trailing elements ignored. -/
def parseExt (e : Elem) : Res Ext :=
  match field (.univ 6 false) false e.body with
  | .ok (some id, r1) =>
    if !validOID id.body then .err
    else
      match field (.univ 1 false) true r1 with
      | .ok (c, r2) =>
        (match (match c with | none => Res.ok false | some ce => parseBool ce.body) with
         | .ok crit =>
           (match field (.univ 4 false) false r2 with
            | .ok (some v, _) => .ok ⟨e.full, id.body, crit, v.body⟩
            | .ok (none, _) => .err
            | .err => .err
            | .panic => .panic)
         | .err => .err
         | .panic => .panic)
      | .err => .err
      | .panic => .panic
  | .ok (none, _) => .err
  | .err => .err
  | .panic => .panic

def parseExtList : List Elem → Res (List Ext)
  | [] => .ok []
  | e :: es =>
    match parseExt e with
    | .ok x =>
      (match parseExtList es with
       | .ok xs => .ok (x :: xs)
       | .err => .err
       | .panic => .panic)
    | .err => .err
    | .panic => .panic

def isSeqHdr (h : Hdr) : Bool := h.cls == 0 && h.tag == 16 && h.compound

/-- `parseSequenceOf` for `[]pkix.Extension`: first pass checks every header (universal, constructed,
    SEQUENCE) and length; second pass parses each element. -/
def parseExts (bs : Bytes) : Res (List Ext) :=
  match readElems bs with
  | .ok es => if es.all (fun e => isSeqHdr e.hdr) then parseExtList es else .err
  | .err => .err
  | .panic => .panic

structure Tbs where
  version : Int              -- encoded version (default 0)
  verRaw : Bytes             -- bytes consumed by the `[0]` version field ([] when absent)
  serial : Elem
  sigalg : Elem
  issuer : Elem
  validity : Elem
  subject : Elem
  spki : Elem
  pre : Bytes                -- everything consumed before the extensions field
  exts : List Ext
  deriving Repr

def someElem : Res (Option Elem × Bytes) → Res (Elem × Bytes)
  | .ok (some e, r) => .ok (e, r)
  | .ok (none, _) => .err
  | .err => .err
  | .panic => .panic

/-- bytes consumed by an explicit optional field -/
def consumed (r : Option (Elem × Bytes)) : Bytes :=
  match r with
  | none => []
  | some ve => ve.2

/-- optional BIT STRING field (`UniqueId`, `SubjectUniqueId`): present ⇒ must satisfy `parseBitString`. -/
def optBitString (tag : Nat) (bs : Bytes) : Res Bytes :=
  (field (.ctx tag false) true bs).bind fun r =>
    match r.1 with
    | none => .ok r.2
    | some e => (parseBitString e.body).bind fun _ => .ok r.2

structure TbsPre where
  version : Int
  verRaw : Bytes
  serial : Elem
  sigalg : Elem
  issuer : Elem
  validity : Elem
  subject : Elem
  spki : Elem
  deriving Repr

/-- fields of `tbsCertificate` before `Extensions`, in struct order.  Returns the decoded pieces and the
    remaining input (`Res.bind` = "return the error", as every `if err != nil { return }` of `parseField`). -/
def parseTbsPre (body : Bytes) : Res (TbsPre × Bytes) :=
  (explicitField 0 (.univ 2 false) body).bind fun ver =>
  (match ver.1 with | none => Res.ok (0 : Int) | some ve => parseInt64 ve.1.body).bind fun v =>
  (someElem (field (.univ 2 false) false ver.2)).bind fun serial =>
  if !checkInteger serial.1.body then .err else
  (someElem (field (.univ 16 true) false serial.2)).bind fun sigalg =>
  (someElem (field .any false sigalg.2)).bind fun issuer =>
  (someElem (field (.univ 16 true) false issuer.2)).bind fun validity =>
  (someElem (field .any false validity.2)).bind fun subject =>
  (someElem (field (.univ 16 true) false subject.2)).bind fun spki =>
  (optBitString 1 spki.2).bind fun r7 =>
  (optBitString 2 r7).bind fun r8 =>
  .ok (⟨v, consumed ver.1, serial.1, sigalg.1, issuer.1, validity.1,
        subject.1, spki.1⟩, r8)

def parseTbs (body : Bytes) : Res Tbs :=
  (parseTbsPre body).bind fun p =>
  let pre := body.take (body.length - p.2.length)
  (explicitField 3 (.univ 16 true) p.2).bind fun x =>
  (match x.1 with
   | none => Res.ok []
   | some xe => parseExts xe.1.body).bind fun xs =>
  .ok ⟨p.1.version, p.1.verRaw, p.1.serial, p.1.sigalg, p.1.issuer, p.1.validity, p.1.subject, p.1.spki, pre, xs⟩

structure Cert where
  raw : Elem
  tbsE : Elem
  tbs : Tbs
  sigalg : Elem
  sigval : Elem
  deriving Repr

/-- `ParseCertificate` (structure): one SEQUENCE, no trailing data; TBS, AlgorithmIdentifier, BIT STRING;
    whatever follows inside the outer SEQUENCE is ignored. -/
def parseCert (bs : Bytes) : Res Cert :=
  (someElem (field (.univ 16 true) false bs)).bind fun c =>
  if !c.2.isEmpty then .err else
  (someElem (field (.univ 16 true) false c.1.body)).bind fun tbsE =>
  (parseTbs tbsE.1.body).bind fun tbs =>
  (someElem (field (.univ 16 true) false tbsE.2)).bind fun sa =>
  (someElem (field (.univ 3 false) false sa.2)).bind fun sv =>
  (parseBitString sv.1.body).bind fun _ =>
  .ok ⟨c.1, tbsE.1, tbs, sa.1, sv.1⟩

/-! ### what `parseCertificate` derives -/

/-- header length of an element -/
def hlen (e : Elem) : Nat := e.full.length - e.body.length

/-- offset of the TBS element inside `Raw` -/
def Cert.offTbs (c : Cert) : Nat := hlen c.raw
/-- offset of the first TBS field inside `Raw` -/
def Cert.offTbsBody (c : Cert) : Nat := hlen c.raw + hlen c.tbsE
def Cert.offIssuer (c : Cert) : Nat :=
  c.offTbsBody + c.tbs.verRaw.length + c.tbs.serial.full.length + c.tbs.sigalg.full.length
def Cert.offSubject (c : Cert) : Nat :=
  c.offIssuer + c.tbs.issuer.full.length + c.tbs.validity.full.length
def Cert.offSPKI (c : Cert) : Nat := c.offSubject + c.tbs.subject.full.length

def Cert.rawTBS (c : Cert) : Bytes := c.tbsE.full
def Cert.rawIssuer (c : Cert) : Bytes := c.tbs.issuer.full
def Cert.rawSubject (c : Cert) : Bytes := c.tbs.subject.full
def Cert.rawSPKI (c : Cert) : Bytes := c.tbs.spki.full

/-- `out.Version = in.TBSCertificate.Version + 1` on Go's 64-bit `int`. -/
def versionPlusOne (v : Int) : Int := if v = 9223372036854775807 then -9223372036854775808 else v + 1

def oidPoison : Bytes := [0x2b, 0x06, 0x01, 0x04, 0x01, 0xd6, 0x79, 0x02, 0x04, 0x03]
def oidSCTList : Bytes := [0x2b, 0x06, 0x01, 0x04, 0x01, 0xd6, 0x79, 0x02, 0x04, 0x02]

/-- the two `continue`s of the filter loop -/
def isCT (x : Ext) : Bool := x.oid == oidPoison || x.oid == oidSCTList
def notCT (x : Ext) : Bool := !isCT x

def extsFlat (xs : List Ext) : Bytes := (xs.map (·.full)).flatten

/-- `asn1.Marshal(tbs)` with `Raw = nil` and the filtered extension slice — for a canonically encoded
    TBS every other field re-marshals to its own bytes (`pre`); the filtered slice is non-nil, so the
    `[3]` wrapper is ALWAYS emitted, `A3 02 30 00` when nothing is left. -/
def noCTBytes (pre : Bytes) (exts : List Ext) : Bytes :=
  writeTLV 0x30 (pre ++ writeTLV 0xA3 (writeTLV 0x30 (extsFlat (exts.filter notCT))))

structure Meta where
  version : Int
  fpMD5 : Bytes
  fpSHA1 : Bytes
  fpSHA256 : Bytes
  spkiFp : Bytes
  tbsFp : Bytes
  noCTFp : Bytes
  spkiSubjectFp : Bytes
  issuerEqSubject : Bool
  deriving Repr, DecidableEq

def Cert.meta (c : Cert) : Meta :=
  { version := versionPlusOne c.tbs.version
    fpMD5 := ZV.Hash.md5 c.raw.full
    fpSHA1 := ZV.Hash.sha1 c.raw.full
    fpSHA256 := ZV.Hash.sha256 c.raw.full
    spkiFp := ZV.Hash.sha256 c.rawSPKI
    tbsFp := ZV.Hash.sha256 c.rawTBS
    noCTFp := ZV.Hash.sha256 (noCTBytes c.tbs.pre c.tbs.exts)
    spkiSubjectFp := ZV.Hash.sha256 (c.rawSPKI ++ c.rawSubject)
    issuerEqSubject := c.rawSubject == c.rawIssuer }

/-- the byte string `FingerprintNoCT` hashes (`c.meta.noCTFp = sha256 c.noCT` by definition) -/
def Cert.noCT (c : Cert) : Bytes := noCTBytes c.tbs.pre c.tbs.exts

/-- `SelfSigned`: issuer bytes equal subject bytes and the signature verifies under the certificate's own key
    (`verified` = result of `CheckSignature(alg, RawTBS, sig)`, abstract). -/
def selfSigned (m : Meta) (verified : Bool) : Bool := m.issuerEqSubject && verified

/-! ### canonical encoder used by the CT theorems (`asn1.Marshal` of a `tbsCertificate` / `certificate`)

  The encoder is parametrised by the *encodings* of the fields (each one TLV), so that the theorems
  `parseTbs_encTbs` / `parseCert_encCert_encTbs` (ZV.Props.C06) hold for every well-formed choice of them — not only
  for the ones a particular marshaller would emit.  Only the wrappers the CT property is about (`[0]`, `[3]`,
  the SEQUENCE OF Extension, the TBS and certificate SEQUENCEs) are produced with `writeTLV`. -/

def encExt (oid : Bytes) (critical : Bool) (value : Bytes) : Bytes :=
  writeTLV 0x30 (writeTLV 0x06 oid ++ (if critical then writeTLV 0x01 [0xff] else []) ++ writeTLV 0x04 value)

/-- the `pkix.Extension` value `parseExt` decodes from `encExt oid critical value` -/
def mkExt (oid : Bytes) (critical : Bool) (value : Bytes) : Ext := ⟨encExt oid critical value, oid, critical, value⟩

/-- `[3] EXPLICIT SEQUENCE OF Extension`.  An empty list is omitted (Go: nil slice) unless `wrapEmpty`
    (Go: empty non-nil slice, what `CreateCertificate` leaves for a template without extensions), in which
    case the field is `A3 02 30 00`. -/
def encExtsField (wrapEmpty : Bool) (xs : List Ext) : Bytes :=
  if xs.isEmpty && !wrapEmpty then [] else writeTLV 0xA3 (writeTLV 0x30 (extsFlat xs))

/-- the fields of a `tbsCertificate` other than `Extensions`, each given by its own encoding. -/
structure TbsFields where
  version : Option Bytes      -- the INTEGER element inside `[0] EXPLICIT` (none ⇒ the field is omitted)
  serial : Bytes              -- INTEGER element
  sigalg : Bytes              -- SEQUENCE element
  issuer : Bytes              -- any element (asn1.RawValue)
  validity : Bytes            -- SEQUENCE element
  subject : Bytes             -- any element (asn1.RawValue)
  spki : Bytes                -- SEQUENCE element
  issuerUID : Option Bytes    -- `[1] IMPLICIT BIT STRING` element
  subjectUID : Option Bytes   -- `[2] IMPLICIT BIT STRING` element
  wrapEmpty : Bool            -- write the `[3]` field also for an empty extension list (`A3 02 30 00`)
  deriving Repr, DecidableEq

def encVersion : Option Bytes → Bytes
  | none => []
  | some v => writeTLV 0xA0 v

def optBytes : Option Bytes → Bytes
  | none => []
  | some b => b

/-- everything before the extensions field -/
def encTbsPre (f : TbsFields) : Bytes :=
  encVersion f.version ++ f.serial ++ f.sigalg ++ f.issuer ++ f.validity ++ f.subject ++ f.spki
    ++ optBytes f.issuerUID ++ optBytes f.subjectUID

/-- contents of the TBS SEQUENCE -/
def encTbsBody (f : TbsFields) (xs : List Ext) : Bytes := encTbsPre f ++ encExtsField f.wrapEmpty xs

def encTbs (f : TbsFields) (xs : List Ext) : Bytes := writeTLV 0x30 (encTbsBody f xs)

/-- `Certificate ::= SEQUENCE { tbs, signatureAlgorithm, signatureValue }` from the three encodings -/
def encCert (tbs sigalg sig : Bytes) : Bytes := writeTLV 0x30 (tbs ++ sigalg ++ sig)

def insertAt {α} (i : Nat) (x : α) (l : List α) : List α := l.take i ++ x :: l.drop i

/-! #### decidable well-formedness of the encoder's arguments -/

/-- the element a byte string starts with (`⟨0,false,0,0⟩, [], []` when there is none) -/
def elemAt (bs : Bytes) : Elem :=
  match readElem bs with
  | .ok (e, _) => e
  | _ => ⟨⟨0, false, 0, 0⟩, [], []⟩

/-- `bs` is exactly one element (strict DER header, body of the announced length, nothing after it) whose
    header is what `parseField` wants. -/
def isElem (w : Want) (bs : Bytes) : Bool :=
  match readElem bs with
  | .ok (e, rest) => rest.isEmpty && w.ok e.hdr
  | _ => false

def wfVersion : Option Bytes → Bool
  | none => true
  | some v => isElem (.univ 2 false) v && (parseInt64 (elemAt v).body).isOk

def wfUID (k : Nat) : Option Bytes → Bool
  | none => true
  | some u => isElem (.ctx k false) u && (parseBitString (elemAt u).body).isOk

/-- every field is one element of the tag `parseField` expects at that position, with the content checks
    `parseTbsPre` performs (version fits int64, serial is a minimal INTEGER, unique ids are BIT STRINGs). -/
def wfFields (f : TbsFields) : Bool :=
  wfVersion f.version
    && (isElem (.univ 2 false) f.serial && checkInteger (elemAt f.serial).body)
    && isElem (.univ 16 true) f.sigalg
    && isElem .any f.issuer
    && isElem (.univ 16 true) f.validity
    && isElem .any f.subject
    && isElem (.univ 16 true) f.spki
    && wfUID 1 f.issuerUID
    && wfUID 2 f.subjectUID

/-- `x.full` is exactly one SEQUENCE element and `parseExt` decodes it to `x`. -/
def wfExt (x : Ext) : Bool :=
  match readElem x.full with
  | .ok (e, rest) => rest.isEmpty && isSeqHdr e.hdr && decide (parseExt e = .ok x)
  | _ => false

/-- the outer `signatureAlgorithm` / `signatureValue` encodings -/
def wfSig (sigalg sig : Bytes) : Bool :=
  isElem (.univ 16 true) sigalg && isElem (.univ 3 false) sig && (parseBitString (elemAt sig).body).isOk

/-- all arguments of `encCert (encTbs f xs) sigalg sig` are well-formed and the result is shorter than 2^31
    octets (the bound of `parseTagAndLength`'s length accumulator and of `lenDigits`). -/
def wfCert (f : TbsFields) (xs : List Ext) (sigalg sig : Bytes) : Bool :=
  wfFields f && xs.all wfExt && wfSig sigalg sig && decide ((encTbs f xs ++ sigalg ++ sig).length < 2147483648)

/-- **the certificate has the shape the canonical encoder produces** (decidable, on the parse result): no
    trailing elements after `signatureValue`; the TBS contents are exactly the fields followed by the canonical
    extensions field of the parsed list (for `[]`: absent, or `A3 02 30 00`; nothing after it); and the `[0]`
    version wrapper, when present, has a length consistent with its content (what was consumed is one element). -/
def Cert.shapeOK (c : Cert) : Bool :=
  c.raw.body == c.tbsE.full ++ c.sigalg.full ++ c.sigval.full
    && (c.tbsE.body == c.tbs.pre ++ encExtsField false c.tbs.exts
         || c.tbsE.body == c.tbs.pre ++ encExtsField true c.tbs.exts)
    && (c.tbs.verRaw.isEmpty || isElem (.ctx 0 true) c.tbs.verRaw)

/-- the decoded version (0 when the field is absent) -/
def verInt : Option Bytes → Int
  | none => 0
  | some v => intOfBytes (elemAt v).body

end ZV.C06
