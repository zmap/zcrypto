import ZV.Base
/-!
  C32 — TLS endpoints survive arbitrary peer behaviour: model of the record reader's framing logic
  (`tls/conn.go` readRecordOrCCS / retryReadRecord / readHandshake) on an arbitrary byte stream, for a connection
  that has no cipher yet (decryption = identity), is not handshake-complete and does not expect a ChangeCipherSpec —
  the state in which an arbitrary peer talks to a client or a server.  Raw index expressions of the Go code are
  modelled by `idx`, which yields `panic` when out of range, so that "no panic" is a theorem about the guards.
-/
namespace ZV.C32

def maxPlaintext : Nat := 16384
def maxCiphertext : Nat := 16384 + 2048
def maxCiphertextTLS13 : Nat := 16384 + 256
def maxHandshake : Nat := 65536
def maxUselessRecords : Nat := 16

/-- reader state: handshake reassembly buffer, consecutive-useless-record counter, bytes consumed as records -/
structure St where
  hand : Bytes
  retry : Nat
  pos : Nat
  deriving Repr, DecidableEq

inductive Out where
  | ok (st : St) (rest : Bytes)     -- a record was consumed; `rest` = unread stream
  | err (st : St)                   -- the call returned an error (sticky)
  | panic
  deriving Repr, DecidableEq

/-- a Go index expression `l[i]` -/
def idx (l : Bytes) (i : Nat) : Res UInt8 :=
  match l[i]? with
  | some b => .ok b
  | none => .panic

/-- `vers` = 0: no version negotiated yet (`!c.haveVers`) -/
def readRecord (vers : Nat) (st : St) (s : Bytes) : Out :=
  match s with
  | t :: v1 :: v2 :: n1 :: n2 :: body =>
    let typ := t.toNat
    let rv := v1.toNat * 256 + v2.toNat
    let n := n1.toNat * 256 + n2.toNat
    if typ = 0x80 then .err st                                              -- SSLv2
    else if vers ≠ 0 ∧ vers ≠ 0x0304 ∧ rv ≠ vers then .err st              -- wrong record version
    else if vers = 0 ∧ ((typ ≠ 21 ∧ typ ≠ 22) ∨ rv ≥ 0x1000) then .err st  -- "does not look like a TLS handshake"
    else if (vers = 0x0304 ∧ n > maxCiphertextTLS13) ∨ n > maxCiphertext then .err st
    else if body.length < n then .err st                                    -- short read: EOF
    else
      let data := body.take n
      let rest := body.drop n
      let st1 : St := { st with pos := st.pos + 5 + n }
      if data.length > maxPlaintext then .err st1
      else if typ = 23 then .err st1                                        -- application data without a cipher
      else
        let st2 : St := if typ ≠ 21 ∧ typ ≠ 20 ∧ data.length > 0 then { st1 with retry := 0 } else st1
        if vers = 0x0304 ∧ typ ≠ 22 ∧ st2.hand.length > 0 then .err st2
        else if typ = 21 then
          if data.length ≠ 2 then .err st2
          else match idx data 1, idx data 0 with
            | .ok d1, .ok d0 =>
              if d1.toNat = 0 then .err st2                                  -- close_notify
              else if vers = 0x0304 then .err st2
              else if d0.toNat = 1 then                                      -- warning: retryReadRecord
                if st2.retry + 1 > maxUselessRecords then .err { st2 with retry := st2.retry + 1 }
                else readRecord vers { st2 with retry := st2.retry + 1 } rest
              else .err st2
            | _, _ => .panic
        else if typ = 20 then
          if data.length ≠ 1 then .err st2
          else match idx data 0 with
            | .ok d0 =>
              if d0.toNat ≠ 1 then .err st2
              else if st2.hand.length > 0 then .err st2
              else if vers = 0x0304 then
                if st2.retry + 1 > maxUselessRecords then .err { st2 with retry := st2.retry + 1 }
                else readRecord vers { st2 with retry := st2.retry + 1 } rest
              else .err st2                                                  -- unexpected ChangeCipherSpec
            | _ => .panic
        else if typ = 22 then
          if data.length = 0 then .err st2
          else .ok { st2 with hand := st2.hand ++ data } rest
        else .err st2
  | _ => .err st                                                            -- fewer than 5 bytes: EOF
termination_by s.length
decreasing_by all_goals (simp [List.length_drop]; omega)

/-- `for c.hand.Len() < want { readRecord }` -/
def fill (vers : Nat) (want : Nat) (st : St) (s : Bytes) : Out :=
  if st.hand.length ≥ want then .ok st s
  else
    match h : readRecord vers st s with
    | .ok st' rest =>
      if rest.length < s.length then fill vers want st' rest else .panic   -- (never: `readRecord_good`, see `fill_good`)
    | .err st' => .err st'
    | .panic => .panic
termination_by s.length

inductive MsgKind | simple | complex | unknown
  deriving Repr, DecidableEq

/-- the type switch of readHandshake: `simple` = unmarshal modelled below; `complex` = a parser that is not part of this
    model (ClientHello, ServerHello, NewSessionTicket, EncryptedExtensions, Certificate, CertificateRequest,
    CertificateVerify, CertificateStatus, KeyUpdate); `unknown` = default arm -/
def msgKind (t : Nat) : MsgKind :=
  if t = 0 ∨ t = 5 ∨ t = 12 ∨ t = 14 ∨ t = 16 ∨ t = 20 then .simple
  else if t = 1 ∨ t = 2 ∨ t = 4 ∨ t = 8 ∨ t = 11 ∨ t = 13 ∨ t = 15 ∨ t = 22 ∨ t = 24 then .complex
  else .unknown

/-- unmarshal of the simple messages: HelloRequest / EndOfEarlyData / ServerHelloDone are empty,
    ServerKeyExchange / ClientKeyExchange / Finished accept any body -/
def simpleOK (t n : Nat) : Bool :=
  if t = 0 ∨ t = 5 ∨ t = 14 then n = 0 else true

inductive HOut where
  | msg (t : Nat) (len : Nat) (st : St) (rest : Bytes)
  | complex (st : St)
  | err (st : St)
  | panic
  deriving Repr, DecidableEq

def readHandshake (vers : Nat) (st : St) (s : Bytes) : HOut :=
  match fill vers 4 st s with
  | .panic => .panic
  | .err st' => .err st'
  | .ok st1 s1 =>
    match idx st1.hand 0, idx st1.hand 1, idx st1.hand 2, idx st1.hand 3 with
    | .ok t, .ok a, .ok b, .ok c =>
      let n := a.toNat * 65536 + b.toNat * 256 + c.toNat
      if n > maxHandshake then .err st1
      else
        match fill vers (4 + n) st1 s1 with
        | .panic => .panic
        | .err st' => .err st'
        | .ok st2 s2 =>
          let st3 : St := { st2 with hand := st2.hand.drop (4 + n) }
          match msgKind t.toNat with
          | .unknown => .err st3
          | .complex => .complex st3
          | .simple => if simpleOK t.toNat n then .msg t.toNat (4 + n) st3 s2 else .err st3
    | _, _, _, _ => .panic

/-- repeated readHandshake until it fails; `fuel` bounds the number of messages (each needs ≥ 4 buffered bytes) -/
def run (vers : Nat) : Nat → St → Bytes → List (Nat × Nat) → (List (Nat × Nat) × HOut)
  | 0, st, _, acc => (acc.reverse, .err st)
  | fuel + 1, st, s, acc =>
    match readHandshake vers st s with
    | .msg t l st' rest => run vers fuel st' rest ((t, l) :: acc)
    | o => (acc.reverse, o)

/-! ## halfConn.decrypt — the slicing skeleton of every record-protection class

  What the record layer does with the payload of ONE record once a cipher is (or is not) installed: every length guard,
  every slice expression and every index expression of `halfConn.decrypt` / `extractPadding` (tls/conn.go), for the
  stream, CBC (implicit / explicit IV), AEAD (explicit / implicit nonce) and TLS 1.3 classes.  No cryptography is
  modelled: the decrypted bytes `dec` (CBC: the payload behind the explicit IV after CryptBlocks; TLS 1.3: the opened
  inner plaintext) and the verdict `auth` of the MAC comparison / AEAD tag are INPUTS.  So "no record of any length
  makes decrypt panic, whatever the primitives return" is a theorem about the guards (`decrypt_no_panic`). -/

inductive CK | none | stream | aead | cbc
  deriving Repr, DecidableEq

/-- the read half-connection as far as lengths matter -/
structure HC where
  kind : CK
  vers : Nat
  block : Nat       -- cbc: c.BlockSize()
  nonce : Nat       -- aead: c.explicitNonceLen()
  overhead : Nat    -- aead: c.Overhead()
  hasMac : Bool     -- hc.mac != nil
  macSize : Nat     -- hc.mac.Size()
  deriving Repr, DecidableEq

def alertBadRecordMAC : Nat := 20
def alertUnexpectedMessage : Nat := 10
def alertRecordOverflow : Nat := 22

inductive DOut where
  | plain (typ : Nat) (n : Nat)    -- decrypt returned (plaintext of n bytes, typ, nil)
  | alert (a : Nat)
  | panic
  deriving Repr, DecidableEq

/-- Go `s[lo:]` -/
def sliceFrom (s : Bytes) (lo : Nat) : Res Bytes := if lo ≤ s.length then .ok (s.drop lo) else .panic
/-- Go `s[:hi]`, read strictly (capacity = length) -/
def sliceTo (s : Bytes) (hi : Nat) : Res Bytes := if hi ≤ s.length then .ok (s.take hi) else .panic
/-- Go `s[lo:hi]`, read strictly -/
def slice (s : Bytes) (lo hi : Nat) : Res Bytes :=
  if lo ≤ hi ∧ hi ≤ s.length then .ok ((s.take hi).drop lo) else .panic

def explicitNonceLen (hc : HC) : Nat :=
  match hc.kind with
  | .none => 0
  | .stream => 0
  | .aead => hc.nonce
  | .cbc => if hc.vers ≥ 0x0302 then hc.block else 0

/-- `a + (b-a%b)%b`; the `%` of Go panics on a zero divisor -/
def roundUp (a b : Nat) : Res Nat := if b = 0 then .panic else .ok (a + (b - a % b) % b)

/-- the checking loop of extractPadding: `for i := 0; i < toCheck; i++ { … payload[len(payload)-1-i] … }`;
    `k` = iterations left.  `good` stays true iff every byte at distance `i ≤ paddingLen` from the end equals paddingLen -/
def padLoop (payload : Bytes) (paddingLen : Nat) : Nat → Nat → Bool → Res Bool
  | 0, _, good => .ok good
  | k + 1, i, good =>
    if i + 1 ≤ payload.length then
      match idx payload (payload.length - 1 - i) with
      | .ok b => padLoop payload paddingLen k (i + 1) (good && (if i ≤ paddingLen then b.toNat = paddingLen else true))
      | _ => .panic
    else .panic

/-- extractPadding: (toRemove, good) -/
def extractPadding (payload : Bytes) : Res (Nat × Bool) :=
  if payload.length < 1 then .ok (0, false)
  else
    match idx payload (payload.length - 1) with
    | .ok pl =>
      let paddingLen := pl.toNat
      let good0 : Bool := decide (paddingLen ≤ payload.length - 1)   -- MSB of uint(len-1) - uint(paddingLen) is zero
      let toCheck := if 256 > payload.length then payload.length else 256
      match padLoop payload paddingLen toCheck 0 good0 with
      | .ok good => .ok ((if good then paddingLen else 0) + 1, good)
      | _ => .panic
    | _ => .panic

/-- TLS 1.3: strip the zero padding and find the inner content type scanning from the end.
    `none` = the (non-empty) plaintext is all zero -/
def scanInner (typ : Nat) (pt : Bytes) : Option (Nat × Nat) :=
  match pt.reverse.dropWhile (fun b => b == 0) with
  | [] => if pt.isEmpty then some (typ, 0) else none
  | t :: rest => some (t.toNat, rest.length)

/-- the `if hc.mac != nil { … }` tail -/
def macPart (hc : HC) (typ : Nat) (plaintextLen : Nat) (payload : Bytes) (paddingLen : Nat) (paddingGood auth : Bool) : DOut :=
  if hc.hasMac then
    if payload.length < hc.macSize then .alert alertBadRecordMAC
    else
      let n := payload.length - hc.macSize - paddingLen          -- clamped at 0 by the ConstantTimeSelect
      match slice payload n (n + hc.macSize), sliceTo payload n, sliceFrom payload (n + hc.macSize) with
      | .ok _, .ok pt, .ok _ =>
        if auth && paddingGood then .plain typ pt.length else .alert alertBadRecordMAC
      | _, _, _ => .panic
  else .plain typ plaintextLen

/-- the TLS 1.3 block after the cipher switch -/
def tls13Part (hc : HC) (typ : Nat) (plaintext : Bytes) (k : Nat → Nat → DOut) : DOut :=
  if hc.vers = 0x0304 then
    if typ ≠ 23 then .alert alertUnexpectedMessage
    else if plaintext.length > maxPlaintext + 1 then .alert alertRecordOverflow
    else match scanInner typ plaintext with
      | none => .alert alertUnexpectedMessage
      | some (t, n) => k t n
  else k typ plaintext.length

/-- `if explicitNonceLen > 0 { c.SetIV(payload[:explicitNonceLen]); payload = payload[explicitNonceLen:] }`
    (SetIV panics on an IV that is not one block long) -/
def stripIV (block enl : Nat) (payload : Bytes) : Res Bytes :=
  if enl > 0 then
    match sliceTo payload enl, sliceFrom payload enl with
    | .ok iv, .ok body => if iv.length = block then .ok body else .panic
    | _, _ => .panic
  else .ok payload

/-- `halfConn.decrypt(record)`: `typ` = record[0], `payload` = record[5:] -/
def decrypt (hc : HC) (typ : Nat) (payload : Bytes) (dec : Bytes) (auth : Bool) : DOut :=
  if hc.vers = 0x0304 ∧ typ = 20 then .plain typ payload.length
  else
    let enl := explicitNonceLen hc
    match hc.kind with
    | .none => macPart hc typ payload.length payload 0 true auth           -- plaintext = payload
    | .stream =>                                                          -- XORKeyStream: length preserved
      tls13Part hc typ [] (fun t n => macPart hc t n payload 0 true auth)
    | .aead =>
      if payload.length < enl then .alert alertBadRecordMAC
      else
        match sliceTo payload enl, sliceFrom payload enl with
        | .ok _, .ok body =>
          -- c.Open fails unless the tag verifies; it needs at least Overhead() bytes
          if ¬ auth ∨ body.length < hc.overhead then .alert alertBadRecordMAC
          else
            let plaintext : Bytes := if hc.vers = 0x0304 ∧ dec.length = body.length - hc.overhead then dec
                                     else List.replicate (body.length - hc.overhead) 1
            tls13Part hc typ plaintext (fun t n => macPart hc t n body 0 true auth)
        | _, _ => .panic
    | .cbc =>
      if ¬ hc.hasMac then .panic                                           -- hc.mac.Size() on a nil MAC
      else
        match roundUp (hc.macSize + 1) hc.block with
        | .ok ru =>
          let minPayload := enl + ru
          if payload.length % hc.block ≠ 0 ∨ payload.length < minPayload then .alert alertBadRecordMAC
          else
            match stripIV hc.block enl payload with
            | .ok body =>
              if body.length % hc.block ≠ 0 then .panic                    -- CryptBlocks: "input not full blocks"
              else
                let body' := if dec.length = body.length then dec else body
                match extractPadding body' with
                | .ok (paddingLen, paddingGood) =>
                  tls13Part hc typ [] (fun t n => macPart hc t n body' paddingLen paddingGood auth)
                | _ => .panic
            | _ => .panic
        | _ => .panic

end ZV.C32
