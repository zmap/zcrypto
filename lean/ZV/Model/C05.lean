import ZV.Model.C04
/-!
  Model of the revocation-entry handling of `x509.CreateRevocationList` / `x509.ParseRevocationList`
  (x509/x509.go, x509/crl_parser.go):

  * reason-code synthesis: every user-supplied `reasonCode` (2.5.29.21) entry extension is dropped, the
    remaining extra extensions keep their order, and a `reasonCode` extension holding `ENUMERATED n` is appended
    iff `ReasonCode` is non-nil and non-zero;
  * entry encoding `SEQUENCE { serial INTEGER, revocationDate Time, crlEntryExtensions SEQUENCE OF Extension OPTIONAL }`
    (extensions omitted when the list is empty; UTCTime for years 1950..2049, GeneralizedTime otherwise);
  * entry parsing as the cryptobyte walk does it, `ReasonCode` from the (last) reasonCode extension;
  * the CRL-number rule (at most 20 octets, top bit clear when exactly 20) and its INTEGER encoding.
-/
namespace ZV.C05
open ZV ZV.Der ZV.C06 ZV.C04

structure EExt where
  oid : List Nat
  critical : Bool
  value : Bytes
  deriving Repr, DecidableEq

structure Entry where
  serial : Int
  time : Bytes            -- 14 ASCII digits YYYYMMDDHHMMSS (UTC)
  reason : Option Int
  extras : List EExt
  deriving Repr, DecidableEq

def reasonOID : List Nat := [2, 5, 29, 21]

/-- minimal two's-complement INTEGER contents of an arbitrary integer (`makeBigInt`) -/
def encBigInt (i : Int) : Bytes :=
  let l := intLen (i.natAbs.log2 + 2) i
  beBytes l (if i < 0 then (i + (256 : Int) ^ l).toNat else i.toNat)

def reasonExt (n : Int) : EExt := ⟨reasonOID, false, tlv 0x0A (encBigInt n)⟩

/-- ReasonCode as the parser will report it: nil and 0 are not encoded. -/
def normReason : Option Int → Option Int
  | none => none
  | some n => if n = 0 then none else some n

/-- the extension list `CreateRevocationList` gives an entry -/
def synthExts (e : Entry) : List EExt :=
  e.extras.filter (fun x => x.oid != reasonOID) ++
    (match normReason e.reason with
     | none => []
     | some n => [reasonExt n])

def encExtension (x : EExt) : Option Bytes :=
  match encOID x.oid with
  | some o => some (tlv 0x30 (tlv 0x06 o ++ (if x.critical then tlv 0x01 [0xff] else []) ++ tlv 0x04 x.value))
  | none => none

def yearOf (t : Bytes) : Nat := (t.take 4).foldl (fun acc d => acc * 10 + (d.toNat - 48)) 0

/-- `time.Time` member: UTCTime for 1950..2049, else GeneralizedTime -/
def encTime (t : Bytes) : Bytes :=
  let y := yearOf t
  if 1950 ≤ y ∧ y < 2050 then tlv 0x17 (t.drop 2 ++ [0x5a]) else tlv 0x18 (t ++ [0x5a])

def encEntry (e : Entry) : Option Bytes :=
  match (synthExts e).mapM encExtension with
  | some xs =>
    some (tlv 0x30 (tlv 0x02 (encBigInt e.serial) ++ encTime e.time ++ (if xs.isEmpty then [] else tlv 0x30 xs.flatten)))
  | none => none

def encEntries (es : List Entry) : Option Bytes := (es.mapM encEntry).map List.flatten

/-! ### parsing (cryptobyte walk of `ParseRevocationList`) -/

structure PEntry where
  serial : Int
  time : Bytes
  reason : Option Int
  nexts : Nat
  deriving Repr, DecidableEq

/-- `ReadASN1Integer` / `ReadASN1Enum` contents: minimal two's complement of any length -/
def parseBigInt (bs : Bytes) : Res Int := if checkInteger bs then .ok (intOfBytes bs) else .err

/-- `parseExtension`: OID, optional BOOLEAN, OCTET STRING, nothing else -/
def parseEExt (e : Elem) : Res (Bytes × Bool × Bytes) :=
  (someElem (field (.univ 6 false) false e.body)).bind fun id =>
  if !validOID id.1.body then .err else
  (field (.univ 1 false) true id.2).bind fun c =>
  (match c.1 with | none => Res.ok false | some b => parseBool b.body).bind fun crit =>
  (someElem (field (.univ 4 false) false c.2)).bind fun v =>
  if !v.2.isEmpty then .err else .ok (id.1.body, crit, v.1.body)

/-- contents of the reasonCode extension value: one ENUMERATED, (`ReadASN1Enum`) -/
def parseEnum (value : Bytes) : Res Int :=
  (someElem (field (.univ 10 false) false value)).bind fun e => parseBigInt e.1.body

def scanReason (oidBytes : Bytes) : List (Bytes × Bool × Bytes) → Option Int → Res (Option Int)
  | [], acc => .ok acc
  | x :: xs, acc =>
    if x.1 = oidBytes then
      (match parseEnum x.2.2 with
       | .ok n => scanReason oidBytes xs (some n)
       | .err => .err
       | .panic => .panic)
    else scanReason oidBytes xs acc

def timeDigits (e : Elem) : Res Bytes :=
  if e.hdr.cls = 0 ∧ e.hdr.tag = 23 ∧ !e.hdr.compound ∧ e.body.length = 13 then
    (let yy := yearOf ([0x30, 0x30] ++ e.body.take 2)
     .ok ((if yy ≥ 50 then [0x31, 0x39] else [0x32, 0x30]) ++ e.body.take 12))
  else if e.hdr.cls = 0 ∧ e.hdr.tag = 24 ∧ !e.hdr.compound ∧ e.body.length = 15 then .ok (e.body.take 14)
  else .err

def parseEntry (e : Elem) : Res PEntry :=
  (someElem (field (.univ 2 false) false e.body)).bind fun s =>
  (parseBigInt s.1.body).bind fun serial =>
  (someElem (field .any false s.2)).bind fun t =>
  (timeDigits t.1).bind fun digits =>
  (field (.univ 16 true) true t.2).bind fun x =>
    match x.1 with
    | none => .ok ⟨serial, digits, none, 0⟩
    | some xe =>
      (readElems xe.body).bind fun els =>
      if !els.all (fun el => isSeqHdr el.hdr) then .err else
      (mapRes parseEExt els).bind fun exts =>
      match encOID reasonOID with
      | some ro => (scanReason ro exts none).bind fun r => .ok ⟨serial, digits, r, exts.length⟩
      | none => .err

def parseEntries (bs : Bytes) : Res (List PEntry) :=
  (readElems bs).bind fun els =>
  if !els.all (fun el => isSeqHdr el.hdr) then .err else mapRes parseEntry els

/-! ### CRL number -/

/-- `len(Number.Bytes())` : octets of the absolute value -/
def absOctets (n : Int) : Nat := if n = 0 then 0 else n.natAbs.log2 / 8 + 1

/-- "CRL number exceeds 20 octets" -/
def crlNumberOk (n : Int) : Bool :=
  !(absOctets n > 20 || (absOctets n == 20 && n.natAbs / 2 ^ 152 ≥ 128))

def crlNumberExt (n : Int) : Res Bytes := if crlNumberOk n then .ok (tlv 0x02 (encBigInt n)) else .err

end ZV.C05
